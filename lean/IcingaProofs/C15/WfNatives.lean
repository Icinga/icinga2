/-
  C15 — the natives keep the heap well-formed: every prototype method / System function of
  IcingaModel/C15/Natives.lean answers a well-formed value in a well-formed heap, or a non-internal error.
-/
import IcingaProofs.C15.WfBinop

namespace Icinga.C15.Proofs

open Icinga.C15

set_option linter.unusedSectionVars false
variable {N : Type} [Num N] {st : State N}

theorem joinValues_ok {sep : Value N} {xs : List (Value N)} {first : Bool} {acc : Value N} (hs : HeapOk st) (ha : VOk st acc) :
    EOk st (joinValues sep xs first acc st) := by
  induction xs generalizing first acc st with
  | nil => exact eok_here hs ha
  | cons x r ih =>
    simp only [joinValues]
    have h1 : EOk st (if first = true then (Except.ok acc, st) else binop .add acc sep st) :=
      ite_both (eok_here hs ha) (binop_ok hs _ _ _)
    split
    next a1 st1 e1 =>
      rw [e1] at h1
      have h2 := binop_ok h1.1 .add a1 x
      refine EOk.of_ext h1.2.1 ?_
      split
      next a2 st2 e2 =>
        rw [e2] at h2
        exact EOk.of_ext h2.2.1 (ih h2.1 h2.2.2)
      next => exact h2
    next => exact h1

theorem sortValues_ok {xs s : List (Value N)} {u : Bool} (h : sortValues xs u = some s) : VsOk st s := by
  unfold sortValues at h
  split at h
  · cases h; exact vsOk_map fun _ _ => trivial
  · split at h
    · cases h; exact vsOk_map fun _ _ => trivial
    · cases h

theorem rangeList_ok {lt : N → N → Bool} {add : N → N → N} {up : Bool} {stop inc : N} {f : Nat} {i : N} {s : List (Value N)}
    (h : rangeList lt add up stop inc f i = some s) : VsOk st s := by
  induction f generalizing i s with
  | zero => cases h
  | succ f ih =>
    simp only [rangeList] at h
    generalize (if up = true then lt i stop else lt stop i) = c at h
    split at h
    · obtain ⟨r, hr, rfl⟩ := Option.map_eq_some_iff.mp h
      exact vsOk_cons trivial (ih hr)
    · cases h; exact vsOk_nil _

/-- `nativePure` answers `none` for a name that is not one of its natives, and where `self` or an argument is a dangling address
    (`(st.arr? a).map …`); then there is nothing to show: `stepCall` answers either as an unmodelled error. -/
def OptOk (st : State N) (o : Option (NRes N)) : Prop := ∀ r, o = some r → EOk st r

theorem optOk_none : OptOk st none := fun _ h => nomatch h

theorem optOk_some {r : NRes N} (h : EOk st r) : OptOk st (some r) := fun _ h' => Option.some.inj h' ▸ h

theorem optOk_here (hs : HeapOk st) {r : Except Err (Value N)} (hr : EResOk st r) : OptOk st (some (r, st)) :=
  optOk_some (eok_here hs hr)

theorem optOk_map {α : Type} {o : Option α} {f : α → NRes N} (h : ∀ x, o = some x → EOk st (f x)) : OptOk st (o.map f) := by
  intro r hr
  obtain ⟨x, hx, rfl⟩ := Option.map_eq_some_iff.mp hr
  exact h x hx

theorem optOk_map_arr (hs : HeapOk st) {a : Addr} {f : List (Value N) → NRes N} (h : ∀ xs, VsOk st xs → EOk st (f xs)) :
    OptOk st ((st.arr? a).map f) :=
  optOk_map fun xs hx => h xs (arr?_ok hs hx)

theorem optOk_map_dict (hs : HeapOk st) {a : Addr} {f : List (String × Value N) → NRes N}
    (h : ∀ kvs, KvsOk st kvs → EOk st (f kvs)) : OptOk st ((st.dict? a).map f) :=
  optOk_map fun kvs hx => h kvs (dict?_ok hs hx)

theorem nativePure_ok (name : String) (self : Value N) (args : List (Value N)) (st : State N)
    (hs : HeapOk st) (hself : VOk st self) (hargs : VsOk st args) : OptOk st (nativePure name self args st) := by
  unfold nativePure
  -- the `let`s of the model become local definitions; what the cases need of each is stated once, then its body is forgotten
  extract_lets a0 a1 un need sn s0 s1 a0s a1s z mk all ltN ltS
  have h0 : VOk st a0 := headD_ok hargs
  have h1 : VOk st a1 := headD_ok (vsOk_tail hargs)
  have hun (w : String) : OptOk st (un w) := optOk_here (r := .error (.unmodelled w)) hs trivial
  have hneed {n : Nat} {k : Option (NRes N)} (h : OptOk st k) : OptOk st (need n k) :=
    ite_both (optOk_here (r := .error tooFew) hs trivial) h
  have hnil : OptOk st (some (newArr st [])) := optOk_some (newArr_ok hs (vsOk_nil _))
  have hmk (a b c : Value N) : OptOk st (mk a b c) := by
    simp only [mk]
    split
    · refine ite_both hnil (ite_both hnil ?_)
      split
      · exact optOk_some (newArr_ok hs (rangeList_ok ‹_›))
      · exact hun _
    · exact hun _
  refine ite_both (hun _) ?_
  clear_value a0 a1 un need a0s a1s mk all
  clear s1 s0 sn
  -- one goal per native, in the order of the model; in each, `hself` becomes `VOk st (.arr a)` etc. when `self` is matched
  split
  · split                                                            -- Array#len
    · exact optOk_map_arr hs fun _ _ => eok_here hs trivial
    · exact hun _
  · refine hneed ?_                                                  -- Array#add
    split
    · exact optOk_map_arr hs fun _ hxs => eok_put hs hself (vsOk_append hxs (vsOk_cons h0 (vsOk_nil _)))
    · exact hun _
  · refine hneed ?_                                                  -- Array#get
    split
    · exact optOk_map_arr hs fun _ hxs => ite_both (eok_here hs trivial) (eok_here hs (getD_ok hxs _))
    · exact hun _
  · refine hneed ?_                                                  -- Array#set
    split
    · exact optOk_map_arr hs fun _ hxs => ite_both (eok_here hs trivial) (eok_put hs hself (vsOk_set hxs _ h1))
    · exact hun _
  · refine hneed ?_                                                  -- Array#remove
    split
    · exact optOk_map_arr hs fun _ hxs => ite_both (eok_here hs trivial) (eok_put hs hself (vsOk_eraseIdx hxs _))
    · exact hun _
  · refine hneed ?_                                                  -- Array#contains
    split
    · refine optOk_map_arr hs fun xs _ => ?_
      split
      · exact eok_here hs trivial
      · exact eok_here hs trivial
    · exact hun _
  · split                                                            -- Array#clear
    · exact optOk_some (eok_put hs hself (vsOk_nil _))
    · exact hun _
  · split                                                            -- Array#shallow_clone
    · exact optOk_map_arr hs fun _ hxs => newArr_ok hs hxs
    · exact hun _
  · split                                                            -- Array#reverse
    · exact optOk_map_arr hs fun _ hxs => newArr_ok hs (vsOk_reverse hxs)
    · exact hun _
  · refine hneed ?_                                                  -- Array#join
    split
    · exact optOk_map_arr hs fun _ _ => joinValues_ok hs trivial
    · exact hun _
  · split                                                            -- Array#sort
    · refine optOk_map_arr hs fun xs _ => ?_
      split
      · exact newArr_ok hs (sortValues_ok ‹_›)
      · exact eok_here hs trivial
    · exact hun _
  · split                                                            -- Array#unique
    · refine optOk_map_arr hs fun xs _ => ?_
      split
      · exact newArr_ok hs (sortValues_ok ‹_›)
      · exact eok_here hs trivial
    · exact hun _
  · split                                                            -- Dictionary#len
    · exact optOk_map_dict hs fun _ _ => eok_here hs trivial
    · exact hun _
  · refine hneed ?_                                                  -- Dictionary#set
    split
    · exact optOk_map_dict hs fun _ hkvs => eok_put hs hself (kvSet_ok hkvs _ h1)
    · exact hun _
  · refine hneed ?_                                                  -- Dictionary#get
    split
    · exact optOk_map_dict hs fun _ hkvs => eok_here hs (kvGetD_ok hkvs _)
    · exact hun _
  · refine hneed ?_                                                  -- Dictionary#remove
    split
    · exact optOk_map_dict hs fun _ hkvs => eok_put hs hself (kvRemove_ok hkvs _)
    · exact hun _
  · refine hneed ?_                                                  -- Dictionary#contains
    split
    · exact optOk_map_dict hs fun _ _ => eok_here hs trivial
    · exact hun _
  · split                                                            -- Dictionary#clear
    · exact optOk_some (eok_put hs hself fun _ m => nomatch m)
    · exact hun _
  · split                                                            -- Dictionary#shallow_clone
    · exact optOk_map_dict hs fun kvs hkvs => eok_alloc hs (o := .dict kvs) hkvs (kindAt_alloc_new st _)
    · exact hun _
  · split                                                            -- Dictionary#keys
    · exact optOk_map_dict hs fun _ _ => newArr_ok hs (vsOk_map fun _ _ => trivial)
    · exact hun _
  · split                                                            -- Dictionary#values
    · exact optOk_map_dict hs fun _ hkvs => newArr_ok hs (vsOk_map hkvs)
    · exact hun _
  iterate 6                                                          -- String#len, #to_string, #upper, #lower, #reverse, #trim
    · split
      · exact optOk_here hs trivial
      · exact hun _
  · refine hneed ?_                                                  -- String#contains
    split
    · exact optOk_here hs trivial
    · exact hun _
  · refine hneed ?_                                                  -- String#split
    split
    · exact optOk_some (newArr_ok hs (vsOk_map fun _ _ => trivial))
    · exact hun _
  · refine ite_both (optOk_here hs trivial) ?_                       -- String#find
    split
    · exact optOk_here hs trivial
    · exact hun _
  · refine hneed ?_                                                  -- String#replace
    split
    · exact ite_both (hun _) (optOk_here hs trivial)
    · exact hun _
  · refine ite_both (optOk_here hs trivial) ?_                       -- String#substr
    split
    · refine ite_both (optOk_here hs trivial) ?_
      split
      · exact optOk_here hs trivial
      · split
        · exact ite_both (hun _) (optOk_here hs trivial)
        · exact hun _
    · exact hun _
  iterate 2                                                          -- Number#to_string, Boolean#to_string
    · split
      · exact optOk_here hs trivial
      · exact hun _
  · refine hneed ?_                                                  -- System#len
    split
    · exact optOk_map_arr hs fun _ _ => eok_here hs trivial
    · exact optOk_map_dict hs fun _ _ => eok_here hs trivial
    · exact optOk_here hs trivial
    · exact optOk_here hs trivial
  iterate 3 exact hneed (optOk_here hs trivial)                       -- System#typeof, #string, #bool
  · refine hneed ?_                                                  -- System#number
    split
    iterate 3 exact optOk_here hs trivial
    · exact ite_both (optOk_here hs trivial) (hun _)
    · exact hun _
  · refine hneed ?_                                                  -- System#keys
    split
    · exact optOk_map_dict hs fun _ _ => newArr_ok hs (vsOk_map fun _ _ => trivial)
    iterate 4 exact hnil
    · exact hun _
  · split                                                            -- System#range
    iterate 3 exact hmk _ _ _
    · exact optOk_here hs trivial
  · split                                                            -- System#union
    · split
      · exact optOk_some (newArr_ok hs (sortValues_ok ‹_›))
      · exact hun _
    · exact hun _
  · split                                                            -- System#intersection
    · split
      · split
        · exact optOk_some (newArr_ok hs (vsOk_map fun _ _ => trivial))
        · split
          · exact optOk_some (newArr_ok hs (vsOk_map fun _ _ => trivial))
          · exact hun _
      · exact optOk_none
    · exact hun _
  · exact optOk_none                                                 -- any other name

end Icinga.C15.Proofs
