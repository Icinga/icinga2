/-
  C15 — heap well-formedness is preserved by every step function of the interpreter.  Each case follows the step function:
  a nested evaluation is well-formed by the hypothesis on `ev`, its continuation runs in an extension of the state, and
  what the continuation still needs of the frame and of earlier values is carried there by monotonicity along `Ext`.
-/
import IcingaProofs.C15.WfNatives

namespace Icinga.C15.Proofs

open Icinga.C15

set_option linter.unusedSectionVars false
variable {N : Type} [Num N]

section steps
variable (ev : Frame N → Task N → State N → Res N) (ih : EvWF ev) {fr : Frame N} {st : State N}
  (hs : HeapOk st) (hf : FrOk st fr)
include ih hs hf

theorem wf_stepExprs (es : List (Expr N)) (acc : List (Value N)) (ha : VsOk st acc) : ROk st (stepExprs ev fr es acc st) := by
  cases es with
  | nil => exact rok_here hs (vsOk_reverse ha)
  | cons e es =>
    exact rok_bindV (ih.expr hs hf e) fun v st1 hs1 he1 hv => ih _ _ _ hs1 (hf.mono he1) (vsOk_cons hv (ha.mono he1))

theorem wf_stepBlock (es : List (Expr N)) (last : Value N) (hl : VOk st last) : ROk st (stepBlock ev fr es last st) := by
  cases es with
  | nil => exact rok_here hs hl
  | cons e es => exact rok_bindV (ih.expr hs hf e) fun v st1 hs1 he1 hv => ih _ _ _ hs1 (hf.mono he1) hv

theorem wf_stepWhile (c body : Expr N) : ROk st (stepWhile ev fr c body st) := by
  exact rok_bindV (ih.expr hs hf c) fun cv st1 hs1 he1 _ =>
    ite_both (rok_here hs1 trivial) <|
      rok_loopStep (ih.expr hs1 (hf.mono he1) body) fun st2 hs2 he2 => ih _ _ _ hs2 ((hf.mono he1).mono he2) trivial

theorem wf_stepForArr (k : String) (a : Addr) (i : Nat) (body : Expr N) (ha : kindAt st a = some .arr) :
    ROk st (stepForArr ev fr k a i body st) := by
  obtain ⟨xs, hx⟩ := arr?_of_kind ha
  simp only [stepForArr, hx]
  split
  · exact rok_here hs trivial
  · obtain ⟨h1, h2⟩ := localsSet_ok hs fr k (getD_ok (arr?_ok hs hx) i)
    have hf1 := hf.mono h2
    exact ROk.of_ext h2 (rok_loopStep (ih.expr h1 hf1 body) fun st2 hs2 he2 =>
      ih _ _ _ hs2 (hf1.mono he2) (he2 _ _ (h2 _ _ ha)))

theorem wf_stepForKeys (k v : String) (d : Addr) (keys : List String) (body : Expr N) (hd : kindAt st d = some .dict) :
    ROk st (stepForKeys ev fr k v d keys body st) := by
  cases keys with
  | nil => exact rok_here hs trivial
  | cons key keys =>
    have hcur : VOk st (match st.dict? d with | some kvs => (kvGet key kvs).getD .empty | none => .empty) := by
      split
      · exact kvGetD_ok (dict?_ok hs ‹_›) key
      · trivial
    obtain ⟨h1, h2⟩ := localsSet_ok hs fr k (v := .str key) trivial
    obtain ⟨h3, h4⟩ := localsSet_ok h1 fr v (hcur.mono h2)
    have he := h2.trans h4
    have hf1 := hf.mono he
    exact ROk.of_ext he (rok_loopStep (ih.expr h3 hf1 body) fun st2 hs2 he2 =>
      ih _ _ _ hs2 (hf1.mono he2) (he2 _ _ (he _ _ hd)))

theorem wf_stepIter (kind : IterKind) (cb : Value N) (items acc : List (Value N)) (ht : TOk st (.iter kind cb items acc)) :
    ROk st (stepIter ev fr kind cb items acc st) := by
  obtain ⟨hcb, hfn, hi, ha⟩ := ht
  cases items with
  | nil =>
    cases kind
    case map | filter => exact rok_liftE (newArr_ok hs (vsOk_reverse ha))
    case reduce => exact rok_here hs (headD_ok ha)
    all_goals exact rok_here hs trivial
  | cons x rest =>
    have hx : VOk st x := hi x List.mem_cons_self
    have hargs : VsOk st (match kind with | .reduce => [acc.headD .empty, x] | _ => [x]) := by
      cases kind
      case reduce => exact vsOk_cons (headD_ok ha) (vsOk_cons hx (vsOk_nil _))
      all_goals exact vsOk_cons hx (vsOk_nil _)
    refine rok_bindV (ih _ _ _ hs hf ⟨hcb, hfn, trivial, hargs⟩) fun r st1 hs1 he1 hr => ?_
    have next : ∀ acc', VsOk st1 acc' → ROk st1 (ev fr (.iter kind cb rest acc') st1) := fun acc' h =>
      ih _ _ _ hs1 (hf.mono he1) ⟨hcb.mono he1, hfn, fun v m => (hi v (List.mem_cons_of_mem _ m)).mono he1, h⟩
    have ha1 := ha.mono he1
    cases kind <;> dsimp only
    case map => exact next _ (vsOk_cons hr ha1)
    case reduce => exact next _ (vsOk_cons hr (vsOk_nil _))
    case filter =>
      split
      · refine next _ ?_
        split
        · exact vsOk_cons (hx.mono he1) ha1
        · exact ha1
      · exact rok_here hs1 (by split <;> trivial)
    case any | all =>
      split
      · exact ite_both (rok_here hs1 trivial) (next _ ha1)
      · exact rok_here hs1 (by split <;> trivial)

theorem wf_stepRef (e : Expr N) (i : Bool) : ROk st (stepRef ev fr e i st) := by
  cases e with
  | var x =>
    exact ite_both (rok_here hs hf.1) <| ite_both (rok_here hs hf.2) <|
      ite_both (ite_both (rok_here hs trivial) <| rok_mark hs _ trivial) <|
        ite_both (rok_mark hs _ trivial) <|
          ite_both (rok_mark hs _ trivial) <| rok_mark hs _ hf.2
  | index a b =>
    refine rok_bindV (rok_bindRef (ih _ _ _ hs hf trivial) (fun p x st1 hs1 _ hp => refParent_ok hs1 hp i x)
      fun st1 hs1 he1 => rok_bindAny (ih.expr hs1 (hf.mono he1) a) fun v st2 hs2 _ hv => rok_here hs2 hv)
      fun p st3 hs3 he3 hp => ?_
    refine rok_bindAny (ih.expr hs3 (hf.mono he3) b) fun iv st4 hs4 he4 _ => ?_
    split
    · exact rok_here hs4 (hp.mono he4)
    · exact rok_here hs4 trivial
  | _ => exact rok_here hs trivial

theorem wf_stepCall (fv self : Value N) (args : List (Value N)) (ht : TOk st (.call fv self args)) :
    ROk st (stepCall ev fr fv self args st) := by
  obtain ⟨hfv, hfn, hself, hargs⟩ := ht
  cases fv with
  | fn a =>
    obtain ⟨ps, cap, body, hg⟩ := fn_of_kind hfv
    simp only [stepCall, hg]
    split
    · exact rok_here hs trivial
    · -- the callee's locals, the fold of `stepCall`, are `kvMerge cap (ps.zip args)` unfolded
      have he := ext_alloc st (.dict (kvMerge cap (ps.zip args)))
      have hsa := heapOk_alloc st (.dict _) hs (kvMerge_ok (fn_ok hs hg) (zip_kvs_ok ps hargs))
      refine ROk.of_ext he (rok_bindAny (ih.expr hsa ⟨kindAt_alloc_new st _, ?_⟩ body) fun v st2 hs2 _ hv => rok_here hs2 hv)
      cases self <;> first | trivial | exact hself.mono he
  | native name =>
    simp only [stepCall]
    split
    · -- a callback native (Array#map, …)
      split
      · exact rok_here hs trivial
      · cases self with
        | arr a =>
          obtain ⟨xs, hx⟩ := arr?_of_kind hself
          have hxs := arr?_ok hs hx
          have hcb : VOk st (args.headD .empty) := headD_ok hargs
          simp only [hx]
          split
          · exact rok_here hs trivial
          · rename_i hisfn
            have hisfn' : isFunction (args.headD .empty) = true := by simpa using hisfn
            split
            · exact rok_here hs trivial                                   -- reduce of []
            · exact ih _ _ _ hs hf ⟨hcb, hisfn', fun v m => hxs v (List.mem_cons_of_mem _ m),
                vsOk_cons (hxs _ List.mem_cons_self) (vsOk_nil _)⟩        -- reduce of x :: r: the accumulator starts as [x]
            · exact ih _ _ _ hs hf ⟨hcb, hisfn', hxs, vsOk_nil _⟩         -- the other kinds
        | _ => exact rok_here hs trivial
    · -- a pure native
      split
      · rename_i r st' hnp
        exact rok_liftE ((nativePure_ok name self args st hs hself hargs (r, st') hnp).mark _)
      · exact rok_here hs trivial
  | _ => cases hfn

theorem wf_callWith (args : List (Expr N)) (self vf : Value N) (hself : VOk st self) (hvf : VOk st vf) :
    ROk st (callWith ev fr args self vf st) := by
  have call : isFunction vf = true →
      ROk st (bindVals (ev fr (.exprs args []) st) fun vs st2 => ev fr (.call vf self vs) st2) := fun hfn =>
    rok_bindVals (ih _ _ _ hs hf (vsOk_nil _)) fun vs st2 hs2 he2 hvs =>
      ih _ _ _ hs2 (hf.mono he2) ⟨hvf.mono he2, hfn, hself.mono he2, hvs⟩
  cases vf with
  | fn a => exact call rfl
  | native n => exact call rfl
  | _ => exact rok_here hs trivial

theorem wf_stepNode (e : Expr N) : ROk st (stepNode ev fr e st) := by
  cases e with
  | null | num n | bool b | str s | brk | cont => exact rok_here hs trivial
  | var x =>
    simp only [stepNode]
    split
    · rename_i v hv
      exact rok_here hs (localsGet_ok hs hv)
    · refine ite_both (rok_liftE (eok_here hs (getField_ok hs hf.2 x))) <|          -- a field of `this`
        ite_both (ite_both (rok_here hs trivial) <| rok_mark hs _ trivial) <|          -- a system function
          ite_both (rok_mark hs _ trivial) ?_                                           -- a global, at depth + 3
      split
      · rename_i v hv
        exact rok_mark hs _ (kvGet_ok hs.2 hv)
      · exact rok_mark hs _ trivial
  | scope s =>
    cases s
    · exact rok_here hs hf.2
    · exact rok_here hs hf.1
    · exact rok_here hs trivial
  | bnot a => exact rok_bindV (ih.expr hs hf a) fun v st1 hs1 _ _ => rok_liftE (eok_here hs1 (bitNot_ok st1 v))
  | lnot a => exact rok_bindV (ih.expr hs hf a) fun v st1 hs1 _ _ => rok_here hs1 trivial
  | ret a => exact rok_bindV (ih.expr hs hf a) fun v st1 hs1 _ hv => rok_here hs1 hv
  | bin op a b =>
    exact rok_bindV (ih.expr hs hf a) fun va st1 hs1 he1 _ =>
      rok_bindV (ih.expr hs1 (hf.mono he1) b) fun vb st2 hs2 _ _ => rok_liftE (binop_ok hs2 op va vb)
  | and a b | or a b =>
    exact rok_bindV (ih.expr hs hf a) fun va st1 hs1 he1 hva =>
      ite_both (rok_here hs1 hva) <|
        rok_bindV (ih.expr hs1 (hf.mono he1) b) fun vb st2 hs2 _ hvb => rok_here hs2 hvb
  | isIn a b | notIn a b =>
    refine rok_bindV (ih.expr hs hf b) fun vb st1 hs1 he1 _ => ite_both (rok_here hs1 trivial) ?_
    split
    · refine rok_bindV (ih.expr hs1 (hf.mono he1) a) fun va st2 hs2 _ _ => ?_
      split <;> exact rok_here hs2 trivial
    · exact rok_here hs1 trivial
  | index a b =>
    refine rok_bindV (ih.expr hs hf a) fun va st1 hs1 he1 hva => ?_
    refine rok_bindV (ih.expr hs1 (hf.mono he1) b) fun vb st2 hs2 he2 _ => ?_
    split
    · exact rok_liftE (eok_here hs2 (getField_ok hs2 (hva.mono he2) _))
    · exact rok_here hs2 trivial
  | call f args =>
    refine rok_bindRef (ih _ _ _ hs hf trivial) (fun self index st1 hs1 he1 hself => ?_) fun st1 hs1 he1 => ?_
    · have hg := getField_ok hs1 hself index
      split
      · exact wf_callWith ev ih hs1 (hf.mono he1) args self _ hself (hg.of_ok ‹_›)
      · exact rok_here hs1 (hg.of_error ‹_›)
    · exact rok_bindCallee (ih.expr hs1 (hf.mono he1) f) fun vf st2 hs2 he2 hvf =>
        wf_callWith ev ih hs2 ((hf.mono he1).mono he2) args .empty vf trivial hvf
  | array es => exact rok_bindVals (ih _ _ _ hs hf (vsOk_nil _)) fun vs st1 hs1 _ hvs => rok_liftE (newArr_ok hs1 hvs)
  | dict body =>
    have he := ext_alloc st (.dict [])
    have hk : kindAt (st.alloc (.dict [])).2 (st.alloc (.dict [])).1 = some .dict := kindAt_alloc_new st (.dict [])
    have hfr : FrOk (st.alloc (.dict [])).2 { fr with self := .dict (st.alloc (.dict [])).1 } := ⟨he _ _ hf.1, hk⟩
    exact ROk.of_ext he (rok_bindV (ih _ _ _ (heapOk_alloc st _ hs (fun _ m => nomatch m)) hfr trivial)
      fun _ st2 hs2 he2 _ => rok_here hs2 (he2 _ _ hk))
  | block body => exact ih _ _ _ hs hf trivial
  | set lhs op rhs =>
    exact rok_bindRef (ih _ _ _ hs hf trivial)
      (fun parent index st1 hs1 he1 hp => rok_bindV (ih.expr hs1 (hf.mono he1) rhs) fun v st2 hs2 he2 hv =>
        assign_ok hs2 (hp.mono he2) hv index op)
      fun st1 hs1 _ => rok_here hs1 trivial
  | cond c t f =>
    refine rok_bindV (ih.expr hs hf c) fun cv st1 hs1 he1 _ => ite_both (ih.expr hs1 (hf.mono he1) t) ?_
    split
    · exact ih.expr hs1 (hf.mono he1) _
    · exact rok_here hs1 trivial
  | «while» c body => exact ih _ _ _ hs hf trivial
  | «for» k v e body =>
    refine rok_bindV (ih.expr hs hf e) fun cv st1 hs1 he1 hcv => ?_
    have hf1 := hf.mono he1
    -- `hcv`, that the container is well-formed, is what `TOk` asks of the loop task
    split
    · split                                            -- an array
      · exact rok_here hs1 trivial
      · exact ih _ _ _ hs1 hf1 hcv
    · split                                            -- a dictionary
      · exact rok_here hs1 trivial
      · exact ih _ _ _ hs1 hf1 hcv
    all_goals exact rok_here hs1 trivial               -- a namespace, anything else
  | func ps us body =>
    exact rok_bindVals (ih _ _ _ hs hf (vsOk_nil _)) fun vs st1 hs1 _ hvs =>
      -- the heap, the extension, the new address is a function
      ⟨heapOk_alloc st1 _ hs1 (zip_kvs_ok _ hvs), ext_alloc _ _, kindAt_alloc_new st1 _⟩
  | throw a =>
    refine rok_bindV (ih.expr hs hf a) fun v st1 hs1 _ _ => ?_
    split <;> exact rok_here hs1 trivial
  | «try» a b =>
    exact rok_catchScript (ih.expr hs hf a) fun st1 hs1 he1 =>
      rok_bindV (ih.expr hs1 (hf.mono he1) b) fun _ st2 hs2 _ _ => rok_here hs2 trivial

theorem wf_stepExpr (e : Expr N) : ROk st (stepExpr ev fr e st) := by
  unfold stepExpr
  split
  · exact rok_here hs trivial
  · exact ROk.of_ext (ext_mark st _) (wf_stepNode ev ih (heapOk_mark hs _) (hf.mark _ _) e)

end steps

theorem eval_wf : ∀ (fuel : Nat), EvWF (eval (N := N) fuel)
  | 0 => fun fr t st hs _ _ => rok_here hs trivial
  | f + 1 => by
    have ih : EvWF (eval (N := N) f) := eval_wf f
    intro fr t st hs hf ht
    cases t with
    | expr e => exact wf_stepExpr _ ih hs hf e
    | exprs es acc => exact wf_stepExprs _ ih hs hf es acc ht
    | block es last => exact wf_stepBlock _ ih hs hf es last ht
    | ref e i => exact wf_stepRef _ ih hs hf e i
    | whileL c body => exact wf_stepWhile _ ih hs hf c body
    | forArr k a i body => exact wf_stepForArr _ ih hs hf k a i body ht
    | forKeys k v d keys body => exact wf_stepForKeys _ ih hs hf k v d keys body ht
    | call fv self args => exact wf_stepCall _ ih hs hf fv self args ht
    | iter kind cb items acc => exact wf_stepIter _ ih hs hf kind cb items acc ht

end Icinga.C15.Proofs
