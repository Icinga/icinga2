/-
  C15 — the typing of the 16 binary operators of doc/17-language-reference.md "Operators" (the document lists the operators;
  which operand types each accepts is the case analysis of lib/base/value-operators.cpp), stated over operand CLASSES:
  `binScalar` conforms to `opTable`; so it answers scalars and non-internal errors and hands to the heap only what `binop`
  takes up there; what `binop` answers on the heap.
-/
import IcingaProofs.C15.Basic

namespace Icinga.C15.Proofs

open Icinga.C15

set_option linter.unusedSectionVars false
variable {N : Type} [Num N]

/-- operand classes: the empty string is its own class because `Value::IsEmpty()` is true for it. -/
inductive Cls | empty | emptyStr | str | num | bool | arr | dict | other
  deriving DecidableEq, Repr

def cls : Value N → Cls
  | .empty => .empty
  | .str s => if s == "" then .emptyStr else .str
  | .num _ => .num
  | .bool _ => .bool
  | .arr _ => .arr
  | .dict _ => .dict
  | _ => .other

inductive RCls
  | val (t : Ty)
  | typeErr             -- always "Operator X cannot be applied to values of type …"
  | divErr              -- always "Right-hand side argument for operator X is Empty."
  | arith (t : Ty)      -- a value of this type, or the division-by-zero error, or a conversion the C++ leaves undefined / rejects
  | newArray
  | newDict
  | deepCmp             -- a Boolean computed element-wise over the arrays
  deriving DecidableEq, Repr

def Cls.isE : Cls → Bool | .empty | .emptyStr => true | _ => false
def Cls.numLike : Cls → Bool | .empty | .emptyStr | .num => true | _ => false
def Cls.isS : Cls → Bool | .str | .emptyStr => true | _ => false

def numPairC (l r : Cls) : Bool := (l == .num || l.isE) && (r == .num || r.isE) && !(l.isE && r.isE)
def strictC (l r : Cls) : Bool := (l.isE || l == .num) && !l.isS && (r.isE || r == .num) && !r.isS && !(l.isE && r.isE)
def strC (l r : Cls) : Bool := (l.isS || l.isE || l == .num) && (r.isS || r.isE || r == .num) && (!(l.isE && r.isE) || l.isS || r.isS)
def arrC (l r : Cls) : Bool := (l == .arr || l.isE) && (r == .arr || r.isE) && !(l.isE && r.isE)
def dictC (l r : Cls) : Bool := (l == .dict || l.isE) && (r == .dict || r.isE) && !(l.isE && r.isE)

/-- The typing of the operators: per operator the if-ladder of `binScalar`, its conditions read over the operand classes
    only and its leaves replaced by outcome classes (so the unreachable third rung of `+` is here too).  `strictC` differs
    from `numPairC` on the empty string only, which counts as Empty for `IsEmpty()` but is still a string. -/
def opTable (op : BinOp) (l r : Cls) : RCls :=
  match op with
  | .add => if strictC l r then .val .number else if strC l r then .val .string else if numPairC l r then .val .number
            else if arrC l r then .newArray else if dictC l r then .newDict else .typeErr
  | .sub => if strictC l r then .val .number else if arrC l r then .newArray else .typeErr
  | .mul => if numPairC l r then .val .number else .typeErr
  | .div => if r.isE then .divErr else if (l.isE || l == .num) && r == .num then .arith .number else .typeErr
  | .mod => if r.isE then .divErr else if r == .num then .arith .number else .typeErr
  | .xor | .band | .bor | .shl | .shr => if numPairC l r then .arith .number else .typeErr
  | .eq | .ne => if l == .arr && r == .arr then .deepCmp else .val .boolean
  | .lt | .gt => if l.isS && r.isS then .val .boolean else if numPairC l r then .val .boolean
                 else if l == .arr && r == .arr then .deepCmp else .typeErr
  | .le | .ge => if l.isS && r.isS then .val .boolean else if numPairC l r then .val .boolean else .typeErr

def conforms (o : OpRes N) (c : RCls) : Prop :=
  match c, o with
  | .val t, .val v => v.ty = t
  | .typeErr, .err (.script .optype _) => True
  | .divErr, .err (.script .divzero _) => True
  | .arith t, .val v => v.ty = t
  | .arith _, .err (.script .divzero _) => True
  | .arith _, .err (.script .tonumber _) => True
  | .arith _, .err (.unmodelled _) => True
  | .newArray, .heap => True
  | .newDict, .heap => True
  | .deepCmp, .heap => True
  | _, _ => False

theorem isEmpty_cls (v : Value N) : v.isEmpty = (cls v).isE := by
  cases v with
  | str s => by_cases h : s = "" <;> simp [Value.isEmpty, cls, Cls.isE, h]
  | _ => rfl
theorem isNumber_cls (v : Value N) : v.isNumber = (cls v == .num) := by
  cases v with
  | str s => by_cases h : s = "" <;> simp [Value.isNumber, cls, h]
  | _ => rfl
theorem isString_cls (v : Value N) : v.isString = (cls v).isS := by
  cases v with
  | str s => by_cases h : s = "" <;> simp [Value.isString, cls, Cls.isS, h]
  | _ => rfl
theorem isArray_cls (v : Value N) : v.isArray = (cls v == .arr) := by
  cases v with
  | str s => by_cases h : s = "" <;> simp [Value.isArray, cls, h]
  | _ => rfl
theorem isDict_cls (v : Value N) : v.isDict = (cls v == .dict) := by
  cases v with
  | str s => by_cases h : s = "" <;> simp [Value.isDict, cls, h]
  | _ => rfl

theorem numPair_cls (l r : Value N) : numPair l r = numPairC (cls l) (cls r) := by
  simp only [numPair, numPairC, isEmpty_cls, isNumber_cls]
theorem numPairStrict_cls (l r : Value N) : numPairStrict l r = strictC (cls l) (cls r) := by
  simp only [numPairStrict, strictC, isEmpty_cls, isNumber_cls, isString_cls]
theorem strPair_cls (l r : Value N) : strPair l r = strC (cls l) (cls r) := by
  simp only [strPair, strC, isEmpty_cls, isNumber_cls, isString_cls]
theorem arrPair_cls (l r : Value N) : arrPair l r = arrC (cls l) (cls r) := by
  simp only [arrPair, arrC, isEmpty_cls, isArray_cls]
theorem dictPair_cls (l r : Value N) : dictPair l r = dictC (cls l) (cls r) := by
  simp only [dictPair, dictC, isEmpty_cls, isDict_cls]

/-- `binScalar` and `opTable` are if-ladders over the same conditions: it is enough to compare them rung by rung -/
theorem conforms_ite {c : Prop} [Decidable c] {a b : OpRes N} {t u : RCls} (ha : conforms a t) (hb : conforms b u) :
    conforms (if c then a else b) (if c then t else u) := by
  split <;> assumption

/-- `conforms` takes the answer first, so the predicate of `ite_both` is named -/
theorem conforms_ite_same {c : Prop} [Decidable c] {a b : OpRes N} {t : RCls} (ha : conforms a t) (hb : conforms b t) :
    conforms (if c then a else b) t :=
  ite_both (P := (conforms · t)) ha hb

theorem intBin_conforms (name : String) (iop : IntOp) (l r : Value N) :
    conforms (intBin name iop l r) (if numPairC (cls l) (cls r) then .arith .number else .typeErr) := by
  simp only [intBin, numPair_cls]
  refine conforms_ite ?_ trivial
  repeat' split
  all_goals first | rfl | trivial

theorem none_of_ite_some {α : Type} {c : Prop} [Decidable c] {x : α} {y : Option α}
    (h : (if c then some x else y) = none) : y = none := by
  split at h
  · cases h
  · exact h

theorem none_of_ite_else_some {α : Type} {c : Prop} [Decidable c] {x : α} {y : Option α}
    (h : (if c then y else some x) = none) : y = none := by
  split at h
  · exact h
  · cases h

theorem eqScalar_arr (a b : Addr) : eqScalar (N := N) (.arr a) (.arr b) = none := rfl

theorem eqScalar_isNone (l r : Value N) : (eqScalar l r).isNone = (l.isArray && r.isArray) := by
  cases h : eqScalar l r with
  | none =>
    unfold eqScalar at h
    -- every rung of the ladder answers `some`; what is left is the comparison of two objects by constructor
    iterate 7 replace h := none_of_ite_some h
    replace h := none_of_ite_else_some h
    cases l <;> cases r
    case arr.arr => rfl
    all_goals cases h
  | some b =>
    cases l
    case arr =>
      cases r
      case arr => cases h
      all_goals rfl
    all_goals rfl

theorem eqLike_conforms (f : Bool → Bool) (l r : Value N) :
    conforms (match eqScalar l r with | some b => (.val (.bool (f b)) : OpRes N) | none => .heap)
      (if cls l == .arr && cls r == .arr then .deepCmp else .val .boolean) := by
  simp only [← isArray_cls, ← eqScalar_isNone]
  cases eqScalar l r
  · trivial
  · rfl

theorem relOp_conforms (op : BinOp) (l r : Value N) :
    conforms (relOp op l r)
      (if (cls l).isS && (cls r).isS then .val .boolean else if numPairC (cls l) (cls r) then .val .boolean
       else if (cls l == .arr && cls r == .arr) && (op == .lt || op == .gt) then .deepCmp else .typeErr) := by
  simp only [← isString_cls, ← numPair_cls, ← isArray_cls]
  unfold relOp
  split
  · rfl
  · rename_i hn
    have hs : (l.isString && r.isString) = false := by
      cases l
      case str =>
        cases r
        case str => exact (hn _ _ rfl rfl).elim
        all_goals rfl
      all_goals rfl
    simp only [hs]
    exact conforms_ite rfl (conforms_ite trivial trivial)

theorem binScalar_conforms (op : BinOp) (l r : Value N) : conforms (binScalar op l r) (opTable op (cls l) (cls r)) := by
  cases op
  case add =>
    simp only [binScalar, opTable, numPair_cls, numPairStrict_cls, strPair_cls, arrPair_cls, dictPair_cls]
    exact conforms_ite rfl (conforms_ite rfl (conforms_ite rfl (conforms_ite trivial (conforms_ite trivial trivial))))
  case sub =>
    simp only [binScalar, opTable, numPairStrict_cls, arrPair_cls]
    exact conforms_ite rfl (conforms_ite trivial trivial)
  case mul =>
    simp only [binScalar, opTable, numPair_cls]
    exact conforms_ite rfl trivial
  case div =>
    simp only [binScalar, opTable, isEmpty_cls, isNumber_cls]
    exact conforms_ite trivial (conforms_ite (conforms_ite_same trivial rfl) trivial)
  case mod =>
    -- the guard of the C++ (value-operators.cpp:385: `rhs` or `lhs` is a number, and `rhs` is) says no more than that `rhs`
    -- is a number
    have guard : ∀ b c : Bool, ((b || c) && b) = b := by intro b c; cases b <;> cases c <;> rfl
    simp only [binScalar, opTable, isEmpty_cls, isNumber_cls, guard]
    refine conforms_ite trivial (conforms_ite (conforms_ite_same trivial ?_) trivial)
    split
    · trivial
    · refine conforms_ite_same (by trivial) (conforms_ite_same (by rfl) ?_)
      -- the left operand: `h_1`–`h_3` a number, a Boolean, Empty (converted to `int`); `h_4` a string; `h_5` an object
      split
      case h_4 => exact conforms_ite_same rfl trivial
      case h_5 => trivial
      all_goals split <;> first | rfl | trivial
  case xor => exact intBin_conforms "&" .xor l r
  case band => exact intBin_conforms "&" .band l r
  case bor => exact intBin_conforms "|" .bor l r
  case shl => exact intBin_conforms "<<" .shl l r
  case shr => exact intBin_conforms ">>" .shr l r
  case eq => exact eqLike_conforms (fun b => b) l r
  case ne => exact eqLike_conforms (fun b => !b) l r
  case lt => simpa [binScalar, opTable] using relOp_conforms .lt l r
  case gt => simpa [binScalar, opTable] using relOp_conforms .gt l r
  -- no deep comparison for `<=`, `>=`: the third rung of `relOp_conforms` is off
  case le => simpa [binScalar, opTable] using relOp_conforms .le l r
  case ge => simpa [binScalar, opTable] using relOp_conforms .ge l r

def Scalar (v : Value N) : Prop := match v with | .num _ | .str _ | .bool _ | .empty => True | _ => False

def heapOp : BinOp → Bool
  | .add | .sub | .eq | .ne | .lt | .gt => true
  | _ => false

def OpResOk (heapCase : Prop) : OpRes N → Prop
  | .val v => Scalar v
  | .err e => NotInternal e
  | .heap => heapCase

def scalarTy : Ty → Prop
  | .number | .string | .boolean => True
  | _ => False

theorem Scalar.of_ty {v : Value N} (h : scalarTy v.ty) : Scalar v := by
  cases v <;> first | trivial | exact h.elim

def RCls.Ok (heap : Prop) : RCls → Prop
  | .val t | .arith t => scalarTy t
  | .newArray | .newDict | .deepCmp => heap
  | _ => True

theorem opTable_ok (op : BinOp) (l r : Cls) : (opTable op l r).Ok (heapOp op = true) := by
  cases op <;> dsimp only [opTable]
  case add => exact ite_both trivial (ite_both trivial (ite_both trivial (ite_both rfl (ite_both rfl trivial))))
  case sub => exact ite_both trivial (ite_both rfl trivial)
  case div | mod => exact ite_both trivial (ite_both trivial trivial)
  case eq | ne => exact ite_both rfl trivial
  case lt | gt => exact ite_both trivial (ite_both trivial (ite_both rfl trivial))
  case le | ge => exact ite_both trivial (ite_both trivial trivial)
  all_goals exact ite_both trivial trivial

theorem conforms_ok {o : OpRes N} {c : RCls} {heap : Prop} (h : conforms o c) (hc : c.Ok heap) : OpResOk heap o := by
  cases o with
  | val v => cases c <;> first | exact .of_ty (h ▸ hc) | exact h.elim
  | heap => cases c <;> first | exact hc | exact h.elim
  | err e =>
    -- no entry admits an internal error
    cases e <;> first | trivial | (cases c <;> exact h.elim)

/-- read off the typing table; `heapOp` holds of the operators whose `.heap` answer `binop` takes up -/
theorem binScalar_ok (op : BinOp) (l r : Value N) : OpResOk (heapOp op = true) (binScalar op l r) :=
  conforms_ok (binScalar_conforms op l r) (opTable_ok op (cls l) (cls r))

/-- what `binop` answers where `binScalar` hands over to the heap: a value of type `t`, or the comparison budget, or a nested
    type error -/
def HeapRes (t : Ty) (r : Except Err (Value N) × State N) : Prop :=
  (∀ v, r.1 = .ok v → v.ty = t) ∧ (∀ e, r.1 = .error e → (∃ m, e = .unmodelled m) ∨ (∃ m, e = .script .optype m))

theorem HeapRes.of_ok {t : Ty} {v : Value N} {st : State N} (hv : v.ty = t) : HeapRes t (.ok v, st) :=
  ⟨fun _ h => by cases h; exact hv, fun _ h => nomatch h⟩

theorem HeapRes.of_error {t : Ty} {e : Err} {st : State N} (he : (∃ m, e = .unmodelled m) ∨ (∃ m, e = .script .optype m)) :
    HeapRes t (.error e, st) :=
  ⟨fun _ h => (nomatch h), fun _ h => by cases h; exact he⟩

theorem binop_heapRes (op : BinOp) (l r : Value N) (st : State N) (h : binScalar op l r = .heap) :
    HeapRes (match op with
             | .add => if arrPair l r then Ty.array else Ty.dictionary
             | .sub => Ty.array
             | _ => Ty.boolean) (binop op l r st) := by
  have hop : heapOp op = true := by
    have hres := binScalar_ok op l r
    rw [h] at hres
    exact hres
  unfold binop
  rw [h]
  cases op <;> dsimp only
  case add => split <;> exact .of_ok rfl
  case sub =>
    split
    · split
      · exact .of_ok rfl
      · split
        · exact .of_ok rfl
        · exact .of_error (.inl ⟨_, rfl⟩)
    · exact .of_ok rfl
  case eq | ne =>
    split
    · exact .of_ok rfl
    · exact .of_error (.inl ⟨_, rfl⟩)
  case lt | gt =>
    split
    · exact .of_ok rfl
    · exact .of_ok rfl
    · exact .of_error (.inr ⟨_, rfl⟩)
    · exact .of_error (.inl ⟨_, rfl⟩)
  -- the other operators never answer `.heap`
  all_goals cases hop

end Icinga.C15.Proofs
