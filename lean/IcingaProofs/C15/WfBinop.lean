/-
  C15 — binary operators and assignment keep the heap well-formed: where the operator table (what `binScalar` answers
  without the heap) meets the heap invariant (what `binop` does with `+`, `-` and the comparisons on arrays and dictionaries).
-/
import IcingaProofs.C15.OpTable
import IcingaProofs.C15.WellFormed

namespace Icinga.C15.Proofs

open Icinga.C15

set_option linter.unusedSectionVars false
variable {N : Type} [Num N] {st : State N}

theorem Scalar.ok {v : Value N} (h : Scalar v) : VOk st v := by
  cases v <;> simp_all [Scalar, VOk]

/-- the fold is `keep` of `binop` (`array - array`), with `f` the search on the right -/
theorem keep_sub (f : Value N → Option Bool) :
    ∀ (xs ks : List (Value N)),
      xs.foldr (fun x (acc : Option (List (Value N))) =>
        match acc, f x with
        | some acc, some true => some acc
        | some acc, some false => some (x :: acc)
        | _, _ => none) (some []) = some ks → ∀ x ∈ ks, x ∈ xs
  | [], ks, h => by cases h; exact fun _ m => nomatch m
  | x :: r, ks, h => by
    simp only [List.foldr_cons] at h
    split at h
    · cases h
      exact fun y m => List.mem_cons_of_mem _ (keep_sub f r _ ‹_› y m)
    · cases h
      intro y m
      rcases List.mem_cons.1 m with rfl | m
      · exact List.mem_cons_self
      · exact List.mem_cons_of_mem _ (keep_sub f r _ ‹_› y m)
    · cases h

/-- the `xs`, `ys` of `binop` for `+` and `-` on arrays -/
def arrOf (st : State N) (v : Value N) : List (Value N) := match v with | .arr a => (st.arr? a).getD [] | _ => []
/-- … and for `+` on dictionaries -/
def dictOf (st : State N) (v : Value N) : List (String × Value N) := match v with | .dict a => (st.dict? a).getD [] | _ => []

theorem arrOf_ok (hs : HeapOk st) (v : Value N) : VsOk st (arrOf st v) := by
  unfold arrOf
  split
  · rename_i a
    cases hx : st.arr? a with
    | none => exact vsOk_nil _
    | some xs => exact arr?_ok hs hx
  · exact vsOk_nil _

theorem dictOf_ok (hs : HeapOk st) (v : Value N) : KvsOk st (dictOf st v) := by
  unfold dictOf
  split
  · rename_i a
    cases hx : st.dict? a with
    | none => exact fun _ m => nomatch m
    | some kvs => exact dict?_ok hs hx
  · exact fun _ m => nomatch m

theorem binop_ok (hs : HeapOk st) (op : BinOp) (l r : Value N) : EOk st (binop op l r st) := by
  have hres := binScalar_ok op l r
  unfold binop
  generalize binScalar op l r = o at hres ⊢
  cases o with
  | val v => exact eok_here hs (Scalar.ok hres)
  | err e => exact eok_here hs hres
  | heap =>
    cases op
    case add =>
      dsimp only
      split
      · exact newArr_ok hs (vsOk_append (arrOf_ok hs l) (arrOf_ok hs r))
      · exact eok_alloc hs (o := .dict _) (kvMerge_ok (dictOf_ok hs l) (dictOf_ok hs r)) (kindAt_alloc_new st _)
    case sub =>
      dsimp only
      split
      · rename_i la
        split
        · exact newArr_ok hs (arrOf_ok hs (.arr la))
        · split
          · exact newArr_ok hs fun x m => arrOf_ok hs (.arr la) x (keep_sub _ _ _ ‹_› x m)
          · exact eok_here hs trivial
      · exact newArr_ok hs (vsOk_nil _)
    case eq | ne | lt | gt =>
      dsimp only
      split <;> exact eok_here hs trivial
    all_goals cases hres

theorem assignValue_ok (hs : HeapOk st) {p v : Value N} (hp : VOk st p) (hv : VOk st v) (x : String) (op : SetOp) :
    EOk st (assignValue p x op v st) := by
  unfold assignValue
  split
  · exact eok_here hs hv
  · split
    · exact binop_ok hs _ _ _
    · exact eok_here hs ((getField_ok hs hp x).of_error ‹_›)

theorem assign_ok (hs : HeapOk st) {p v : Value N} (hp : VOk st p) (hv : VOk st v) (x : String) (op : SetOp) :
    ROk st (assign p x op v st) := by
  have h := assignValue_ok hs hp hv x op
  unfold assign
  generalize assignValue p x op v st = r at h ⊢
  obtain ⟨nv, st2⟩ := r
  obtain ⟨h1, h2, h3⟩ := h
  cases nv with
  | error e => exact ⟨h1, h2, h3⟩
  | ok nv =>
    have h4 := setField_ok h1 (hp.mono h2) h3 x
    dsimp only at h4 ⊢
    generalize setField st2 p x nv = s at h4 ⊢
    cases s with
    | ok st4 => exact ⟨h4.1, h2.trans h4.2, trivial⟩
    | error e => exact ⟨h1, h2, h4⟩

end Icinga.C15.Proofs
