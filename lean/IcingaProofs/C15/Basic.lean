/-
  C15 — the shape of the model: the rule for its `if`s, which errors are its own, `Expression::Evaluate` below the depth
  limit as an equation and as an inversion, the inversions of `bindV`, `bindVals` and of an element list.
-/
import IcingaModel.C15.Model

namespace Icinga.C15.Proofs

open Icinga.C15

variable {N : Type} [Num N]

/-- `P` is found by unification when the `if` is the last argument of the goal, not otherwise (`conforms` takes the answer
    first: `conforms_ite_same`) -/
theorem ite_both {α : Sort _} {P : α → Prop} {c : Prop} [Decidable c] {a b : α} (ha : P a) (hb : P b) :
    P (if c then a else b) := by
  split <;> assumption

/-- not an error the model raises about itself (dangling address, heap cell of the wrong kind, impossible shape) -/
def NotInternal : Err → Prop
  | .internal _ => False
  | _ => True

theorem eval_expr_below (f : Nat) {fr : Frame N} (hd : ¬ (fr.depth + 1 > depthLimit)) (e : Expr N) (st : State N) :
    eval (f + 1) fr (.expr e) st = stepNode (eval f) { fr with depth := fr.depth + 1 } e (st.noteDepth (fr.depth + 1)) :=
  if_neg hd

/-- `stepNode` is `DoEvaluate` of the node; the at-limit half of `Expression::Evaluate` is `recursion_error_at_limit` -/
theorem eval_expr_val {fuel : Nat} {fr : Frame N} {e : Expr N} {st st' : State N} {c : Ctl} {v : Value N}
    (h : eval fuel fr (.expr e) st = (.val c v, st')) :
    ∃ f, fuel = f + 1 ∧ ¬ (fr.depth + 1 > depthLimit) ∧
      stepNode (eval f) { fr with depth := fr.depth + 1 } e (st.noteDepth (fr.depth + 1)) = (.val c v, st') := by
  cases fuel with
  | zero => cases h
  | succ f =>
    refine ⟨f, rfl, ?_⟩
    by_cases hd : fr.depth + 1 > depthLimit
    · rw [eval, stepExpr, if_pos hd] at h
      cases h
    · exact ⟨hd, eval_expr_below f hd e st ▸ h⟩

theorem bindV_inv {r : Res N} {k : Value N → State N → Res N} {v : Value N} {st' : State N}
    (h : bindV r k = (.val .ok v, st')) : ∃ v1 st1, r = (.val .ok v1, st1) ∧ k v1 st1 = (.val .ok v, st') := by
  obtain ⟨o, s⟩ := r
  cases o with
  | val c w => cases c <;> first | exact ⟨w, s, rfl, h⟩ | cases h
  | _ => cases h

theorem exprs_not_ok : ∀ (f : Nat) (fr : Frame N) (es : List (Expr N)) (acc : List (Value N)) (st : State N) (v : Value N),
    (eval f fr (.exprs es acc) st).1 ≠ .val .ok v
  | 0, _, _, _, _, _ => by simp [eval]
  | f + 1, fr, [], acc, st, v => by simp [eval, stepExprs]
  | f + 1, fr, e :: es, acc, st, v => fun h => by
    obtain ⟨w, s1, -, hk⟩ := bindV_inv (r := eval f fr (.expr e) st) (Prod.ext h rfl)
    exact exprs_not_ok f fr es (w :: acc) s1 v (congrArg Prod.fst hk)

theorem bindVals_cases {r x : Res N} {k : List (Value N) → State N → Res N} (h : bindVals r k = x) :
    (∃ vs st1, r = (.vals vs, st1) ∧ k vs st1 = x) ∨ r = x := by
  obtain ⟨o, s⟩ := r
  cases o with
  | vals vs => exact .inl ⟨vs, s, rfl, h⟩
  | _ => exact .inr h

end Icinga.C15.Proofs
