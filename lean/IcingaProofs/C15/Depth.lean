/-
  C15 — the frame-depth high-water mark (`State.maxDepth`) never exceeds the limit, for every task, frame, state and fuel.
  Only `State.noteDepth` moves the mark.  Seven of its nine uses sit in the branch where the new depth has been compared with
  the limit and found below it; the other two (the variable lookup that fails at the limit) note `min depthLimit …`.  Every
  other step hands the state on with the mark it had.  The frame's own depth needs no hypothesis: it is compared before it
  is noted.
-/
import IcingaProofs.C15.Basic

namespace Icinga.C15.Proofs

open Icinga.C15

set_option linter.unusedSectionVars false
variable {N : Type} [Num N]

def DepthOk (r : Res N) : Prop := r.2.maxDepth ≤ depthLimit

section combinators
variable {r : Res N}

theorem depth_bindV {k : Value N → State N → Res N} (h : DepthOk r)
    (hk : ∀ v st, st.maxDepth ≤ depthLimit → DepthOk (k v st)) : DepthOk (bindV r k) := by
  unfold bindV; split
  · exact hk _ _ h
  · exact h

theorem depth_bindVals {k : List (Value N) → State N → Res N} (h : DepthOk r)
    (hk : ∀ v st, st.maxDepth ≤ depthLimit → DepthOk (k v st)) : DepthOk (bindVals r k) := by
  unfold bindVals; split
  · exact hk _ _ h
  · exact h

theorem depth_bindAny {k : Value N → State N → Res N} (h : DepthOk r)
    (hk : ∀ v st, st.maxDepth ≤ depthLimit → DepthOk (k v st)) : DepthOk (bindAny r k) := by
  unfold bindAny; split
  · exact hk _ _ h
  · exact h

theorem depth_bindCallee {k : Value N → State N → Res N} (h : DepthOk r)
    (hk : ∀ v st, st.maxDepth ≤ depthLimit → DepthOk (k v st)) : DepthOk (bindCallee r k) := by
  unfold bindCallee; split
  · exact hk _ _ h
  · exact h
  · exact h

theorem depth_loopStep {k : State N → Res N} (h : DepthOk r)
    (hk : ∀ st, st.maxDepth ≤ depthLimit → DepthOk (k st)) : DepthOk (loopStep r k) := by
  unfold loopStep; split
  · exact h
  · exact h
  · exact hk _ h
  · exact h

theorem depth_bindRef {k1 : Value N → String → State N → Res N} {k2 : State N → Res N} (h : DepthOk r)
    (h1 : ∀ p i st, st.maxDepth ≤ depthLimit → DepthOk (k1 p i st)) (h2 : ∀ st, st.maxDepth ≤ depthLimit → DepthOk (k2 st)) :
    DepthOk (bindRef r k1 k2) := by
  unfold bindRef; split
  · exact h1 _ _ _ h
  · exact h2 _ h
  · exact h

theorem depth_catchScript {k : State N → Res N} (h : DepthOk r)
    (hk : ∀ st, st.maxDepth ≤ depthLimit → DepthOk (k st)) : DepthOk (catchScript r k) := by
  unfold catchScript; split
  · exact h
  · exact hk _ h
  · exact h

end combinators

@[simp] theorem alloc_md (st : State N) (o : HObj N) : (st.alloc o).2.maxDepth = st.maxDepth := rfl
@[simp] theorem put_md (st : State N) (a : Addr) (o : HObj N) : (st.put a o).maxDepth = st.maxDepth := rfl
theorem localsSet_md (st : State N) (fr : Frame N) (x : String) (v : Value N) :
    (localsSet st fr x v).maxDepth = st.maxDepth := by
  unfold localsSet; split <;> rfl
@[simp] theorem newArr_md (st : State N) (xs : List (Value N)) : (newArr st xs).2.maxDepth = st.maxDepth := rfl

theorem binop_md (op : BinOp) (l r : Value N) (st : State N) : (binop op l r st).2.maxDepth = st.maxDepth := by
  unfold binop
  simp only [State.alloc]
  repeat' split
  all_goals first | rfl | simp

theorem setField_md {st st' : State N} {c : Value N} {f : String} {v : Value N} (h : setField st c f v = .ok st') :
    st'.maxDepth = st.maxDepth := by
  unfold setField at h
  repeat' split at h
  all_goals cases h <;> rfl

theorem depth_liftE {r : Except Err (Value N) × State N} (h : r.2.maxDepth ≤ depthLimit) : DepthOk (liftE r) := by
  unfold liftE; split <;> exact h

theorem noteDepth_le {st : State N} (hst : st.maxDepth ≤ depthLimit) {d : Nat} (hd : d ≤ depthLimit) :
    (st.noteDepth d).maxDepth ≤ depthLimit := Nat.max_le.2 ⟨hst, hd⟩

/-- with the condition in hand: the depth mark is bounded BY the comparison it sits behind -/
theorem ite_cases {α : Sort _} {P : α → Prop} {c : Prop} [Decidable c] {a b : α} (ha : c → P a) (hb : ¬c → P b) :
    P (if c then a else b) := by
  split
  · exact ha ‹_›
  · exact hb ‹_›

theorem refInit_md {i : Bool} {p : Value N} {x : String} {st st' : State N} (h : refInit i p x st = .ok st') :
    st'.maxDepth = st.maxDepth := by
  unfold refInit at h
  split at h
  · split at h
    · cases h
    · exact (setField_md h).trans (alloc_md ..)
    · cases h; rfl
  · cases h; rfl

theorem depth_refParent {i : Bool} {p : Value N} {x : String} {st : State N} (h : st.maxDepth ≤ depthLimit) :
    DepthOk (refParent i p x st) := by
  unfold refParent
  split
  · exact h
  · rename_i st2 hh
    exact depth_liftE (refInit_md hh ▸ h)

theorem assignValue_md (p : Value N) (x : String) (op : SetOp) (v : Value N) (st : State N) :
    (assignValue p x op v st).2.maxDepth = st.maxDepth := by
  unfold assignValue
  split
  · rfl
  · split
    · exact binop_md _ _ _ _
    · rfl

theorem depth_assign {p : Value N} {x : String} {op : SetOp} {v : Value N} {st : State N} (h : st.maxDepth ≤ depthLimit) :
    DepthOk (assign p x op v st) := by
  have hv : (assignValue p x op v st).2.maxDepth ≤ depthLimit := assignValue_md p x op v st ▸ h
  unfold assign
  split
  · exact hv
  · split
    · rename_i st4 hh
      exact Nat.le_trans (Nat.le_of_eq (setField_md hh)) hv
    · exact hv

def EvDepthOk (ev : Frame N → Task N → State N → Res N) : Prop :=
  ∀ fr t st, st.maxDepth ≤ depthLimit → DepthOk (ev fr t st)

section steps
variable (ev : Frame N → Task N → State N → Res N) (ih : EvDepthOk ev) {fr : Frame N} {st : State N}
  (hst : st.maxDepth ≤ depthLimit)
include ih hst

theorem depth_stepExprs (es : List (Expr N)) (acc : List (Value N)) : DepthOk (stepExprs ev fr es acc st) := by
  cases es with
  | nil => exact hst
  | cons e es => exact depth_bindV (ih _ _ _ hst) fun v st1 h1 => ih _ _ _ h1

theorem depth_stepBlock (es : List (Expr N)) (last : Value N) : DepthOk (stepBlock ev fr es last st) := by
  cases es with
  | nil => exact hst
  | cons e es => exact depth_bindV (ih _ _ _ hst) fun v st1 h1 => ih _ _ _ h1

theorem depth_stepWhile (c body : Expr N) : DepthOk (stepWhile ev fr c body st) := by
  exact depth_bindV (ih _ _ _ hst) fun cv st1 h1 =>
    ite_both h1 (depth_loopStep (ih _ _ _ h1) fun st2 h2 => ih _ _ _ h2)

theorem depth_stepForArr (k : String) (a : Addr) (i : Nat) (body : Expr N) : DepthOk (stepForArr ev fr k a i body st) := by
  unfold stepForArr
  split
  · exact hst
  · split
    · exact hst
    · exact depth_loopStep (ih _ _ _ (by rw [localsSet_md]; exact hst)) fun st2 h2 => ih _ _ _ h2

theorem depth_stepForKeys (k v : String) (d : Addr) (keys : List String) (body : Expr N) :
    DepthOk (stepForKeys ev fr k v d keys body st) := by
  cases keys with
  | nil => exact hst
  | cons key keys =>
    exact depth_loopStep (ih _ _ _ (by rw [localsSet_md, localsSet_md]; exact hst)) fun st2 h2 => ih _ _ _ h2

theorem depth_stepCall (fv self : Value N) (args : List (Value N)) : DepthOk (stepCall ev fr fv self args st) := by
  unfold stepCall
  -- no branch moves the mark: a native's state gets the caller's mark in the model itself; the others end in `st` or hand
  -- it, after at most an allocation, to a nested evaluation
  split
  · split
    · exact ite_both hst (depth_bindAny (ih _ _ _ hst) fun v st2 h2 => h2)
    · exact hst
  · split
    · refine ite_both hst ?_
      split
      · refine ite_both hst ?_
        split
        · split
          · exact hst
          · exact ih _ _ _ hst
          · exact ih _ _ _ hst
        · exact hst
      · exact hst
    · split
      · exact depth_liftE hst
      · exact hst
  · exact hst

theorem depth_stepIter (kind : IterKind) (cb : Value N) (items acc : List (Value N)) : DepthOk (stepIter ev fr kind cb items acc st) := by
  cases items with
  | nil =>
    cases kind
    · exact depth_liftE hst
    · exact depth_liftE hst
    all_goals exact hst
  | cons x rest =>
    refine depth_bindV (ih _ _ _ hst) fun r st1 h1 => ?_
    -- whatever the callback answered, the step stops in `st1` or iterates from it
    cases kind <;> dsimp only
    all_goals repeat' split
    all_goals first | exact h1 | exact ih _ _ _ h1

theorem depth_stepRef (e : Expr N) (i : Bool) : DepthOk (stepRef ev fr e i st) := by
  cases e with
  | var x =>
    -- a depth is noted where its comparison with the limit succeeded, or as `min depthLimit …` where it failed
    exact ite_both hst <| ite_both hst <|
      ite_cases (fun _ => ite_cases (fun _ => hst) fun h => noteDepth_le hst (Nat.le_of_not_lt h)) fun _ =>
        ite_cases (fun _ => noteDepth_le hst (Nat.min_le_left _ _)) fun h =>
          ite_cases (fun _ => noteDepth_le hst (Nat.le_of_not_lt h)) fun _ => noteDepth_le hst (Nat.le_of_not_lt h)
  | index a b =>
    refine depth_bindV (depth_bindRef (ih _ _ _ hst) (fun p x st1 h1 => depth_refParent h1)
      fun st1 h1 => depth_bindAny (ih _ _ _ h1) fun v st2 h2 => h2) fun p st3 h3 => ?_
    refine depth_bindAny (ih _ _ _ h3) fun iv st4 h4 => ?_
    split <;> exact h4
  | _ => exact hst

theorem depth_callWith (args : List (Expr N)) (self vf : Value N) : DepthOk (callWith ev fr args self vf st) := by
  have call : DepthOk (bindVals (ev fr (.exprs args []) st) fun vs st2 => ev fr (.call vf self vs) st2) :=
    depth_bindVals (ih _ _ _ hst) fun vs st2 h2 => ih _ _ _ h2
  cases vf with
  | fn a => exact call
  | native n => exact call
  | _ => exact hst

theorem depth_stepNode (e : Expr N) : DepthOk (stepNode ev fr e st) := by
  cases e with
  | null | num | bool | str | brk | cont | scope => exact hst
  | var x =>
    simp only [stepNode]
    split
    · exact hst
    · -- a depth is noted where its comparison with the limit succeeded, or as `min depthLimit …` where it failed
      refine ite_cases (fun _ => depth_liftE hst) fun _ =>
        ite_cases (fun _ => ite_cases (fun _ => hst) fun h2 => noteDepth_le hst (Nat.le_of_not_lt h2)) fun _ =>
          ite_cases (fun _ => noteDepth_le hst (Nat.min_le_left _ _)) fun h3 => ?_
      split <;> exact noteDepth_le hst (Nat.le_of_not_lt h3)
  | bnot a => exact depth_bindV (ih _ _ _ hst) fun v st1 h1 => depth_liftE h1
  -- `dict`: the body starts in `(st.alloc _).2`, which has the same mark by `rfl`
  | lnot a | ret a | dict a => exact depth_bindV (ih _ _ _ hst) fun v st1 h1 => h1
  | bin op a b =>
    exact depth_bindV (ih _ _ _ hst) fun va st1 h1 =>
      depth_bindV (ih _ _ _ h1) fun vb st2 h2 => depth_liftE (binop_md op va vb st2 ▸ h2)
  | and a b | or a b =>
    exact depth_bindV (ih _ _ _ hst) fun va st1 h1 =>
      ite_both h1 (depth_bindV (ih _ _ _ h1) fun vb st2 h2 => h2)
  | isIn a b | notIn a b =>
    refine depth_bindV (ih _ _ _ hst) fun vb st1 h1 => ite_both h1 ?_
    split
    · refine depth_bindV (ih _ _ _ h1) fun va st2 h2 => ?_
      split <;> exact h2
    · exact h1
  | index a b =>
    refine depth_bindV (ih _ _ _ hst) fun va st1 h1 => depth_bindV (ih _ _ _ h1) fun vb st2 h2 => ?_
    split
    · exact depth_liftE h2
    · exact h2
  | call f args =>
    refine depth_bindRef (ih _ _ _ hst) (fun self index st1 h1 => ?_)
      fun st1 h1 => depth_bindCallee (ih _ _ _ h1) fun vf st2 h2 => depth_callWith ev ih h2 args .empty vf
    split
    · exact depth_callWith ev ih h1 args self _
    · exact h1
  | array es => exact depth_bindVals (ih _ _ _ hst) fun vs st1 h1 => depth_liftE h1
  | block body | «while» c body => exact ih _ _ _ hst
  | set lhs op rhs =>
    exact depth_bindRef (ih _ _ _ hst)
      (fun parent index st1 h1 => depth_bindV (ih _ _ _ h1) fun v st2 h2 => depth_assign h2) fun st1 h1 => h1
  | cond c t f =>
    refine depth_bindV (ih _ _ _ hst) fun cv st1 h1 => ite_both (ih _ _ _ h1) ?_
    split
    · exact ih _ _ _ h1
    · exact h1
  | «for» k v e body =>
    refine depth_bindV (ih _ _ _ hst) fun cv st1 h1 => ?_
    split
    · split                    -- an array
      · exact h1
      · exact ih _ _ _ h1
    · split                    -- a dictionary
      · exact h1
      · exact ih _ _ _ h1
    all_goals exact h1         -- a namespace, anything else
  | func ps us body => exact depth_bindVals (ih _ _ _ hst) fun vs st1 h1 => h1
  | throw a =>
    refine depth_bindV (ih _ _ _ hst) fun v st1 h1 => ?_
    split <;> exact h1
  | «try» a b =>
    exact depth_catchScript (ih _ _ _ hst) fun st1 h1 => depth_bindV (ih _ _ _ h1) fun _ st2 h2 => h2

theorem depth_stepExpr (e : Expr N) : DepthOk (stepExpr ev fr e st) := by
  unfold stepExpr
  split
  · exact hst
  · rename_i h
    exact depth_stepNode ev ih (fr := { fr with depth := fr.depth + 1 }) (noteDepth_le hst (Nat.le_of_not_lt h)) e

end steps

theorem eval_depth : ∀ (fuel : Nat), EvDepthOk (eval (N := N) fuel)
  | 0 => fun fr t st hst => hst
  | f + 1 => by
    have ih : EvDepthOk (eval (N := N) f) := eval_depth f
    intro fr t st hst
    cases t with
    | expr e => exact depth_stepExpr _ ih hst e
    | exprs es acc => exact depth_stepExprs _ ih hst es acc
    | block es last => exact depth_stepBlock _ ih hst es last
    | ref e i => exact depth_stepRef _ ih hst e i
    | whileL c body => exact depth_stepWhile _ ih hst c body
    | forArr k a i body => exact depth_stepForArr _ ih hst k a i body
    | forKeys k v d keys body => exact depth_stepForKeys _ ih hst k v d keys body
    | call fv self args => exact depth_stepCall _ ih hst fv self args
    | iter kind cb items acc => exact depth_stepIter _ ih hst kind cb items acc

end Icinga.C15.Proofs
