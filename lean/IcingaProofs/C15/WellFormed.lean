/-
  C15 — heap well-formedness: every address inside a value points to a heap cell of the matching kind.  Preserved by every
  step of the interpreter; consequence: the `Err.internal` outcomes (dangling address / wrong cell kind) are unreachable.
  A result is judged relative to the state its step started from: the heap may only have been extended (`Ext`).
-/
import IcingaProofs.C15.Basic

namespace Icinga.C15.Proofs

open Icinga.C15

set_option linter.unusedSectionVars false
variable {N : Type} [Num N] {st : State N}

inductive Kind | arr | dict | fn
  deriving DecidableEq, Repr

def kindOf : HObj N → Kind
  | .arr _ => .arr
  | .dict _ => .dict
  | .fn _ _ _ => .fn

def kindAt (st : State N) (a : Addr) : Option Kind := (st.heap[a]?).map kindOf

def VOk (st : State N) : Value N → Prop
  | .arr a => kindAt st a = some .arr
  | .dict a => kindAt st a = some .dict
  | .fn a => kindAt st a = some .fn
  | _ => True

def VsOk (st : State N) (vs : List (Value N)) : Prop := ∀ v ∈ vs, VOk st v
def KvsOk (st : State N) (kvs : List (String × Value N)) : Prop := ∀ kv ∈ kvs, VOk st kv.2

def ObjOk (st : State N) : HObj N → Prop
  | .arr xs => VsOk st xs
  | .dict kvs => KvsOk st kvs
  | .fn _ cap _ => KvsOk st cap

def HeapOk (st : State N) : Prop :=
  (∀ (a : Nat) (o : HObj N), st.heap[a]? = some o → ObjOk st o) ∧ KvsOk st st.globals

/-- what `VOk` says of a value stays true (`VOk.mono`); that the heap does not shrink follows (`ext_size`) -/
def Ext (st st' : State N) : Prop := ∀ a k, kindAt st a = some k → kindAt st' a = some k

theorem Ext.refl (st : State N) : Ext st st := fun _ _ h => h
theorem Ext.trans {a b c : State N} (h1 : Ext a b) (h2 : Ext b c) : Ext a c := fun x k h => h2 x k (h1 x k h)

theorem VOk.mono {st st' : State N} (h : Ext st st') {v : Value N} (hv : VOk st v) : VOk st' v := by
  cases v <;> simp only [VOk] at * <;> first | exact h _ _ hv | trivial

theorem VsOk.mono {st st' : State N} (h : Ext st st') {vs : List (Value N)} (hv : VsOk st vs) : VsOk st' vs :=
  fun v m => (hv v m).mono h
theorem KvsOk.mono {st st' : State N} (h : Ext st st') {vs : List (String × Value N)} (hv : KvsOk st vs) : KvsOk st' vs :=
  fun v m => (hv v m).mono h
theorem ObjOk.mono {st st' : State N} (h : Ext st st') {o : HObj N} (ho : ObjOk st o) : ObjOk st' o := by
  cases o <;> simp only [ObjOk] at * <;> first | exact VsOk.mono h ho | exact KvsOk.mono h ho

def FrOk (st : State N) (fr : Frame N) : Prop := kindAt st fr.locals = some .dict ∧ VOk st fr.self

theorem FrOk.mono {st st' : State N} (h : Ext st st') {fr : Frame N} (hf : FrOk st fr) : FrOk st' fr :=
  ⟨h _ _ hf.1, hf.2.mono h⟩

theorem heap_of_kind {a : Addr} {k : Kind} (h : kindAt st a = some k) :
    ∃ o, st.heap[a]? = some o ∧ kindOf o = k := by
  simpa [kindAt] using h

theorem kindAt_alloc_new (st : State N) (o : HObj N) : kindAt (st.alloc o).2 (st.alloc o).1 = some (kindOf o) := by
  simp [kindAt, State.alloc]

theorem ext_alloc (st : State N) (o : HObj N) : Ext st (st.alloc o).2 := by
  intro a k h
  simp only [kindAt, State.alloc] at *
  by_cases ha : a < st.heap.size
  · simpa [Array.getElem?_push, Nat.ne_of_lt ha] using h
  · simp [Array.getElem?_eq_none (Nat.le_of_not_lt ha)] at h

theorem kindAt_ge (st : State N) (a : Nat) (h : st.heap.size ≤ a) : kindAt st a = none := by
  simp [kindAt, Array.getElem?_eq_none h]

theorem kindAt_lt {a : Addr} {k : Kind} (h : kindAt st a = some k) : a < st.heap.size :=
  Nat.lt_of_not_le fun hge => nomatch (kindAt_ge st a hge).symm.trans h

theorem kindAt_size (st : State N) : kindAt st st.heap.size = none := kindAt_ge st _ (Nat.le_refl _)

theorem ext_size {st st' : State N} (h : Ext st st') : st.heap.size ≤ st'.heap.size := by
  apply Nat.le_of_not_gt
  intro hlt
  have hk : kindAt st st'.heap.size = some (kindOf st.heap[st'.heap.size]) := by
    simp [kindAt, Array.getElem?_eq_getElem hlt]
  exact nomatch (kindAt_size st').symm.trans (h _ _ hk)

/-- the one argument behind `alloc` and `put`: the cells are those of a well-formed heap except for copies of one well-formed
    cell `o` (a new cell, a cell replaced in its kind) -/
theorem heapOk_of_cells {st' : State N} {o : HObj N} (hs : HeapOk st) (he : Ext st st') (ho : ObjOk st o)
    (hc : ∀ (a : Nat) (o' : HObj N), st'.heap[a]? = some o' → o' = o ∨ st.heap[a]? = some o') (hg : st'.globals = st.globals) : HeapOk st' :=
  ⟨fun a o' h => (hc a o' h).elim (fun e => e ▸ ho.mono he) fun h' => (hs.1 a o' h').mono he, hg ▸ hs.2.mono he⟩

theorem heapOk_alloc (st : State N) (o : HObj N) (hs : HeapOk st) (ho : ObjOk st o) : HeapOk (st.alloc o).2 := by
  refine heapOk_of_cells hs (ext_alloc st o) ho (fun a o' h => ?_) rfl
  rw [State.alloc, Array.getElem?_push] at h
  split at h
  · exact .inl (Option.some.inj h).symm
  · exact .inr h

theorem ext_put (st : State N) (a : Addr) (o : HObj N) (hk : kindAt st a = some (kindOf o)) : Ext st (st.put a o) := by
  intro b k h
  by_cases hb : a = b
  · subst hb
    have hlt := kindAt_lt h
    have hko : kindOf o = k := Option.some.inj (hk.symm.trans h)
    simp [kindAt, State.put, hlt, hko]
  · simpa [kindAt, State.put, Array.getElem?_setIfInBounds, hb] using h

theorem heapOk_put (st : State N) (a : Addr) (o : HObj N) (hs : HeapOk st) (hk : kindAt st a = some (kindOf o))
    (ho : ObjOk st o) : HeapOk (st.put a o) := by
  refine heapOk_of_cells hs (ext_put st a o hk) ho (fun b o' h => ?_) rfl
  rw [State.put, Array.getElem?_setIfInBounds] at h
  split at h
  · split at h
    · exact .inl (Option.some.inj h).symm
    · cases h
  · exact .inr h

theorem arr?_heap {a : Addr} {xs : List (Value N)} (h : st.arr? a = some xs) : st.heap[a]? = some (.arr xs) := by
  unfold State.arr? State.get? at h
  split at h <;> simp_all

theorem dict?_heap {a : Addr} {kvs : List (String × Value N)} (h : st.dict? a = some kvs) :
    st.heap[a]? = some (.dict kvs) := by
  unfold State.dict? State.get? at h
  split at h <;> simp_all

theorem arr?_kind {a : Addr} {xs : List (Value N)} (h : st.arr? a = some xs) : kindAt st a = some .arr := by
  simp [kindAt, arr?_heap h, kindOf]
theorem dict?_kind {a : Addr} {kvs : List (String × Value N)} (h : st.dict? a = some kvs) : kindAt st a = some .dict := by
  simp [kindAt, dict?_heap h, kindOf]

theorem arr?_of_kind {a : Addr} (h : kindAt st a = some .arr) : ∃ xs, st.arr? a = some xs := by
  obtain ⟨o, ho, hk⟩ := heap_of_kind h
  cases o with
  | arr xs => exact ⟨xs, by simp [State.arr?, State.get?, ho]⟩
  | _ => cases hk

theorem dict?_of_kind {a : Addr} (h : kindAt st a = some .dict) : ∃ xs, st.dict? a = some xs := by
  obtain ⟨o, ho, hk⟩ := heap_of_kind h
  cases o with
  | dict kvs => exact ⟨kvs, by simp [State.dict?, State.get?, ho]⟩
  | _ => cases hk

theorem fn_of_kind {a : Addr} (h : kindAt st a = some .fn) : ∃ p c b, st.get? a = some (.fn p c b) := by
  obtain ⟨o, ho, hk⟩ := heap_of_kind h
  cases o with
  | fn p c b => exact ⟨p, c, b, ho⟩
  | _ => cases hk

theorem arr?_ok (hs : HeapOk st) {a : Addr} {xs : List (Value N)} (h : st.arr? a = some xs) : VsOk st xs :=
  hs.1 a _ (arr?_heap h)
theorem dict?_ok (hs : HeapOk st) {a : Addr} {kvs : List (String × Value N)} (h : st.dict? a = some kvs) : KvsOk st kvs :=
  hs.1 a _ (dict?_heap h)

theorem fn_ok (hs : HeapOk st) {a : Addr} {p : List String} {c : List (String × Value N)} {b : Expr N}
    (h : st.get? a = some (.fn p c b)) : KvsOk st c :=
  hs.1 a _ h

theorem vsOk_nil (st : State N) : VsOk st ([] : List (Value N)) := by intro x m; simp at m

theorem vsOk_cons {v : Value N} {vs : List (Value N)} (hv : VOk st v) (hvs : VsOk st vs) : VsOk st (v :: vs) :=
  List.forall_mem_cons.2 ⟨hv, hvs⟩

theorem vsOk_reverse {vs : List (Value N)} (h : VsOk st vs) : VsOk st vs.reverse := by
  intro x m; exact h x (List.mem_reverse.mp m)

theorem vsOk_tail {vs : List (Value N)} (h : VsOk st vs) : VsOk st vs.tail := by
  intro x m; exact h x (List.mem_of_mem_tail m)

theorem vsOk_set {xs : List (Value N)} (h : VsOk st xs) (n : Nat) {v : Value N} (hv : VOk st v) : VsOk st (xs.set n v) := by
  intro x m
  rcases List.mem_or_eq_of_mem_set m with m | rfl
  · exact h x m
  · exact hv

theorem vsOk_append {xs ys : List (Value N)} (h1 : VsOk st xs) (h2 : VsOk st ys) : VsOk st (xs ++ ys) :=
  List.forall_mem_append.2 ⟨h1, h2⟩

theorem vsOk_replicate_empty (st : State N) (n : Nat) : VsOk st (List.replicate n (.empty : Value N)) := by
  intro x m; rw [List.eq_of_mem_replicate m]; simp [VOk]

theorem vsOk_map {α : Type} {f : α → Value N} {l : List α} (hf : ∀ a ∈ l, VOk st (f a)) : VsOk st (l.map f) :=
  List.forall_mem_map.2 hf

theorem vsOk_eraseIdx {xs : List (Value N)} (h : VsOk st xs) (n : Nat) : VsOk st (xs.eraseIdx n) :=
  fun v m => h v (List.mem_of_mem_eraseIdx m)

theorem getD_ok {xs : List (Value N)} (h : VsOk st xs) (n : Nat) : VOk st (xs.getD n .empty) := by
  rw [List.getD_eq_getElem?_getD]
  cases hg : xs[n]? with
  | none => trivial
  | some v => exact h v (List.mem_of_getElem? hg)

theorem headD_ok {xs : List (Value N)} (h : VsOk st xs) : VOk st (xs.headD .empty) := by
  cases xs with
  | nil => trivial
  | cons x r => exact h x List.mem_cons_self

theorem kvsOk_cons_iff {x : String × Value N} {r : List (String × Value N)} : KvsOk st (x :: r) ↔ VOk st x.2 ∧ KvsOk st r :=
  List.forall_mem_cons

theorem kvGet_ok {l : List (String × Value N)} (hl : KvsOk st l) {k : String} {v : Value N}
    (h : kvGet k l = some v) : VOk st v := by
  induction l with
  | nil => cases h
  | cons x r ih =>
    obtain ⟨a, w⟩ := x
    simp only [kvGet] at h
    split at h
    · cases h; exact (kvsOk_cons_iff.1 hl).1
    · exact ih (kvsOk_cons_iff.1 hl).2 h

theorem kvGetD_ok {kvs : List (String × Value N)} (h : KvsOk st kvs) (k : String) :
    VOk st ((kvGet k kvs).getD .empty) := by
  cases hg : kvGet k kvs with
  | none => trivial
  | some v => exact kvGet_ok h hg

theorem kvSet_ok {l : List (String × Value N)} (hl : KvsOk st l) (k : String) {v : Value N} (hv : VOk st v) :
    KvsOk st (kvSet k v l) := by
  induction l with
  | nil => exact kvsOk_cons_iff.2 ⟨hv, hl⟩
  | cons x r ih =>
    obtain ⟨a, w⟩ := x
    obtain ⟨hx, hr⟩ := kvsOk_cons_iff.1 hl
    simp only [kvSet]
    split
    · exact kvsOk_cons_iff.2 ⟨hv, hl⟩
    · split
      · exact kvsOk_cons_iff.2 ⟨hv, hr⟩
      · exact kvsOk_cons_iff.2 ⟨hx, ih hr⟩

theorem kvRemove_ok {l : List (String × Value N)} (hl : KvsOk st l) (k : String) : KvsOk st (kvRemove k l) := by
  induction l with
  | nil => exact hl
  | cons x r ih =>
    obtain ⟨a, w⟩ := x
    obtain ⟨hx, hr⟩ := kvsOk_cons_iff.1 hl
    simp only [kvRemove]
    split
    · exact hr
    · exact kvsOk_cons_iff.2 ⟨hx, ih hr⟩

theorem kvMerge_ok {d s : List (String × Value N)} (hd : KvsOk st d) (hs : KvsOk st s) : KvsOk st (kvMerge d s) := by
  unfold kvMerge
  induction s generalizing d with
  | nil => exact hd
  | cons x r ih => exact ih (kvSet_ok hd _ (kvsOk_cons_iff.1 hs).1) (kvsOk_cons_iff.1 hs).2

theorem zip_kvs_ok (ns : List String) {vs : List (Value N)} (h : VsOk st vs) : KvsOk st (ns.zip vs) :=
  fun kv m => h kv.2 (List.of_mem_zip m).2

def OutOk (st : State N) : Out N → Prop
  | .val _ v => VOk st v
  | .vals vs => VsOk st vs
  | .ref p _ => VOk st p
  | .noref => True
  | .err e => NotInternal e

/-- `st` is the state the step started in.  `EOk` says the same of the value-or-error answers of operators and natives, `SOk`
    of the state-or-error answers of `setField` and `refInit`. -/
def ROk (st : State N) (r : Res N) : Prop := HeapOk r.2 ∧ Ext st r.2 ∧ OutOk r.2 r.1

def EResOk (st : State N) : Except Err (Value N) → Prop
  | .ok v => VOk st v
  | .error e => NotInternal e

def EOk (st : State N) (r : Except Err (Value N) × State N) : Prop := HeapOk r.2 ∧ Ext st r.2 ∧ EResOk r.2 r.1

def SOk (st : State N) : Except Err (State N) → Prop
  | .ok st' => HeapOk st' ∧ Ext st st'
  | .error e => NotInternal e

theorem ROk.not_internal {r : Res N} (h : ROk st r) (w : String) : r.1 ≠ .err (.internal w) := by
  intro hw
  have ho := h.2.2
  rw [hw] at ho
  exact ho

theorem rok_liftE {r : Except Err (Value N) × State N} (h : EOk st r) : ROk st (liftE r) := by
  unfold liftE
  split <;> exact h

theorem EResOk.of_ok {r : Except Err (Value N)} {v : Value N} (h : EResOk st r) (hr : r = .ok v) : VOk st v := by
  subst hr; exact h

theorem EResOk.of_error {r : Except Err (Value N)} {e : Err} (h : EResOk st r) (hr : r = .error e) : NotInternal e := by
  subst hr; exact h

theorem rok_here (hs : HeapOk st) {o : Out N} (ho : OutOk st o) : ROk st (o, st) := ⟨hs, Ext.refl st, ho⟩

theorem eok_here (hs : HeapOk st) {r : Except Err (Value N)} (hr : EResOk st r) : EOk st (r, st) :=
  ⟨hs, Ext.refl st, hr⟩

/-- the start state moves BACK along `Ext` (values move forward, `VOk.mono`), so a step that starts with a leaf is judged from
    where the leaf started; likewise `ROk.of_ext`, `SOk.of_ext` -/
theorem EOk.of_ext {a b : State N} {r : Except Err (Value N) × State N} (h : Ext a b) (hr : EOk b r) : EOk a r :=
  ⟨hr.1, h.trans hr.2.1, hr.2.2⟩

theorem ROk.of_ext {a b : State N} {r : Res N} (h : Ext a b) (hr : ROk b r) : ROk a r := ⟨hr.1, h.trans hr.2.1, hr.2.2⟩

theorem SOk.of_ext {a b : State N} (h : Ext a b) {r : Except Err (State N)} (hr : SOk b r) : SOk a r := by
  cases r with
  | ok s => exact ⟨hr.1, h.trans hr.2⟩
  | error e => exact hr

theorem eok_alloc (hs : HeapOk st) {o : HObj N} (ho : ObjOk st o) {v : Value N} (hv : VOk (st.alloc o).2 v) :
    EOk st (.ok v, (st.alloc o).2) :=
  ⟨heapOk_alloc st o hs ho, ext_alloc st o, hv⟩

theorem newArr_ok (hs : HeapOk st) {xs : List (Value N)} (hx : VsOk st xs) : EOk st (newArr st xs) :=
  eok_alloc hs (o := .arr xs) hx (kindAt_alloc_new st _)

theorem eok_put (hs : HeapOk st) {a : Addr} {o : HObj N} (hk : kindAt st a = some (kindOf o)) (ho : ObjOk st o) :
    EOk st (.ok .empty, st.put a o) :=
  ⟨heapOk_put st a o hs hk ho, ext_put st a o hk, trivial⟩

/-- `kindAt` reads neither the depth mark nor a frame's depth, so the invariant holds as it is where they change:
    `State.noteDepth` sets a mark, `Expression::Evaluate` enters a deeper frame, `stepCall` gives a native's state its caller's
    mark. -/
theorem heapOk_mark (h : HeapOk st) (d : Nat) : HeapOk { st with maxDepth := d } := h
theorem ext_mark (st : State N) (d : Nat) : Ext st { st with maxDepth := d } := fun _ _ h => h

theorem rok_mark (hs : HeapOk st) (d : Nat) {o : Out N} (ho : OutOk st o) : ROk st (o, { st with maxDepth := d }) :=
  ⟨heapOk_mark hs d, ext_mark st d, ho⟩

theorem FrOk.mark {fr : Frame N} (hf : FrOk st fr) (m d : Nat) : FrOk { st with maxDepth := m } { fr with depth := d } := hf

theorem EOk.mark {st' : State N} {r : Except Err (Value N)} (h : EOk st (r, st')) (d : Nat) :
    EOk st (r, { st' with maxDepth := d }) := h

theorem getField_ok (hs : HeapOk st) {c : Value N} (hc : VOk st c) (f : String) : EResOk st (getField st c f) := by
  unfold getField
  cases c with
  | arr a =>
    obtain ⟨xs, hx⟩ := arr?_of_kind hc
    simp only [hx]
    split
    · exact ite_both trivial (ite_both trivial (getD_ok (arr?_ok hs hx) _))
    · exact ite_both trivial (ite_both trivial trivial)
  | dict a =>
    obtain ⟨kvs, hx⟩ := dict?_of_kind hc
    simp only [hx]
    split
    · exact kvGet_ok (dict?_ok hs hx) ‹_›
    · exact ite_both trivial (ite_both trivial trivial)
  | ns =>
    simp only []
    split
    · exact kvGet_ok hs.2 ‹_›
    · trivial
  | empty | fn | native => trivial
  | _ => exact ite_both trivial trivial

theorem setField_ok (hs : HeapOk st) {c v : Value N} (hc : VOk st c) (hv : VOk st v) (f : String) :
    SOk st (setField st c f v) := by
  unfold setField
  cases c with
  | arr a =>
    obtain ⟨xs, hx⟩ := arr?_of_kind hc
    have hxs := arr?_ok hs hx
    simp only [hx]
    split
    · trivial
    · refine ite_both trivial (ite_both trivial (ite_both trivial ⟨heapOk_put st a _ hs hc (vsOk_set ?_ _ hv), ext_put st a _ hc⟩))
      -- the array grows by Empty values up to the index
      split
      · exact vsOk_append hxs (vsOk_replicate_empty _ _)
      · exact hxs
  | dict a =>
    obtain ⟨kvs, hx⟩ := dict?_of_kind hc
    simp only [hx]
    exact ⟨heapOk_put st a _ hs hc (kvSet_ok (dict?_ok hs hx) _ hv), ext_put st a _ hc⟩
  | ns =>
    have he : Ext st { st with globals := kvSet f v st.globals } := fun _ _ h => h
    exact ⟨⟨fun a o h => (hs.1 a o h).mono he, (kvSet_ok hs.2 _ hv).mono he⟩, he⟩
  | _ => trivial

theorem bitNot_ok (st : State N) (v : Value N) : EResOk st (bitNot v) := by
  unfold bitNot
  repeat' split
  all_goals trivial

theorem localsSet_ok (hs : HeapOk st) (fr : Frame N) (x : String) {v : Value N} (hv : VOk st v) :
    HeapOk (localsSet st fr x v) ∧ Ext st (localsSet st fr x v) := by
  unfold localsSet
  split
  · rename_i kvs hk
    exact ⟨heapOk_put st _ _ hs (dict?_kind hk) (kvSet_ok (dict?_ok hs hk) _ hv), ext_put st _ _ (dict?_kind hk)⟩
  · exact ⟨hs, .refl _⟩

theorem localsGet_ok (hs : HeapOk st) {fr : Frame N} {x : String} {v : Value N}
    (h : localsGet st fr x = some v) : VOk st v := by
  unfold localsGet at h
  split at h
  · rename_i kvs hk; exact kvGet_ok (dict?_ok hs hk) h
  · cases h

theorem refInit_ok (hs : HeapOk st) {p : Value N} (hp : VOk st p) (i : Bool) (x : String) :
    SOk st (refInit i p x st) := by
  have hg (c : Bool) : EResOk st (if c = true then getField st p x else .ok .empty) := ite_both (getField_ok hs hp x) trivial
  unfold refInit
  refine ite_both ?_ ⟨hs, .refl _⟩
  split
  · exact (hg _).of_error ‹_›
  · have he := ext_alloc st (.dict [])
    exact SOk.of_ext he (setField_ok (heapOk_alloc st (.dict []) hs (fun _ m => nomatch m)) (hp.mono he)
      (v := .dict (st.alloc (.dict [])).1) (kindAt_alloc_new st _) x)
  · exact ⟨hs, .refl _⟩

theorem refParent_ok (hs : HeapOk st) {p : Value N} (hp : VOk st p) (i : Bool) (x : String) :
    ROk st (refParent i p x st) := by
  have h := refInit_ok hs hp i x
  unfold refParent
  generalize refInit i p x st = s at h ⊢
  cases s with
  | error e => exact rok_here hs h
  | ok st2 => exact ROk.of_ext h.2 (rok_liftE (eok_here h.1 (getField_ok h.1 (hp.mono h.2) x)))

theorem rok_bindV {r : Res N} {k : Value N → State N → Res N} (h : ROk st r)
    (hk : ∀ v st1, HeapOk st1 → Ext st st1 → VOk st1 v → ROk st1 (k v st1)) : ROk st (bindV r k) := by
  unfold bindV; split
  · exact ROk.of_ext h.2.1 (hk _ _ h.1 h.2.1 h.2.2)
  · exact h

theorem rok_bindAny {r : Res N} {k : Value N → State N → Res N} (h : ROk st r)
    (hk : ∀ v st1, HeapOk st1 → Ext st st1 → VOk st1 v → ROk st1 (k v st1)) : ROk st (bindAny r k) := by
  unfold bindAny; split
  · exact ROk.of_ext h.2.1 (hk _ _ h.1 h.2.1 h.2.2)
  · exact h

theorem rok_bindCallee {r : Res N} {k : Value N → State N → Res N} (h : ROk st r)
    (hk : ∀ v st1, HeapOk st1 → Ext st st1 → VOk st1 v → ROk st1 (k v st1)) : ROk st (bindCallee r k) := by
  unfold bindCallee; split
  · exact ROk.of_ext h.2.1 (hk _ _ h.1 h.2.1 h.2.2)
  · exact ⟨h.1, h.2.1, trivial⟩
  · exact h

theorem rok_bindVals {r : Res N} {k : List (Value N) → State N → Res N} (h : ROk st r)
    (hk : ∀ vs st1, HeapOk st1 → Ext st st1 → VsOk st1 vs → ROk st1 (k vs st1)) : ROk st (bindVals r k) := by
  unfold bindVals; split
  · exact ROk.of_ext h.2.1 (hk _ _ h.1 h.2.1 h.2.2)
  · exact h

theorem rok_loopStep {r : Res N} {k : State N → Res N} (h : ROk st r)
    (hk : ∀ st1, HeapOk st1 → Ext st st1 → ROk st1 (k st1)) : ROk st (loopStep r k) := by
  unfold loopStep; split
  · exact h
  · exact ⟨h.1, h.2.1, trivial⟩
  · exact ROk.of_ext h.2.1 (hk _ h.1 h.2.1)
  · exact h

theorem rok_bindRef {r : Res N} {k1 : Value N → String → State N → Res N} {k2 : State N → Res N} (h : ROk st r)
    (h1 : ∀ p i st1, HeapOk st1 → Ext st st1 → VOk st1 p → ROk st1 (k1 p i st1))
    (h2 : ∀ st1, HeapOk st1 → Ext st st1 → ROk st1 (k2 st1)) : ROk st (bindRef r k1 k2) := by
  unfold bindRef; split
  · exact ROk.of_ext h.2.1 (h1 _ _ _ h.1 h.2.1 h.2.2)
  · exact ROk.of_ext h.2.1 (h2 _ h.1 h.2.1)
  · exact h

theorem rok_catchScript {r : Res N} {k : State N → Res N} (h : ROk st r)
    (hk : ∀ st1, HeapOk st1 → Ext st st1 → ROk st1 (k st1)) : ROk st (catchScript r k) := by
  unfold catchScript; split
  · exact ⟨h.1, h.2.1, trivial⟩
  · exact ROk.of_ext h.2.1 (hk _ h.1 h.2.1)
  · exact h

/-- what a task carries besides syntax is well-formed: per task exactly what keeps its step function off its `Err.internal`
    branches (a `.call` demands a function value because `stepCall` answers "call of a non-function" as an internal error:
    `callWith` has raised the script error before) -/
def TOk (st : State N) : Task N → Prop
  | .exprs _ acc => VsOk st acc
  | .block _ last => VOk st last
  | .forArr _ a _ _ => kindAt st a = some .arr
  | .forKeys _ _ d _ _ => kindAt st d = some .dict
  | .call fv self args => VOk st fv ∧ isFunction fv = true ∧ VOk st self ∧ VsOk st args
  | .iter _ cb items acc => VOk st cb ∧ isFunction cb = true ∧ VsOk st items ∧ VsOk st acc
  | _ => True

def EvWF (ev : Frame N → Task N → State N → Res N) : Prop :=
  ∀ fr t st, HeapOk st → FrOk st fr → TOk st t → ROk st (ev fr t st)

theorem EvWF.expr {ev : Frame N → Task N → State N → Res N} (ih : EvWF ev) {fr : Frame N}
    (hs : HeapOk st) (hf : FrOk st fr) (e : Expr N) : ROk st (ev fr (.expr e) st) := ih _ _ _ hs hf trivial

theorem initState_ok : HeapOk (initState : State N) := by
  refine ⟨?_, ?_⟩
  · intro a o h
    simp only [initState] at h
    cases a with
    | zero => simp at h; subst h; intro kv m; simp at m
    | succ n => simp at h
  · intro kv m; simp [initState] at m

theorem initFrame_ok : FrOk (initState : State N) initFrame := ⟨rfl, trivial⟩

end Icinga.C15.Proofs
