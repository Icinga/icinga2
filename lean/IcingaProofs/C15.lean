/-
  C15 — property theorems.  Generic in the number type (`[Num N]`): no theorem depends on a floating-point fact.
  Kernel-checked examples instantiate `N := Int`.
-/
import IcingaModel.C15.Model
import IcingaModel.C15.Spec
import IcingaProofs.Gen.Precedence
import IcingaProofs.C15.Depth
import IcingaProofs.C15.OpTable
import IcingaProofs.C15.WfSteps

namespace Icinga.C15.Proofs

open Icinga.C15 Icinga.Gen.Precedence

inductive OpKind | binary | prefix | postfix
  deriving DecidableEq, Repr

abbrev Op := OpKind × String

/-- Operator of a grammar token, or `none` when the token is not an operator of levels 1–13:
    binary tokens through the lexer table (only if the grammar has a binary rule for them), prefix rules through their
    `%prec` token, the three postfix forms by themselves. -/
def opOfToken (t : String) : Option Op :=
  if (binaryRules.map (·.1)).contains t then (lexemes.find? (·.1 == t)).map fun l => (.binary, l.2)
  else match unaryRules.find? (fun r => r.2.1 == t) with
    | some (first, _, _) =>
      match lexemes.find? (·.1 == first) with
      | some l => some (.prefix, l.2)
      | none => if first == "'!'" then some (.prefix, "!") else if first == "'~'" then some (.prefix, "~") else none
    | none => if postfixRules.contains t then some (.postfix, t) else none

def isPrefixLevel (l : Assoc × List Op) : Bool := l.2.all (·.1 == .prefix)

/-- adjacent levels that contain only prefix operators are one level (their relative order cannot be observed). -/
def mergePrefix : Nat → List (Assoc × List Op) → List (Assoc × List Op)
  | 0, l => l
  | n + 1, a :: b :: r =>
    if isPrefixLevel a && isPrefixLevel b then mergePrefix n ((.right, a.2 ++ b.2) :: r) else a :: mergePrefix n (b :: r)
  | _ + 1, l => l

/-- the generated declarations, highest precedence first, reduced to operators. -/
def normalised : List (Assoc × List Op) :=
  mergePrefix grammarLevels.length ((grammarLevels.reverse.map fun l => (l.1, l.2.filterMap opOfToken)).filter (!·.2.isEmpty))

/-- doc/17-language-reference.md, table "Operators", precedence 1–13 (transcribed once; the document has no
    associativity column: binary levels associate to the left, relational and equality operators do not chain,
    prefix operators nest to the right). -/
def reference : List (Assoc × List Op) := [
  (.left, [(.postfix, "'('"), (.postfix, "'['"), (.postfix, "'.'")]),                               -- 1  ()  []  .
  (.right, [(.prefix, "!"), (.prefix, "~"), (.prefix, "+"), (.prefix, "-"), (.prefix, "&"), (.prefix, "*")]),   -- 2
  (.left, [(.binary, "*"), (.binary, "/"), (.binary, "%")]),                                         -- 3
  (.left, [(.binary, "+"), (.binary, "-")]),                                                         -- 4
  (.left, [(.binary, "<<"), (.binary, ">>")]),                                                       -- 5
  (.nonassoc, [(.binary, "<"), (.binary, ">"), (.binary, "<="), (.binary, ">=")]),                   -- 6
  (.left, [(.binary, "in"), (.binary, "!in")]),                                                      -- 7
  (.nonassoc, [(.binary, "=="), (.binary, "!=")]),                                                   -- 8
  (.left, [(.binary, "&")]),                                                                         -- 9
  (.left, [(.binary, "^")]),                                                                         -- 10
  (.left, [(.binary, "|")]),                                                                         -- 11
  (.left, [(.binary, "&&")]),                                                                        -- 12
  (.left, [(.binary, "||")])                                                                         -- 13
]

def sameLevel (a b : Assoc × List Op) : Bool :=
  a.1 == b.1 && a.2.all (b.2.contains ·) && b.2.all (a.2.contains ·)

def sameTable : List (Assoc × List Op) → List (Assoc × List Op) → Bool
  | [], [] => true
  | a :: r, b :: s => sameLevel a b && sameTable r s
  | _, _ => false

/-- **Precedence**: the `%left`/`%right`/`%nonassoc` declarations of config_parser.yy in this build (`grammarLevels`, regenerated
    on every run), reduced to operators (prefix-only levels merged into one) and read from the tightest level down, are the
    13 levels of `reference` — the same operators and the same associativity, level by level. -/
theorem precedence_matches_reference : sameTable (normalised.take 13) reference = true := by decide +kernel

/-- the comparison is not vacuous: swapping two adjacent levels of the reference is rejected. -/
example : sameTable (normalised.take 13)
    (reference.take 2 ++ [(.left, [(.binary, "+"), (.binary, "-")]), (.left, [(.binary, "*"), (.binary, "/"), (.binary, "%")])] ++ reference.drop 4) = false := by decide +kernel

/-- a row (precedence, operator text) of the document as an operator: precedence 1 are the postfix forms `()` `[]` `.`, precedence 2 the
    prefix operators, 3–13 the binary ones (the document's "Examples" column shows the arity; it is not machine-readable). -/
def docOp (r : Nat × String) : Op :=
  if r.1 == 1 then (.postfix, if r.2 == "()" then "'('" else if r.2 == "[]" then "'['" else if r.2 == "." then "'.'" else r.2)
  else if r.1 == 2 then (.prefix, r.2) else (.binary, r.2)

def documentedLevel (n : Nat) : List Op := (documented.filter (·.1 == n)).map docOp

def sameOps (a b : List Op) : Bool := a.all (b.contains ·) && b.all (a.contains ·)

/-- rows in file order never go back to a smaller precedence number ("sorted by descending precedence") -/
def nonDecreasing : List Nat → Bool
  | a :: b :: r => a ≤ b && nonDecreasing (b :: r)
  | _ => true

/-- **The reference table is the document's table**: level `i` of `reference` holds exactly the operators the document lists with
    precedence `i` (for i = 1 … 13), and the document's rows are sorted.  `documented` is regenerated from
    doc/17-language-reference.md at the start of every run, so neither a change of the document nor of the transcription goes unnoticed. -/
theorem reference_matches_document :
    reference.length = 13 ∧ (reference.zipIdx.all fun l => sameOps l.1.2 (documentedLevel (l.2 + 1))) = true ∧
    nonDecreasing (documented.map (·.1)) = true := by decide +kernel

/-- not vacuous: a table with levels 9 and 10 exchanged is rejected -/
example : documentedLevel 9 = [(.binary, "&")] ∧ documentedLevel 10 = [(.binary, "^")] ∧
    sameOps [(.binary, "^")] (documentedLevel 9) = false := by decide +kernel

def allBinarySyms : List String :=
  ([BinOp.add, .sub, .mul, .div, .mod, .xor, .band, .bor, .shl, .shr, .eq, .ne, .lt, .gt, .le, .ge].map BinOp.sym) ++ ["&&", "||", "in", "!in"]

/-- the document's precedence number (1 binds tightest); only rows 3–13, because `+ - & *` also have a row as prefix operators (2) -/
def docLevelOf (s : String) : Option Nat := (documented.find? (fun r => r.2 == s && 3 ≤ r.1 && r.1 ≤ 13)).map (·.1)

def findIdxOpt {α : Type} (p : α → Bool) : List α → Nat → Option Nat
  | [], _ => none
  | x :: r, i => if p x then some i else findIdxOpt p r (i + 1)

/-- position (file order: a LATER line binds tighter) of the `%left/%nonassoc` line declaring the token the lexer makes of `s`,
    provided the grammar has a binary rule `rterm TOKEN rterm` for that token -/
def grammarIndexOf (s : String) : Option Nat :=
  match lexemes.find? (fun l => l.2 == s && (binaryRules.map (·.1)).contains l.1) with
  | some l => findIdxOpt (fun lv => lv.2.contains l.1) grammarLevels 0
  | none => none

def orderedAlike (a b : String) : Bool :=
  match docLevelOf a, docLevelOf b, grammarIndexOf a, grammarIndexOf b with
  | some da, some db, some ga, some gb => (decide (da < db) == decide (gb < ga)) && (decide (da = db) == decide (ga = gb))
  | _, _, _, _ => false

/-- **Every two binary operators are ordered by the grammar of this build as by the document**: for all 20 × 20 pairs of the binary
    operators of the sub-language (the 16 of `BinOp` and `&&`, `||`, `in`, `!in`), both are documented (precedence 3–13) and declared
    in the grammar with a binary rule, and `a` binds tighter than / as tight as `b` in config_parser.yy exactly when the document says
    so.  (The pairwise form of `precedence_matches_reference`, stated on the operators the MODEL evaluates.) -/
theorem binary_operators_ordered_as_documented :
    (allBinarySyms.all fun a => allBinarySyms.all fun b => orderedAlike a b) = true := by decide +kernel

theorem every_operator_documented_once (op : BinOp) :
    (documented.filter (fun r => r.2 == op.sym && 3 ≤ r.1 && r.1 ≤ 13)).length = 1 := by
  cases op <;> decide +kernel

/-- not vacuous: a pair with an operator outside the binary rows (`?`) is rejected -/
example : docLevelOf "&" = some 9 ∧ docLevelOf "^" = some 10 ∧ orderedAlike "^" "&" = true ∧ orderedAlike "^" "?" = false := by decide +kernel

section
variable {N : Type} [Num N]

/-- In the model this says nothing (`eval` is a Lean function); "the same result every time" is demanded of the real evaluator
    by `Spec.checkProgram` (clauses `deterministic`, `deterministic_same_expression`), which the correspondence runs. -/
theorem deterministic (fuel : Nat) (fr : Frame N) (t : Task N) (st : State N) (r1 r2 : Res N)
    (h1 : eval fuel fr t st = r1) (h2 : eval fuel fr t st = r2) : r1 = r2 := by
  rw [← h1, ← h2]

/-- **No evaluation ends in the model's `Err.internal`** (dangling heap address, heap cell of the wrong kind, call of a
    non-function): from a well-formed state, frame and task, for every fuel, the heap stays well-formed (every address inside
    every value, dictionary, array, closure and global points to a cell of the matching kind; cells never change kind; the heap
    only grows) and the outcome is well-formed and not an internal error. -/
theorem no_internal_error (fuel : Nat) (fr : Frame N) (t : Task N) (st : State N)
    (hs : HeapOk st) (hf : FrOk st fr) (ht : TOk st t) :
    ROk st (eval fuel fr t st) :=
  eval_wf fuel fr t st hs hf ht

/-- **Every program ends in a value or an error, never in `Err.internal`**: `no_internal_error` for a whole program started
    in the fresh state and frame.  The errors left are the script errors of the language and the model's own `Err.fuel` and
    `Err.unmodelled`.  The interpreter is a total function, so "returns" needs no proof; without fuel it answers `Err.fuel`. -/
theorem total_or_error (fuel : Nat) (prog : List (Expr N)) :
    (∀ w, (run fuel prog).1 ≠ Out.err (Err.internal w)) ∧ HeapOk (run fuel prog).2 ∧
    (run 0 prog).1 = Out.err Err.fuel := by
  have h : ROk initState (run fuel prog) := no_internal_error fuel initFrame _ initState initState_ok initFrame_ok trivial
  exact ⟨h.not_internal, h.1, rfl⟩

/-- scriptframe.cpp:84-85: an expression entered at frame depth ≥ 300 is not evaluated at all: the outcome is the
    recursion error and the state is untouched. -/
theorem recursion_error_at_limit (f : Nat) (fr : Frame N) (e : Expr N) (st : State N) (h : fr.depth ≥ depthLimit) :
    eval (f + 1) fr (.expr e) st = (.err stackErr, st) := by
  have : fr.depth + 1 > depthLimit := by omega
  simp [eval, stepExpr, this]

/-- **Frame depth never exceeds 300**: for every task (expression, statement list, loop, call, callback iteration,
    reference), frame, state and fuel — the high-water mark of `ScriptFrame::Depth` over the whole evaluation, including
    every nested function frame and the import lookups, stays ≤ 300 provided it starts there (`hfr`, the bound on the frame's own
    depth, is not used: a depth is compared with the limit before it is noted). -/
theorem depth_bounded (fuel : Nat) (fr : Frame N) (t : Task N) (st : State N)
    (hfr : fr.depth ≤ depthLimit) (hst : st.maxDepth ≤ depthLimit) :
    (eval fuel fr t st).2.maxDepth ≤ depthLimit :=
  eval_depth fuel fr t st hst

/-- … in particular for whole programs started in a fresh frame. -/
theorem depth_bounded_program (fuel : Nat) (prog : List (Expr N)) : (run fuel prog).2.maxDepth ≤ 300 :=
  depth_bounded fuel initFrame _ initState (Nat.zero_le _) (Nat.zero_le _)

/-- `a && b`: when `a` is falsy the result is `a` ITSELF and the state is the one after `a` — `b` is not evaluated; `a || b`
    likewise when `a` is truthy. -/
theorem and_or_short_circuit (f : Nat) (fr : Frame N) (a b : Expr N) (st st1 : State N) (va : Value N)
    (hd : ¬ (fr.depth + 1 > depthLimit))
    (ha : eval f { fr with depth := fr.depth + 1 } (.expr a) (st.noteDepth (fr.depth + 1)) = (.val .ok va, st1)) :
    (truthy st1 va = false → eval (f + 1) fr (.expr (.and a b)) st = (.val .ok va, st1)) ∧
    (truthy st1 va = true → eval (f + 1) fr (.expr (.or a b)) st = (.val .ok va, st1)) := by
  constructor <;> intro ht <;> simp [eval_expr_below f hd, stepNode, ha, bindV, ht]

/-- `try { a } except { b }`: a script error of `a` never leaves the construct; `b` runs in the state `a` left. -/
theorem try_catches_script_errors (f : Nat) (fr : Frame N) (a b : Expr N) (st st1 : State N) (k : ErrKind) (m : String)
    (hd : ¬ (fr.depth + 1 > depthLimit))
    (ha : eval f { fr with depth := fr.depth + 1 } (.expr a) (st.noteDepth (fr.depth + 1)) = (.err (.script k m), st1)) :
    eval (f + 1) fr (.expr (.try a b)) st =
      bindV (eval f { fr with depth := fr.depth + 1 } (.expr b) st1) (fun _ st2 => (.val .ok .empty, st2)) := by
  simp [eval_expr_below f hd, stepNode, ha, catchScript]

/-- `break` leaves the innermost loop with Empty, `return` leaves it carrying its value, `continue` goes on with the next
    iteration (CHECK_RESULT_LOOP). -/
theorem loop_control (f : Nat) (fr : Frame N) (c body : Expr N) (st st1 st2 : State N) (cv v : Value N)
    (hc : eval f fr (.expr c) st = (.val .ok cv, st1)) (ht : truthy st1 cv = true) :
    (eval f fr (.expr body) st1 = (.val .brk v, st2) → eval (f + 1) fr (.whileL c body) st = (.val .ok .empty, st2)) ∧
    (eval f fr (.expr body) st1 = (.val .ret v, st2) → eval (f + 1) fr (.whileL c body) st = (.val .ret v, st2)) ∧
    (eval f fr (.expr body) st1 = (.val .cont v, st2) → eval (f + 1) fr (.whileL c body) st = eval f fr (.whileL c body) st2) := by
  refine ⟨?_, ?_, ?_⟩ <;> intro hb <;> simp [eval, stepWhile, hc, bindV, ht, hb, loopStep]

/-- **Operator typing, all 16 binary operators** (`+ - * / % ^ & | << >> == != < > <= >=`): for every pair of operands the
    outcome class of the operator — value of which type / type error / division error / handled element-wise on the heap — is
    exactly the entry of `opTable` (C15/OpTable.lean) for the operands' classes (Empty, empty string, string, number, Boolean,
    array, dictionary, other object).  Transcribes the case analysis of lib/base/value-operators.cpp. -/
theorem operator_typing (op : BinOp) (l r : Value N) :
    conforms (binScalar op l r) (opTable op (cls l) (cls r)) :=
  binScalar_conforms op l r

/-- … and for the entries answered on the heap: `+` gives an array or a dictionary, `-` an array, the comparisons a
    Boolean; the failures are a nested type error (`[1] < ["a"]`) or the comparison budget (self-containing arrays).  The
    statement also admits `Err.internal`, which `binop_heapRes` (C15/OpTable.lean) excludes. -/
theorem operator_typing_heap (op : BinOp) (l r : Value N) (st : State N) (h : binScalar op l r = .heap) :
    (∀ v, (binop op l r st).1 = .ok v →
        v.ty = (match op with
                | .add => if arrPair l r then Ty.array else Ty.dictionary
                | .sub => Ty.array
                | _ => Ty.boolean)) ∧
    (∀ e, (binop op l r st).1 = .error e →
        (∃ m, e = .unmodelled m) ∨ (∃ m, e = .script .optype m) ∨ (∃ m, e = .internal m)) :=
  ⟨(binop_heapRes op l r st h).1, fun e he => ((binop_heapRes op l r st h).2 e he).elim .inl fun hm => .inr (.inl hm)⟩

/-- the table distinguishes: `"" + null` is a string but `null + null` a type error; `5 / null` the division error;
    `true + 1` a type error while `true == 1` is a Boolean; `[1] + null` a new array; `[1] < [2]` is compared element-wise
    while `[1] <= [2]` is a type error. -/
example : opTable .add .emptyStr .empty = .val .string ∧ opTable .add .empty .empty = .typeErr ∧
    opTable .div .num .empty = .divErr ∧ opTable .add .bool .num = .typeErr ∧ opTable .eq .bool .num = .val .boolean ∧
    opTable .add .arr .empty = .newArray ∧ opTable .lt .arr .arr = .deepCmp ∧ opTable .le .arr .arr = .typeErr := by decide +kernel

/-- **An array literal yields a NEW array on every evaluation**: the address answered by `[ … ]` was not allocated before the
    evaluation started (the elements are evaluated first, so this needs that evaluation does not shrink the heap: `ext_size` of
    `eval_wf`, hence the well-formed state and frame). -/
theorem array_literal_creates_new_container (fuel : Nat) (fr : Frame N) (es : List (Expr N)) (st st' : State N) (a : Addr)
    (hs : HeapOk st) (hf : FrOk st fr)
    (h : eval fuel fr (.expr (.array es)) st = (.val .ok (.arr a), st')) : kindAt st a = none ∧ kindAt st' a = some .arr := by
  obtain ⟨f, -, -, h⟩ := eval_expr_val h
  simp only [stepNode] at h
  have hw := eval_wf f { fr with depth := fr.depth + 1 } (.exprs es []) (st.noteDepth (fr.depth + 1))
    (heapOk_mark hs _) (hf.mark _ _) (vsOk_nil _)
  have hno := exprs_not_ok f { fr with depth := fr.depth + 1 } es [] (st.noteDepth (fr.depth + 1)) (.arr a)
  rcases bindVals_cases h with ⟨vs, st1, hr, h⟩ | hr
  · -- the element list answered `.vals`: the array is allocated in the state the elements left, which extends `st`
    rw [hr] at hw
    simp only [liftE, newArr, State.alloc, Prod.mk.injEq, Out.val.injEq, Value.arr.injEq, true_and] at h
    obtain ⟨ha, hst⟩ := h
    subst ha
    subst hst
    exact ⟨kindAt_ge _ _ (ext_size hw.2.1), kindAt_alloc_new st1 (.arr _)⟩
  · -- it answered the value itself, which `bindVals` hands on: refuted by `exprs_not_ok`
    exact absurd (congrArg Prod.fst hr) hno

/-- … and so does a dictionary literal `{ … }`: its address is allocated before the body runs and was free before. -/
theorem dict_literal_creates_new_container (fuel : Nat) (fr : Frame N) (body : List (Expr N)) (st st' : State N) (a : Addr)
    (h : eval fuel fr (.expr (.dict body)) st = (.val .ok (.dict a), st')) : kindAt st a = none := by
  obtain ⟨f, -, -, h⟩ := eval_expr_val h
  simp only [stepNode] at h
  obtain ⟨w, st1, -, h⟩ := bindV_inv h
  simp only [State.alloc, State.noteDepth, Prod.mk.injEq, Out.val.injEq, Value.dict.injEq, true_and] at h
  rw [← h.1]; exact kindAt_size _

/-- **try/except forwards flow control**: `return`/`break`/`continue` executed in the try body OR in the except handler leave the
    construct with their code and value (CHECK_RESULT on both, expression.cpp:1062-1066). -/
theorem try_forwards_flow_control (f : Nat) (fr : Frame N) (a b : Expr N) (st st1 st2 : State N) (c : Ctl) (v : Value N)
    (k : ErrKind) (m : String) (hd : ¬ (fr.depth + 1 > depthLimit)) (hc : c ≠ .ok) :
    (eval f { fr with depth := fr.depth + 1 } (.expr a) (st.noteDepth (fr.depth + 1)) = (.val c v, st1) →
      eval (f + 1) fr (.expr (.try a b)) st = (.val c v, st1)) ∧
    (eval f { fr with depth := fr.depth + 1 } (.expr a) (st.noteDepth (fr.depth + 1)) = (.err (.script k m), st1) →
      eval f { fr with depth := fr.depth + 1 } (.expr b) st1 = (.val c v, st2) →
      eval (f + 1) fr (.expr (.try a b)) st = (.val c v, st2)) := by
  rw [eval_expr_below f hd]
  simp only [stepNode]
  constructor
  · intro ha
    rw [ha]
    cases c <;> first | rfl | exact absurd rfl hc
  · intro ha hb
    rw [ha, catchScript, hb]
    cases c <;> first | rfl | exact absurd rfl hc

/-- `for (k in array)`: the same three rules as `while` (vmops.hpp:185-189, CHECK_RESULT_LOOP). -/
theorem loop_control_for (f : Nat) (fr : Frame N) (k : String) (a : Addr) (i : Nat) (body : Expr N) (st st2 : State N)
    (xs : List (Value N)) (v : Value N) (ha : st.arr? a = some xs) (hi : i < xs.length) :
    (eval f fr (.expr body) (localsSet st fr k (xs.getD i .empty)) = (.val .brk v, st2) →
      eval (f + 1) fr (.forArr k a i body) st = (.val .ok .empty, st2)) ∧
    (eval f fr (.expr body) (localsSet st fr k (xs.getD i .empty)) = (.val .ret v, st2) →
      eval (f + 1) fr (.forArr k a i body) st = (.val .ret v, st2)) ∧
    (eval f fr (.expr body) (localsSet st fr k (xs.getD i .empty)) = (.val .cont v, st2) →
      eval (f + 1) fr (.forArr k a i body) st = eval f fr (.forArr k a (i + 1) body) st2) := by
  have hi' : ¬ (i ≥ xs.length) := by omega
  refine ⟨?_, ?_, ?_⟩ <;> intro hb <;> simp only [List.getD_eq_getElem?_getD] at hb <;> simp [eval, stepForArr, ha, hi', hb, loopStep]

/-- **`return` ends the enclosing function and nothing more; `break`/`continue` do not cross a function boundary**: whatever
    code the body of a script function ends with, the call answers a plain value (vmops.hpp:112). -/
theorem call_absorbs_flow_control (f : Nat) (fr : Frame N) (a : Addr) (self : Value N) (args : List (Value N)) (st st2 : State N)
    (params : List String) (captured : List (String × Value N)) (body : Expr N) (c : Ctl) (v : Value N)
    (hg : st.get? a = some (.fn params captured body))
    (h : eval (f + 1) fr (.call (.fn a) self args) st = (.val c v, st2)) : c = .ok := by
  simp only [eval, stepCall, hg] at h
  split at h
  · simp at h
  · generalize eval f _ (.expr body) _ = r at h
    obtain ⟨o, s⟩ := r
    cases o <;> simp [bindAny] at h
    exact h.1.1.symm

/-- **A call does not see the caller's scope**: the callee starts from the captured variables and the arguments; two callers
    at the same depth with different locals and `this` get the same answer (vmops.hpp:101-110). -/
theorem scoping_call_ignores_caller_scope (f : Nat) (fr fr' : Frame N) (hd : fr.depth = fr'.depth) (a : Addr) (self : Value N)
    (args : List (Value N)) (st : State N) :
    eval f fr (.call (.fn a) self args) st = eval f fr' (.call (.fn a) self args) st := by
  cases f with
  | zero => simp [eval]
  | succ f => simp only [eval, stepCall, hd]

/-- **map/filter/any/all iterate over a snapshot**: the call of the method IS the iteration task over the list of elements the
    array holds at that moment (the first step of the call, nothing more); the task carries them as a list, so nothing the callback
    does to the array (add, remove, clear, set) can change which elements are visited (array-script.cpp:133, 178, 199, 220 since 1f98393: `self->ShallowClone()`). -/
theorem callback_iteration_over_snapshot (f : Nat) (fr : Frame N) (name : String) (kind : IterKind) (a : Addr) (cb : Value N)
    (rest : List (Value N)) (xs : List (Value N)) (st : State N)
    (hk : isCallbackNative name = some kind) (hr : kind ≠ .reduce) (hcb : isFunction cb = true) (ha : st.arr? a = some xs) :
    eval (f + 1) fr (.call (.native name) (.arr a) (cb :: rest)) st = eval f fr (.iter kind cb xs []) st := by
  cases kind <;> simp_all [eval, stepCall]

/-- **Array `==` / `!=`** (value-operators.cpp:159-175): an array equals itself; two DIFFERENT arrays of DIFFERENT
    length are unequal whatever their elements (in particular `[] == [1]` and `[1, 2] == [1, 2, 3]` are false — the comparison never
    reads past the shorter array). -/
theorem array_equality_identity_and_length (a b : Addr) (st : State N) (xs ys : List (Value N))
    (ha : st.arr? a = some xs) (hb : st.arr? b = some ys) :
    binop .eq (.arr a) (.arr a) st = (.ok (.bool true), st) ∧
    binop .ne (.arr a) (.arr a) st = (.ok (.bool false), st) ∧
    (a ≠ b → xs.length ≠ ys.length →
      binop .eq (.arr a) (.arr b) st = (.ok (.bool false), st) ∧ binop .ne (.arr a) (.arr b) st = (.ok (.bool true), st)) := by
  refine ⟨?_, ?_, ?_⟩
  · simp [binop, binScalar, eqScalar_arr, valEq]
  · simp [binop, binScalar, eqScalar_arr, valEq]
  · intro hab hl
    have hab' : (a == b) = false := by simpa using hab
    constructor <;> simp [binop, binScalar, eqScalar_arr, valEq, hab', ha, hb, hl]

/-- `Array::Join` on strings from the second element on (`first = false`) -/
theorem join_strings_acc (sep : String) (ys : List String) (acc : String) (st : State N) :
    joinValues (.str sep) (ys.map Value.str) false (.str acc) st =
      (.ok (.str (ys.foldl (fun s y => s ++ sep ++ y) acc)), st) := by
  induction ys generalizing acc with
  | nil => simp [joinValues]
  | cons y r ih =>
    simp [joinValues, binop, binScalar, numPairStrict, strPair, Value.isNumber, Value.isString, Value.isEmpty, Value.toStr, ih]

/-- **Array#join** (array.cpp:300-318 through array-script.cpp): the native hands the array's elements to `Array::Join`; joining the
    EMPTY array answers Empty (no element is read); joining strings `x₀ … xₙ` answers `x₀ ++ sep ++ x₁ ++ … ++ sep ++ xₙ`, and
    the state is unchanged. -/
theorem array_join_folds_with_separator (a : Addr) (sep : Value N) (rest : List (Value N)) (st : State N) (xs : List (Value N))
    (ha : st.arr? a = some xs) :
    nativePure "Array#join" (.arr a) (sep :: rest) st = some (joinValues sep xs true .empty st) ∧
    joinValues sep [] true .empty st = (.ok .empty, st) ∧
    (∀ (s x : String) (r : List String),
      joinValues (.str s) ((x :: r).map Value.str) true .empty st = (.ok (.str (r.foldl (fun acc y => acc ++ s ++ y) x)), st)) := by
  refine ⟨?_, by simp [joinValues], ?_⟩
  · unfold nativePure
    simp [ha]
  · intro s x r
    simp [joinValues, binop, binScalar, numPairStrict, strPair, Value.isNumber, Value.isString, Value.isEmpty, Value.toStr,
      join_strings_acc]

/-- **`!=` is the negation of `==`** (scalars, containers, mixed): whenever `==` answers a
    Boolean `!=` answers its negation in the same state, and whenever `==` does not answer (comparison budget on self-containing
    arrays) neither does `!=`. -/
theorem operator_ne_negates_eq (l r : Value N) (st : State N) :
    binop .ne l r st =
      (match binop .eq l r st with
       | (.ok (.bool b), s) => (.ok (.bool !b), s)
       | e => e) := by
  unfold binop
  simp only [binScalar]
  cases h : eqScalar l r with
  | some b => simp
  | none =>
    simp
    cases h2 : valEq 64 st l r <;> simp

/-- **`a !in b` is the negation of `a in b`** (expression.cpp:385-417): same evaluation
    order (right operand first), same errors, same final state, negated Boolean. -/
theorem not_in_negates_in (f : Nat) (fr : Frame N) (a b : Expr N) (st : State N) :
    eval f fr (.expr (.notIn a b)) st =
      (match eval f fr (.expr (.isIn a b)) st with
       | (.val .ok (.bool r), s) => (.val .ok (.bool !r), s)
       | e => e) := by
  cases f with
  | zero => rfl
  | succ f =>
    by_cases hd : fr.depth + 1 > depthLimit
    · rw [recursion_error_at_limit f fr _ st (Nat.le_of_lt_succ hd), recursion_error_at_limit f fr _ st (Nat.le_of_lt_succ hd)]
    · rw [eval_expr_below f hd, eval_expr_below f hd]
      simp only [stepNode]
      -- the two nodes differ only in the Boolean they answer at the end; every earlier exit is the same on both sides
      generalize eval f _ (.expr b) _ = rb
      obtain ⟨ob, s1⟩ := rb
      cases ob with
      | val c vb =>
        cases c
        case ok =>
          simp only [bindV]
          split
          · rfl
          · cases vb
            case arr =>
              dsimp only
              generalize eval f _ (.expr a) s1 = ra
              obtain ⟨oa, s2⟩ := ra
              cases oa with
              | val c2 va =>
                cases c2
                case ok =>
                  dsimp only
                  generalize arrContains s2 _ va = found
                  cases found <;> rfl
                all_goals rfl
              | _ => rfl
            all_goals rfl
        all_goals rfl
      | _ => rfl

/-- the fold of `array - array` (`keep` in `binop`) when no element is found on the right -/
theorem foldr_keeps_all {α : Type} (F : α → Option (List α) → Option (List α)) (hF : ∀ x acc, F x (some acc) = some (x :: acc))
    (xs : List α) : xs.foldr F (some []) = some xs := by
  induction xs with
  | nil => rfl
  | cons x r ih => simp only [List.foldr, ih, hF]

/-- **`array - []`** (value-operators.cpp:267-295): subtracting an empty array answers a NEW array holding exactly the left operand's
    elements (no element is compared, nothing raises). -/
theorem array_minus_empty_array (a b : Addr) (st : State N) (xs : List (Value N))
    (ha : st.arr? a = some xs) (hb : st.arr? b = some []) :
    binop .sub (.arr a) (.arr b) st = ((.ok (.arr (st.alloc (.arr xs)).1)), (st.alloc (.arr xs)).2) := by
  simp [binop, binScalar, numPairStrict, arrPair, Value.isNumber, Value.isArray, Value.isEmpty, ha, hb, arrContains]
  rw [foldr_keeps_all _ (by intro x acc; rfl)]

/-- what the harness prints for an outcome of the evaluator (the canonical text of a value is a parameter): `none` for the
    model-only outcomes (fuel, unmodelled, internal) -/
def renderOut (canon : State N → Value N → String) : Res N → Option String
  | (.val _ v, st) => some ("v:" ++ canon st v)
  | (.err (.script .stack _), _) => some "e:stack"
  | (.err (.script _ _), _) => some "e"
  | _ => none

theorem checkProgram_value (s : String) : Spec.checkProgram ⟨"v:" ++ s, "v:" ++ s, "v:" ++ s, "v:" ++ s, "v:" ++ s⟩ = none := by
  have hne : ("v:" ++ s) ≠ "timeout" := by
    intro h
    have := congrArg String.toList h
    simp [String.toList_append] at this
  have l1 : "crash".length = 5 := by decide +kernel
  have l2 : "syntaxcap@".length = 10 := by decide +kernel
  have l3 : "err:syntaxcap@".length = 14 := by decide +kernel
  have l4 : "syntax".length = 6 := by decide +kernel
  have l5 : "v:".length = 2 := by decide +kernel
  have l6 : "e".length = 1 := by decide +kernel
  simp [Spec.checkProgram, Spec.isCrash, Spec.isTimeout, Spec.isParserCapacity, Spec.pre, String.toList_append, hne,
    l1, l2, l3, l4, l5, l6, List.take]

theorem renderOut_meets_spec (canon : State N → Value N → String) (res : Res N) (r : String)
    (h : renderOut canon res = some r) : Spec.checkProgram ⟨r, r, r, r, r⟩ = none := by
  obtain ⟨o, st⟩ := res
  cases o with
  | val c v => simp [renderOut] at h; subst h; exact checkProgram_value _
  | err e =>
    cases e with
    | script k m => cases k <;> simp [renderOut] at h <;> subst h <;> decide +kernel
    | _ => simp [renderOut] at h
  | _ => simp [renderOut] at h

/-- **Whole trace**: for EVERY program and fuel, whatever the model answers inside the protocol (a value, a script error, the
    recursion error) — printed as the harness prints the real evaluator's answer, for all five observations of a program (minimal
    text, fully parenthesised text, second compilation, second evaluation of the same expression, text parenthesised per the
    DOCUMENTED table: the model is a function of the AST, so all five are this one answer) — passes every clause of
    `Spec.checkProgram`: no crash, deterministic, deterministic for one expression, parenthesisation-independent (grammar's table
    and documented table), parses, value-or-script-error.  With `total_or_error` (never an internal error) the only outcomes
    outside the protocol are fuel exhaustion and the explicitly unmodelled cases. -/
theorem model_trace_meets_spec (canon : State N → Value N → String) (fuel : Nat) (prog : List (Expr N)) (r : String)
    (h : renderOut canon (run fuel prog) = some r) : Spec.checkProgram ⟨r, r, r, r, r⟩ = none :=
  renderOut_meets_spec canon _ r h

end

def suffixChars : Suffix → List Char
  | .none => [] | .ms => ['m', 's'] | .s => ['s'] | .m => ['m'] | .h => ['h'] | .d => ['d']

/-- doc/17 "Duration literals": the factor of each suffix, in seconds, as numerator/denominator -/
def docFactor : Suffix → Nat × Nat
  | .none => (1, 1) | .ms => (1, 1000) | .s => (1, 1) | .m => (60, 1) | .h => (3600, 1) | .d => (86400, 1)

theorem suffix_takeWhile (s : Suffix) : (suffixChars s).takeWhile Char.isDigit = [] := by cases s <;> decide
theorem suffix_dropWhile (s : Suffix) : (suffixChars s).dropWhile Char.isDigit = suffixChars s := by cases s <;> decide
theorem suffixOf_chars (s : Suffix) : suffixOf (suffixChars s) = some s := by cases s <;> rfl
theorem specFactor_chars (s : Suffix) : Spec.suffixFactor (suffixChars s) = some (docFactor s) := by cases s <;> decide

/-- **The literal grammar `D+(.D+)?(ms|s|m|h|d)?`, every text**: the lexer model splits it into (digits, fraction length, suffix) and
    the specification assigns it exactly digits · 10^-|fraction| · (documented factor of the suffix). -/
theorem literal_grammar (ip fp : List Char) (s : Suffix) (hip : ip ≠ []) (hd : ∀ c ∈ ip, c.isDigit = true)
    (hfd : ∀ c ∈ fp, c.isDigit = true) (hfp : fp ≠ []) :
    splitLiteral (ip ++ suffixChars s) = some (digitsVal ip, 0, s) ∧
    Spec.litExactL (ip ++ suffixChars s) = some (digitsVal ip * (docFactor s).1, (docFactor s).2) ∧
    splitLiteral (ip ++ '.' :: (fp ++ suffixChars s)) = some (digitsVal (ip ++ fp), fp.length, s) ∧
    Spec.litExactL (ip ++ '.' :: (fp ++ suffixChars s)) =
      some (digitsVal (ip ++ fp) * (docFactor s).1, 10 ^ fp.length * (docFactor s).2) := by
  have hne : ip.isEmpty = false := by cases ip <;> simp_all
  have hfne : fp.isEmpty = false := by cases fp <;> simp_all
  have takeSuffix {ds : List Char} (h : ∀ c ∈ ds, c.isDigit = true) : (ds ++ suffixChars s).takeWhile Char.isDigit = ds := by
    rw [List.takeWhile_append_of_pos h, suffix_takeWhile]; simp
  have dropSuffix {ds : List Char} (h : ∀ c ∈ ds, c.isDigit = true) : (ds ++ suffixChars s).dropWhile Char.isDigit = suffixChars s := by
    rw [List.dropWhile_append_of_pos h, suffix_dropWhile]
  have takeDot : (ip ++ '.' :: (fp ++ suffixChars s)).takeWhile Char.isDigit = ip := by
    rw [List.takeWhile_append_of_pos hd]; simp [List.takeWhile]
  have dropDot : (ip ++ '.' :: (fp ++ suffixChars s)).dropWhile Char.isDigit = '.' :: (fp ++ suffixChars s) := by
    rw [List.dropWhile_append_of_pos hd]; simp [List.dropWhile]
  refine ⟨?_, ?_, ?_, ?_⟩
  · simp only [splitLiteral, takeSuffix hd, dropSuffix hd, hne]
    cases s <;> simp [suffixChars, suffixOf]
  · simp only [Spec.litExactL, takeSuffix hd, dropSuffix hd, hne]
    cases s <;> simp [suffixChars, Spec.suffixFactor, docFactor, Spec.natOfDigits, digitsVal]
  · simp only [splitLiteral, takeDot, dropDot, hne, takeSuffix hfd, dropSuffix hfd, hfne, suffixOf_chars]
    simp
  · simp only [Spec.litExactL, takeDot, dropDot, hne, takeSuffix hfd, dropSuffix hfd, hfne, specFactor_chars]
    simp [Spec.natOfDigits, digitsVal]

/-- **The lexer's arithmetic is multiplication by the documented factor**: read exactly (number type `Int`), the operation sequence
    of each lexer rule (`/ 1000`, `* 60`, `* 60 * 60`, `* 60 * 60 * 24`) maps `x` to `x · factor` (for `ms`: when 1000 divides `x`). -/
theorem literal_scale_is_documented_factor (s : Suffix) (x : Int) (h : ((docFactor s).2 : Int) ∣ x) :
    scaleSuffix (N := Int) s x * ((docFactor s).2 : Int) = x * ((docFactor s).1 : Int) := by
  cases s <;> simp [scaleSuffix, docFactor, Num.mul, Num.div, Num.ofInt] at *
  · exact Int.tdiv_mul_cancel h
  all_goals omega

/-- the literal clause accepts the documented values (also `0.1h`, whose last bit depends on the order of the multiplications)
    and rejects a millisecond literal read as minutes, an hour literal multiplied once, a truncated fraction -/
example : Spec.checkLiteral "500ms" 0x3fe0000000000000 = none := by decide +kernel
example : Spec.checkLiteral "500ms" 0x40dd4c0000000000 = some "literal_value_as_documented" := by decide +kernel      -- 30000
example : Spec.checkLiteral "2h" 0x40bc200000000000 = none := by decide +kernel                                       -- 7200
example : Spec.checkLiteral "2h" 0x405e000000000000 = some "literal_value_as_documented" := by decide +kernel         -- 120
example : Spec.checkLiteral "0.1h" 0x4076800000000000 = none ∧ Spec.checkLiteral "0.1h" 0x4076800000000001 = none := by decide +kernel
example : Spec.checkLiteral "1.5" 0x3ff0000000000000 = some "literal_value_as_documented" := by decide +kernel        -- atoi
example : Spec.checkLiteral "0" 0 = none ∧ Spec.checkLiteral "7d" 0x4122750000000000 = none := by decide +kernel      -- 604800
example : (litValue "2h" : Option Int) = some 7200 ∧ (litValue "3d" : Option Int) = some 259200 ∧ (litValue "4000ms" : Option Int) = some 4 := by decide +kernel

private def var (x : String) (e : Expr Int) : Expr Int := .set (.index (.scope .locals) (.str x)) .lit e

private def outNum (r : Res Int) : Option Int := match r with | (.val _ (.num n), _) => some n | _ => none
private def outErr (r : Res Int) : Option ErrKind := match r with | (.err (.script k _), _) => some k | _ => none

private def outV (r : Res Int) : Option (Value Int) := match r with | (.val .ok v, _) => some v | _ => none

/-- the examples of the document's operator table whose operands and results are numbers, Booleans or strings, as
    (example, documented result); `5m` is 300.  (The two `in` examples are checked by the compiled model only: deep equality is not
    kernel-reducible.) -/
def docExamples : List (Expr Int × Expr Int) := [
  (.lnot (.str "Hello"), .bool false), (.lnot (.bool false), .bool true), (.bnot (.bool true), .bin .sub (.num 0) (.num 2)),
  (.bin .mul (.num 300) (.num 10), .num 3000), (.bin .div (.num 300) (.num 5), .num 60), (.bin .mod (.num 17) (.num 12), .num 5),
  (.bin .add (.num 1) (.num 3), .num 4), (.bin .add (.str "hello ") (.str "world"), .str "hello world"), (.bin .sub (.num 3) (.num 1), .num 2),
  (.bin .shl (.num 4) (.num 8), .num 1024), (.bin .shr (.num 1024) (.num 4), .num 64),
  (.bin .lt (.num 3) (.num 5), .bool true), (.bin .gt (.num 3) (.num 5), .bool false), (.bin .le (.num 3) (.num 3), .bool true),
  (.bin .ge (.num 3) (.num 3), .bool true), (.bin .eq (.str "hello") (.str "hello"), .bool true), (.bin .eq (.num 3) (.num 5), .bool false),
  (.bin .ne (.str "hello") (.str "world"), .bool true), (.bin .ne (.num 3) (.num 3), .bool false),
  (.bin .band (.num 7) (.num 3), .num 3), (.bin .xor (.num 17) (.num 12), .num 29), (.bin .bor (.num 2) (.num 3), .num 3),
  (.and (.bool true) (.bool false), .bool false), (.and (.num 3) (.num 7), .num 7), (.and (.num 0) (.num 7), .num 0),
  (.or (.bool true) (.bool false), .bool true), (.or (.num 0) (.num 7), .num 7),
  (.cond (.bin .gt (.bin .mul (.num 2) (.num 3)) (.num 5)) (.num 1) (some (.num 0)), .num 1)]

/-- what the harness's canonical form compares on scalars -/
def sameScalar : Value Int → Value Int → Bool
  | .num a, .num b => a == b
  | .bool a, .bool b => a == b
  | .str a, .str b => a == b
  | _, _ => false

def exampleHolds (p : Expr Int × Expr Int) : Bool :=
  match outV (run 60 [p.1]), outV (run 60 [p.2]) with
  | some a, some b => sameScalar a b
  | _, _ => false

/-- **Every example of the document's operator table evaluates to its documented result** — 28 examples, evaluated by the kernel on
    the exact instance of the model (the two `in` examples by the compiled model on every run).  `~true (-2)` is among them since
    86ab6e0 (finding F-C15g: the document said `~true (false)`; NegateExpression computes `~(long)1 = -2`, and so does the model). -/
theorem reference_examples_hold_in_model : docExamples.all exampleHolds = true := by decide +kernel

/-- not vacuous: the example as the document gave it before 86ab6e0 does not hold -/
example : exampleHolds (.bnot (.bool true), .bool false) = false ∧ docExamples.length = 28 := by decide +kernel

/-- the clause accepts an example that yields its documented result, rejects one that yields another value or an error, and
    does not judge a program of another family -/
example : Spec.checkDocExample "docex4" "v:[#40a7700000000000,#40a7700000000000]" = none := by decide +kernel
example : Spec.checkDocExample "docex3" "v:[#c000000000000000,false]" = some "reference_example_as_documented" := by decide +kernel
example : Spec.checkDocExample "docex4" "e" = some "reference_example_as_documented" := by decide +kernel
example : Spec.checkDocExample "prec4" "v:#1" = none := by decide +kernel

example : outNum (run 50 [.and (.num 3) (.num 7)]) = some 7 := by decide +kernel
example : outNum (run 50 [.or (.num 0) (.num 7)]) = some 7 := by decide +kernel

/-- a `var` inside a function body does not leak: `var f = function() { var y = 1 }; f(); y` → undefined variable. -/
theorem scoping_var_does_not_leak :
    outErr (run 200 [var "f" (.func [] [] (.block [var "y" (.num 1)])), .call (.var "f") [], .var "y"]) = some .undefvar := by
  decide +kernel

/-- `use(x)` captures the value at definition time: `var x = 5; var f = function() use(x) { x }; x = 6; f()` → 5. -/
theorem scoping_use_captures_at_definition :
    outNum (run 200 [var "x" (.num 5), var "f" (.func [] ["x"] (.block [.var "x"])), .set (.var "x") .lit (.num 6),
                     .call (.var "f") []]) = some 5 := by
  decide +kernel

example : outErr (run 50 [.throw (.str "boom")]) = some .user := by decide +kernel
example : outNum (run 50 [.try (.block [.throw (.str "boom")]) (.block []), .num 4]) = some 4 := by decide +kernel

/-- **Counterexample to "Array#join joins all elements"** (doc/18; finding F-C15e): the faithful model of Array::Join folds with
    `+`, and `Empty + Boolean` is a type error — `[true, false].join(",")` raises, while `[1, "a"].join(",")` is "1,a". -/
theorem array_join_counterexample :
    outErr (run 60 [.call (.index (.array [.bool true, .bool false]) (.str "join")) [.str ","]]) = some .optype ∧
    (match run 60 [.call (.index (.array [.num (1 : Int), .str "a"]) (.str "join")) [.str ","]] with
     | (.val _ (.str s), _) => s == "1,a" | _ => false) = true := by
  decide +kernel

/-- `["a", "b", "c"].join("-")` is "a-b-c" and `[].join(",")` is null (through parser-level AST, method lookup and native call) -/
example : (match run 60 [.call (.index (.array [.str "a", .str "b", .str "c"]) (.str "join")) [.str "-"]] with
     | ((.val _ (.str s), _) : Res Int) => s == "a-b-c" | _ => false) = true ∧
    (match run 60 [.call (.index (.array []) (.str "join")) [.str ","]] with
     | ((.val _ .empty, _) : Res Int) => true | _ => false) = true := by decide +kernel

/-- the hypotheses of `array_equality_identity_and_length` hold in a concrete heap: `[1, 2]` at address 0, `[1, 2, 3]` at address 1 -/
example :
    let st : State Int := { heap := #[.arr [.num 1, .num 2], .arr [.num 1, .num 2, .num 3]], globals := [], maxDepth := 0 }
    binop .eq (.arr 0) (.arr 1) st = (.ok (.bool false), st) ∧ binop .ne (.arr 0) (.arr 1) st = (.ok (.bool true), st) ∧
    binop .eq (.arr 1) (.arr 1) st = (.ok (.bool true), st) := by
  intro st
  have h := array_equality_identity_and_length (N := Int) 0 1 st [.num 1, .num 2] [.num 1, .num 2, .num 3] rfl rfl
  have h' := array_equality_identity_and_length (N := Int) 1 0 st [.num 1, .num 2, .num 3] [.num 1, .num 2] rfl rfl
  exact ⟨(h.2.2 (by decide) (by decide)).1, (h.2.2 (by decide) (by decide)).2, h'.1⟩

/-! **F-C15f** (`callback_iteration_over_snapshot`): programs whose callbacks modify the iterated array are in the compared domain
    (family `cbmut`); the witnesses of the finding are regression lines of corpus/C15/fixed_c15f_callback_mutates_iterated_array.ops. -/

/-- the spec predicate rejects a crash, a non-deterministic and a parenthesisation-dependent observation. -/
example : Spec.checkProgram ⟨"crash:sig=8", "crash:sig=8", "crash:sig=8", "", ""⟩ = some "no_crash" := by decide +kernel
example : Spec.checkProgram ⟨"v:#1", "v:#1", "v:#2", "v:#1", "v:#1"⟩ = some "deterministic" := by decide +kernel
example : Spec.checkProgram ⟨"v:#1", "v:#2", "v:#1", "v:#1", ""⟩ = some "precedence_as_declared" := by decide +kernel
example : Spec.checkProgram ⟨"v:#1", "v:#1", "v:#1", "v:#1", "v:#1"⟩ = none := by decide +kernel
/-- `6 ^ 3 & 1` written as the document allows (no parentheses: `&` binds tighter) answers 1 where `6 ^ (3 & 1)` answers 7: rejected,
    although the text printed per the grammar's own (changed) table agrees with the parenthesised one -/
example : Spec.checkProgram ⟨"v:#7", "v:#7", "v:#7", "v:#7", "v:#1"⟩ = some "precedence_as_documented" := by decide +kernel
example : Spec.checkProgram ⟨"v:#7", "v:#7", "v:#7", "v:#7", "crash:sig=11"⟩ = some "no_crash" := by decide +kernel
/-- one compiled expression that answers differently the second time (a literal array built once and mutated) is rejected -/
example : Spec.checkProgram ⟨"v:[#1,#2,#3]", "v:[#1,#2,#3]", "v:[#1,#2,#3]", "v:[#1,#2,#3,#3]", ""⟩ = some "deterministic_same_expression" := by decide +kernel
example : Spec.checkProgram ⟨"v:#1", "v:#1", "v:#1", "crash:sig=11", ""⟩ = some "no_crash" := by decide +kernel

/-- the clauses stated against the reference's answer: a recursion error although the reference nests only 40 frames, a
    `use()` closure whose calls influence each other, a raising `array - array` are rejected; a recursion error at real
    depth 300 is not. -/
example : Spec.checkAgainstReference "catchloop5" "e:stack" (some "v:#1") 40 = some "depth_error_only_beyond_limit" := by decide +kernel
example : Spec.checkAgainstReference "scope3" "v:[#2]" (some "v:[#1]") 10 = some "scoping_use_copies_per_call" := by decide +kernel
example : Spec.checkAgainstReference "arrsub9" "e:optype" (some "v:[]") 5 = some "operator_typing_array_minus_total" := by decide +kernel
example : Spec.checkAgainstReference "recursion400" "e:stack" (some "e:stack") 300 = none := by decide +kernel
example : Spec.checkAgainstReference "elif7" "v:[s6232]" (some "v:[s6230]") 9 = some "conditional_branches_in_source_order" := by decide +kernel
example : Spec.checkAgainstReference "selfkeep2" "e" (some "v:[]") 9 = some "scoping_this_restored_after_error" := by decide +kernel
example : Spec.checkAgainstReference "emptystr4" "v:[#1]" (some "v:[#0]") 9 = some "prototype_method_on_empty_string" := by decide +kernel
example : Spec.checkAgainstReference "joinscalar1" "e" (some "e") 9 = some "array_join_total_on_scalars" := by decide +kernel
example : Spec.checkAgainstReference "flow12" "v:[s6130]" (some "v:[s5231]") 9 = some "flow_control_leaves_enclosing_construct" := by decide +kernel
example : Spec.checkAgainstReference "freshlit3" "v:[[#1,#1],[#1,#1]]" (some "v:[[#1],[#1]]") 9 = some "literal_creates_new_container" := by decide +kernel
example : Spec.checkAgainstReference "literal5" "v:[false]" (some "v:[true]") 9 = some "duration_arithmetic_as_documented" := by decide +kernel
example : Spec.checkAgainstReference "flow12" "v:[s5231]" (some "v:[s5231]") 9 = none := by decide +kernel
example : Spec.checkAgainstReference "cbmut7" "v:[[#1,#2,#1],#3]" (some "v:[[#1,#2],#4]") 9 = some "callback_iteration_over_snapshot" := by decide +kernel

end Icinga.C15.Proofs
