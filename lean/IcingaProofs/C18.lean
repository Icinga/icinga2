/-
  C18 — property theorems.  Every `theorem` in this file is a proof obligation of the check:
  `./check C18` lists them, runs `#print axioms` on each and fails if a required one is missing.

  The statements about GetFilterTargets quantify over every user (any list of plain and filtered permission entries,
  filters that may raise errors and may read the shared permission frame), every required permission, every query
  dictionary (single names, plural lists, type, filter, any mixture), every inventory, both kinds of
  provider, and every answer of the fast-path recogniser.  `qd.permission ≠ ""`: a request that requires
  *no* permission (filterutility.cpp:187-188) is outside the property.  `filterTargets` is the code as it is
  (after bce4be0, the repair of finding F-C18a); `filterTargetsUnrepaired` is the variant before it.
-/
import IcingaProofs.C18.Lemmas
import IcingaProofs.C18.Matcher
import IcingaProofs.C18.SharedFrame
import IcingaProofs.Gen.Permissions

namespace Icinga.C18

/-- The matcher decides exactly the declarative wildcard language: `*` stands
    for any (possibly empty) text, `?` for exactly one character, every other mask element for itself up
    to ASCII case. -/
theorem wildcard_match_spec (ts : List Tok) (s : List Char) : matchToks ts s = true ↔ Denotes ts s :=
  ⟨matchToks_sound ts s, matchToks_complete⟩

/-- … and hence permission patterns are matched case-insensitively (both sides are lower-cased first). -/
theorem permission_match_spec (pattern required : String) :
    wildMatch pattern required = true ↔ Denotes (tokenize (lower pattern)) (lower required) :=
  wildcard_match_spec _ _

/-- Every object returned by `filterTargets` — whether it was addressed by a
    single name, in a plural name list, selected by a user filter (evaluated or through the name-index fast
    path), or by no addressing at all, and in any mixture of these — is one the user is allowed to act on
    (some matching permission without filter, or with a filter that is true of the object evaluated alone),
    and is a registered object. -/
theorem targets_subset_allowed (u : User) (qd : QD) (q : Query) (inv : Inventory) (objs : List Obj)
    (hperm : qd.permission ≠ "") (h : (filterTargets u qd q inv).result = .ok objs) :
    ∀ o ∈ objs, Allowed u qd.permission o ∧ o ∈ inv :=
  fun o ho => obtained_allowed u qd q inv hperm o (mem_obtained_iff.2 ⟨objs, h, ho⟩)

/-! ### The variant before the repair of F-C18a (bce4be0)

  Before bce4be0 the permission frame kept its namespace for the whole request, so a permission filter that
  reads `service` saw, on a Host, the Service an earlier part of the same request had visited.  The
  statements below are about that variant (`filterTargetsUnrepaired`) only; they record why the frame must
  be emptied per object and serve as regression witnesses (the corpus replays them on the implementation). -/

/-- For the un-repaired variant the statement holds under `IsoVisit`: frame-independent filters, or a
    request that can only visit one kind of object with respect to `service` (every single-type request). -/
theorem unrepaired_targets_subset_allowed_of_isoVisit (u : User) (qd : QD) (q : Query) (inv : Inventory)
    (objs : List Obj) (hperm : qd.permission ≠ "") (hiso : IsoVisit true qd.types u)
    (h : (filterTargetsUnrepaired u qd q inv).result = .ok objs) :
    ∀ o ∈ objs, Allowed u qd.permission o ∧ o ∈ inv := by
  rw [filterTargetsUnrepaired, filterTargetsWith_iso q inv hiso] at h
  exact targets_subset_allowed u qd q inv objs hperm h

/-! The witness of F-C18a: permission `actions/*` with the filter `{{ service.vars.ok }}` (it needs `service`;
    on a Host alone it raises an error), the action query `service=h1!s0&type=Host&filter=true`. -/
def cxHost : Obj := ⟨"Host", "h0"⟩
def cxSvc : Obj := ⟨"Service", "h1!s0"⟩
def cxSvc2 : Obj := ⟨"Service", "h1!s1"⟩
def cxInv : Inventory := [cxHost, cxSvc, cxSvc2]
def cxUser : User := [⟨"actions/*", some (fun b _ => b.map (fun s => s.name == "h1!s0"))⟩]
def cxQD : QD := { types := ["Host", "Service"], permission := "actions/reschedule-check" }
def cxTrue : UFilter := { pred := fun _ => some true, fast := none }
def cxQ : Query :=
  { single := [("Service", "h1!s0")], type := some "Host", typeValid := true, filter := some cxTrue }

/-- The un-repaired variant returns the host although the
    user's only permission filter is not true of it; the code as it is refuses the request (the filter
    raises on the first host, exactly as for the plain query for the hosts). -/
theorem unrepaired_shared_frame_returns_forbidden :
    (filterTargetsUnrepaired cxUser cxQD cxQ cxInv).result = .ok [cxSvc, cxHost] ∧
    allowedB cxUser cxQD.permission cxHost = false ∧
    (filterTargets cxUser cxQD cxQ cxInv).result = .error .other ∧
    (filterTargets cxUser cxQD { type := some "Host", typeValid := true, filter := some cxTrue } cxInv).result
      = .error .other := by decide +kernel

/-- When no entry of the user matches the required permission the
    request fails with the permission error and the provider / inventory was never consulted (empty
    access log). -/
theorem no_permission_rejects_first (u : User) (qd : QD) (q : Query) (inv : Inventory)
    (hperm : qd.permission ≠ "") (hno : ∀ p ∈ u, wildMatch p.pattern qd.permission = false) :
    (filterTargets u qd q inv).result = .error .permission ∧ (filterTargets u qd q inv).log = [] := by
  have hp : hasPermission u qd.permission = false := by
    rw [hasPermission_eq_someMatch hperm]
    exact List.any_eq_false.2 fun p hp => by simp [hno p hp]
  rw [filterTargets, filterTargetsWith_rejected false q inv hp]
  exact ⟨rfl, rfl⟩

/-- If the query addresses by name (single or inside a plural list,
    possibly together with other names, a type and a filter) an existing object that the user is not
    allowed to act on, the whole request is an error — never that object, never an empty success. -/
theorem forbidden_by_name_is_error (u : User) (qd : QD) (q : Query) (inv : Inventory) (t n : String) (o : Obj)
    (hperm : qd.permission ≠ "")
    (hreq : (t, n) ∈ namedRequests qd.types q) (hl : lookup inv t n = some o)
    (hforbidden : ¬ Allowed u qd.permission o) :
    ∃ e, (filterTargets u qd q inv).result = .error e := by
  cases hr : (filterTargets u qd q inv).result with
  | error e => exact ⟨e, rfl⟩
  | ok objs => exact absurd (named_allowed hperm hr hreq hl) hforbidden

/-- The plain case of the sentence in the property: one name, nothing
    else — the error is "Access denied" (or the error the filter itself raised on that object) and only
    that object was looked up. -/
theorem forbidden_single_name_is_denied (u : User) (perm t n : String) (o : Obj) (inv : Inventory)
    (cfg : Bool) (hperm : perm ≠ "") (hm : someMatch u perm = true)
    (hl : lookup inv t n = some o) (hforbidden : ¬ Allowed u perm o) :
    let r := filterTargets u { types := [t], permission := perm, cfgProvider := cfg }
                { single := [(t, n)], type := some t, typeValid := true } inv
    (r.result = .error .denied ∨ r.result = .error .other) ∧ r.log = [.byName t n] :=
  filterTargets_first_name_refused ((hasPermission_eq_someMatch hperm).trans hm) rfl rfl hl
    (mt (allowed_of_accessGranted hperm) hforbidden)

/-- The per-object decision taken for joined objects
    (HasPermission + EvaluateFilter in a frame of its own, objectqueryhandler.cpp:262-299) grants only
    allowed objects. -/
theorem joined_access_subset_allowed (u : User) (perm : String) (o : Obj) (hperm : perm ≠ "")
    (h : accessGranted u perm o = true) : Allowed u perm o :=
  allowed_of_accessGranted hperm h

/-- A joined object that is serialized into a query response is one the user is
    allowed to query under the permission of the joined object's own type (the decision is a function of the
    joined object alone; in the example below objects of two types share a name). -/
theorem joined_objects_allowed (u : User) (joined : Obj) (h : joinIncluded u joined = true) :
    Allowed u ("objects/query/" ++ joined.type) joined ∧ specJoin u joined true = none := by
  have ha := joined_access_subset_allowed u _ joined (append_ne_empty _ (by decide)) h
  exact ⟨ha, by simp [specJoin, (allowedB_iff _ _ _).2 ha]⟩

/-- objects of different types sharing the name "agent1": the endpoint may be joined, the host may not -/
example :
    let u : User := [⟨"objects/query/Endpoint", none⟩, ⟨"objects/query/Host", some (fun _ o => some (o.name == "other"))⟩]
    joinIncluded u ⟨"Endpoint", "agent1"⟩ = true ∧ joinIncluded u ⟨"Host", "agent1"⟩ = false ∧
    specJoin u ⟨"Host", "agent1"⟩ true = some .joinedAllowed := by decide +kernel

/-- What the object query/modify/delete handlers obtain from
    `GetFilterTargets` for a request on `/v1/objects/<type>[/<name>]` only contains objects the user is
    allowed under `objects/<verb>/<Type>`, and registered. -/
theorem handler_targets_subset_allowed (u : User) (verb type : String) (pathName : Option String) (q : Query)
    (inv : Inventory) (objs : List Obj) (h : handlerTargets u verb type pathName q inv = .ok objs) :
    ∀ o ∈ objs, Allowed u ("objects/" ++ verb ++ "/" ++ type) o ∧ o ∈ inv :=
  targets_subset_allowed u (handlerQD verb type) (handlerQuery type pathName q) inv objs (handlerQD_permission_ne verb type) h

/-- Two requests that address the same names in a different order
    (e.g. a permuted plural name list) and are otherwise equal have the same outcome: both fail, or both
    return the same objects with the same multiplicities. -/
theorem result_independent_of_visit_order (u : User) (qd : QD) (q1 q2 : Query) (inv : Inventory)
    (hsteps : (namedSteps qd.types q1).Perm (namedSteps qd.types q2))
    (ht : q1.type = q2.type) (hv : q1.typeValid = q2.typeValid) (hf : q1.filter = q2.filter) :
    specOrder (filterTargets u qd q1 inv).result (filterTargets u qd q2 inv).result = none := by
  have hsame : sameOutcome (filterTargets u qd q1 inv).result (filterTargets u qd q2 inv).result = true := by
    simp only [filterTargets_result]
    split
    · rcases runNamed_perm (permissionFilters u qd.permission) inv none none hsteps with
        ⟨e₁, e₂, h₁, h₂⟩ | ⟨l₁, l₂, h₁, h₂, hl⟩
      · rw [h₁, h₂]; rfl
      · rw [h₁, h₂]
        simp only [Except.bind]
        rw [withFound_congr ht hv hf]
        exact withFound_of_perm hl
    · rfl
  simp [specOrder, hsame]

/-- two services in a plural list, both allowed by themselves; before the repair the hosts were returned only
    when the list ended with the service the filter likes -/
def cxUser2 : User :=
  [⟨"actions/*", some (fun b o => b.map (fun s => s.name == "h1!s0" || o.type == "Service"))⟩]
def cxQ12 : Query :=
  { plural := [("Service", ["h1!s1", "h1!s0"])], type := some "Host", typeValid := true, filter := some cxTrue }
def cxQ21 : Query :=
  { plural := [("Service", ["h1!s0", "h1!s1"])], type := some "Host", typeValid := true, filter := some cxTrue }

/-- In the un-repaired variant the same names in the other
    order return a different set; for the code as it is the two orders have the same outcome. -/
theorem unrepaired_shared_frame_depends_on_visit_order :
    (filterTargetsUnrepaired cxUser2 cxQD cxQ12 cxInv).result = .ok [cxSvc2, cxSvc, cxHost] ∧
    (filterTargetsUnrepaired cxUser2 cxQD cxQ21 cxInv).result = .ok [cxSvc, cxSvc2] ∧
    specOrder (filterTargets cxUser2 cxQD cxQ12 cxInv).result (filterTargets cxUser2 cxQD cxQ21 cxInv).result = none := by
  decide +kernel

/-- The table of permission checks regenerated from `/repo/lib`
    on every run (gen/c18_permissions.py) contains the permission expressions the model and the harness use
    for the dispatched handlers, and none of the checks asks for the empty permission (so the hypothesis
    `permission ≠ ""` of the theorems above excludes no handler); and the model builds those strings (evaluated at a sample type `T` and action `a`;
    `handlerQD_permission_query` etc. in Lemmas hold for every type). -/
theorem handler_permission_table_matches_source :
    permissionTableOk Gen.handlerPermissions = true ∧
    (handlerQD "query" "T").permission = "objects/query/T" ∧
    (handlerQD "modify" "T").permission = "objects/modify/T" ∧
    (handlerQD "delete" "T").permission = "objects/delete/T" ∧
    (actionQD "a").permission = "actions/a" ∧
    handlerPermission "templates" = some "templates/query/Host" ∧
    handlerPermission "variables" = some "variables" ∧ handlerPermission "types" = some "types" ∧
    handlerPermission "status" = some "status/query" ∧ handlerPermission "console" = some "console" :=
  ⟨permissionTable_ok, by decide +kernel⟩

/-- the table check is not vacuous: a table without `variables` (and without `objects/create/<>`, `config/query`,
    `config/modify`, `debug`) fails, and so does one with an empty permission; an entry the model does not know passes -/
example : permissionTableOk ["objects/query/<>", "objects/modify/<>", "objects/delete/<>", "actions/<>",
    "templates/query/<>", "types", "status/query", "console"] = false := by decide +kernel
example : permissionTableOk ("" :: usedPermissionExprs) = false := by decide +kernel
example : permissionTableOk (usedPermissionExprs ++ ["newhandler/<>"]) = true := by decide +kernel

/-- The three statements about GetFilterTargets as one: for every user, required permission,
    query, inventory, provider kind and recogniser answer, the outcome of the model — result and
    provider-call log — satisfies the executable specification `specQuery` (the other entry points:
    `model_request_meets_spec`). -/
theorem model_query_meets_spec (u : User) (qd : QD) (q : Query) (inv : Inventory) :
    specQuery u qd q inv ⟨(filterTargets u qd q inv).result, some (filterTargets u qd q inv).log⟩ = none := by
  unfold specQuery
  by_cases hperm : qd.permission = ""
  · simp [hperm]
  · rw [if_neg (by simpa using hperm)]
    cases hm : someMatch u qd.permission with
    | false =>
      obtain ⟨h1, h2⟩ := no_permission_rejects_first u qd q inv hperm (by simpa [someMatch] using hm)
      simp [h1, h2, isRejected, logEmpty]
    | true =>
      simp only [Bool.not_true, Bool.false_eq_true, if_false]
      cases hr : (filterTargets u qd q inv).result with
      | error e => rfl
      | ok objs =>
        have hall := targets_subset_allowed u qd q inv objs hperm hr
        simp only [any_not_contains fun o ho => (hall o ho).2, any_not_allowedB fun o ho => (hall o ho).1,
          forbiddenNamed_eq_false hperm hr, Bool.false_eq_true, if_false]

/-- the specification does reject the outcome the un-repaired variant produced for the witness of F-C18a -/
example : specQuery cxUser cxQD cxQ cxInv
    ⟨(filterTargetsUnrepaired cxUser cxQD cxQ cxInv).result, some (filterTargetsUnrepaired cxUser cxQD cxQ cxInv).log⟩
    = some .returnedAllowed := by decide +kernel

/-- `joined_access_subset_allowed` as the executable clause puts it: an access that is granted is one `allowedB` accepts. -/
theorem model_access_meets_spec (u : User) (perm : String) (o : Obj) :
    specAccess u perm o (accessGranted u perm o) = none := by
  unfold specAccess
  by_cases hperm : perm = ""
  · simp [hperm]
  · cases hg : accessGranted u perm o with
    | false => simp
    | true =>
      have := (allowedB_iff u perm o).2 (joined_access_subset_allowed u perm o hperm hg)
      simp [this]

/-- A bare permission check grants only with a matching entry. -/
theorem model_grant_meets_spec (u : User) (perm : String) :
    specGrant u perm (hasPermission u perm) = none := by
  unfold specGrant
  by_cases hperm : perm = ""
  · simp [hperm]
  · rw [hasPermission_eq_someMatch hperm]
    cases someMatch u perm <;> simp

/-- the user a request is attributed to, if any (an exception attributes nobody) -/
def AuthResult.attributed : AuthResult → Option AUser
  | .user u => some u
  | _ => none

/-- GetByAuthHeader attributes a request to user U only if the header
    is `Basic`, decodes, names U before the first colon and carries after it U's configured password, which is
    not empty — for every user inventory (users without password included), header and decoder answer. -/
theorem authenticate_header_only_with_password (users : List AUser) (header : String) (decoded : Option String)
    (u : AUser) (h : authByHeader users header decoded = .user u) :
    u ∈ users ∧ ∃ pw, credentialsOf header decoded = some (u.name, pw) ∧ pw ≠ "" ∧ pw = u.password := by
  -- one `split` per branch of `authByHeader`: the header parses, a user of that name exists, the password is not empty,
  -- it is the configured one
  unfold authByHeader at h
  split at h
  · cases h
  · rename_i n pw hc
    split at h
    · cases h
    · rename_i u' hf
      split at h
      · cases h
      · rename_i hpe
        split at h
        · rename_i hpw
          cases h
          have hn : u.name = n := by simpa using List.find?_some hf
          exact ⟨List.mem_of_find?_eq_some hf, pw, by rw [hc, hn], by simpa using hpe, by simpa using hpw⟩
        · cases h

/-- GetByClientCN attributes a connection to user U only if U is configured and
    U's `client_cn` is the presented CN (whichever of several such users the registry yields). -/
theorem authenticate_cn_only_with_cn (users : List AUser) (cn : String) (u : AUser) (h : u ∈ authByCN users cn) :
    u ∈ users ∧ u.clientCN = cn := by
  unfold authByCN at h
  obtain ⟨h1, h2⟩ := List.mem_filter.1 h
  exact ⟨h1, by simpa using h2⟩

/-- Both ways in: a header attributes only with the user's non-empty password, a certificate only with the user's CN. -/
theorem model_auth_meets_spec (users : List AUser) (header : String) (decoded : Option String) (cn : String) :
    specAuthHeader header decoded (authByHeader users header decoded).attributed = none ∧
    ∀ u ∈ authByCN users cn, specAuthCN cn (some u) = none := by
  constructor
  · cases hr : authByHeader users header decoded with
    | user u =>
      obtain ⟨_, pw, hc, hne, hpw⟩ := authenticate_header_only_with_password users header decoded u hr
      have hne' : ¬ u.password = "" := hpw ▸ hne
      simp [AuthResult.attributed, specAuthHeader, hc, hpw, hne']
    | nobody => rfl
    | throws => rfl
  · intro u hu
    simp [specAuthCN, (authenticate_cn_only_with_cn users cn u hu).2]

def exUsers : List AUser := [⟨"root", "pw", ""⟩, ⟨"agent", "", "cn1"⟩, ⟨"web", "a:b", "cn1"⟩]

/-- the hypotheses are satisfiable, and the cases the property names: a user without password is not attributed
    by an empty (or any) password, a password containing a colon works, prefix / longer / wrong passwords do not,
    a missing colon, another scheme and an undecodable text attribute nobody -/
example : authByHeader exUsers "Basic x" (some "root:pw") = .user ⟨"root", "pw", ""⟩ ∧
    authByHeader exUsers "Basic x" (some "agent:") = .nobody ∧
    authByHeader exUsers "Basic x" (some "agent:pw") = .nobody ∧
    authByHeader exUsers "Basic x" (some "web:a:b") = .user ⟨"web", "a:b", "cn1"⟩ ∧
    authByHeader exUsers "Basic x" (some "root:p") = .nobody ∧
    authByHeader exUsers "Basic x" (some "root:pwx") = .nobody ∧
    authByHeader exUsers "Basic x" (some "root:") = .nobody ∧
    authByHeader exUsers "Basic x" (some "root") = .nobody ∧
    authByHeader exUsers "Basic x" (some "nobody:pw") = .nobody ∧
    authByHeader exUsers "basic x" (some "root:pw") = .nobody ∧
    authByHeader exUsers "Basic" (some "root:pw") = .nobody ∧
    authByHeader exUsers "Basic !" none = .throws ∧
    authByCN exUsers "cn1" = [⟨"agent", "", "cn1"⟩, ⟨"web", "a:b", "cn1"⟩] ∧ authByCN exUsers "CN1" = [] := by decide +kernel

/-- the clause is not vacuous: attributing the password-less user to a request with an empty password, or a user to
    a foreign CN, is rejected -/
example : specAuthHeader "Basic x" (some "agent:") (some ⟨"agent", "", "cn1"⟩) = some .attributedWithoutCredential ∧
    specAuthCN "cn2" (some ⟨"agent", "", "cn1"⟩) = some .attributedWithoutCredential := by decide +kernel

/-- NOTE (question Q-C18b, not part of the clause): an EMPTY certificate CN equals the `client_cn` of every user
    that has none configured, so GetByClientCN("") yields such a user.  HttpServerConnection passes the CN of a
    certificate the CA verified; whether an empty CN can get that far is outside this model. -/
example : authByCN exUsers "" = [⟨"root", "pw", ""⟩] := by decide +kernel

/-! ### The converse is deliberately not claimed; the hypotheses of the theorems above are satisfiable

  Full converse (NOT a theorem):  `Allowed u perm o → o ∈ ofType inv t → o` is returned by the plain
  type query.  It fails because a matching entry *without* a filter adds nothing to the OR of filters
  (filterutility.cpp:213): next to a filtered matching entry it does not widen access.  That is
  over-restriction and inside the property's "only if". -/

def exH0 : Obj := ⟨"Host", "h0"⟩
def exH1 : Obj := ⟨"Host", "h1"⟩
def exInv : Inventory := [exH0, exH1, ⟨"Service", "h0!s0"⟩]
/-- one filtered and one unfiltered matching entry, a near miss, and an entry for another permission -/
def exUser : User :=
  [ ⟨"objects/QUERY/*", some (fun _ o => some (o.name == "h1"))⟩, ⟨"*/host", none⟩,
    ⟨"objects/query/Hos", none⟩, ⟨"actions/*", none⟩ ]
def exQD : QD := { types := ["Host"], permission := "objects/query/Host" }
def exAll : Query := { type := some "Host", typeValid := true }

theorem converse_fails_by_overrestriction :
    Allowed exUser exQD.permission exH0 ∧ exH0 ∈ ofType exInv "Host" ∧
    (filterTargets exUser exQD exAll exInv).result = .ok [exH1] :=
  ⟨(allowedB_iff _ _ _).1 (by decide +kernel), by decide +kernel⟩

/-- hypotheses of `targets_subset_allowed` hold on a non-trivial state (a non-empty result) -/
example : exQD.permission ≠ "" ∧ (filterTargets exUser exQD exAll exInv).result = .ok [exH1] :=
  ⟨by decide +kernel, converse_fails_by_overrestriction.2.2⟩

/-- every addressing path on one query: name + plural list + fast-path filter -/
example :
    (filterTargets [⟨"objects/query/host", some (fun _ o => some (o.name != "h0"))⟩] exQD
      { single := [("Host", "h1")], plural := [("Host", ["h1"])], type := some "Host", typeValid := true,
        filter := some { pred := fun _ => some true, fast := some ["h0", "h1", "nope"] } }
      exInv).result = .ok [exH1, exH1, exH1] := by decide +kernel

/-- hypotheses of `no_permission_rejects_first`: a user with entries, none of which matches -/
example : ∀ p ∈ ([⟨"objects/query/Hos", none⟩, ⟨"actions/*", none⟩] : User),
    wildMatch p.pattern "objects/query/Host" = false := by decide +kernel

/-- hypotheses of `forbidden_by_name_is_error` / `forbidden_single_name_is_denied` -/
example : ("Host", "h0") ∈ namedRequests exQD.types { single := [("Host", "h0")] } ∧
    lookup exInv "Host" "h0" = some exH0 ∧
    someMatch [⟨"objects/query/*", some (fun _ o => some (o.name == "h1"))⟩] exQD.permission = true ∧
    allowedB [⟨"objects/query/*", some (fun _ o => some (o.name == "h1"))⟩] exQD.permission exH0 = false := by decide +kernel

/-- hypotheses of `result_independent_of_visit_order`: a plural list in two orders, one name the code
    accepts and one it refuses — both requests fail, whatever the order -/
example :
    (namedSteps exQD.types { plural := [("Host", ["h1", "h0"])], type := some "Host", typeValid := true }).Perm
      (namedSteps exQD.types { plural := [("Host", ["h0", "h1"])], type := some "Host", typeValid := true }) ∧
    (filterTargets exUser exQD { plural := [("Host", ["h1", "h0"])], type := some "Host", typeValid := true } exInv).result
      = .error .denied ∧
    (filterTargets exUser exQD { plural := [("Host", ["h0", "h1"])], type := some "Host", typeValid := true } exInv).result
      = .error .denied :=
  ⟨List.isPerm_iff.1 (by decide +kernel), by decide +kernel⟩

/-- the order clause is not vacuous: one order succeeds, the other fails -/
example : specOrder (.ok [exH1, exH0]) (.error .denied) = some .orderIndependent := by decide +kernel
example : specOrder (.ok [exH1, exH0]) (.ok [exH0, exH1]) = none := by decide +kernel

/-- `wildcard_match_spec`: a mask with `*`, `?`, an escaped `*` and mixed case -/
example : matchToks (tokenize "a*?\\*C".toList) "AxyZ*c".toList = true := by decide +kernel
example : matchToks (tokenize "a*?\\*C".toList) "A*c".toList = false := by decide +kernel

/-- the specification is not vacuous: it rejects a forbidden object in the result, … -/
example : specQuery [⟨"objects/query/*", some (fun _ o => some (o.name == "h1"))⟩] exQD exAll exInv ⟨.ok [exH0, exH1], none⟩
    = some .returnedAllowed := by decide +kernel
/-- … an answer other than the permission error when nothing matches, … -/
example : specQuery [⟨"actions/*", none⟩] exQD exAll exInv ⟨.ok [], none⟩ = some .rejectedFirst := by decide +kernel
/-- … a rejection that came after an object was looked up, … -/
example : specQuery [⟨"actions/*", none⟩] exQD { single := [("Host", "h0")] } exInv
    ⟨.error .permission, some [.byName "Host" "h0"]⟩ = some .rejectedFirst := by decide +kernel
/-- … an empty success for a forbidden object addressed by name, … -/
example : specQuery [⟨"objects/query/*", some (fun _ o => some (o.name == "h1"))⟩] exQD
    { single := [("Host", "h0")] } exInv ⟨.ok [], none⟩ = some .forbiddenByName := by decide +kernel
/-- … an object that is not registered, and a per-object access granted for an object the filter excludes. -/
example : specQuery exUser exQD exAll exInv ⟨.ok [⟨"Host", "ghost"⟩], none⟩ = some .returnedExists := by decide +kernel
example : specAccess exUser "objects/query/Host" exH0 true = none ∧
    specAccess [⟨"objects/query/*", some (fun _ o => some (o.name == "h1"))⟩] "objects/query/Host" exH0 true
      = some .grantedAllowed := by decide +kernel

/-- For every action and every list of registered types (Host/Service, with Comment
    or Downtime, or anything else) the objects the ActionsHandler obtains — and invokes the action on — are allowed under
    `actions/<name>` and registered. -/
theorem action_targets_subset_allowed (u : User) (action : String) (types : List String) (q : Query) (inv : Inventory)
    (objs : List Obj) (h : (filterTargets u (actionQDT action types) q inv).result = .ok objs) :
    ∀ o ∈ objs, Allowed u ("actions/" ++ action) o ∧ o ∈ inv :=
  targets_subset_allowed u (actionQDT action types) q inv objs (actionQDT_permission_ne action types) h

/-- What `GetSingleObjectByNameUsingPermissions(T, name, user)` hands out (to
    execute-command: the endpoint, the command, the user, the notification) is the registered object of type `T` and
    that name, and the user is allowed to query it: `objects/query/T` matches and its filter is true of the object. -/
theorem lookup_by_name_allowed (u : User) (type name : String) (inv : Inventory) (o : Obj)
    (h : lookupByPermission u type name inv = some o) :
    Allowed u ("objects/query/" ++ type) o ∧ o ∈ inv ∧ o.type = type ∧ o.name = name := by
  unfold lookupByPermission at h
  cases hr : (filterTargets u (handlerQD "query" type) (lookupQuery type name) inv).result with
  | error e => simp [hr] at h
  | ok objs =>
    obtain ⟨o', _, rfl, hl⟩ := filterTargets_first_name hr rfl rfl
    simp only [hr, Option.some.injEq] at h
    subst h
    obtain ⟨ha, hin⟩ := targets_subset_allowed u _ _ inv _ (handlerQD_permission_ne "query" type) hr o' List.mem_cons_self
    exact ⟨handlerQD_permission_query type ▸ ha, hin, lookup_type_name hl⟩

/-- What the lookup hands out passes every test of `specLookup`: an entry matches, it has the type and name asked for, it
    is registered and allowed. -/
theorem model_lookup_meets_spec (u : User) (type name : String) (inv : Inventory) :
    specLookup u type name inv (lookupByPermission u type name inv) = none := by
  cases hr : lookupByPermission u type name inv with
  | none => rfl
  | some o =>
    obtain ⟨ha, hin, ht, hn⟩ := lookup_by_name_allowed u type name inv o hr
    simp [specLookup, someMatch_of_allowed ha, ht, hn, hin, (allowedB_iff _ _ _).2 ha]

/-- hypotheses satisfiable: a permitted endpoint is handed out, a forbidden and a missing one are not, and the clause
    rejects handing out the forbidden one or another object than the one named -/
example :
    let u : User := [⟨"objects/query/Endpoint", some (fun _ o => some (o.name == "agent"))⟩]
    let inv : Inventory := [⟨"Endpoint", "agent"⟩, ⟨"Endpoint", "master"⟩, ⟨"Host", "agent"⟩]
    lookupByPermission u "Endpoint" "agent" inv = some ⟨"Endpoint", "agent"⟩ ∧
    lookupByPermission u "Endpoint" "master" inv = none ∧ lookupByPermission u "Endpoint" "nope" inv = none ∧
    lookupByPermission u "Host" "agent" inv = none ∧
    specLookup u "Endpoint" "master" inv (some ⟨"Endpoint", "master"⟩) = some .returnedAllowed ∧
    specLookup u "Endpoint" "master" inv (some ⟨"Endpoint", "agent"⟩) = some .lookupNamed ∧
    specLookup u "Host" "agent" inv (some ⟨"Host", "agent"⟩) = some .rejectedFirst := by decide +kernel

/-- The objects a modify request changes are allowed under `objects/modify/<Type>`
    and registered; when no entry matches that permission nothing is changed. -/
theorem modify_changes_subset_allowed (u : User) (type : String) (pathName : Option String) (q : Query) (inv : Inventory) :
    (∀ o ∈ modifyChanged u type pathName q inv, Allowed u ("objects/modify/" ++ type) o ∧ o ∈ inv) ∧
    specChanged u ("objects/modify/" ++ type) (modifyChanged u type pathName q inv) = none := by
  have hall : ∀ o ∈ modifyChanged u type pathName q inv, Allowed u ("objects/modify/" ++ type) o ∧ o ∈ inv := by
    rw [modifyChanged_eq_obtained]
    exact handlerTargets_allowed u "modify" type pathName q inv (handlerQD_permission_modify type)
  exact ⟨hall, specChanged_eq_none fun o ho => (hall o ho).1⟩

/-- non-vacuity: a type-wide modify request changes exactly the allowed host; the clause rejects a change of the other
    host and any change by a user without a matching entry -/
example :
    let u : User := [⟨"objects/modify/*", some (fun _ o => some (o.name == "h1"))⟩]
    modifyChanged u "Host" none {} exInv = [exH1] ∧
    specChanged u "objects/modify/Host" [exH0, exH1] = some .changedAllowed ∧
    specChanged [⟨"actions/*", none⟩] "objects/modify/Host" [exH1] = some .rejectedFirst := by decide +kernel

/-- The handlers that only call `CheckPermission(user, perm)` — console, config
    packages/stages/files, debug, actions without types, events — answer 200 only if some entry of the user matches
    their permission. -/
theorem bare_check_grants_only_with_match (u : User) (perm : String) (hperm : perm ≠ "")
    (h : grantStatus u perm = 200) : someMatch u perm = true := by
  unfold grantStatus at h
  rw [hasPermission_eq_someMatch hperm] at h
  cases hm : someMatch u perm with
  | true => rfl
  | false => simp [hm] at h

/-! #### Object creation (finding F-C18b)

  Full statement (NOT a theorem of the code as it is):
    `∀ u type o, specCreate u type o (createGranted u type) = none`
  — an object comes into being only if an entry matches `objects/create/<Type>` whose filter, if it has one, is true of
  the object.  CreateObjectHandler calls `CheckPermission(user, perm)` without a filter pointer
  (createobjecthandler.cpp:44), so the filter of a matching entry is never looked at. -/

/-- The statement holds for users none of whose entries matching
    `objects/create/<Type>` carries a filter. -/
theorem create_grant_partial (u : User) (type : String) (o : Obj)
    (hnofilter : ∀ p ∈ u, wildMatch p.pattern ("objects/create/" ++ type) = true → p.filter = none) :
    specCreate u type o (createGranted u type) = none := by
  unfold specCreate createGranted
  rw [hasPermission_eq_someMatch (append_ne_empty _ (by decide))]
  cases hm : someMatch u ("objects/create/" ++ type) with
  | false => simp
  | true =>
    obtain ⟨p, hp, hw⟩ := List.any_eq_true.1 hm
    have ha : Allowed u ("objects/create/" ++ type) o := ⟨p, hp, hw, Or.inl (hnofilter p hp hw)⟩
    simp [(allowedB_iff _ _ _).2 ha]

/-- F-C18b.  A user whose only entry for `objects/create/Host` is restricted
    to the host "good" creates the host "evil": the model (as the code) grants it, the specification rejects it. -/
theorem create_ignores_filter_counterexample :
    let u : User := [⟨"objects/create/Host", some (fun _ o => some (o.name == "good"))⟩]
    createGranted u "Host" = true ∧
    specCreate u "Host" ⟨"Host", "evil"⟩ (createGranted u "Host") = some .createdAllowed ∧
    specCreate u "Host" ⟨"Host", "good"⟩ (createGranted u "Host") = none := by decide +kernel

/-- the hypothesis of `create_grant_partial` is satisfiable with a non-trivial user, and without a matching entry a
    creation is rejected by the clause -/
example : (∀ p ∈ ([⟨"objects/create/*", none⟩, ⟨"objects/query/Host", some (fun _ _ => some false)⟩] : User),
      wildMatch p.pattern ("objects/create/" ++ "Host") = true → p.filter = none) ∧
    specCreate [⟨"objects/query/*", none⟩] "Host" ⟨"Host", "x"⟩ true = some .rejectedFirst := by
  decide +kernel

/-- The permission strings the model uses for the further entry points
    (create, config packages, debug, actions without types, the lookup of execute-command) are the ones the regenerated
    table of `/repo/lib` contains; a table that lost `objects/create/<>` fails the check. -/
theorem entry_point_permissions_match_source :
    permissionTableOk Gen.handlerPermissions = true ∧
    (actionQDT "a" ["Host", "Service"]).permission = "actions/a" ∧
    (handlerQD "query" "Endpoint").permission = "objects/query/Endpoint" ∧
    handlerPermission "cfgpackages" = some "config/query" ∧ handlerPermission "cfgcreate" = some "config/modify" ∧
    handlerPermission "debug" = some "debug" ∧
    handlerPermission "act:shutdown-process" = some "actions/shutdown-process" ∧
    handlerPermission "act:restart-process" = some "actions/restart-process" ∧
    handlerPermission "act:generate-ticket" = some "actions/generate-ticket" ∧
    (["objects/create/<>", "config/query", "config/modify", "debug"].all Gen.handlerPermissions.contains) = true :=
  ⟨permissionTable_ok, by decide +kernel⟩

example : permissionTableOk ["objects/query/<>", "objects/modify/<>", "objects/delete/<>", "actions/<>", "templates/query/<>",
    "variables", "types", "status/query", "console", "config/query", "config/modify", "debug"] = false := by decide +kernel

/-- `tokenize` + the matcher decide exactly the declarative language of RAW masks: `\*` and `\?`
    stand for the characters `*` and `?`, `*` for any text, `?` for one character, every other character — a lone `\`
    included — for itself up to ASCII case.  (`wildcard_match_spec` speaks of token lists only.) -/
theorem raw_mask_match_spec (m s : List Char) : matchToks (tokenize m) s = true ↔ DenotesMask m s :=
  (wildcard_match_spec _ s).trans denotes_tokenize_iff

/-- A permission entry matches a required permission iff the lower-cased required permission is
    in the language of the lower-cased pattern. -/
theorem permission_pattern_spec (pattern required : String) :
    wildMatch pattern required = true ↔ DenotesMask (lower pattern) (lower required) :=
  raw_mask_match_spec _ _

/-- HasPermission grants a non-empty required permission iff the language of
    some entry's pattern contains it — the property's "one of the user's permissions matches the permission the request
    requires (case-insensitively, with wildcards)", with nothing of the matcher left in the statement. -/
theorem has_permission_iff_pattern_denotes (u : User) (perm : String) (hperm : perm ≠ "") :
    hasPermission u perm = true ↔ ∃ p ∈ u, DenotesMask (lower p.pattern) (lower perm) := by
  simp only [hasPermission_eq_someMatch hperm, someMatch, List.any_eq_true, permission_pattern_spec]

/-- the escapes: `objects/\*` grants the permission literally called `objects/*` and nothing else; a lone `\` is a
    character; and the declarative language is not everything -/
example : DenotesMask "objects/\\*".toList "objects/*".toList := (raw_mask_match_spec _ _).1 (by decide +kernel)
example : ¬ DenotesMask "objects/\\*".toList "objects/query".toList := fun h => absurd ((raw_mask_match_spec _ _).2 h) (by decide +kernel)
example : DenotesMask "a\\b?".toList "A\\Bx".toList := (raw_mask_match_spec _ _).1 (by decide +kernel)
example : hasPermission [⟨"Objects/*/host", none⟩] "objects/query/Host" = true ∧
    hasPermission [⟨"objects/\\*/host", none⟩] "objects/query/Host" = false := by decide +kernel

/-- In the table regenerated from `/repo/lib` on every run, every class
    registered with REGISTER_URLHANDLER has `Handle*` method bodies, every such method that handles a request itself (does
    not just dispatch to HandleGet/HandlePost/HandleDelete) contains a permission check — InfoHandler, which only shows the
    user's own permissions, excepted —, no check asks for the empty permission, each handler class asks for the permission
    the model assumes for it (objects/create/<> in CreateObjectHandler, config/modify in both config handlers that write,
    …), and a handler class unknown to the model checks something. -/
theorem every_url_handler_checks_its_permission :
    handlerTableOk Gen.urlHandlers Gen.urlHandlerChecks = true := by decide +kernel

/-- not vacuous: losing the check of CreateObjectHandler or of one verb of a config handler, a config handler that asks for
    `config/modify` where the model assumes `config/query`, losing the body of a registered class, or a new handler without
    any check fails; a new handler with a permission of its own and a reordered table pass -/
example : handlerTableOk Gen.urlHandlers
    (Gen.urlHandlerChecks.map fun r => if r.1 == "CreateObjectHandler" then (r.1, r.2.1, [], r.2.2.2) else r) = false := by decide +kernel
example : handlerTableOk Gen.urlHandlers
    (Gen.urlHandlerChecks.map fun r => if r.1 == "ConfigStagesHandler" && r.2.1 == "HandlePost" then (r.1, r.2.1, [], false) else r)
    = false := by decide +kernel
example : handlerTableOk Gen.urlHandlers
    (Gen.urlHandlerChecks.map fun r => if r.1 == "ConfigFilesHandler" then (r.1, r.2.1, ["config/modify"], false) else r)
    = false := by decide +kernel
example : handlerTableOk Gen.urlHandlers (Gen.urlHandlerChecks.filter (·.1 != "EventsHandler")) = false := by decide +kernel
example : handlerTableOk ("PingHandler" :: Gen.urlHandlers) (("PingHandler", "HandleRequest", [], false) :: Gen.urlHandlerChecks)
    = false := by decide +kernel
example : handlerTableOk ("PingHandler" :: Gen.urlHandlers)
    (Gen.urlHandlerChecks.reverse ++ [("PingHandler", "HandleRequest", ["ping"], false)]) = true := by decide +kernel

/-- One request of ANY entry point — GetFilterTargets itself, the object handlers, an action
    with any type list, the objects a modify request changes, the by-name lookup of execute-command, a joined object, the
    per-object decision, a bare check — against any user and inventory satisfies the property. -/
theorem model_request_meets_spec (u : User) (inv : Inventory) (r : Request) :
    specRequest u inv r (runRequest u inv r) = none := by
  cases r with
  | targets qd q => exact model_query_meets_spec u qd q inv
  | object verb type pn q => exact model_query_meets_spec u (handlerQD verb type) (handlerQuery type pn q) inv
  | action name types q => exact model_query_meets_spec u (actionQDT name types) q inv
  | modify type pn q =>
    obtain ⟨hall, hspec⟩ := modify_changes_subset_allowed u type pn q inv
    simp only [specRequest, runRequest, any_not_contains fun o ho => (hall o ho).2, Bool.false_eq_true, if_false]
    exact hspec
  | lookup t n => exact model_lookup_meets_spec u t n inv
  | join j =>
    simp only [specRequest, runRequest]
    cases hj : joinIncluded u j with
    | false => simp [specJoin]
    | true => exact (joined_objects_allowed u j hj).2
  | access perm o => exact model_access_meets_spec u perm o
  | bare perm => exact model_grant_meets_spec u perm

/-- For every initial user and inventory and every sequence of
    operations — requests of every entry point interleaved with arbitrary changes of the user's permission list
    (`permissions` modified at runtime, the ApiUser deleted and re-created) and of the registry —, every answer satisfies
    the property with respect to the user and the inventory AS THEY ARE WHEN THE REQUEST ARRIVES.  (`runTrace` answers each
    request from the current world by definition; that the implementation remembers nothing either is what the driver
    checks by evaluating `specTrace` on its own traces.) -/
theorem model_trace_meets_spec (w : World) (ops : List Op) : specTrace (runTrace w ops) = none := by
  induction ops generalizing w with
  | nil => rfl
  | cons op ops ih =>
    cases op with
    | setUser u => exact ih _
    | setInventory i => exact ih _
    | request r =>
      have hr := model_request_meets_spec w.user w.inv r
      have ht := ih w
      unfold specTrace at ht ⊢
      simp only [runTrace, List.findSome?_cons, hr]
      exact ht

def trU1 : User := [⟨"objects/query/Host", none⟩, ⟨"status/query", none⟩]
def trU2 : User := [⟨"status/query", none⟩, ⟨"objects/query/*", some (fun _ o => some (o.name == "h1"))⟩]
def trU3 : User := [⟨"objects/query/Service", none⟩, ⟨"status/query", none⟩]
def trReq : Request := .object "query" "Host" none {}
def trOut : Response → Option (List Obj)
  | .targets (.ok l) _ => some l
  | _ => none

/-- a non-trivial trace: all hosts, then — the permission list replaced — only the host the new filter allows, then — the
    permission revoked — a rejection, then — a host deleted from the registry — … -/
example : (runTrace ⟨trU1, exInv⟩ [.request trReq, .setUser trU2, .request trReq, .setUser trU3, .request trReq,
      .setUser trU1, .setInventory [exH1], .request trReq]).map (fun e => trOut e.response)
    = [some [exH0, exH1], some [exH1], none, some [exH1]] := by decide +kernel

/-- the trace clause is not vacuous: an answer computed from the permission list as it WAS (match positions or verdicts
    remembered from an earlier request) is rejected — a revoked permission that is still granted, a filter that is no longer
    applied —, and so is an answer of the wrong shape -/
example : specTrace [⟨⟨trU1, exInv⟩, trReq, runRequest trU1 exInv trReq⟩, ⟨⟨trU3, exInv⟩, trReq, runRequest trU1 exInv trReq⟩]
      = some .rejectedFirst ∧
    specTrace [⟨⟨trU2, exInv⟩, trReq, runRequest trU1 exInv trReq⟩] = some .returnedAllowed ∧
    specTrace [⟨⟨trU1, exInv⟩, trReq, .granted true⟩] = some .responseShape := by decide +kernel

/-! ### Secondary objects — cascading delete and schedule-downtime with all_services (finding F-C18c)

  Full statement (NOT a theorem of the code as it is):
    `∀ u type pn q inv deps cascade, specActed u ("objects/delete/" ++ type) deps targets (deleteGone … cascade) = none`
    `∀ u types q inv deps,           specActed u "actions/schedule-downtime" deps targets (downtimeActed …) = none`
  — every object a request deletes / schedules a downtime for is one the user is allowed to act on.  The code deletes the
  dependents of a target (cascade) and schedules downtimes for the services of a target host (all_services) without
  consulting the user's permissions or the filter for them. -/

theorem specActed_of_all_allowed {u : User} {perm : String} {deps : Obj → List Obj} {targets acted : List Obj}
    (hall : ∀ o ∈ acted, Allowed u perm o) : specActed u perm deps targets acted = none :=
  specActed_eq_none hall

/-- Without `cascade` a delete request on API-created objects removes only
    objects that are allowed under `objects/delete/<Type>` and registered — for every user, query, inventory and dependency
    relation; in particular nothing when no entry matches.  `targets` is arbitrary: when every object acted on is allowed the
    verdict of `specActed` does not depend on it (`specActed_eq_none`). -/
theorem delete_without_cascade_gone_allowed (u : User) (type : String) (pathName : Option String) (q : Query)
    (inv : Inventory) (deps : Obj → List Obj) (targets : List Obj) :
    (∀ o ∈ deleteGone u type pathName q inv deps false, Allowed u ("objects/delete/" ++ type) o ∧ o ∈ inv) ∧
    specActed u ("objects/delete/" ++ type) deps targets (deleteGone u type pathName q inv deps false) = none := by
  have hall : ∀ o ∈ deleteGone u type pathName q inv deps false, Allowed u ("objects/delete/" ++ type) o ∧ o ∈ inv := by
    rw [deleteGone_eq_obtained]
    exact fun o ho =>
      handlerTargets_allowed u "delete" type pathName q inv (handlerQD_permission_delete type) o (List.mem_filter.1 ho).1
  exact ⟨hall, specActed_of_all_allowed fun o ho => (hall o ho).1⟩

/-- With `cascade` / `all_services` the statement holds as far as the dependents of
    every allowed object are allowed themselves (e.g. a filter over `host.*` only, or no filter at all). -/
theorem secondary_objects_partial (u : User) (type : String) (pathName : Option String) (q : Query) (types : List String)
    (inv : Inventory) (deps : Obj → List Obj) (cascade : Bool) (targets : List Obj)
    (hdel : ∀ o, Allowed u ("objects/delete/" ++ type) o → ∀ s ∈ deps o, Allowed u ("objects/delete/" ++ type) s)
    (hdt : ∀ o, Allowed u "actions/schedule-downtime" o → ∀ s ∈ deps o, Allowed u "actions/schedule-downtime" s) :
    specActed u ("objects/delete/" ++ type) deps targets (deleteGone u type pathName q inv deps cascade) = none ∧
    specActed u "actions/schedule-downtime" deps targets (downtimeActed u types q inv deps) = none := by
  constructor
  · cases cascade with
    | false => exact (delete_without_cascade_gone_allowed u type pathName q inv deps targets).2
    | true =>
      apply specActed_of_all_allowed
      rw [deleteGone_eq_obtained]
      exact forall_with_deps
        (fun t ht => (handlerTargets_allowed u "delete" type pathName q inv (handlerQD_permission_delete type) t ht).1) hdel
  · apply specActed_of_all_allowed
    have hsub := obtained_allowed u (actionQDT "schedule-downtime" types) q inv (actionQDT_permission_ne _ _)
    rw [actionQDT_permission_downtime] at hsub
    rw [downtimeActed_eq_obtained]
    exact forall_with_deps (fun t ht => (hsub t ht).1) hdt

def secInv : Inventory := [⟨"Host", "h1"⟩, ⟨"Service", "h1!s0"⟩, ⟨"Service", "h1!s1"⟩]
def secDeps (o : Obj) : List Obj := if o == ⟨"Host", "h1"⟩ then [⟨"Service", "h1!s0"⟩, ⟨"Service", "h1!s1"⟩] else []
def secUser : User :=
  [⟨"objects/delete/*", some (fun _ o => some (o.name != "h1!s0"))⟩, ⟨"actions/*", some (fun _ o => some (o.name != "h1!s0"))⟩]

/-- F-C18c.  The user's filter excludes the service h1!s0; DELETE
    /v1/objects/hosts/h1?cascade=1 deletes it and schedule-downtime on h1 with all_services=1 gives it a downtime all the
    same; by its own name the service is refused (`forbidden_by_name_is_error`), and without cascade nothing goes. -/
theorem secondary_objects_counterexample :
    deleteGone secUser "Host" (some "h1") {} secInv secDeps true = secInv ∧
    specActed secUser "objects/delete/Host" secDeps [⟨"Host", "h1"⟩] (deleteGone secUser "Host" (some "h1") {} secInv secDeps true)
      = some .secondaryAllowed ∧
    downtimeActed secUser ["Host", "Service"] (actionQuery "Host" (some "h1") {}) secInv secDeps = secInv ∧
    specActed secUser "actions/schedule-downtime" secDeps [⟨"Host", "h1"⟩]
      (downtimeActed secUser ["Host", "Service"] (actionQuery "Host" (some "h1") {}) secInv secDeps) = some .secondaryAllowed ∧
    isRejected (filterTargets secUser (actionQDT "schedule-downtime" ["Host", "Service"]) (actionQuery "Service" (some "h1!s0") {}) secInv).result
      = true ∧
    deleteGone secUser "Host" (some "h1") {} secInv secDeps false = [] := by decide +kernel

/-- the hypotheses of `secondary_objects_partial` are satisfiable with a filter that really filters (it excludes another
    host), and the clause also rejects a forbidden TARGET, a forbidden object that is no dependent of any target (both
    under `changed_objects_allowed`) and any action without a matching entry -/
example :
    let u : User := [⟨"objects/delete/*", some (fun _ o => some (o.name != "h2"))⟩]
    deleteGone u "Host" none {} (⟨"Host", "h2"⟩ :: secInv) secDeps true = secInv ∧
    specActed u "objects/delete/Host" secDeps [⟨"Host", "h1"⟩] secInv = none ∧
    specActed u "objects/delete/Host" secDeps [⟨"Host", "h2"⟩] [⟨"Host", "h2"⟩] = some .changedAllowed ∧
    specActed secUser "objects/delete/Host" secDeps [⟨"Host", "h2"⟩] secInv = some .changedAllowed ∧
    specActed [⟨"objects/query/*", none⟩] "objects/delete/Host" secDeps [] [⟨"Host", "h1"⟩] = some .rejectedFirst := by decide +kernel

/-- A connection carries user U only if the client certificate was verified and
    its CN is U's `client_cn`; an unverified peer gets no user whatever identity it claims — for every user inventory. -/
theorem connection_user_only_with_verified_cn (users : List AUser) (identity : String) (authenticated : Bool) :
    (∀ u ∈ connUser users identity authenticated, authenticated = true ∧ u ∈ users ∧ u.clientCN = identity ∧
      specConnUser identity authenticated (some u) = none) ∧
    connUser users identity false = [] := by
  refine ⟨?_, rfl⟩
  intro u hu
  cases authenticated with
  | false => simp [connUser] at hu
  | true =>
    simp only [connUser, if_true] at hu
    obtain ⟨h1, h2⟩ := authenticate_cn_only_with_cn users identity u hu
    exact ⟨rfl, h1, h2, by simp [specConnUser, h2]⟩

/-- satisfiable and not vacuous: a verified CN yields its users, the same CN unverified nobody; the clause rejects a user
    carried by an unverified connection and a user of another CN -/
example : connUser exUsers "cn1" true = [⟨"agent", "", "cn1"⟩, ⟨"web", "a:b", "cn1"⟩] ∧ connUser exUsers "cn1" false = [] ∧
    specConnUser "cn1" false (some ⟨"agent", "", "cn1"⟩) = some .attributedWithoutCredential ∧
    specConnUser "cn2" true (some ⟨"agent", "", "cn1"⟩) = some .attributedWithoutCredential := by decide +kernel

end Icinga.C18
