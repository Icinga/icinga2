/-
  C12 — what ReplayLog reads from a log file: the records written, also when the file is cut at any byte or followed by any
  bytes.  The framing facts are C20's (`nsReadAll_frames_end`, `nsReadAll_items_prefix`, `take_nsEncodeAll`).
-/
import IcingaModel.C12.Trace
import IcingaProofs.C20.NetstringLemmas

namespace Icinga.C12
open Icinga.C20

theorem chunkF_flatten : ∀ (f : Nat) (bs : Bytes), bs.length ≤ f → (chunkF f bs).flatten = bs := by
  intro f
  induction f with
  | zero => intro bs h; have : bs = [] := List.eq_nil_of_length_eq_zero (by omega); subst this; rfl
  | succ f ih =>
    intro bs h
    simp only [chunkF]
    split
    · rename_i he; simp at he; simp [he]
    · rw [List.flatten_cons, ih (bs.drop 65536) (by rw [List.length_drop]; omega), List.take_append_drop]

theorem chunks_flatten (bs : Bytes) : (chunks bs).flatten = bs := chunkF_flatten _ _ (Nat.le_refl _)

theorem takeSome_append_some {α β : Type} (enc : α → β) (dec : β → Option α) (l : List α) (h : ∀ a ∈ l, dec (enc a) = some a)
    (r : List β) : takeSome (((l.map enc) ++ r).map dec) = l ++ takeSome (r.map dec) := by
  induction l with
  | nil => rfl
  | cons a t ih =>
    simp only [List.map_cons, List.cons_append, h a List.mem_cons_self, takeSome,
      ih (fun x hx => h x (List.mem_cons_of_mem _ hx))]

/-- What the PersistMessage calls for the records `es` leave in a file. -/
def fileOf (c : Codec) (es : List Entry) : Bytes := nsEncodeAll (es.map c.enc)

theorem fileOf_append (c : Codec) (a b : List Entry) : fileOf c (a ++ b) = fileOf c a ++ fileOf c b := by
  simp only [fileOf, List.map_append, nsEncodeAll_append]

/-- What `Codec` promises of every record, asked at the records written only. -/
def Readable (enc : Entry → Bytes) (dec : Bytes → Option Entry) (es : List Entry) : Prop :=
  ∀ e ∈ es, dec (enc e) = some e ∧ (enc e).length < 10 ^ 9

theorem Codec.readable (c : Codec) (es : List Entry) : Readable c.enc c.dec es := fun e _ => ⟨c.dec_enc e, c.small e⟩

section
variable {enc : Entry → Bytes} {dec : Bytes → Option Entry} {es : List Entry}

theorem enc_okPayload (h : Readable enc dec es) : ∀ p ∈ es.map enc, okPayload none p := by
  intro p hp
  obtain ⟨e, he, rfl⟩ := List.mem_map.mp hp
  exact ⟨(h e he).2, rfl⟩

theorem fileItems_torn {ps : List Bytes} (hp : ∀ p ∈ ps, okPayload none p) (t : Bytes) (ht : streamEnd none t .eof) :
    fileItems (nsEncodeAll ps ++ t) = ps :=
  (nsReadAll_frames_end none _ t .eof _ hp ht (chunks_flatten _)).1

theorem fileItems_garbage {ps : List Bytes} (hp : ∀ p ∈ ps, okPayload none p) (g : Bytes) :
    ∃ extra, fileItems (nsEncodeAll ps ++ g) = ps ++ extra :=
  nsReadAll_items_prefix none _ g _ hp (chunks_flatten _)

/-- `t`: what a crash can leave of the frame it was writing (nothing, or a proper prefix of a valid frame), in C20's words
    an end-of-file ending of the read loop. -/
theorem entriesOf_torn (h : Readable enc dec es) (t : Bytes) (ht : streamEnd none t .eof) :
    entriesOf dec (nsEncodeAll (es.map enc) ++ t) = es := by
  rw [entriesOf, fileItems_torn (enc_okPayload h) t ht]
  simpa [takeSome] using takeSome_append_some enc dec es (fun e he => (h e he).1) []

theorem entriesOf_written (h : Readable enc dec es) : entriesOf dec (nsEncodeAll (es.map enc)) = es := by
  have := entriesOf_torn h [] (streamEnd_nil none)
  rwa [List.append_nil] at this

theorem entriesOf_garbage (h : Readable enc dec es) (g : Bytes) :
    ∃ extra, entriesOf dec (nsEncodeAll (es.map enc) ++ g) = es ++ extra := by
  obtain ⟨extra, hx⟩ := fileItems_garbage (enc_okPayload h) g
  exact ⟨_, by rw [entriesOf, hx]; exact takeSome_append_some enc dec _ (fun e he => (h e he).1) _⟩

theorem take_written (h : Readable enc dec es) (k : Nat) : ∃ (j : Nat) (t : Bytes),
    (nsEncodeAll (es.map enc)).take k = nsEncodeAll ((es.take j).map enc) ++ t ∧ streamEnd none t .eof ∧
    (nsEncodeAll ((es.take j).map enc)).length ≤ k ∧
    (j < es.length → k < (nsEncodeAll ((es.take (j + 1)).map enc)).length) := by
  simpa only [List.map_take, List.length_map] using take_nsEncodeAll none (es.map enc) k (enc_okPayload h)

/-- `truncation_tolerant` for any encoding that is readable at the records written. -/
theorem truncation_readable (h : Readable enc dec es) (k : Nat) :
    ∃ j, entriesOf dec ((nsEncodeAll (es.map enc)).take k) = es.take j ∧
      (nsEncodeAll ((es.take j).map enc)).length ≤ k ∧
      (j < es.length → k < (nsEncodeAll ((es.take (j + 1)).map enc)).length) := by
  obtain ⟨j, t, h1, h2, h3, h4⟩ := take_written h k
  exact ⟨j, by rw [h1]; exact entriesOf_torn (fun e he => h e (List.mem_of_mem_take he)) t h2, h3, h4⟩

/-- `damage_tolerant` for any encoding that is readable at the records written. -/
theorem damage_readable (h : Readable enc dec es) (k : Nat) (garbage : Bytes) :
    ∃ j extra, entriesOf dec ((nsEncodeAll (es.map enc)).take k ++ garbage) = es.take j ++ extra ∧
      (nsEncodeAll ((es.take j).map enc)).length ≤ k ∧
      (j < es.length → k < (nsEncodeAll ((es.take (j + 1)).map enc)).length) := by
  obtain ⟨j, t, h1, _, h3, h4⟩ := take_written h k
  obtain ⟨extra, hx⟩ := entriesOf_garbage (fun e he => h e (List.mem_of_mem_take he)) (t ++ garbage)
  exact ⟨j, extra, by rw [h1, List.append_assoc]; exact hx, h3, h4⟩

end

theorem entriesOf_fileOf (c : Codec) (es : List Entry) : entriesOf c.dec (fileOf c es) = es :=
  entriesOf_written (c.readable es)

end Icinga.C12
