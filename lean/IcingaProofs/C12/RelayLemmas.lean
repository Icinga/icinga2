/-
  C12 — RelayMessageOne's decision for one event (`relay`): whom it sends to live, whom it skips, when it asks for a log entry;
  and the peer table of a node under `Node.setPeer` and under the relay step.
-/
import IcingaModel.C12.Trace

namespace Icinga.C12

theorem forall_mem_snoc {α : Type} {P : α → Prop} {l : List α} {a : α} (hl : ∀ x ∈ l, P x) (ha : P a) : ∀ x ∈ l ++ [a], P x :=
  List.forall_mem_append.mpr ⟨hl, List.forall_mem_singleton.mpr ha⟩

theorem relayEndpoint_disconnected (peers : Nat → Peer) (loc : Bool) (master : Option Nat) (a : ZoneAcc) (i : Nat)
    (h : (peers i).connected = false) :
    relayEndpoint peers loc master a i = { a with logNeeded := true, logDone := !loc && a.logDone } := by
  cases loc <;> simp [relayEndpoint, h]

theorem relayEndpoint_inv (peers : Nat → Peer) (master : Option Nat) (loc : Bool) (a : ZoneAcc) (e : Nat)
    (h : (∀ i ∈ a.live, (peers i).connected = true ∧ (peers i).syncing = false) ∧ ∀ i ∈ a.skipped, (peers i).connected = true) :
    (∀ i ∈ (relayEndpoint peers loc master a e).live, (peers i).connected = true ∧ (peers i).syncing = false) ∧
    ∀ i ∈ (relayEndpoint peers loc master a e).skipped, (peers i).connected = true := by
  cases hc : (peers e).connected with
  | false => rw [relayEndpoint_disconnected peers loc master a e hc]; exact h
  | true =>
    simp only [relayEndpoint, hc, Bool.not_true, Bool.false_eq_true, if_false]
    by_cases h1 : (a.relayed && !loc) = true
    · rw [if_pos h1]; exact ⟨h.1, forall_mem_snoc h.2 hc⟩
    · rw [if_neg h1]
      by_cases h2 : (master.isSome && master != some e) = true
      · rw [if_pos h2]; exact ⟨h.1, forall_mem_snoc h.2 hc⟩
      · rw [if_neg h2]
        cases hs : (peers e).syncing with
        | true => exact h
        | false => exact ⟨forall_mem_snoc h.1 ⟨hc, hs⟩, h.2⟩

theorem relay_inv (peers : Nat → Peer) (master : Option Nat) (zones : List (Bool × List Nat)) :
    (∀ i ∈ (relay peers master zones).live, (peers i).connected = true ∧ (peers i).syncing = false) ∧
    ∀ i ∈ (relay peers master zones).skipped, (peers i).connected = true := by
  have hz : ∀ z, (∀ i ∈ (relayZone peers master z).live, (peers i).connected = true ∧ (peers i).syncing = false) ∧
      ∀ i ∈ (relayZone peers master z).skipped, (peers i).connected = true :=
    fun z => List.foldlRecOn z.2 _ ⟨fun _ hi => (by cases hi), fun _ hi => (by cases hi)⟩
      (fun a h e _ => relayEndpoint_inv peers master z.1 a e h)
  constructor
  · intro i hi
    simp only [relay, List.mem_flatMap, List.mem_map] at hi
    obtain ⟨a, ⟨z, _, rfl⟩, hia⟩ := hi
    exact (hz z).1 i hia
  · intro i hi
    simp only [relay, List.mem_flatMap, List.mem_map] at hi
    obtain ⟨a, ⟨z, _, rfl⟩, hia⟩ := hi
    exact (hz z).2 i hia

theorem relay_live_in_sync (peers : Nat → Peer) (master : Option Nat) (zones : List (Bool × List Nat)) :
    ∀ i ∈ (relay peers master zones).live, (peers i).connected = true ∧ (peers i).syncing = false :=
  (relay_inv peers master zones).1

theorem relay_skipped_connected (peers : Nat → Peer) (master : Option Nat) (zones : List (Bool × List Nat)) :
    ∀ i ∈ (relay peers master zones).skipped, (peers i).connected = true :=
  (relay_inv peers master zones).2

/-- `eps ≠ [] ∨ a.logNeeded`: a zone without endpoints never asks for a log entry, so the fold must have seen one endpoint
    already or see one now. -/
theorem relayZone_all_disc (peers : Nat → Peer) (master : Option Nat) (loc : Bool) : ∀ (eps : List Nat) (a : ZoneAcc),
    (∀ i ∈ eps, (peers i).connected = false) → a.logDone = false → (eps ≠ [] ∨ a.logNeeded = true) →
    (eps.foldl (relayEndpoint peers loc master) a).logNeeded = true ∧
    (eps.foldl (relayEndpoint peers loc master) a).logDone = false := by
  intro eps
  induction eps with
  | nil => intro a _ hd hn; simp at hn; exact ⟨hn, hd⟩
  | cons i r ih =>
    intro a hc hd _
    simp only [List.foldl_cons]
    rw [relayEndpoint_disconnected peers loc master a i (hc i List.mem_cons_self)]
    exact ih _ (fun j hj => hc j (List.mem_cons_of_mem _ hj)) (by simp only [hd, Bool.and_false]) (Or.inr rfl)

theorem relay_needLog (peers : Nat → Peer) (master : Option Nat) (zones : List (Bool × List Nat)) (z : Bool × List Nat)
    (hz : z ∈ zones) (hne : z.2 ≠ []) (hc : ∀ i ∈ z.2, (peers i).connected = false) :
    (relay peers master zones).needLog = true := by
  have := relayZone_all_disc peers master z.1 z.2 {} hc rfl (Or.inl hne)
  simp only [relay, List.any_map, List.any_eq_true]
  exact ⟨z, hz, by simp only [Function.comp, relayZone, this.1, this.2, Bool.not_false, Bool.and_self]⟩

theorem Node.setPeer_same (n : Node) (p : Nat) (f : Peer → Peer) : (n.setPeer p f).peers p = f (n.peers p) := if_pos rfl

theorem Node.setPeer_other (n : Node) (p : Nat) (f : Peer → Peer) {q : Nat} (h : q ≠ p) : (n.setPeer p f).peers q = n.peers q :=
  if_neg h

theorem Node.setPeer_field {α : Type} (g : Peer → α) (n : Node) (p : Nat) (f : Peer → Peer) (hf : ∀ q, g (f q) = g q) (i : Nat) :
    g ((n.setPeer p f).peers i) = g (n.peers i) := by
  simp only [Node.setPeer]
  split
  · exact hf _
  · rfl

theorem stepOp_relay_field {α : Type} (g : Peer → α) (hg : ∀ (q : Peer) (v : Int), g { q with lpos := v } = g q) (c : Codec)
    (limit : Nat) (n : Node) (now : Int) (id : Nat) (sec : Option Nat) (i : Nat) :
    g ((stepOp c limit n (.relay now id sec)).1.peers i) = g (n.peers i) := by
  simp only [stepOp]
  split
  · exact hg _ _
  · rfl

end Icinga.C12
