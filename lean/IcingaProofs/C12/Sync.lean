/-
  C12 — the clause no_live_before_sync / sync_completes on the model (`syncTrace` over `runSync`): an invariant between the
  clause's ghost state and the endpoints' `connected` / `syncing` flags, kept by every operation but `attach`.
-/
import IcingaProofs.C12.RelayLemmas

namespace Icinga.C12

/-- `syn`: a connection whose replay is not complete is still `syncing`, which is what keeps SyncSendMessage from queueing
    anything live for it. -/
structure SyncInv (s : SyncSt) (n : Node) : Prop where
  att : ∀ p, s.attached p = (n.peers p).connected
  syn : ∀ p, s.attached p = true → s.replayed p = false → (n.peers p).syncing = true

theorem SyncInv.of_disconnected (n : Node) (h : ∀ p, (n.peers p).connected = false) : SyncInv {} n :=
  { att := fun p => (h p).symm, syn := fun _ ha => by cases ha }

theorem SyncInv.of_peers {s : SyncSt} {n : Node} (h : SyncInv s n) (n' : Node)
    (hc : ∀ i, (n'.peers i).connected = (n.peers i).connected) (hs : ∀ i, (n'.peers i).syncing = (n.peers i).syncing) :
    SyncInv s n' :=
  ⟨fun p => (h.att p).trans (hc p).symm, fun p ha hr => (hs p).trans (h.syn p ha hr)⟩

theorem SyncInv.setPeer {s s' : SyncSt} {n : Node} (h : SyncInv s n) (p : Nat) (f : Peer → Peer)
    (hoa : ∀ q, q ≠ p → s'.attached q = s.attached q) (hor : ∀ q, q ≠ p → s'.replayed q = s.replayed q)
    (hatt : s'.attached p = (f (n.peers p)).connected)
    (hsyn : s'.attached p = true → s'.replayed p = false → (f (n.peers p)).syncing = true) :
    SyncInv s' (n.setPeer p f) := by
  constructor
  · intro q
    by_cases hqp : q = p
    · rw [hqp, n.setPeer_same]; exact hatt
    · rw [n.setPeer_other p f hqp, hoa q hqp]; exact h.att q
  · intro q ha hr
    by_cases hqp : q = p
    · subst hqp; rw [n.setPeer_same]; exact hsyn ha hr
    · rw [n.setPeer_other p f hqp]; rw [hoa q hqp] at ha; rw [hor q hqp] at hr; exact h.syn q ha hr

/-- The equation carries two facts: the events of the operation raise no violation, and the clause's state behind them
    is `s'`. -/
theorem sync_step (c : Codec) (limit : Nat) (s : SyncSt) (n : Node) (op : Op) (h : SyncInv s n)
    (hw : ∀ p, op ≠ .attach p) :
    ∃ s', (∀ rest i, syncTrace s (syncObs c limit n op ++ rest) i = syncTrace s' rest (i + (syncObs c limit n op).length)) ∧
      SyncInv s' (stepOp c limit n op).1 := by
  cases op with
  | attach p => exact absurd rfl (hw p)
  | relay now id sec =>
    -- whoever gets the event live is not syncing, so its replay is over
    have hlive : ((relay n.peers n.master (zonesOf n.satRev n.topRev sec)).live.any
        (fun p => s.attached p && !s.replayed p)) = false := by
      rw [List.any_eq_false]
      intro p hp hbad
      rw [Bool.and_eq_true, Bool.not_eq_true'] at hbad
      exact absurd (h.syn p hbad.1 hbad.2) (by rw [(relay_live_in_sync n.peers n.master _ p hp).2]; decide)
    exact ⟨s, fun _ _ => by simp only [syncObs, List.cons_append, syncTrace, syncStep, hlive]; rfl,
      h.of_peers _ (stepOp_relay_field (·.connected) (fun _ _ => rfl) c limit n now id sec)
        (stepOp_relay_field (·.syncing) (fun _ _ => rfl) c limit n now id sec)⟩
  | conn p =>
    by_cases hap : s.attached p = true
    -- already attached: the clause ignores the second attach
    · exact ⟨s, fun _ _ => by simp only [syncObs, List.cons_append, syncTrace, syncStep, hap, if_true]; rfl,
        h.setPeer p (fun q => { q with connected := true, syncing := true }) (fun _ _ => rfl) (fun _ _ => rfl) (hatt := hap)
          (hsyn := fun _ _ => rfl)⟩
    -- a new connection: its replay is pending, and it is `syncing`
    · exact ⟨{ attached := fun q => if q = p then true else s.attached q, replayed := fun q => if q = p then false else s.replayed q },
        fun _ _ => by simp only [syncObs, List.cons_append, syncTrace, syncStep, hap, Bool.false_eq_true, if_false]; rfl,
        h.setPeer p (fun q => { q with connected := true, syncing := true }) (fun _ hq => if_neg hq) (fun _ hq => if_neg hq)
          (hatt := if_pos rfl) (hsyn := fun _ _ => rfl)⟩
  | disc p =>
    exact ⟨{ attached := fun q => if q = p then false else s.attached q, replayed := fun q => if q = p then false else s.replayed q },
      fun _ _ => rfl, h.setPeer p (fun q => { q with connected := false }) (fun _ hq => if_neg hq) (fun _ hq => if_neg hq) (if_pos rfl)
        (fun ha => by simp at ha)⟩
  | replay now p =>
    -- SyncClient clears the flag; the replay of this connection counts as complete from now on
    have hflag : ((stepOp c limit n (.replay now p)).1.peers p).syncing = false := by
      simp [stepOp, Node.setPeer_same]
    refine ⟨{ s with replayed := fun q => if q = p then s.attached p else s.replayed q },
      fun _ _ => by simp only [syncObs, List.cons_append, syncTrace, syncStep, hflag, Bool.false_eq_true, if_false]; rfl, ?_⟩
    exact (h.of_peers { n with snd := replaySender now (n.peers p).dur n.snd } (fun _ => rfl) (fun _ => rfl)).setPeer p
      (fun q => { q with syncing := false }) (fun _ _ => rfl) (fun _ hq => if_neg hq) (hatt := h.att p)
      -- `replayed p` is now `attached p`: "attached and not replayed" cannot be
      (hsyn := fun ha hr => by simp at hr; exact absurd (ha.symm.trans hr) (by decide))
  | rotate _ | timer _ | drop => exact ⟨s, fun _ _ => rfl, h.of_peers _ (fun _ => rfl) (fun _ => rfl)⟩
  | ack p v =>
    exact ⟨s, fun _ _ => rfl, h.setPeer p (fun q => { q with lpos := setLogPos q.lpos v }) (fun _ _ => rfl) (fun _ _ => rfl) (h.att p) (h.syn p)⟩
  | recv p ts =>
    exact ⟨s, fun _ _ => rfl, h.setPeer p (fun q => { q with rpos := (recv (n.peers p).rpos (some ts)).2 }) (fun _ _ => rfl) (fun _ _ => rfl)
      (h.att p) (h.syn p)⟩
  -- a new process: the clause starts afresh and nobody is connected
  | crashStart _ _ _ | stopStart _ _ _ => exact ⟨{}, fun _ _ => rfl, SyncInv.of_disconnected _ (fun _ => rfl)⟩

theorem NoWindow.cons {op : Op} {rest : List Op} (h : NoWindow (op :: rest)) : (∀ p, op ≠ .attach p) ∧ NoWindow rest := by
  have hop : ∀ p, op ≠ .attach p := by
    intro p hp; subst hp; exact h
  exact ⟨hop, by cases op <;> first | exact h | exact absurd rfl (hop _)⟩

theorem reachable_sync (c : Codec) (limit : Nat) : ∀ (ops : List Op) (s : SyncSt) (n : Node) (i : Nat), SyncInv s n →
    NoWindow ops → syncTrace s (runSync c limit n ops) i = none := by
  intro ops
  induction ops with
  | nil => intro s n i _ _; rfl
  | cons op rest ih =>
    intro s n i hi hnw
    obtain ⟨s', h1, h2⟩ := sync_step c limit s n op hi hnw.cons.1
    simp only [runSync]
    rw [h1]
    exact ih s' _ _ h2 hnw.cons.2

end Icinga.C12
