/-
  C12 — ReplayLog, the writers and the clean-up test.  A pass is a fold over the records, and every fact about a pass is an
  instance of one induction principle (`replayEntries_ind`); the passes after the first send nothing (`second_pass_empty`),
  and on a well-formed directory (`WF`) ReplayLog sends exactly the wanted records (`replay_of_wf`).
-/
import IcingaModel.C12.Trace

namespace Icinga.C12
open Icinga.C20

theorem pairwise_snoc {α : Type} {R : α → α → Prop} {l : List α} {a : α} (hl : l.Pairwise R) (ha : ∀ x ∈ l, R x a) :
    (l ++ [a]).Pairwise R :=
  List.pairwise_append.mpr ⟨hl, List.pairwise_singleton _ _, fun x hx _ hb => List.mem_singleton.mp hb ▸ ha x hx⟩

theorem sublist_flatMap {α β : Type} (g : α → List β) {l₁ l₂ : List α} (h : l₁.Sublist l₂) :
    (l₁.flatMap g).Sublist (l₂.flatMap g) := by
  induction h with
  | slnil => simp
  | cons a _ ih => simp only [List.flatMap_cons]; exact List.Sublist.trans ih (List.sublist_append_right _ _)
  | cons_cons a _ ih => simp only [List.flatMap_cons]; exact List.Sublist.append (List.Sublist.refl _) ih

theorem filter_flatMap_filter {α β : Type} (c : α → Bool) (g : α → List β) (w : β → Bool) : ∀ (L : List α),
    (∀ a ∈ L, c a = false → ∀ b ∈ g a, w b = false) →
    ((L.filter c).flatMap g).filter w = (L.flatMap g).filter w := by
  intro L
  induction L with
  | nil => intro _; rfl
  | cons a r ih =>
    intro h
    have ihr := ih (fun x hx => h x (by simp [hx]))
    cases hc : c a with
    | true => simp [hc, List.flatMap_cons, List.filter_append, ihr]
    | false =>
      have : (g a).filter w = [] := List.filter_eq_nil_iff.mpr (fun b hb => by simp [h a (by simp) hc b hb])
      simp [hc, List.flatMap_cons, List.filter_append, ihr, this]

theorem msgsOf_append (a b : List Out) : msgsOf (a ++ b) = msgsOf a ++ msgsOf b := by
  induction a with
  | nil => rfl
  | cons x r ih => cases x <;> simp [msgsOf, ih]

@[simp] theorem msgsOf_msg (e : Entry) : msgsOf [Out.msg e] = [e] := rfl
@[simp] theorem msgsOf_setPos (v : Int) : msgsOf [Out.setPos v] = [] := rfl
@[simp] theorem msgsOf_nil : msgsOf [] = [] := rfl

section
variable (vis : Nat → Bool)

theorem skipEntry_of_le (p : Int) (e : Entry) (h : e.ts ≤ p) : skipEntry vis p e = true := by
  simp [skipEntry, h]

theorem skipEntry_mono (p p' : Int) (e : Entry) (h : p ≤ p') (hs : skipEntry vis p e = true) :
    skipEntry vis p' e = true := by
  simp only [skipEntry, Bool.or_eq_true, decide_eq_true_eq] at hs ⊢
  rcases hs with hs | hs
  · left; omega
  · right; exact hs

theorem stepEntry_skip (st : RState) (x : Int × Entry) (h : skipEntry vis st.peer x.2 = true) :
    stepEntry vis st x = st := by
  simp [stepEntry, h]

theorem stepEntry_send (st : RState) (x : Int × Entry) (h : skipEntry vis st.peer x.2 = false) :
    (stepEntry vis st x).peer = x.2.ts ∧ msgsOf (stepEntry vis st x).out = msgsOf st.out ++ [x.2] ∧
    (stepEntry vis st x).count = st.count + 1 := by
  simp only [stepEntry, h, Bool.false_eq_true, if_false]
  split <;> simp [msgsOf_append, msgsOf]

theorem not_skip_gt (p : Int) (e : Entry) (h : skipEntry vis p e = false) : p < e.ts := by
  simp only [skipEntry, Bool.or_eq_false_iff, decide_eq_false_iff_not] at h
  omega

theorem skipEntry_congr (p p' : Int) (e : Entry) (h : p < e.ts) (h' : p' < e.ts) : skipEntry vis p e = skipEntry vis p' e := by
  simp only [skipEntry, decide_eq_false (Int.not_le.mpr h), decide_eq_false (Int.not_le.mpr h')]

theorem replayEntries_cons (st : RState) (x : Int × Entry) (xs : List (Int × Entry)) :
    replayEntries vis st (x :: xs) = replayEntries vis (stepEntry vis st x) xs := rfl

theorem replayEntries_nil (vis : Nat → Bool) (st : RState) : replayEntries vis st [] = st := rfl

/-- Induction over a pass.  Of a record that is sent, `send` tells the new position, the message and the count: what else
    `stepEntry` does to `out` and `logpos` no fact about messages needs. -/
theorem replayEntries_ind {motive : RState → List (Int × Entry) → RState → Prop}
    (nil : ∀ st, motive st [] st)
    (skip : ∀ st x xs r, skipEntry vis st.peer x.2 = true → motive st xs r → motive st (x :: xs) r)
    (send : ∀ st st1 x xs r, skipEntry vis st.peer x.2 = false → st1.peer = x.2.ts →
      msgsOf st1.out = msgsOf st.out ++ [x.2] → st1.count = st.count + 1 → motive st1 xs r → motive st (x :: xs) r)
    (xs : List (Int × Entry)) (st : RState) : motive st xs (replayEntries vis st xs) := by
  induction xs generalizing st with
  | nil => exact nil st
  | cons x xs ih =>
    rw [replayEntries_cons]
    cases hsk : skipEntry vis st.peer x.2 with
    | true => rw [stepEntry_skip vis st x hsk]; exact skip st x xs _ hsk (ih st)
    | false =>
      obtain ⟨h1, h2, h3⟩ := stepEntry_send vis st x hsk
      exact send st _ x xs _ hsk h1 h2 h3 (ih _)

theorem replayEntries_all_skipped (xs : List (Int × Entry)) (st : RState) :
    (∀ x ∈ xs, skipEntry vis st.peer x.2 = true) → replayEntries vis st xs = st :=
  replayEntries_ind vis (motive := fun st xs r => (∀ x ∈ xs, skipEntry vis st.peer x.2 = true) → r = st)
    (fun _ _ => rfl)
    (fun _ _ _ _ _ ih h => ih (fun y hy => h y (List.mem_cons_of_mem _ hy)))
    (fun _ _ x _ _ hsk _ _ _ _ h => absurd (h x List.mem_cons_self) (by simp [hsk]))
    xs st

/-- Sent records lie at or below the final position and skipped ones stay skipped: why a second pass sends nothing. -/
theorem replayEntries_peer (xs : List (Int × Entry)) (st : RState) :
    st.peer ≤ (replayEntries vis st xs).peer ∧
    (∀ x ∈ xs, skipEntry vis (replayEntries vis st xs).peer x.2 = true) := by
  refine replayEntries_ind vis
    (motive := fun st xs r => st.peer ≤ r.peer ∧ ∀ x ∈ xs, skipEntry vis r.peer x.2 = true) ?_ ?_ ?_ xs st
  · intro st
    exact ⟨Int.le_refl _, fun x hx => by cases hx⟩
  · intro st x xs r hsk ih
    exact ⟨ih.1, List.forall_mem_cons.mpr ⟨skipEntry_mono vis _ _ _ ih.1 hsk, ih.2⟩⟩
  · intro st st1 x xs r hsk h1 _ _ ih
    have hgt := not_skip_gt vis _ _ hsk
    exact ⟨by have := ih.1; omega, List.forall_mem_cons.mpr ⟨skipEntry_of_le vis _ _ (h1 ▸ ih.1), ih.2⟩⟩

theorem replayEntries_sent (xs : List (Int × Entry)) (st : RState) :
    ∃ new, msgsOf (replayEntries vis st xs).out = msgsOf st.out ++ new ∧
      new.Sublist (xs.map (·.2)) ∧ ∀ e ∈ new, skipEntry vis st.peer e = false := by
  refine replayEntries_ind vis (motive := fun st xs r => ∃ new, msgsOf r.out = msgsOf st.out ++ new ∧
    new.Sublist (xs.map (·.2)) ∧ ∀ e ∈ new, skipEntry vis st.peer e = false) ?_ ?_ ?_ xs st
  · intro st
    exact ⟨[], by simp, by simp, by simp⟩
  · intro st x xs r _ ⟨new, h1, h2, h3⟩
    exact ⟨new, h1, h2.cons _, h3⟩
  · intro st st1 x xs r hsk hp ho _ ⟨new, h1, h2, h3⟩
    refine ⟨x.2 :: new, by rw [h1, ho]; simp, h2.cons_cons _, ?_⟩
    intro e he
    rcases List.mem_cons.mp he with rfl | he
    · exact hsk
    · have := h3 e he
      rw [hp] at this
      have hgt := not_skip_gt vis _ _ this
      rwa [skipEntry_congr vis st.peer x.2.ts e (Int.lt_trans (not_skip_gt vis _ _ hsk) hgt) hgt]

/-- What the property wants replayed from position `p`. -/
def wanted (vis : Nat → Bool) (p : Int) (e : Entry) : Bool := !skipEntry vis p e

theorem wanted_iff_skipEntry (vis : Nat → Bool) (p : Int) (e : Entry) : wanted vis p e = true ↔ skipEntry vis p e = false := by
  simp [wanted]

theorem wanted_iff (vis : Nat → Bool) (p : Int) (e : Entry) :
    wanted vis p e = true ↔ p < e.ts ∧ ∀ o, e.sec = some o → vis o = true := by
  cases e with | mk ts id sec => cases sec <;> simp [wanted, skipEntry] <;> omega

theorem replayEntries_sorted (xs : List (Int × Entry)) (st : RState) :
    xs.Pairwise (fun a b => a.2.ts < b.2.ts) →
    msgsOf (replayEntries vis st xs).out = msgsOf st.out ++ (xs.map (·.2)).filter (wanted vis st.peer) := by
  refine replayEntries_ind vis (motive := fun st xs r => xs.Pairwise (fun a b => a.2.ts < b.2.ts) →
    msgsOf r.out = msgsOf st.out ++ (xs.map (·.2)).filter (wanted vis st.peer)) ?_ ?_ ?_ xs st
  · intro st _
    simp
  · intro st x xs r hsk ih hp
    rw [ih (List.pairwise_cons.mp hp).2]
    simp [wanted_iff_skipEntry, hsk]
  · intro st st1 x xs r hsk h1 h2 _ ih hp
    have hp' := List.pairwise_cons.mp hp
    have hgt := not_skip_gt vis _ _ hsk
    -- behind a record that was sent, the new position filters like the old one
    have hf : (xs.map (·.2)).filter (wanted vis x.2.ts) = (xs.map (·.2)).filter (wanted vis st.peer) := by
      apply List.filter_congr
      intro e he
      obtain ⟨y, hy, rfl⟩ := List.mem_map.mp he
      have := hp'.1 y hy
      simp only [wanted, skipEntry_congr vis x.2.ts st.peer y.2 this (Int.lt_trans hgt this)]
    rw [ih hp'.2, h2, h1, hf]
    simp [wanted_iff_skipEntry, hsk]

theorem replayEntries_count (vis : Nat → Bool) : ∀ (xs : List (Int × Entry)) (st : RState),
    (replayEntries vis st xs).count + (msgsOf st.out).length = st.count + (msgsOf (replayEntries vis st xs).out).length := by
  refine replayEntries_ind vis
    (motive := fun st xs r => r.count + (msgsOf st.out).length = st.count + (msgsOf r.out).length) ?_ ?_ ?_
  · intro st
    rfl
  · intro st x xs r _ ih
    exact ih
  · intro st st1 x xs r _ _ h2 h3 ih
    rw [h2, h3] at ih
    simp only [List.length_append, List.length_singleton] at ih
    omega

theorem replayEntries_peer_le (b : Int) (xs : List (Int × Entry)) (st : RState) :
    st.peer ≤ b → (∀ x ∈ xs, x.2.ts ≤ b) → (replayEntries vis st xs).peer ≤ b := by
  refine replayEntries_ind vis (motive := fun st xs r => st.peer ≤ b → (∀ x ∈ xs, x.2.ts ≤ b) → r.peer ≤ b) ?_ ?_ ?_ xs st
  · intro st h _
    exact h
  · intro st x xs r _ ih h hx
    exact ih h (fun y hy => hx y (List.mem_cons_of_mem _ hy))
  · intro st st1 x xs r _ h1 _ _ ih _ hx
    exact ih (h1 ▸ hx x List.mem_cons_self) (fun y hy => hx y (List.mem_cons_of_mem _ hy))

theorem replayEntries_append (st : RState) (xs ys : List (Int × Entry)) :
    replayEntries vis st (xs ++ ys) = replayEntries vis (replayEntries vis st xs) ys :=
  List.foldl_append

end

theorem insertByName_perm (f : LFile) : ∀ (l : List LFile), (insertByName f l).Perm (f :: l)
  | [] => .refl _
  | g :: r => by
    rw [insertByName]
    split
    · exact .refl _
    · exact ((insertByName_perm f r).cons g).trans (.swap f g r)

theorem sortByName_perm : ∀ (l : List LFile), (sortByName l).Perm l
  | [] => .refl _
  | f :: r => (insertByName_perm f _).trans ((sortByName_perm r).cons f)

theorem sortByName_of_sorted : ∀ (l : List LFile), l.Pairwise (fun a b => a.name < b.name) → sortByName l = l
  | [], _ => rfl
  | [_], _ => rfl
  | f :: g :: r, h => by
    have h' := List.pairwise_cons.mp h
    rw [sortByName, sortByName_of_sorted (g :: r) h'.2, insertByName, if_pos (Int.le_of_lt (h'.1 g List.mem_cons_self))]

theorem rotName_of_set (now : Int) (s : Sender) (h : s.lastTs ≠ 0) : rotName now s = s.lastTs / usec + 1 := by
  simp [rotName, h]

theorem rot_accepted (now : Int) (s : Sender) {b : Bytes} (hany : s.files.any (fun f => f.name == rotName now s) = false)
    (hcur : s.current = some b) : rot now s = ⟨s.files ++ [⟨rotName now s, b⟩], some [], true, 0, now⟩ := by
  have h1 : rotName now (closeLog s) = rotName now s := rfl
  have h2 : (closeLog s).files = s.files := rfl
  rw [rot, rotate, h1, h2, hany]
  simp [hcur, openLog, closeLog]

theorem rot_refused (now : Int) (s : Sender) (hany : s.files.any (fun f => f.name == rotName now s) = true) :
    rot now s = openLog now (closeLog s) := by
  have h1 : rotName now (closeLog s) = rotName now s := rfl
  have h2 : (closeLog s).files = s.files := rfl
  rw [rot, rotate, h1, h2, hany, if_pos rfl]

theorem persist_open (limit : Nat) (ts : Int) (payload : Bytes) (now : Int) (s : Sender) {b : Bytes} (ho : s.isOpen = true)
    (hc : s.current = some b) :
    persist limit ts payload now s =
      if s.count + 1 > limit then rot now { s with current := some (b ++ nsEncode payload), count := s.count + 1, lastTs := ts }
      else { s with current := some (b ++ nsEncode payload), count := s.count + 1, lastTs := ts } := by
  simp only [persist, ho, hc, rot, Bool.not_true, Bool.false_eq_true, if_false]

section
variable (dec : Bytes → Option Entry) (vis : Nat → Bool)

/-- All records on disk in replay order, without the `name ≥ peer_ts` selection. -/
def fullView (dec : Bytes → Option Entry) (now : Int) (s : Sender) : List (Int × Entry) :=
  (sortByName s.files).flatMap (fun f => (entriesOf dec f.bytes).map (fun e => (f.name, e)))
    ++ (entriesOf dec (match s.current with | some b => b | none => [])).map (fun e => ((now + usec) / usec, e))

theorem view_sublist (now peer : Int) (s : Sender) :
    (view dec now peer s).Sublist (fullView dec now s) := by
  simp only [view, fullView]
  exact List.Sublist.append (sublist_flatMap _ List.filter_sublist) (List.Sublist.refl _)

theorem view_antitone (now p p' : Int) (s : Sender) (h : p ≤ p') (x : Int × Entry)
    (hx : x ∈ view dec now p' s) : x ∈ view dec now p s := by
  simp only [view, List.mem_append, List.mem_flatMap, List.mem_filter, decide_eq_true_eq] at hx ⊢
  rcases hx with ⟨f, ⟨hf, hge⟩, hm⟩ | hx
  · left; exact ⟨f, ⟨hf, by omega⟩, hm⟩
  · right; exact hx

theorem second_pass_empty (now : Int) (s : Sender) (p lp lp' : Int) :
    replayPass dec vis now s (replayPass dec vis now s p lp).peer lp' = ⟨(replayPass dec vis now s p lp).peer, lp', [], 0⟩ := by
  have h := replayEntries_peer vis (view dec now p s) ⟨p, lp, [], 0⟩
  apply replayEntries_all_skipped
  intro x hx
  exact h.2 x (view_antitone dec now p _ s h.1 x hx)

end

theorem replay_congr (dec : Bytes → Option Entry) (vis : Nat → Bool) (limit : Nat) (now dur p : Int) (s₁ s₂ : Sender)
    (hf : s₁.files = s₂.files) (hc : (openLog now s₁).current = (openLog now s₂).current) :
    replay dec vis limit now dur p s₁ = replay dec vis limit now dur p s₂ := by
  have : replayPass dec vis now (openLog now s₁) = replayPass dec vis now (openLog now s₂) := by
    funext q lp
    simp only [replayPass, view, hc, show (openLog now s₁).files = (openLog now s₂).files from hf]
  simp only [replay, this]

theorem not_needsFile (now name : Int) (p : Peer) (hr : p.related = true) (h : needsFile now name p = false) :
    (0 ≤ p.dur ∧ name * usec < now - p.dur) ∨ name * usec ≤ p.lpos := by
  simp only [needsFile, hr, Bool.true_and, Bool.and_eq_false_iff, Bool.not_eq_false', Bool.and_eq_true,
    decide_eq_true_eq, decide_eq_false_iff_not] at h
  rcases h with h | h
  · exact Or.inl ⟨by omega, h.2⟩
  · exact Or.inr (by omega)

/-- The clean-up test at a record of a well-named file (`hts`, `WF.named`): expired for the endpoint, or strictly below its
    confirmed position. -/
theorem not_needsFile_record (now name : Int) (p : Peer) (hr : p.related = true) (h : needsFile now name p = false)
    (ts : Int) (hts : ts < name * usec) : (0 ≤ p.dur ∧ ts < now - p.dur) ∨ ts < p.lpos :=
  (not_needsFile now name p hr h).elim (fun ⟨h1, h2⟩ => .inl ⟨h1, Int.lt_trans hts h2⟩)
    (fun h1 => .inr (Int.lt_of_lt_of_le hts h1))

section
variable (dec : Bytes → Option Entry) (vis : Nat → Bool)

/-- Well formed for replay.  `named`: a rotated file is named after a second later than all its records (`int(lastTs)+1`). -/
structure WF (dec : Bytes → Option Entry) (now : Int) (s : Sender) : Prop where
  increasing : (fullView dec now s).Pairwise (fun a b => a.2.ts < b.2.ts)
  named : ∀ f ∈ s.files, ∀ e ∈ entriesOf dec f.bytes, e.ts < f.name * usec

theorem replay_zero (limit : Nat) (now p : Int) (s : Sender) : replay dec vis limit now 0 p s = ⟨[], p, 0, false⟩ := rfl

/-- The passes that follow the first one start where it ended and send nothing (`second_pass_empty`), so the three
    iterations `replay` allows always suffice. -/
theorem replay_first_pass (limit : Nat) (now dur p : Int) (s : Sender)
    (hd : dur ≠ 0) :
    replay dec vis limit now dur p s =
      ⟨(replayPass dec vis now (openLog now s) p p).out, (replayPass dec vis now (openLog now s) p p).peer,
        if (replayPass dec vis now (openLog now s) p p).count > limit then 3 else 2, false⟩ := by
  have hd' : (dur == 0) = false := by simp [hd]
  have h2 := second_pass_empty dec vis now (openLog now s) p p
  by_cases hc : (replayPass dec vis now (openLog now s) p p).count > limit
  · have : ¬ (0 > limit) := by omega
    simp [replay, hd', replayLoop, hc, h2, this]
  · simp [replay, hd', replayLoop, hc, h2]

theorem replay_of_wf (limit : Nat) (now dur p : Int) (s : Sender)
    (hd : dur ≠ 0) (wf : WF dec now (openLog now s)) :
    msgsOf (replay dec vis limit now dur p s).out = ((fullView dec now (openLog now s)).map (·.2)).filter (wanted vis p) ∧
    (replay dec vis limit now dur p s).fuelOut = false := by
  rw [replay_first_pass dec vis limit now dur p s hd]
  refine ⟨?_, rfl⟩
  have hsub := view_sublist dec now p (openLog now s)
  simp only [replayPass]
  rw [show msgsOf (replayEntries vis ⟨p, p, [], 0⟩ (view dec now p (openLog now s))).out = _ from
    replayEntries_sorted vis _ ⟨p, p, [], 0⟩ (List.Pairwise.sublist hsub wf.increasing)]
  simp only [msgsOf_nil, List.nil_append]
  -- the files dropped by `name ≥ peer_ts` contain nothing the filter would let through
  simp only [view, fullView, List.map_append, List.filter_append]
  congr 1
  rw [List.filter_map, List.filter_map]
  congr 1
  apply filter_flatMap_filter
  intro f hf hc x hx
  simp only [decide_eq_false_iff_not, Int.not_le] at hc
  obtain ⟨e, he, rfl⟩ := List.mem_map.mp hx
  have hn := wf.named f ((sortByName_perm _).mem_iff.mp hf) e he
  simp only [Function.comp, wanted, skipEntry_of_le vis p e (by omega), Bool.not_true]

end
