/-
  C14 — lemmas about `dumpModified` / `replayModified` (DumpModifiedAttributes and its replay): the dump
  reports the value `getPath` finds, a modification puts the new value at its path and leaves unrelated paths (`Unrel`)
  alone; hence `dump_applyAll`: each further modification of an unrelated leaf appends itself to the dump (`applyAll` is the
  replay that fails where `replayModified` stops).
-/
import IcingaProofs.C14.ModifyRestoreLemmas

namespace Icinga.C14

open Icinga.C20 (JValue)

variable {N : Type}

theorem dumpIn_of_getIn (k : Key) (ks : Path) :
    ∀ {cv x : JValue N}, getIn (k :: ks) cv = some x → dumpIn (k :: ks) cv = some x := by
  induction ks generalizing k with
  | nil =>
    intro cv x h
    obtain ⟨kvs, c, rfl, hk, hc⟩ := getIn_cons_eq_some h
    show dGet? k kvs = some x
    exact hk.trans hc
  | cons k2 ks ih =>
    intro cv x h
    obtain ⟨kvs, c, rfl, hk, hc⟩ := getIn_cons_eq_some h
    have h2 := ih k2 hc
    simp only [dumpIn, List.dropLast, walkDump, hk, List.getLast?_cons_cons] at h2 ⊢
    exact h2

theorem dumpEntry_of_getPath {fields : Dict N} {p : Path} {x : JValue N} (h : getPath fields p = some x) :
    dumpEntry fields p = some (p, x) := by
  obtain ⟨f, rest, cv, rfl, hf, hx⟩ := getPath_eq_some h
  cases rest with
  | nil => simpa [dumpEntry, hf, getIn] using hx
  | cons k ks => simp [dumpEntry, hf, dumpIn_of_getIn k ks hx]

def Unrel (p q : Path) : Prop := isPrefix p q = false ∧ isPrefix q p = false

theorem Unrel.symm {p q : Path} (h : Unrel p q) : Unrel q p := ⟨h.2, h.1⟩

theorem not_unrel_nil (r : Path) : ¬ Unrel [] r := by simp [Unrel, isPrefix]

theorem unrel_cons {k : Key} {ks r : Path} (h : Unrel (k :: ks) r) :
    ∃ k' rs, r = k' :: rs ∧ (k' = k → Unrel ks rs) := by
  cases r with
  | nil => simp [Unrel, isPrefix] at h
  | cons k' rs =>
    refine ⟨k', rs, rfl, fun e => ?_⟩
    subst e
    simpa [Unrel, isPrefix] using h

/-- One level of the frame property of `setDeep` (`getIn_setDeep`): `h` is that property for the member under `k`. -/
theorem getIn_dSet_frame {k : Key} {ks : Path} {kvs : Dict N} {c' : JValue N}
    (h : ∀ c, dGet? k kvs = some c → ∀ rs x, Unrel ks rs → getIn rs c = some x → getIn rs c' = some x)
    (r : Path) (x : JValue N) (hu : Unrel (k :: ks) r) (hx : getIn r (.obj kvs) = some x) :
    getIn r (.obj (dSet k c' kvs)) = some x := by
  obtain ⟨k', rs, rfl, hrs⟩ := unrel_cons hu
  by_cases hk : k' = k
  · subst hk
    obtain ⟨_, c, hkvs, hc, hx'⟩ := getIn_cons_eq_some hx
    cases hkvs
    simpa [getIn, dGet_dSet_self] using h c hc rs x (hrs rfl) hx'
  · simpa [getIn, dGet_dSet_ne c' kvs hk] using hx

theorem getPath_dSet_frame {f : Key} {ks : Path} {fields : Dict N} {c' : JValue N}
    (h : ∀ c, dGet? f fields = some c → ∀ rs x, Unrel ks rs → getIn rs c = some x → getIn rs c' = some x)
    (r : Path) (x : JValue N) (hu : Unrel (f :: ks) r) (hx : getPath fields r = some x) :
    getPath (dSet f c' fields) r = some x := by
  obtain ⟨g, rs, rfl, _⟩ := unrel_cons hu
  rw [getPath_cons] at hx ⊢
  exact getIn_dSet_frame h (g :: rs) x hu hx

/-- Holds of every successful `setDeep`, also one that creates missing dictionaries or overwrites a dictionary. -/
theorem getIn_setDeep (k : Key) (ks : Path) :
    ∀ {pre : Path} {cur v cur' : JValue N} {orig orig' : Orig N}, setDeep pre (k :: ks) cur v orig = .ok (cur', orig') →
      getIn (k :: ks) cur' = some v ∧
        ∀ (r : Path) (x : JValue N), Unrel (k :: ks) r → getIn r cur = some x → getIn r cur' = some x := by
  induction ks generalizing k with
  | nil =>
    intro pre cur v cur' orig orig' hset
    cases cur with
    | obj kvs =>
      simp [setDeep] at hset
      rw [← hset.1]
      exact ⟨by simp [getIn, dGet_dSet_self], getIn_dSet_frame fun _ _ rs _ hu => (not_unrel_nil rs hu).elim⟩
    | _ => simp [setDeep] at hset
  | cons k2 ks ih =>
    intro pre cur v cur' orig orig' hset
    cases cur with
    | obj kvs =>
      simp only [setDeep] at hset
      split at hset
      · cases hset
      · rename_i c' o' hrec
        simp at hset
        rw [← hset.1]
        obtain ⟨hv, hframe⟩ := ih k2 hrec
        exact ⟨by simp [getIn, dGet_dSet_self, hv], getIn_dSet_frame fun c hc => by simpa only [hc] using hframe⟩
    | _ => simp [setDeep] at hset

/-- The characterisation to build on for the new value and the frame; the closed form `modify_leaf` adds, on an existing
    leaf, what is recorded. -/
theorem getPath_modify {o o1 : Obj N} {p : Path} {v : JValue N} (h : modify o p v = .ok o1) :
    getPath o1.fields p = some v ∧
      ∀ (r : Path) (x : JValue N), Unrel p r → getPath o.fields r = some x → getPath o1.fields r = some x := by
  cases p with
  | nil => simp [modify] at h
  | cons f rest =>
    simp only [modify] at h
    cases hf : dGet? f o.fields with
    | none => simp [hf] at h
    | some old =>
      simp only [hf] at h
      cases rest with
      | nil =>
        simp at h
        subst h
        exact ⟨by simp [getPath, dGet_dSet_self, getIn],
          getPath_dSet_frame fun _ _ rs _ hu => (not_unrel_nil rs hu).elim⟩
      | cons k ks =>
        simp only at h
        split at h
        · cases h
        · rename_i nv orig' hset
          simp at h
          subst h
          obtain ⟨hv, hframe⟩ := getIn_setDeep k ks hset
          refine ⟨by simp [getPath, dGet_dSet_self, hv], getPath_dSet_frame fun c hc rs x hu hx => ?_⟩
          -- `root` is `old` unless `old` is Empty; a path leads below `old`, so it is a dictionary and `root = old` (by computation)
          obtain rfl : old = c := Option.some.inj (hf.symm.trans hc)
          obtain ⟨k', rs', rfl, _⟩ := unrel_cons hu
          obtain ⟨kvs, _, rfl, _, _⟩ := getIn_cons_eq_some hx
          exact hframe _ x hu hx

-- `replayModified` that fails where the replay would stop at the first exception: `some` means every modification was made.
def applyAll : Obj N → List (Path × JValue N) → Option (Obj N)
  | o, [] => some o
  | o, (p, v) :: r =>
    match modify o p v with
    | .ok o' => applyAll o' r
    | .error _ => none

theorem replay_of_applyAll : ∀ (ms : List (Path × JValue N)) (o o' : Obj N),
    applyAll o ms = some o' → replayModified o ms = o' := by
  intro ms
  induction ms with
  | nil => intro o o' h; simpa [applyAll, replayModified] using h
  | cons e r ih =>
    intro o o' h
    obtain ⟨p, v⟩ := e
    simp only [applyAll] at h
    cases hm : modify o p v with
    | error e => simp [hm] at h
    | ok o1 =>
      simp only [hm] at h
      simp [replayModified, hm, ih o1 o' h]

theorem filterMap_congr {α β : Type} {f g : α → Option β} {l : List α} (h : ∀ x ∈ l, f x = g x) :
    l.filterMap f = l.filterMap g := by
  induction l with
  | nil => rfl
  | cons a l ih =>
    rw [List.filterMap_cons, List.filterMap_cons, h a (by simp), ih fun x hx => h x (by simp [hx])]

/-- The invariant behind `modifications_survive_restart`: while every recorded path exists, each further modification
    of an existing leaf unrelated to all of them, and not before them in key order, appends itself to the dump. -/
theorem dump_applyAll : ∀ (ms : List (Path × JValue N)) (s : Obj N),
    (∀ d ∈ origOf s, ∃ x, getPath s.fields d.1 = some x) →
    (∀ e ∈ ms, ∃ old, getPath s.fields e.1 = some old ∧ (e.1.length = 1 ∨ isDict old = false)) →
    (∀ e ∈ ms, ∀ d ∈ origOf s, Unrel e.1 d.1 ∧ keyLt (joinPath e.1) (joinPath d.1) = false) →
    ms.Pairwise (fun a b => Unrel a.1 b.1 ∧ keyLt (joinPath b.1) (joinPath a.1) = false) →
    ∃ s', applyAll s ms = some s' ∧ dumpModified s' = dumpModified s ++ ms := by
  intro ms
  induction ms with
  | nil => intro s _ _ _ _; exact ⟨s, rfl, by simp⟩
  | cons m ms ih =>
    intro s hrec hex hside hpw
    obtain ⟨q, w⟩ := m
    obtain ⟨old, hq, hleaf⟩ := hex (q, w) (by simp)
    have hsideq := hside (q, w) (by simp)
    -- `q` is not even a prefix of a recorded path, so it is not recorded
    have hnot : oHas q (origOf s) = false := oHas_eq_false_of_not_usedUp fun d hd => usedUp_of_not_isPrefix (hsideq d hd).1.1
    have hmod0 := modify_leaf s q w old hq hleaf
    -- the closed form says what is recorded; the new value and the frame come from `getPath_modify`, which asks no more of `nf`
    generalize putPath s.fields q (some w) = nf at hmod0
    have hmod : modify s q w = .ok { fields := nf, original := some (origOf s ++ [(q, old)]) } := by
      rw [hmod0, oAdd_of_not_has hnot, oInsert_eq_append_of_not_lt old fun d hd => (hsideq d hd).2]
    obtain ⟨hw, hframe⟩ := getPath_modify hmod
    obtain ⟨hhead, htail⟩ := List.pairwise_cons.1 hpw
    have hkeep : ∀ d ∈ origOf s, ∃ x, getPath s.fields d.1 = some x ∧ getPath nf d.1 = some x := fun d hd =>
      let ⟨x, hx⟩ := hrec d hd
      ⟨x, hx, hframe d.1 x (hsideq d hd).1 hx⟩
    obtain ⟨s', happly, hdump⟩ := ih { fields := nf, original := some (origOf s ++ [(q, old)]) }
      (by
        -- the recorded paths still exist
        intro d hd
        rcases List.mem_append.1 hd with hd | hd
        · -- an old entry
          exact let ⟨x, _, hx⟩ := hkeep d hd; ⟨x, hx⟩
        · -- the entry just recorded
          exact ⟨w, by simpa [List.mem_singleton.1 hd] using hw⟩)
      -- the remaining modifications still hit leaves
      (fun e he => let ⟨old', hold', hl'⟩ := hex e (by simp [he]); ⟨old', hframe e.1 old' (hhead e he).1 hold', hl'⟩)
      (by
        -- and are unrelated to the grown record, and not before it
        intro e he d hd
        rcases List.mem_append.1 hd with hd | hd
        · -- an old entry
          exact hside e (by simp [he]) d hd
        · -- the entry just recorded
          rw [List.mem_singleton.1 hd]
          exact ⟨(hhead e he).1.symm, (hhead e he).2⟩)
      htail
    have hsame : (origOf s).filterMap (fun e => dumpEntry nf e.1) = dumpModified s :=
      filterMap_congr fun d hd => by
        obtain ⟨x, hx, hx'⟩ := hkeep d hd
        rw [dumpEntry_of_getPath hx, dumpEntry_of_getPath hx']
    have hstep : dumpModified { fields := nf, original := some (origOf s ++ [(q, old)]) } = dumpModified s ++ [(q, w)] := by
      show List.filterMap (fun e => dumpEntry nf e.1) (origOf s ++ [(q, old)]) = _
      rw [List.filterMap_append, hsame]
      simp [dumpEntry_of_getPath hw]
    exact ⟨s', by simp [applyAll, hmod, happly], by rw [hdump, hstep]; simp⟩

end Icinga.C14
