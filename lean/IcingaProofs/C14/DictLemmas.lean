/-
  C14 — the dictionary (`std::map<String, Value>`) as a key-sorted association list: `dHas` through `dGet?`; what `dGet?`
  finds after `dSet` and its two halves `dReplace` / `dInsert`; that setting the old value back undoes a `dSet`; `dHas` and
  `dReplace` over `++`.
-/
import IcingaModel.C14.Model

namespace Icinga.C14

open Icinga.C20 (JValue)

variable {N : Type}

theorem dHas_eq_isSome (k : Key) (d : Dict N) : dHas k d = (dGet? k d).isSome := by
  induction d with
  | nil => rfl
  | cons e r ih =>
    obtain ⟨k', v'⟩ := e
    by_cases hk : k = k' <;> simp [dHas, dGet?, hk, ih]

theorem dHas_of_dGet {k : Key} {d : Dict N} {v : JValue N} (h : dGet? k d = some v) : dHas k d = true := by
  simp [dHas_eq_isSome, h]

theorem dGet_of_dHas {k : Key} {d : Dict N} (h : dHas k d = true) : ∃ v, dGet? k d = some v :=
  Option.isSome_iff_exists.1 (dHas_eq_isSome k d ▸ h)

theorem dHas_eq_false {k : Key} {d : Dict N} : dHas k d = false ↔ ∀ e ∈ d, e.1 ≠ k := by
  induction d with
  | nil => simp [dHas]
  | cons e r ih =>
    obtain ⟨k', v'⟩ := e
    simp only [dHas, Bool.or_eq_false_iff, decide_eq_false_iff_not, List.forall_mem_cons, ih, ne_eq, @eq_comm _ k]

theorem dHas_append (k : Key) (a b : Dict N) : dHas k (a ++ b) = (dHas k a || dHas k b) := by
  induction a with
  | nil => simp [dHas]
  | cons e r ih =>
    obtain ⟨k', v'⟩ := e
    simp [dHas, ih, Bool.or_assoc]

theorem dGet_dReplace_self {k : Key} {d : Dict N} (v : JValue N) (h : dHas k d = true) :
    dGet? k (dReplace k v d) = some v := by
  induction d with
  | nil => simp [dHas] at h
  | cons e r ih =>
    obtain ⟨k', v'⟩ := e
    by_cases hk : k = k'
    · simp [dReplace, dGet?, hk]
    · simp [dHas, hk] at h
      simp [dReplace, dGet?, hk, ih h]

theorem dGet_dInsert_self {k : Key} {d : Dict N} (v : JValue N) (h : dHas k d = false) :
    dGet? k (dInsert k v d) = some v := by
  induction d with
  | nil => simp [dInsert, dGet?]
  | cons e r ih =>
    obtain ⟨k', v'⟩ := e
    simp [dHas] at h
    unfold dInsert
    split
    · simp [dGet?]
    · simp [dGet?, h.1, ih h.2]

theorem dGet_dSet_self (k : Key) (v : JValue N) (d : Dict N) : dGet? k (dSet k v d) = some v := by
  unfold dSet
  by_cases h : dHas k d = true
  · simp [h, dGet_dReplace_self v h]
  · simp at h
    simp [h, dGet_dInsert_self v h]

theorem dGet_dReplace_ne {k k' : Key} (v : JValue N) (d : Dict N) (h : k' ≠ k) :
    dGet? k' (dReplace k v d) = dGet? k' d := by
  induction d with
  | nil => rfl
  | cons e r ih =>
    obtain ⟨a, w⟩ := e
    by_cases ha : k = a
    · subst ha
      simp [dReplace, dGet?, h]
    · by_cases hb : k' = a
      · simp [dReplace, dGet?, ha, hb]
      · simp [dReplace, dGet?, ha, hb, ih]

theorem dGet_dInsert_ne {k k' : Key} (v : JValue N) (d : Dict N) (h : k' ≠ k) :
    dGet? k' (dInsert k v d) = dGet? k' d := by
  induction d with
  | nil => simp [dInsert, dGet?, h]
  | cons e r ih =>
    obtain ⟨a, w⟩ := e
    unfold dInsert
    split
    · simp [dGet?, h]
    · by_cases hb : k' = a
      · simp [dGet?, hb]
      · simp [dGet?, hb, ih]

theorem dGet_dSet_ne {k k' : Key} (v : JValue N) (d : Dict N) (h : k' ≠ k) :
    dGet? k' (dSet k v d) = dGet? k' d := by
  unfold dSet
  split
  · exact dGet_dReplace_ne v d h
  · exact dGet_dInsert_ne v d h

theorem dHas_dReplace {k : Key} {d : Dict N} (v : JValue N) : dHas k (dReplace k v d) = dHas k d := by
  induction d with
  | nil => simp [dReplace]
  | cons e r ih =>
    obtain ⟨k', v'⟩ := e
    by_cases hk : k = k'
    · simp [dReplace, dHas, hk]
    · simp [dReplace, dHas, hk, ih]

theorem dReplace_cancel {k : Key} {d : Dict N} {old : JValue N} (v : JValue N) (h : dGet? k d = some old) :
    dReplace k old (dReplace k v d) = d := by
  induction d with
  | nil => simp [dGet?] at h
  | cons e r ih =>
    obtain ⟨k', v'⟩ := e
    by_cases hk : k = k'
    · simp [dGet?, hk] at h
      simp [dReplace, hk, h]
    · simp [dGet?, hk] at h
      simp [dReplace, hk, ih h]

theorem dSet_cancel {k : Key} {d : Dict N} {old : JValue N} (v : JValue N) (h : dGet? k d = some old) :
    dSet k old (dSet k v d) = d := by
  have h1 := dHas_of_dGet h
  simp [dSet, h1, dHas_dReplace, dReplace_cancel v h]

theorem dReplace_append_of_not_has (k : Key) (v : JValue N) (a b : Dict N) (h : dHas k a = false) :
    dReplace k v (a ++ b) = a ++ dReplace k v b := by
  induction a with
  | nil => rfl
  | cons e r ih =>
    obtain ⟨k', v'⟩ := e
    simp [dHas] at h
    simp [dReplace, h.1, ih h.2]

end Icinga.C14
