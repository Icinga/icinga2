/-
  C14 — lemmas for the atomic-replacement model: the temp-file phase leaves every other name, in every directory a crash
  may find, and every other inode as they were (`Untouched`), so any other file still reads old.
-/
import IcingaModel.C14.AtomicFile

namespace Icinga.C14

open Icinga.C20 (Bytes)

theorem dirLookup_dirRemove_ne {d : Dir} {n m : FName} (h : m ≠ n) : dirLookup (dirRemove d n) m = dirLookup d m := by
  induction d with
  | nil => rfl
  | cons e r ih =>
    obtain ⟨a, i⟩ := e
    unfold dirRemove at ih ⊢
    by_cases ha : a = n
    · subst ha
      simp [dirLookup, h, ih]
    · by_cases hm : m = a
      · simp [dirLookup, ha, hm]
      · simp [dirLookup, ha, hm, ih]

theorem dirLookup_rename_ne (s : FS) {src dst n : FName} (hs : n ≠ src) (hd : n ≠ dst) :
    dirLookup (step s (.rename src dst)).dir n = dirLookup s.dir n := by
  simp only [step]
  cases dirLookup s.dir src with
  | none => rfl
  | some i => simp [dirLookup, hd, dirLookup_dirRemove_ne hd, dirLookup_dirRemove_ne hs]

theorem dataLookup_dataAppend_ne {d : List (Ino × Bytes)} {i j : Ino} (bs : Bytes) (h : j ≠ i) :
    dataLookup (dataAppend d i bs) j = dataLookup d j := by
  induction d with
  | nil => rfl
  | cons e r ih =>
    obtain ⟨a, b⟩ := e
    by_cases ha : i = a
    · subst ha
      simp [dataAppend, dataLookup, h]
    · by_cases hj : j = a
      · simp [dataAppend, dataLookup, ha, hj]
      · simp [dataAppend, dataLookup, ha, hj, ih]

theorem dataLookup_dataAppend_self {d : List (Ino × Bytes)} {i : Ino} {w : Bytes} (bs : Bytes)
    (h : dataLookup d i = some w) : dataLookup (dataAppend d i bs) i = some (w ++ bs) := by
  induction d with
  | nil => simp [dataLookup] at h
  | cons e r ih =>
    obtain ⟨a, b⟩ := e
    by_cases ha : i = a
    · subst ha
      simp [dataLookup] at h
      simp [dataAppend, dataLookup, h]
    · simp [dataLookup, ha] at h
      simp [dataAppend, dataLookup, ha, ih h]

theorem run_cons (op : Sys) (ops : List Sys) (s : FS) : run (op :: ops) s = run ops (step s op) := rfl

theorem run_append (a b : List Sys) (s : FS) : run (a ++ b) s = run b (run a s) := by
  simp [run, List.foldl_append]

/-- The directories `CrashView` lets a crash find. -/
def dirs (s : FS) : List Dir := s.dir :: s.past

theorem mem_dirs {d : Dir} {s : FS} : d ∈ dirs s ↔ d = s.dir ∨ d ∈ s.past := List.mem_cons

theorem dirs_step (s : FS) (op : Sys) :
    dirs (step s op) = dirs s ∨ dirs (step s op) = (step s op).dir :: dirs s := by
  cases op with
  | rename src dst =>
    cases h : dirLookup s.dir src with
    | none => exact Or.inl (by simp [step, h])
    | some i => exact Or.inr (by simp [step, h, dirs])
  | mkstemp t i => exact Or.inr rfl
  | unlink n => exact Or.inr rfl
  | _ => exact Or.inl rfl

theorem forall_dirs_step {P : Dir → Prop} {s : FS} (op : Sys) (h : ∀ d ∈ dirs s, P d) (hnew : P (step s op).dir) :
    ∀ d ∈ dirs (step s op), P d := by
  rcases dirs_step s op with e | e <;> rw [e]
  · exact h
  · exact List.forall_mem_cons.2 ⟨hnew, h⟩

def TmpOnly (tmp : FName) (ino : Ino) : Sys → Prop
  | .mkstemp t i => t = tmp ∧ i = ino
  | .chmod t _ => t = tmp
  | .write i _ => i = ino
  | .fsync i => i = ino
  | .close i => i = ino
  | .rename _ _ => False
  | .unlink _ => False

theorem tmpOnly_dirLookup_ne {tmp n : FName} {ino : Ino} {op : Sys} (s : FS) (hop : TmpOnly tmp ino op) (hn : n ≠ tmp) :
    dirLookup (step s op).dir n = dirLookup s.dir n := by
  cases op with
  | mkstemp t i =>
    obtain ⟨rfl, rfl⟩ := hop
    simp [step, dirLookup, hn, dirLookup_dirRemove_ne hn]
  | rename a b => exact hop.elim
  | unlink a => exact hop.elim
  | _ => rfl

theorem tmpOnly_other_inode {tmp : FName} {ino j : Ino} {op : Sys} (s : FS) (hop : TmpOnly tmp ino op) (hj : j ≠ ino) :
    (j ∈ (step s op).dirty → j ∈ s.dirty) ∧ dataLookup (step s op).data j = dataLookup s.data j := by
  cases op with
  | mkstemp t i =>
    obtain ⟨rfl, rfl⟩ := hop
    simp [step, dataLookup, hj]
  | write i bs =>
    obtain rfl : i = ino := hop
    simp [step, hj, dataLookup_dataAppend_ne bs hj]
  | fsync i => exact ⟨fun h => (List.mem_filter.1 h).1, rfl⟩
  | chmod t m => exact ⟨id, rfl⟩
  | close i => exact ⟨id, rfl⟩
  | rename a b => exact hop.elim
  | unlink a => exact hop.elim

/-- What the temp-file phase leaves alone, in every directory a crash may find. -/
structure Untouched (s0 s : FS) (tmp : FName) (ino : Ino) : Prop where
  names : ∀ d ∈ dirs s, ∀ n, n ≠ tmp → dirLookup d n = dirLookup s0.dir n
  noDirtier : ∀ j, j ≠ ino → j ∈ s.dirty → j ∈ s0.dirty
  data : ∀ j, j ≠ ino → dataLookup s.data j = dataLookup s0.data j

theorem untouched_run {s0 : FS} {tmp : FName} {ino : Ino} (hq : s0.past = []) (ops : List Sys)
    (h : ∀ op ∈ ops, TmpOnly tmp ino op) : Untouched s0 (run ops s0) tmp ino := by
  refine List.foldlRecOn (motive := fun s => Untouched s0 s tmp ino) ops step ?_ fun s hinv op hmem => ?_
  · refine ⟨fun d hd n _ => ?_, fun _ _ => id, fun _ _ => rfl⟩
    rw [dirs, hq, List.mem_singleton] at hd
    rw [hd]
  · have hop := h op hmem
    refine ⟨forall_dirs_step op hinv.names fun n hn => ?_, fun j hj h => ?_, fun j hj => ?_⟩
    · rw [tmpOnly_dirLookup_ne s hop hn]
      exact hinv.names s.dir (List.mem_cons_self ..) n hn
    · exact hinv.noDirtier j hj ((tmpOnly_other_inode s hop hj).1 h)
    · exact (tmpOnly_other_inode s hop hj).2.trans (hinv.data j hj)

/-- Stated with `run [_]`: the form `run_append` leaves. -/
theorem untouched_rename {s0 s : FS} {path tmp : FName} {ino : Ino} (h : Untouched s0 s tmp ino) :
    ∀ d ∈ dirs (run [.rename tmp path] s), ∀ n, n ≠ tmp → n ≠ path → dirLookup d n = dirLookup s0.dir n :=
  forall_dirs_step (.rename tmp path) (fun d hd n hnt _ => h.names d hd n hnt) fun n hnt hnp =>
    (dirLookup_rename_ne s hnt hnp).trans (h.names s.dir (List.mem_cons_self ..) n hnt)

theorem crash_reads_old {s0 s : FS} {path tmp : FName} {ino : Ino} (hinv : Untouched s0 s tmp ino) (hclean : s0.dirty = [])
    (htmp : tmp ≠ path) (hino : ∀ i, dirLookup s0.dir path = some i → i ≠ ino) {d : Dir} {content : Ino → Option Bytes}
    (hcv : CrashView s d content) : readFile d content path = readNow s0 path := by
  obtain ⟨hdir, hc⟩ := hcv
  unfold readFile readNow readFile
  rw [hinv.names d (mem_dirs.2 hdir) path (Ne.symm htmp)]
  cases h : dirLookup s0.dir path with
  | none => rfl
  | some i =>
    -- the inode behind `path` is unchanged and, clean at the start, still clean: no crash view may put other bytes in its place
    simp [hc i fun hm => by simpa [hclean] using hinv.noDirtier i (hino i h) hm, hinv.data i (hino i h)]

def tmpPhase (tmp : FName) (ino : Ino) (mode : Nat) (chunks : List Bytes) : List Sys :=
  [Sys.mkstemp tmp ino, Sys.chmod tmp mode] ++ chunks.map (Sys.write ino) ++ [Sys.fsync ino, Sys.close ino]

theorem atomicWrite_eq (path tmp : FName) (ino : Ino) (mode : Nat) (chunks : List Bytes) :
    atomicWrite path tmp ino mode chunks = tmpPhase tmp ino mode chunks ++ [Sys.rename tmp path] := by
  simp [atomicWrite, tmpPhase]

theorem tmpPhase_tmpOnly (tmp : FName) (ino : Ino) (mode : Nat) (chunks : List Bytes) :
    ∀ op ∈ tmpPhase tmp ino mode chunks, TmpOnly tmp ino op := by
  intro op hop
  simp [tmpPhase] at hop
  rcases hop with rfl | rfl | ⟨c, _, rfl⟩ | rfl | rfl <;> simp [TmpOnly]

theorem run_writes (ino : Ino) : ∀ (chunks : List Bytes) (s : FS) (w : Bytes), dataLookup s.data ino = some w →
    (run (chunks.map (Sys.write ino)) s).dir = s.dir ∧
    dataLookup (run (chunks.map (Sys.write ino)) s).data ino = some (w ++ chunks.flatten) := by
  intro chunks
  induction chunks with
  | nil => intro s w h; simp [run, h]
  | cons c cs ih =>
    intro s w h
    simp only [List.map_cons, run_cons]
    have h1 : dataLookup (step s (Sys.write ino c)).data ino = some (w ++ c) := by
      simp [step, dataLookup_dataAppend_self c h]
    obtain ⟨hd, hdat⟩ := ih (step s (Sys.write ino c)) (w ++ c) h1
    refine ⟨by rw [hd]; simp [step], ?_⟩
    rw [hdat]
    simp

/-- The hypothesis `hstate` of `crash_old_or_new_conforming`, for `AtomicFile`'s own calls. -/
theorem tmpPhase_state (s0 : FS) (tmp : FName) (ino : Ino) (mode : Nat) (chunks : List Bytes) :
    let s1 := run (tmpPhase tmp ino mode chunks) s0
    dirLookup s1.dir tmp = some ino ∧ dataLookup s1.data ino = some chunks.flatten ∧ ino ∉ s1.dirty := by
  simp only [tmpPhase, run_append]
  have hA : dataLookup (run [Sys.mkstemp tmp ino, Sys.chmod tmp mode] s0).data ino = some [] := by
    simp [run, step, dataLookup]
  have hAd : dirLookup (run [Sys.mkstemp tmp ino, Sys.chmod tmp mode] s0).dir tmp = some ino := by
    simp [run, step, dirLookup]
  obtain ⟨hd, hdat⟩ := run_writes ino chunks _ [] hA
  -- `fsync` and `close` touch neither `dir` nor `data`: once they are unfolded the goals are `hAd` and `hdat` behind `run_writes`
  refine ⟨?_, ?_, ?_⟩
  · simp only [run, List.foldl_cons, List.foldl_nil, step] at hd hAd ⊢
    rw [hd]; exact hAd
  · simp only [run, List.foldl_cons, List.foldl_nil, step] at hdat ⊢
    simpa using hdat
  · simp [run, step]

theorem readNow_atomicWrite (s0 : FS) (path tmp : FName) (ino : Ino) (mode : Nat) (chunks : List Bytes) :
    readNow (run (atomicWrite path tmp ino mode chunks) s0) path = some chunks.flatten := by
  obtain ⟨htd, hdat, _⟩ := tmpPhase_state s0 tmp ino mode chunks
  rw [atomicWrite_eq, run_append]
  simp only [run, List.foldl_cons, List.foldl_nil] at htd hdat ⊢
  generalize List.foldl step s0 (tmpPhase tmp ino mode chunks) = s1 at htd hdat
  simp [step, htd, readNow, readFile, dirLookup, hdat]

theorem protocolWord_of_phases (pre after : List SysEv)
    (hpre : pre.all (fun e => !e.onTarget && (e.kind == .chmod || e.kind == .write || e.kind == .fsync || e.kind == .close)) = true)
    (hsync : syncedAtEnd pre = true)
    (hafter : after.all (fun e => !e.onTarget && (e.kind == .fsync || e.kind == .close)) = true) :
    protocolWord (⟨.mkstemp, false⟩ :: pre ++ ⟨.rename, true⟩ :: after) = true := by
  have hnr : ∀ e ∈ pre, (!(e.kind == SysKind.rename)) = true := by
    intro e he
    have h := List.all_eq_true.1 hpre e he
    cases hk : e.kind == SysKind.rename with
    | false => rfl
    | true =>
      rw [beq_iff_eq.1 hk] at h
      simp at h
  simp [protocolWord, List.takeWhile_append_of_pos hnr, List.dropWhile_append_of_pos hnr, hpre, hsync, hafter]

end Icinga.C14
