/-
  C14 — `modify` / `restore` (ModifyAttribute, RestoreAttribute) on an existing leaf, in closed form: `modify` writes what
  the specification's `putPath` writes and records the one entry; `restore` takes away the original entries `usedUp` names
  and, when the one entry is the only one of them, gives back fields and originals.
-/
import IcingaModel.C14.Spec
import IcingaProofs.C14.DictLemmas

namespace Icinga.C14

open Icinga.C20 (JValue)

variable {N : Type}

theorem isPrefix_refl (p : Path) : isPrefix p p = true := by
  induction p with
  | nil => rfl
  | cons a r ih => simp [isPrefix, ih]

theorem getIn_cons_eq_some {k : Key} {ks : Path} {cur x : JValue N} (h : getIn (k :: ks) cur = some x) :
    ∃ kvs c, cur = .obj kvs ∧ dGet? k kvs = some c ∧ getIn ks c = some x := by
  cases cur with
  | obj kvs =>
    cases hk : dGet? k kvs with
    | none => simp [getIn, hk] at h
    | some c => exact ⟨kvs, c, rfl, hk, by simpa [getIn, hk] using h⟩
  | _ => simp [getIn] at h

theorem getPath_cons (fields : Dict N) (f : Key) (ks : Path) : getPath fields (f :: ks) = getIn (f :: ks) (.obj fields) :=
  rfl

theorem getPath_eq_some {fields : Dict N} {p : Path} {x : JValue N} (h : getPath fields p = some x) :
    ∃ f rest cv, p = f :: rest ∧ dGet? f fields = some cv ∧ getIn rest cv = some x := by
  cases p with
  | nil => simp [getPath] at h
  | cons f rest =>
    obtain ⟨_, cv, hkvs, hf, hx⟩ := getIn_cons_eq_some (getPath_cons fields f rest ▸ h)
    cases hkvs
    exact ⟨f, rest, cv, rfl, hf, hx⟩

theorem oHas_eq_false {p : Path} {orig : Orig N} : oHas p orig = false ↔ ∀ e ∈ orig, e.1 ≠ p := by
  induction orig with
  | nil => simp [oHas]
  | cons e r ih =>
    obtain ⟨q, w⟩ := e
    simp only [oHas, Bool.or_eq_false_iff, decide_eq_false_iff_not, List.forall_mem_cons, ih, ne_eq, @eq_comm _ p]

theorem oHas_eq_isSome (p : Path) (orig : Orig N) : oHas p orig = (oGet? p orig).isSome := by
  induction orig with
  | nil => rfl
  | cons e r ih =>
    obtain ⟨q, w⟩ := e
    by_cases hq : p = q <;> simp [oHas, oGet?, hq, ih]

theorem oAdd_of_not_has {p : Path} {g : Orig N} {v : JValue N} (h : oHas p g = false) : oAdd p v g = oInsert p v g := by
  simp [oAdd, h]

theorem oGet_oInsert_self (p : Path) (v : JValue N) {orig : Orig N} (h : oHas p orig = false) :
    oGet? p (oInsert p v orig) = some v := by
  induction orig with
  | nil => simp [oInsert, oGet?]
  | cons e r ih =>
    obtain ⟨q, w⟩ := e
    simp [oHas] at h
    unfold oInsert
    split
    · simp [oGet?]
    · simp [oGet?, h.1, ih h.2]

theorem filter_oInsert_of_neg {p : Path} {v : JValue N} {q : Path × JValue N → Bool} (orig : Orig N)
    (hq : q (p, v) = false) : (oInsert p v orig).filter q = orig.filter q := by
  induction orig with
  | nil => simp [oInsert, hq]
  | cons e r ih =>
    obtain ⟨p', w⟩ := e
    unfold oInsert
    split
    · simp [List.filter_cons, hq]
    · simp [List.filter_cons, ih]

theorem filter_oInsert_of_pos {p : Path} {v : JValue N} {q : Path × JValue N → Bool} {orig : Orig N}
    (hq : q (p, v) = true) (h : ∀ e ∈ orig, q e = false) : (oInsert p v orig).filter q = [(p, v)] := by
  induction orig with
  | nil => simp [oInsert, hq]
  | cons e r ih =>
    obtain ⟨p', w⟩ := e
    have he : q (p', w) = false := h _ (by simp)
    have hr : ∀ e ∈ r, q e = false := fun e he => h e (by simp [he])
    unfold oInsert
    split
    · simpa [List.filter_cons, hq, he] using hr
    · simp [he, ih hr]

theorem oInsert_eq_append_of_not_lt {p : Path} (v : JValue N) {orig : Orig N}
    (h : ∀ e ∈ orig, keyLt (joinPath p) (joinPath e.1) = false) : oInsert p v orig = orig ++ [(p, v)] := by
  induction orig with
  | nil => rfl
  | cons e r ih =>
    obtain ⟨q, w⟩ := e
    have hq := h (q, w) (by simp)
    simp only at hq
    simp [oInsert, hq, ih (fun e he => h e (by simp [he]))]

theorem origOf_none {o : Obj N} (h : o.original = none) : origOf o = [] := by simp [origOf, h]

theorem recordOriginal_leaf {attr : Path} {oldV v : JValue N} {orig : Orig N} (h : isDict oldV = false) :
    recordOriginal attr oldV v orig = oAdd attr oldV orig := by
  cases oldV <;> simp [recordOriginal, isDict] at h ⊢

theorem putIn_cons_cons {k k2 : Key} {ks : Path} {kvs : Dict N} {c : JValue N} {ov : Option (JValue N)}
    (h : dGet? k kvs = some c) : putIn (k :: k2 :: ks) ov (.obj kvs) = .obj (dSet k (putIn (k2 :: ks) ov c) kvs) := by
  simp only [putIn, h]

theorem putPath_cons_cons {f k : Key} {ks : Path} {fields : Dict N} {c : JValue N} {ov : Option (JValue N)}
    (h : dGet? f fields = some c) : putPath fields (f :: k :: ks) ov = dSet f (putIn (k :: ks) ov c) fields := by
  simp only [putPath, h]

theorem setDeep_leaf (k : Key) (ks : Path) :
    ∀ (pre : Path) (cur old v : JValue N) (orig : Orig N), getIn (k :: ks) cur = some old → isDict old = false →
      setDeep pre (k :: ks) cur v orig = .ok (putIn (k :: ks) (some v) cur, oAdd (pre ++ k :: ks) old orig) := by
  induction ks generalizing k with
  | nil =>
    intro pre cur old v orig hget hleaf
    obtain ⟨kvs, c, rfl, hk, hc⟩ := getIn_cons_eq_some hget
    cases (Option.some.inj hc : c = old)
    simp [setDeep, putIn, hk, recordOriginal_leaf hleaf]
  | cons k2 ks ih =>
    intro pre cur old v orig hget hleaf
    obtain ⟨kvs, c, rfl, hk, hc⟩ := getIn_cons_eq_some hget
    simp [setDeep, putIn_cons_cons hk, hk, ih k2 (pre ++ [k]) c old v orig hc hleaf]

/-- `(k :: ks).drop ks.length` is the last token as a one-element path: the relative path `restore` hands down for the
    entry of the path itself (`e.1.drop (p.length - 1)`). -/
theorem restoreDeep_putIn (k : Key) (ks : Path) :
    ∀ (cur old v : JValue N), getIn (k :: ks) cur = some old →
      restoreDeep (k :: ks) (putIn (k :: ks) (some v) cur) [((k :: ks).drop ks.length, old)] = .ok cur := by
  induction ks generalizing k with
  | nil =>
    intro cur old v hget
    obtain ⟨kvs, c, rfl, hk, hc⟩ := getIn_cons_eq_some hget
    cases (Option.some.inj hc : c = old)
    simp [restoreDeep, putIn, setForce, dSet_cancel v hk]
  | cons k2 ks ih =>
    intro cur old v hget
    obtain ⟨kvs, c, rfl, hk, hc⟩ := getIn_cons_eq_some hget
    simp [restoreDeep, putIn_cons_cons hk, dGet_dSet_self, ih k2 c old v hc, dSet_cancel _ hk]

theorem isEmptyVal_putIn {k : Key} {ks : Path} {cur old : JValue N} (v : JValue N) (h : getIn (k :: ks) cur = some old) :
    isEmptyVal (putIn (k :: ks) (some v) cur) = false := by
  obtain ⟨kvs, c, rfl, hk, _⟩ := getIn_cons_eq_some h
  cases ks with
  | nil => rfl
  | cons k2 ks => rw [putIn_cons_cons hk]; rfl

/-- The original entries `RestoreAttribute(p)` uses up: for a top-level attribute its own entry
    (configobject.cpp:315), for a nested path every entry at or below it (:303-304, :315). -/
def usedUp (p : Path) (e : Path × JValue N) : Bool := if p.length = 1 then e.1 = p else isPrefix p e.1

theorem usedUp_single (f : Key) (e : Path × JValue N) : usedUp [f] e = decide (e.1 = [f]) := by simp [usedUp]

theorem usedUp_of_one_lt {p : Path} (h : 1 < p.length) (e : Path × JValue N) : usedUp p e = isPrefix p e.1 := by
  simp [usedUp, Nat.ne_of_gt h]

theorem usedUp_of_eq {p : Path} {e : Path × JValue N} (h : e.1 = p) : usedUp p e = true := by
  simp [usedUp, h, isPrefix_refl]

theorem usedUp_of_not_isPrefix {p : Path} {e : Path × JValue N} (h : isPrefix p e.1 = false) : usedUp p e = false := by
  unfold usedUp
  split
  · exact decide_eq_false fun he => by simp [he, isPrefix_refl] at h
  · exact h

theorem oHas_eq_false_of_not_usedUp {p : Path} {g : Orig N} (h : ∀ e ∈ g, usedUp p e = false) : oHas p g = false :=
  oHas_eq_false.2 fun e he heq => by simpa [usedUp_of_eq heq] using h e he

theorem oHas_single_eq_false {f : Key} {g : Orig N} : oHas [f] g = false ↔ ∀ e ∈ g, usedUp [f] e = false := by
  simp only [oHas_eq_false, usedUp_single, decide_eq_false_iff_not, ne_eq]

theorem restore_original {o o' : Obj N} {p : Path} {g : Orig N} (h : restore o p = .ok o') (hg : o.original = some g) :
    o'.original = some (g.filter fun e => !usedUp p e) := by
  cases p with
  | nil => simp [restore] at h
  | cons f rest =>
    simp only [restore, hg] at h
    split at h
    · cases h
    · cases rest with
      | nil =>
        simp only at h
        split at h
        · -- `f` is not recorded: nothing happens, and there is nothing to take away
          rename_i hnone
          obtain rfl : o = o' := Except.ok.inj h
          have hnot : oHas [f] g = false := by simp [oHas_eq_isSome, hnone]
          rw [hg, List.filter_eq_self.2 fun e he => by simp [oHas_single_eq_false.1 hnot e he]]
        · obtain rfl := Except.ok.inj h
          simp [usedUp_single]
      | cons k ks =>
        simp only at h
        split at h
        · cases h
        · split at h
          · cases h
          · obtain rfl := Except.ok.inj h
            simp [usedUp_of_one_lt]

/-- A top-level `p` needs no leaf hypothesis: the old value of a whole attribute is recorded as it is, without flattening
    (configobject.cpp:183-190). -/
theorem modify_leaf (o : Obj N) (p : Path) (v old : JValue N)
    (hex : getPath o.fields p = some old)
    (hleaf : p.length = 1 ∨ isDict old = false) :
    modify o p v = .ok { fields := putPath o.fields p (some v), original := some (oAdd p old (origOf o)) } := by
  obtain ⟨f, rest, cur, rfl, hf, hcur⟩ := getPath_eq_some hex
  cases rest with
  | nil =>
    obtain rfl : cur = old := Option.some.inj hcur
    rw [show putPath o.fields [f] (some v) = dSet f v o.fields from rfl]
    simp [modify, hf]
  | cons k ks =>
    have hleaf' : isDict old = false := by simpa using hleaf
    obtain ⟨kvs, _, rfl, _, _⟩ := getIn_cons_eq_some hcur
    rw [putPath_cons_cons hf]
    simp [modify, hf, isEmptyVal, setDeep_leaf k ks [f] (.obj kvs) old v (origOf o) hcur hleaf']

/-- Below a top-level `p` modifications may be outstanding in `g` (`whole_modify_restore_identity`), at or below a nested
    `p` none (`modify_restore_partial`). -/
theorem restore_putPath (fields : Dict N) (g : Orig N) (p : Path) (v old : JValue N)
    (hex : getPath fields p = some old)
    (hfresh : ∀ e ∈ g, usedUp p e = false) :
    restore { fields := putPath fields p (some v), original := some (oInsert p old g) } p =
      .ok { fields := fields, original := some g } := by
  have hnot := oHas_eq_false_of_not_usedUp hfresh
  obtain ⟨f, rest, cur, rfl, hf, hcur⟩ := getPath_eq_some hex
  cases rest with
  | nil =>
    obtain rfl : cur = old := Option.some.inj hcur
    have hrest : g.filter (fun e => !decide (e.1 = [f])) = g :=
      List.filter_eq_self.2 fun e he => by simpa [usedUp_single] using hfresh e he
    rw [show putPath fields [f] (some v) = dSet f v fields from rfl]
    simp [restore, dGet_dSet_self, oGet_oInsert_self [f] cur hnot, dSet_cancel v hf, filter_oInsert_of_neg, hrest]
  | cons k ks =>
    have hfresh' : ∀ e ∈ g, isPrefix (f :: k :: ks) e.1 = false :=
      fun e he => (usedUp_of_one_lt (by simp) e).symm.trans (hfresh e he)
    have hrest : g.filter (fun e => !isPrefix (f :: k :: ks) e.1) = g :=
      List.filter_eq_self.2 fun e he => by simp [hfresh' e he]
    obtain ⟨kvs, _, rfl, _, _⟩ := getIn_cons_eq_some hcur
    rw [putPath_cons_cons hf]
    simp [restore, dGet_dSet_self, isEmptyVal_putIn v hcur, isPrefix_refl, restoreDeep_putIn k ks (.obj kvs) old v hcur,
      dSet_cancel _ hf, hrest,
      filter_oInsert_of_pos (q := fun e => isPrefix (f :: k :: ks) e.1) (isPrefix_refl _) hfresh',
      filter_oInsert_of_neg (q := fun e => !isPrefix (f :: k :: ks) e.1)]

/-- The object is back, a null `original_attributes` pointer having become the empty dictionary (`origOf`). -/
theorem modify_restore (o : Obj N) (p : Path) (v old : JValue N)
    (hex : getPath o.fields p = some old)
    (hleaf : p.length = 1 ∨ isDict old = false)
    (hfresh : ∀ e ∈ origOf o, usedUp p e = false) :
    modify o p v = .ok { fields := putPath o.fields p (some v), original := some (oInsert p old (origOf o)) } ∧
      restore { fields := putPath o.fields p (some v), original := some (oInsert p old (origOf o)) } p =
        .ok { fields := o.fields, original := some (origOf o) } :=
  ⟨by simp [modify_leaf o p v old hex hleaf, oAdd_of_not_has (oHas_eq_false_of_not_usedUp hfresh)], restore_putPath o.fields (origOf o) p v old hex hfresh⟩

end Icinga.C14
