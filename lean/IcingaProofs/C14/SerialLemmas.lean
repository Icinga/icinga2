/-
  C14 — lemmas for the state-file round trip: `Serialize` and (on trees naming only registered types) `Deserialize`
  are the identity; `DeserializeObject` onto a fresh object with the same field names sets every field; the round trip
  of the getter view, where objects are tagged.
-/
import IcingaModel.C14.Serial
import IcingaModel.C14.Spec
import IcingaProofs.C14.DictLemmas
import IcingaProofs.C20

namespace Icinga.C14

open Icinga.C20 (JValue NumCodec json_roundtrip depth jsonMaxNestingDepth)

variable {N : Type}

mutual
theorem serialize_eq : (v : JValue N) → serialize v = v
  | .arr xs => congrArg JValue.arr (serializeL_eq xs)
  | .obj kvs => congrArg JValue.obj (serializeM_eq kvs)
  | .null => rfl
  | .bool _ => rfl
  | .num _ => rfl
  | .str _ => rfl
theorem serializeL_eq : (xs : List (JValue N)) → serializeL xs = xs
  | [] => rfl
  | x :: xs => show serialize x :: serializeL xs = x :: xs by rw [serialize_eq x, serializeL_eq xs]
theorem serializeM_eq : (kvs : Dict N) → serializeM kvs = kvs
  | [] => rfl
  | (k, v) :: r => show (k, serialize v) :: serializeM r = (k, v) :: r by rw [serialize_eq v, serializeM_eq r]
end

mutual
theorem deserialize_eq (known : Key → Bool) : (v : JValue N) → onlyKnownTypes known v = true → deserialize known v = v
  | .arr xs, h => congrArg JValue.arr (deserializeL_eq known xs h)
  | .obj kvs, h => by
    simp only [onlyKnownTypes, Bool.and_eq_true] at h
    obtain ⟨h1, h2⟩ := h
    have hm := deserializeM_eq known kvs h2
    unfold deserialize
    by_cases ht : dHas typeKey kvs = true
    · simp only [ht, if_true] at h1 ⊢
      split at h1
      · rename_i s hs
        simp [h1, hm]
      · cases h1
    · simp [ht, hm]
  | .null, _ => rfl
  | .bool _, _ => rfl
  | .num _, _ => rfl
  | .str _, _ => rfl
theorem deserializeL_eq (known : Key → Bool) : (xs : List (JValue N)) → onlyKnownTypesL known xs = true → deserializeL known xs = xs
  | [], _ => rfl
  | x :: xs, h =>
    have h : onlyKnownTypes known x = true ∧ onlyKnownTypesL known xs = true := Bool.and_eq_true _ _ ▸ h
    show deserialize known x :: deserializeL known xs = x :: xs by
      rw [deserialize_eq known x h.1, deserializeL_eq known xs h.2]
theorem deserializeM_eq (known : Key → Bool) : (kvs : Dict N) → onlyKnownTypesM known kvs = true → deserializeM known kvs = kvs
  | [], _ => rfl
  | (k, v) :: r, h =>
    have h : onlyKnownTypes known v = true ∧ onlyKnownTypesM known r = true := Bool.and_eq_true _ _ ▸ h
    show (k, deserialize known v) :: deserializeM known r = (k, v) :: r by
      rw [deserialize_eq known v h.1, deserializeM_eq known r h.2]
end

/-- Stated for the induction: `pre` holds the fields already set (other names), `fr` the fresh object's remaining
    ones. -/
theorem restoreFields_append (known : Key → Bool) :
    ∀ (upd fr pre : Dict N), fr.map Prod.fst = upd.map Prod.fst → (pre.map Prod.fst ++ upd.map Prod.fst).Nodup →
      (∀ e ∈ upd, e.1 ≠ []) → restoreFields known (pre ++ fr) upd = pre ++ deserializeM known upd := by
  intro upd
  induction upd with
  | nil =>
    intro fr pre hk _ _
    obtain rfl : fr = [] := List.map_eq_nil_iff.1 hk
    rfl
  | cons e upd ih =>
    intro fr pre hk hnd hne
    obtain ⟨k, v⟩ := e
    cases fr with
    | nil => cases hk
    | cons e' fr =>
      obtain ⟨k', w⟩ := e'
      obtain ⟨rfl, hkeys⟩ := List.cons.inj hk
      have hpre : dHas k' pre = false := dHas_eq_false.2 fun e he heq =>
        (List.nodup_append.1 hnd).2.2 e.1 (List.mem_map_of_mem he) k' (List.mem_cons_self ..) heq
      have hacc : fieldAccepted k' (pre ++ (k', w) :: fr) = true := by
        simp [fieldAccepted, hne (k', v) (List.mem_cons_self ..), dHas_append, dHas]
      have hrep : dReplace k' (deserialize known v) (pre ++ (k', w) :: fr) = pre ++ (k', deserialize known v) :: fr := by
        rw [dReplace_append_of_not_has _ _ _ _ hpre]
        simp [dReplace]
      have hrest : restoreFields known (pre ++ (k', deserialize known v) :: fr) upd =
          pre ++ (k', deserialize known v) :: deserializeM known upd := by
        simpa only [List.append_assoc, List.singleton_append] using
          ih fr (pre ++ [(k', deserialize known v)]) hkeys (by rw [List.map_append, List.append_assoc]; exact hnd)
            fun e he => hne e (List.mem_cons_of_mem _ he)
      -- one step of the fold by `hacc` and `hrep`, then `hrest`
      simp only [restoreFields, List.foldl_cons, hacc, if_true, hrep] at hrest ⊢
      exact hrest

theorem onlyKnownTypesM_of_forall {known : Key → Bool} :
    ∀ {d : Dict N}, (∀ e ∈ d, onlyKnownTypes known e.2 = true) → onlyKnownTypesM known d = true
  | [], _ => rfl
  | (k, v) :: r, h => by
    simp only [onlyKnownTypesM, Bool.and_eq_true]
    exact ⟨h (k, v) (by simp), onlyKnownTypesM_of_forall fun e he => h e (by simp [he])⟩

def StateOK {N : Type} (known : Key → Bool) (o : SObj N) : Prop :=
  (o.fields.map Prod.fst).Nodup ∧ ∀ e ∈ o.fields, e.1 ≠ [] ∧ e.1 ≠ typeKey ∧ onlyKnownTypes known e.2 = true

theorem restoreFields_serialized (known : Key → Bool) (o : SObj N) (fr : Dict N) (hok : StateOK known o)
    (hk : fr.map Prod.fst = o.fields.map Prod.fst) :
    restoreFields known fr (serializeM o.fields ++ [(typeKey, .str o.typeName)]) = o.fields := by
  obtain ⟨hnd, hall⟩ := hok
  have h1 : restoreFields known fr o.fields = _ := restoreFields_append known o.fields fr [] hk hnd fun e he => (hall e he).1
  rw [deserializeM_eq known o.fields (onlyKnownTypesM_of_forall fun e he => (hall e he).2.2)] at h1
  have hty : dHas typeKey o.fields = false := dHas_eq_false.2 fun e he heq => (hall e he).2.1 heq
  unfold restoreFields at h1 ⊢
  rw [serializeM_eq, List.foldl_append, h1]
  simp [fieldAccepted, hty]

theorem restoreMessage_frameBody (c : NumCodec N) (hc : c.Lawful) (known : Key → Bool) (o fresh : SObj N)
    (hok : StateOK known o) (hk : fresh.fields.map Prod.fst = o.fields.map Prod.fst)
    (hd : depth (persistent o) ≤ jsonMaxNestingDepth) :
    restoreMessage c known fresh (frameBody c o) = some { fresh with fields := o.fields } := by
  unfold restoreMessage frameBody
  rw [json_roundtrip c hc _ hd]
  have hu : dGet? updateKey [(nameKey, .str o.name), (typeKey, .str o.typeName), (updateKey, serializeObject o)] =
      some (serializeObject o) := by simp [dGet?, updateKey, nameKey, typeKey]
  simp only [persistent, hu]
  simp only [serializeObject]
  rw [restoreFields_serialized known o fresh.fields hok hk]

theorem specRestartPinned_self [DecidableEq N] (t : Key) (fields : Dict N)
    (hinv : ∀ a ∈ pinnedState t, dHas a fields = true) : specRestartPinned t fields fields = none := by
  unfold specRestartPinned
  split
  · rfl
  · rw [if_pos]
    rw [List.all_eq_true]
    intro a ha
    obtain ⟨v, hv⟩ := dGet_of_dHas (hinv a ha)
    simp [hv]

theorem dGet_stripTagM (k : Key) : (r : Dict N) → dHas objectTag r = false →
    dGet? k (stripTagM r) = (dGet? k r).map stripTag
  | [], _ => rfl
  | (k', v) :: r, h => by
    simp [dHas] at h
    have hne : ¬ k' = objectTag := fun e => h.1 e.symm
    simp only [stripTagM, hne, if_false, dGet?]
    by_cases hk : k = k'
    · simp [hk]
    · simp [hk, dGet_stripTagM k r h.2]

theorem dHas_stripTagM (k : Key) (r : Dict N) (h : dHas objectTag r = false) :
    dHas k (stripTagM r) = dHas k r := by
  simp [dHas_eq_isSome, dGet_stripTagM k r h]

mutual
theorem typed_roundtrip_aux (known : Key → Bool) : (t : JValue N) → wellTagged known t = true →
    deserializeT known false (stripTag t) = t
  | .arr xs, h => congrArg JValue.arr (typed_roundtrip_auxL known xs h)
  | .obj [], _ => by simp [stripTag, stripTagM, deserializeT, deserializeTM, dHas]
  | .obj ((k, v) :: r), h => by
    by_cases hk : k = objectTag
    · -- an object: `Serialize` drops the tag, and the `type` member makes `Deserialize` put it back
      subst hk
      simp only [wellTagged, if_true, Bool.and_eq_true, Bool.not_eq_true'] at h
      obtain ⟨⟨⟨htag, hno⟩, hty⟩, hm⟩ := h
      split at htag
      · split at hty
        · rename_i s hs
          have hs' : dGet? typeKey (stripTagM r) = some (.str s) := by
            rw [dGet_stripTagM typeKey r hno, hs]
            rfl
          simp [stripTag, stripTagM, deserializeT, dHas_of_dGet hs', hs', hty, typed_roundtrip_auxM known r hm hno]
        · -- no `type` member, or not a string: excluded by `hty`
          cases hty
      · -- the tag's value is not `true`
        cases htag
    · -- a plain dictionary: it has no `type` member, before or after
      simp only [wellTagged, hk, if_false, Bool.and_eq_true, Bool.not_eq_true'] at h
      obtain ⟨⟨⟨hno, hnt⟩, hv⟩, hm⟩ := h
      have hnt' : dHas typeKey ((k, stripTag v) :: stripTagM r) = false := by
        simp only [dHas] at hnt ⊢
        rw [dHas_stripTagM typeKey r hno]
        exact hnt
      simp [stripTag, stripTagM, hk, deserializeT, hnt', deserializeTM, typed_roundtrip_aux known v hv,
        typed_roundtrip_auxM known r hm hno]
  | .null, _ => rfl
  | .bool _, _ => rfl
  | .num _, _ => rfl
  | .str _, _ => rfl
theorem typed_roundtrip_auxL (known : Key → Bool) : (xs : List (JValue N)) → wellTaggedL known xs = true →
    deserializeTL known false (stripTagL xs) = xs
  | [], _ => rfl
  | x :: xs, h =>
    have h : wellTagged known x = true ∧ wellTaggedL known xs = true := Bool.and_eq_true _ _ ▸ h
    show deserializeT known false (stripTag x) :: deserializeTL known false (stripTagL xs) = x :: xs by
      rw [typed_roundtrip_aux known x h.1, typed_roundtrip_auxL known xs h.2]
-- `wellTaggedM` alone does not forbid a member called `@object` (the enclosing dictionary's `wellTagged` does), and
-- `stripTagM` would drop it: hence the second hypothesis.
theorem typed_roundtrip_auxM (known : Key → Bool) : (kvs : Dict N) → wellTaggedM known kvs = true →
    dHas objectTag kvs = false → deserializeTM known false (stripTagM kvs) = kvs
  | [], _, _ => rfl
  | (k, v) :: r, h, hno => by
    simp [wellTaggedM] at h
    simp [dHas] at hno
    have hne : ¬ k = objectTag := fun e => hno.1 e.symm
    simp [stripTagM, hne, deserializeTM, typed_roundtrip_aux known v h.1, typed_roundtrip_auxM known r h.2 hno.2]
end

mutual
theorem stripTag_deserializeT_aux (known : Key → Bool) : (v : JValue N) → noTagKey v = true →
    stripTag (deserializeT known false v) = deserialize known v
  | .arr xs, h => congrArg JValue.arr (stripTag_deserializeT_auxL known xs h)
  | .obj kvs, h => by
    simp only [noTagKey] at h
    have hm := stripTag_deserializeT_auxM known kvs h
    unfold deserializeT deserialize
    by_cases ht : dHas typeKey kvs = true
    · simp only [ht, Bool.not_true, Bool.or_false, Bool.false_eq_true, if_false, if_true]
      split
      · rename_i s hs
        by_cases hk : known s = true
        · simp [hk, stripTag, stripTagM, hm]
        · simp [hk, stripTag]
      · simp [stripTag]
    · simp [ht, stripTag, hm]
  | .null, _ => rfl
  | .bool _, _ => rfl
  | .num _, _ => rfl
  | .str _, _ => rfl
theorem stripTag_deserializeT_auxL (known : Key → Bool) : (xs : List (JValue N)) → noTagKeyL xs = true →
    stripTagL (deserializeTL known false xs) = deserializeL known xs
  | [], _ => rfl
  | x :: xs, h =>
    have h : noTagKey x = true ∧ noTagKeyL xs = true := Bool.and_eq_true _ _ ▸ h
    show stripTag (deserializeT known false x) :: stripTagL (deserializeTL known false xs) =
        deserialize known x :: deserializeL known xs by
      rw [stripTag_deserializeT_aux known x h.1, stripTag_deserializeT_auxL known xs h.2]
theorem stripTag_deserializeT_auxM (known : Key → Bool) : (kvs : Dict N) → noTagKeyM kvs = true →
    stripTagM (deserializeTM known false kvs) = deserializeM known kvs
  | [], _ => rfl
  | (k, v) :: r, h => by
    simp [noTagKeyM] at h
    simp [deserializeTM, deserializeM, stripTagM, h.1.1, stripTag_deserializeT_aux known v h.1.2, stripTag_deserializeT_auxM known r h.2]
end

end Icinga.C14
