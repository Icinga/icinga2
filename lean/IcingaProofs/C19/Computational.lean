/-
  C19 — the class of expressions that only compute (`Computational`), and the induction that takes a relation through
  them for every configuration, sandboxed or not.
-/
import IcingaProofs.C19.Lemmas

namespace Icinga.C19

/-- Node kinds that only compute a value (the operators among them: expression.cpp:193-447).  No `SetExpression`, no
    `FunctionCallExpression`, no loop, no config statement. -/
inductive Computational : Expr → Prop
  | lit (v : Value) : Computational (.lit v)
  | var (n : String) : Computational (.var n)
  | refVar (n : String) : Computational (.ref (.var n))
  | refIndex {a b : Expr} : Computational a → Computational b → Computational (.ref (.index a b))
  | deref {e : Expr} : Computational e → Computational (.deref e)
  | unop (op : UnOp) {e : Expr} : Computational e → Computational (.unop op e)
  | binop (op : BinOp) {a b : Expr} : Computational a → Computational b → Computational (.binop op a b)
  | land {a b : Expr} : Computational a → Computational b → Computational (.land a b)
  | lor {a b : Expr} : Computational a → Computational b → Computational (.lor a b)
  | array {es : List Expr} : (∀ e, e ∈ es → Computational e) → Computational (.array es)
  | dict (i : Bool) {es : List Expr} : (∀ e, e ∈ es → Computational e) → Computational (.dict i es)
  | getScope (s : Scope) : Computational (.getScope s)
  | condNone {c t : Expr} : Computational c → Computational t → Computational (.cond c t none)
  | condSome {c t f : Expr} : Computational c → Computational t → Computational f → Computational (.cond c t (some f))
  | index {a b : Expr} : Computational a → Computational b → Computational (.index a b)
  | throw_ {e : Expr} : Computational e → Computational (.throw_ e)
  | tryExcept {t e : Expr} : Computational t → Computational e → Computational (.tryExcept t e)
  | return_ {e : Expr} : Computational e → Computational (.return_ e)
  | break_ : Computational .break_
  | continue_ : Computational .continue_
  | breakpoint : Computational .breakpoint

variable {R : Rel}

def protCallsEq : Rel := keeps fun e => (e.prot, e.calls)

theorem frameOk_protCallsEq : FrameOk protCallsEq := frameOk_keeps fun _ _ h1 h2 _ => Prod.ext h1 h2
theorem readOk_protCallsEq (cfg : Cfg) (sb : Bool) : ReadOk protCallsEq cfg sb := fun _ _ _ => pres_keeps fun _ => rfl

/-- This induction and `eval_pres` cannot share a lemma about `evalNode`: here the induction hypothesis covers only the
    `Computational` sub-expressions, and the model has no notion of "the sub-expressions a node evaluates" to state
    that with; what they share is the tactic `pres_node`. -/
theorem eval_pres_computational (cfg : Cfg) (sb : Bool) (hF : FrameOk R) (hRd : ReadOk R cfg sb) (hRr : ReadOk R cfg cfg.refGetSandboxed) :
    ∀ (n : Nat) (e : Expr), Computational e → Pres R (eval cfg sb n e)
  | 0, _, _ => pres_fail
  | n + 1, e, hc => by
    have ih : ∀ e, Computational e → Pres R (eval cfg sb n e) := eval_pres_computational cfg sb hF hRd hRr n
    rw [eval_succ]
    -- no write here needs the guard to have refused (as the mutating nodes of `eval_pres` do): the check is one more step
    refine pres_bind (pres_guardCheck _ _ _) fun _ => ?_
    cases hc with
    | array h => exact pres_evalList (fun e he => ih e (h e he)) fun _ => pres_pure
    | dict _ h =>
      dsimp only [evalNode]; pres_node using ih
      all_goals exact pres_evalSeq fun e he => ih e (h e he)
    -- the premises of the constructor are in context unnamed: `apply ih` leaves `Computational _`, closed by `assumption`
    | _ => dsimp only [evalNode]; pres_node using ih

theorem pres_protCallsEq_of_computational (cfg : Cfg) (sb : Bool) (n : Nat) (e : Expr) (hc : Computational e) :
    Pres protCallsEq (eval cfg sb n e) :=
  eval_pres_computational cfg sb frameOk_protCallsEq (readOk_protCallsEq cfg _) (readOk_protCallsEq cfg _) n e hc

end Icinga.C19
