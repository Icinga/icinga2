/-
  C19 — a preservation calculus for the state-and-error monad `M`.  `Pres R m`: running `m` relates the state before
  and after by `R`, whatever the outcome.  For a reflexive, transitive `R` it is closed under every combinator `eval`
  is built from, so "protected state is equal", "every new entry of the call log is a side-effect-free native" and
  "every new entry of the read log is a visible field" go through the interpreter by one induction (`eval_pres`).
-/
import IcingaModel.C19.Model

namespace Icinga.C19

structure Rel where
  r : Env → Env → Prop
  refl : ∀ s, r s s
  trans : ∀ a b c, r a b → r b c → r a c

/-- A structure (not a bare `∀`) so that `intro` in the automation never unfolds it. -/
structure Pres (R : Rel) {α : Type} (m : M α) : Prop where
  h : ∀ s, R.r s (m s).2

section calculus
variable {R : Rel} {α β : Type}

theorem pres_pure {a : α} : Pres R (pure a : M α) := ⟨R.refl⟩
theorem pres_mpure (a : α) : Pres R (M.pure a : M α) := ⟨R.refl⟩
theorem pres_fail {e : Err} : Pres R (M.fail e : M α) := ⟨R.refl⟩
theorem pres_get : Pres R M.get := ⟨R.refl⟩

theorem pres_bind {m : M α} {f : α → M β} (hm : Pres R m) (hf : ∀ a, Pres R (f a)) : Pres R (m >>= f) := by
  refine ⟨fun s => ?_⟩
  show R.r s (M.bind m f s).2
  unfold M.bind
  have h1 := hm.h s
  generalize m s = r at h1 ⊢
  rcases r with ⟨_ | a, s'⟩
  · exact h1
  · exact R.trans _ _ _ h1 ((hf a).h s')

theorem pres_catch {m : M α} {h : Err → M α} (hm : Pres R m) (hh : ∀ e, Pres R (h e)) : Pres R (M.catch_ m h) := by
  refine ⟨fun s => ?_⟩
  unfold M.catch_
  have h1 := hm.h s
  generalize m s = r at h1 ⊢
  rcases r with ⟨e | _, s'⟩
  · exact R.trans _ _ _ h1 ((hh e).h s')
  · exact h1

theorem pres_modify {f : Env → Env} (hf : ∀ s, R.r s (f s)) : Pres R (M.modify f) := ⟨fun s => hf s⟩

theorem pres_ite {c : Prop} [Decidable c] {t e : M α} (ht : c → Pres R t) (he : ¬c → Pres R e) :
    Pres R (if c then t else e) := by
  split
  · exact ht ‹_›
  · exact he ‹_›

theorem pres_liftE (r : Except String α) : Pres R (liftE r) := by
  cases r <;> exact ⟨R.refl⟩

theorem pres_guardCheck (cfg : Cfg) (sb : Bool) (k : String) : Pres R (guardCheck cfg sb k) :=
  pres_ite (fun _ => pres_fail) fun _ => pres_pure

theorem pres_when {c : Bool} {m : M Unit} (hm : Pres R m) : Pres R (when_ c m) :=
  pres_ite (fun _ => hm) fun _ => pres_pure

theorem pres_chk {m : M Out} {f : Value → M Out} (hm : Pres R m) (hf : ∀ v, Pres R (f v)) : Pres R (chk m f) :=
  pres_bind hm fun _ => pres_ite (fun _ => pres_pure) fun _ => hf _

theorem pres_evalList {ev : Expr → M Out} {es : List Expr} {k : List Value → M Out}
    (hev : ∀ e ∈ es, Pres R (ev e)) (hk : ∀ vs, Pres R (k vs)) : Pres R (evalList ev es k) := by
  induction es generalizing k with
  | nil => exact hk []
  | cons e es ih =>
    exact pres_chk (hev e List.mem_cons_self) fun _ => ih (fun e' he' => hev e' (List.mem_cons_of_mem _ he')) fun _ => hk _

theorem pres_evalSeq {ev : Expr → M Out} {es : List Expr} {last : Value} (hev : ∀ e ∈ es, Pres R (ev e)) :
    Pres R (evalSeq ev es last) := by
  induction es generalizing last with
  | nil => exact pres_pure
  | cons e es ih => exact pres_chk (hev e List.mem_cons_self) fun _ => ih fun e' he' => hev e' (List.mem_cons_of_mem _ he')

end calculus

/-- Changes of the frame-private part of the state (locals, script-function table).  This and `ProtOk` are structures,
    like `Pres`, because `pres_node` closes goals by their field `modify`. -/
structure FrameOk (R : Rel) : Prop where
  modify : ∀ {f : Env → Env}, (∀ s, (f s).prot = s.prot ∧ (f s).calls = s.calls ∧ (f s).reads = s.reads) → Pres R (M.modify f)
/-- Changes of the protected state as well: true of the two log relations (`callsOk`, `readsOk`), false of `protEq`. -/
structure ProtOk (R : Rel) : Prop where
  modify : ∀ {f : Env → Env}, (∀ s, (f s).calls = s.calls ∧ (f s).reads = s.reads) → Pres R (M.modify f)

theorem ProtOk.frameOk {R : Rel} (h : ProtOk R) : FrameOk R := ⟨fun hf => h.modify fun s => (hf s).2⟩

/-- `R` tolerates the ghost entry of a read that `GetFieldByName` lets through when called with the flag `sb`. -/
def ReadOk (R : Rel) (cfg : Cfg) (sb : Bool) : Prop :=
  ∀ t f, (sb && cfg.fieldCheck && cfg.hidden t f) = false →
    Pres R (M.modify fun e => { e with reads := (t, f) :: e.reads })

def InvokeOk (R : Rel) (cfg : Cfg) : Prop :=
  ∀ name f, cfg.native name = some f → f.safe = true → ∀ self args, Pres R (invokeNative cfg name f self args)

/-- The log entry alone, apart from `InvokeOk`: the higher-order natives log themselves and then invoke their callback (`hofInvoke`). -/
def LogOk (R : Rel) (cfg : Cfg) : Prop :=
  ∀ name f, cfg.native name = some f → f.safe = true →
    Pres R (M.modify fun e => { e with calls := .native name :: e.calls })

/-- Every higher-order native tests its callback's flag under `Sandboxed` (array-script.cpp:83-216; generated). -/
def CbChecks (cfg : Cfg) : Prop := ∀ n, n ∈ hofNames → cfg.cbCheck n = true

/-- One step of a syntax-directed proof of `Pres R m`: the closure rule of the calculus that matches the head of the
    program `m` (rules are matched syntactically, most frequent first) or a hypothesis that is the goal, else split
    the `match` at the head.  It stops at a write to the state and at a call of a helper of the evaluator. -/
syntax "pres_step" : tactic
macro_rules
  | `(tactic| pres_step) => `(tactic|
      first
        | with_reducible (first
          | intro _
          | apply pres_chk
          | apply pres_bind
          | apply pres_pure
          | apply pres_fail
          | apply pres_ite
          | apply pres_get
          | apply pres_liftE
          | apply pres_catch
          | apply pres_when
          | assumption)
        | split)

variable {R : Rel}

theorem pres_readVar (n : String) : Pres R (readVar n) := by
  unfold readVar; repeat' pres_step

theorem pres_getField {cfg : Cfg} {sb : Bool} (hRd : ReadOk R cfg sb) (v : Value) (f : String) :
    Pres R (getField cfg sb v f) := by
  unfold getField; repeat' pres_step
  -- left over: the ghost entry of the one read that hands out an attribute's value, past the no_user_view test
  exact hRd _ _ (Bool.eq_false_iff.2 ‹_›)

theorem pres_writeLocal (hF : FrameOk R) (n v) : Pres R (writeLocal n v) := hF.modify fun _ => ⟨rfl, rfl, rfl⟩
theorem pres_combine (op a b) : Pres R (combine op a b) := by
  unfold combine; split
  · exact pres_pure
  · exact pres_liftE _
theorem pres_writeGlobal (hP : ProtOk R) (n v) : Pres R (writeGlobal n v) :=
  pres_bind pres_get fun _ => pres_ite (fun _ => pres_fail) fun _ => hP.modify fun _ => ⟨rfl, rfl⟩
theorem pres_writeAttr (hP : ProtOk R) (o f v) : Pres R (writeAttr o f v) := by
  unfold writeAttr; repeat' pres_step
  exact hP.modify fun _ => ⟨rfl, rfl⟩

theorem pres_refRead {cfg : Cfg} (hRr : ReadOk R cfg cfg.refGetSandboxed) (r : Value) : Pres R (refRead cfg r) := by
  unfold refRead; split
  · exact pres_getField hRr _ _
  · exact pres_fail

theorem pres_refWrite (hP : ProtOk R) (r v) : Pres R (refWrite r v) := by
  unfold refWrite; split
  · exact pres_writeAttr hP _ _ _
  · exact pres_writeGlobal hP _ _
  · exact pres_writeLocal hP.frameOk _ _
  · exact pres_pure
  · exact pres_fail

/-- Syntax-directed proof of `Pres R m` for a clause of the evaluator: the steps above; a sub-evaluation by
    applying `h : ∀ e, .. → Pres R (ev e)`; the helpers of `evalNode` by their lemmas; any other write to the state
    by `FrameOk R` or else `ProtOk R`.  Hypotheses of the rules become goals and are taken from the context; what is
    not there is left to the caller. -/
syntax "pres_node" " using " term : tactic
macro_rules
  | `(tactic| pres_node using $h) => `(tactic|
      repeat' (first
        | pres_step
        | with_reducible (first
          | apply $h
          | apply pres_readVar
          | apply pres_getField
          | apply pres_combine
          | apply pres_refRead
          | apply pres_refWrite
          | apply pres_writeLocal
          | apply pres_writeGlobal
          | apply pres_writeAttr
          | refine FrameOk.modify ?_ fun _ => ⟨rfl, rfl, rfl⟩
          | refine ProtOk.modify ?_ fun _ => ⟨rfl, rfl⟩)))

theorem pres_initDict {cfg : Cfg} {sb : Bool} (hRd : ReadOk R cfg sb) (hP : ProtOk R) {ev : Expr → M Out}
    (hev : ∀ e, Pres R (ev e)) (o : Expr) : Pres R (initDict cfg sb ev o) := by
  have hF := hP.frameOk
  unfold initDict
  pres_node using hev

theorem pres_findImport {cfg : Cfg} (sb : Bool) (hRi : ReadOk R cfg (sb && cfg.importSandboxed)) {ev : Expr → M Out} (hev : ∀ e, Pres R (ev e)) :
    ∀ imports name, Pres R (findImport cfg sb ev imports name)
  | [], _ => pres_bind (pres_readVar _) fun _ => pres_pure
  | imp :: rest, name =>
    pres_chk (hev imp) fun _ => pres_bind pres_get fun _ =>
      pres_ite (fun _ => pres_bind (pres_getField hRi _ _) fun _ => pres_pure) fun _ =>
        pres_findImport sb hRi hev rest name

theorem pres_runOpaque (hP : ProtOk R) (f : Native) (self : Value) (args : List Value) : Pres R (runOpaque f self args) := by
  unfold runOpaque; repeat' pres_step
  exact hP.modify fun _ => ⟨rfl, rfl⟩

theorem runOpaque_snd (f : Native) (self : Value) (args : List Value) (s : Env) :
    (runOpaque f self args s).2 = { s with prot := (f.run self args s.prot).2 } := by
  simp only [runOpaque, bind, M.bind, M.modify, M.get]
  cases h : f.run self args s.prot with
  | mk r p' =>
    have h' : f.2 self args s.prot = (r, p') := h   -- `simp only` above has left `f.run` as the projection `f.2`
    cases r <;> simp [liftE, M.fail, pure, M.pure, h']

/-- The three bodies of `invokeNative`.  `Reference#set` is the one built-in that writes: `hset` is asked only for a
    table that flags it safe — absurd where `RefSetUnsafe` is assumed (`protEq`), an instance of `ProtOk` for the two
    logs. -/
theorem invokeOk_of {cfg : Cfg} (hL : LogOk R cfg) (hRr : ReadOk R cfg cfg.refGetSandboxed)
    (hset : ∀ f, cfg.native "Reference#set" = some f → f.safe = true → ∀ r v, Pres R (refWrite r v))
    (hrun : ∀ name f, cfg.native name = some f → f.safe = true → ∀ self args, Pres R (runOpaque f self args)) :
    InvokeOk R cfg := by
  intro name f hn hs self args
  unfold invokeNative
  refine pres_bind (hL name f hn hs) fun _ => pres_ite (fun _ => pres_refRead hRr _) fun _ => pres_ite (fun h => ?_) fun _ => hrun name f hn hs _ _
  exact pres_bind (hset f (h ▸ hn) hs _ _) fun _ => pres_pure

theorem pres_invokeEach {inv : List Value → M Value} (hinv : ∀ a, Pres R (inv a)) :
    ∀ l, Pres R (invokeEach inv l)
  | [] => pres_pure
  | a :: rest => pres_bind (hinv a) fun _ => pres_invokeEach hinv rest

theorem pres_hofInvoke {cfg : Cfg} (hI : InvokeOk R cfg) (hL : LogOk R cfg) {ev : Expr → M Out}
    {name : String} {f : Native} (hn : cfg.native name = some f) (hs : f.safe = true) (hcb : cfg.cbCheck name = true)
    (self : Value) (vs : List Value) : Pres R (hofInvoke cfg true ev name self vs) := by
  unfold hofInvoke
  refine pres_bind (hL name f hn hs) fun _ => ?_
  repeat' pres_step
  -- left over: the branches that invoke the callback; a native that passed the test carries the flag, a script function never passes
  · rename_i g hg hsafe
    exact pres_invokeEach (fun a => hI _ g hg (by simpa [hcb] using hsafe) .empty a) _
  · exact (‹¬_› (by simp [hcb])).elim

/-- With the call check in place only a native flagged side-effect free gets as far as its arguments; a script function
    never does, nor as a callback (`pres_hofInvoke`), so `applyClosure` has no lemma.  A constructor call is made before
    the test, hence `hct`. -/
theorem pres_callValue {cfg : Cfg} (hcc : cfg.callCheck = true) (hcbs : CbChecks cfg) (hL : LogOk R cfg) (hI : InvokeOk R cfg)
    (hct : (∀ t, cfg.ctorEffect t = false) ∨ ProtOk R) {ev : Expr → M Out} (hev : ∀ e, Pres R (ev e))
    (vf self : Value) (args : List Expr) : Pres R (callValue cfg true ev (evalList ev) vf self args) := by
  unfold callValue
  split
  · -- a native function, by its name
    split
    · exact pres_fail   -- no native of that name
    · rename_i name _ f hn   -- `_`: the split's own copy of `cfg.native name`
      refine pres_ite (fun _ => pres_fail) fun hs => ?_
      have hs : f.safe = true := by simpa [hcc] using hs
      refine pres_evalList (fun e _ => hev e) fun vs =>
        pres_ite (fun hhof => ?_) fun _ => pres_bind (hI name f hn hs self vs) fun _ => pres_pure
      exact pres_hofInvoke hI hL hn hs (hcbs name (List.contains_iff_mem.1 hhof)) self vs
  · -- a script function: refused
    exact pres_ite (fun _ => pres_fail) fun h => absurd (by simp [hcc]) h
  · -- a constructor call (made before the check)
    rename_i t
    refine pres_evalList (fun e _ => hev e) fun vs => pres_ite (fun hce => ?_) fun _ => ?_
    · have hP : ProtOk R := hct.resolve_left fun h => by simp [h t] at hce
      exact pres_ite (fun _ => pres_bind (hP.modify fun _ => ⟨rfl, rfl⟩) fun _ => pres_pure) fun _ => pres_fail
    · repeat' pres_step   -- an ordinary constructor computes a value
  · exact pres_fail   -- not callable

theorem pres_loopWhile {ev : Expr → M Out} (hev : ∀ e, Pres R (ev e)) (c body : Expr) :
    ∀ n, Pres R (loopWhile ev c body n)
  | 0 => pres_fail
  | n + 1 => by
    have ih := pres_loopWhile hev c body n
    unfold loopWhile
    pres_node using hev

theorem pres_loopFor (hF : FrameOk R) {ev : Expr → M Out} (hev : ∀ e, Pres R (ev e)) (kv vv : String) (body : Expr) :
    ∀ l, Pres R (loopFor ev kv vv body l)
  | [] => pres_pure
  | (k, v) :: rest => by
    have ih := pres_loopFor hF hev kv vv body rest
    unfold loopFor
    pres_node using hev

theorem eval_succ (cfg : Cfg) (sb : Bool) (n : Nat) (e : Expr) :
    eval cfg sb (n + 1) e = guardCheck cfg sb e.kind >>= fun _ => evalNode cfg sb n (eval cfg sb n) e := rfl

theorem eval_guarded {cfg : Cfg} (sb : Bool) (e : Expr) (h : (sb && cfg.guard e.kind) = true) (n : Nat) :
    eval cfg sb (n + 1) e = M.fail (.sandbox e.kind) := by
  simp only [eval_succ, guardCheck, h, if_true]
  rfl

theorem eval_unguarded {cfg : Cfg} (sb : Bool) (e : Expr) (h : (sb && cfg.guard e.kind) = false) (n : Nat) :
    eval cfg sb (n + 1) e = evalNode cfg sb n (eval cfg sb n) e := by
  simp only [eval_succ, guardCheck, h, Bool.false_eq_true, if_false]
  rfl

/-- What `eval_pres` asks of `R`, writes to the protected state apart (those are the guards' business, or `ProtOk R`).
    Three `ReadOk`s because `GetFieldByName` is called with three flags: the frame's, the literal in `Reference::Get`,
    the one `FindVarImport` passes.  The call check and the callback tests enter only through `call`, by
    `pres_callValue`. -/
structure Tolerates (R : Rel) (cfg : Cfg) : Prop where
  frame : FrameOk R
  read : ReadOk R cfg true
  refRead : ReadOk R cfg cfg.refGetSandboxed
  impRead : ReadOk R cfg cfg.importSandboxed
  call : ∀ {ev : Expr → M Out}, (∀ e, Pres R (ev e)) → ∀ vf self args, Pres R (callValue cfg true ev (evalList ev) vf self args)

theorem tolerates_of {cfg : Cfg} (hF : FrameOk R) (hRd : ReadOk R cfg true) (hRr : ReadOk R cfg cfg.refGetSandboxed)
    (hRi : ReadOk R cfg cfg.importSandboxed) (hL : LogOk R cfg) (hI : InvokeOk R cfg)
    (hcc : cfg.callCheck = true) (hcb : CbChecks cfg) (hct : (∀ t, cfg.ctorEffect t = false) ∨ ProtOk R) :
    Tolerates R cfg :=
  { frame := hF, read := hRd, refRead := hRr, impRead := hRi, call := pres_callValue hcc hcb hL hI hct }

theorem tolerates_of_protOk {cfg : Cfg} (hP : ProtOk R) (hRd : ReadOk R cfg true) (hRr : ReadOk R cfg cfg.refGetSandboxed)
    (hRi : ReadOk R cfg cfg.importSandboxed) (hL : LogOk R cfg) (hcc : cfg.callCheck = true) (hcb : CbChecks cfg) :
    Tolerates R cfg :=
  tolerates_of hP.frameOk hRd hRr hRi hL
    (invokeOk_of hL hRr (fun _ _ _ => pres_refWrite hP) fun _ f _ _ => pres_runOpaque hP f) hcc hcb (Or.inr hP)

theorem eval_pres (cfg : Cfg) (hT : Tolerates R cfg) (hW : ∀ k, mutating k = true → cfg.guard k = true ∨ ProtOk R) :
    ∀ (n : Nat) (e : Expr), Pres R (eval cfg true n e)
  | 0, _ => pres_fail
  | n + 1, e => by
    have ih : ∀ e, Pres R (eval cfg true n e) := eval_pres cfg hT hW n
    obtain ⟨hF, hRd, hRr, hRi, hcall⟩ := hT
    cases hg : cfg.guard e.kind
    · rw [eval_unguarded true e hg]
      -- an unguarded node that writes protected state is only met when `R` tolerates that
      have hmut : mutating e.kind = true → ProtOk R := fun hm => (hW _ hm).resolve_left (by simp [hg])
      cases e with
      | setVar | setScoped | setField | setDeref | setConst | apply_ | object_ | include_ =>
        have hP : ProtOk R := hmut rfl   -- these eight are the constructors whose kind is in `mutatingKinds`
        dsimp only [evalNode]; pres_node using ih
        -- left over: the `init_dict` step of `setField`
        all_goals exact pres_initDict hRd hP ih _
      | array => exact pres_evalList (fun e _ => ih e) fun _ => pres_pure
      | importDefaults => exact pres_evalSeq fun e _ => ih e
      | while_ => exact pres_loopWhile ih _ _ n
      | _ =>
        dsimp only [evalNode]; pres_node using ih
        -- (`function` and the non-inline `dict` write frame-private state: `hF`.)  Left over: the helpers of `varIn`,
        -- `call` and `mcall`, `dict`, `for_` that evaluate sub-expressions themselves
        all_goals
          first
          | exact pres_findImport true hRi ih _ _   -- its flag `true && cfg.importSandboxed` reduces to that of `hRi`
          | exact hcall ih _ _ _
          | exact pres_evalSeq fun e _ => ih e
          | exact pres_loopFor hF ih _ _ _ _
    · rw [eval_guarded true e hg]
      exact pres_fail

theorem pushEvent_pres {cfg : Cfg} {fuel : Nat} (hF : FrameOk R) :
    ∀ (filters : List Expr), (∀ f ∈ filters, Pres R (eval cfg true fuel f)) →
      ∀ env : Env, R.r env (pushEvent cfg fuel filters env).2
  | [], _, env => R.refl env
  | f :: fs, hev, env =>
    R.trans _ _ _
      (R.trans _ _ _ ((hF.modify (f := fun e => { e with locals := [] }) fun _ => ⟨rfl, rfl, rfl⟩).h env)
        ((hev f List.mem_cons_self).h _))
      (pushEvent_pres hF fs (fun f' h => hev f' (List.mem_cons_of_mem _ h)) _)

theorem pushEvent_delivered_ok (cfg : Cfg) (fuel : Nat) :
    ∀ (filters : List Expr) (env : Env), ∀ p ∈ (pushEvent cfg fuel filters env).1, p.1 = true → p.2 = .ok
  | [], _ => by simp [pushEvent]
  | f :: fs, env => by
    intro p hp hd
    simp only [pushEvent, List.mem_cons] at hp
    rcases hp with rfl | hp
    · revert hd
      cases h : (eval cfg true fuel f { env with locals := [] }).1 with
      | ok v => intro _; simp [outcomeOf]
      | error e => simp
    · exact pushEvent_delivered_ok cfg fuel fs _ p hp hd

/-- `(h : Pres (keeps proj) m).h s` unfolds to `proj (m s).2 = proj s`, likewise for `newEntries`: the property theorems
    are stated in that unfolded form. -/
def keeps {α : Type} (proj : Env → α) : Rel where
  r a b := proj b = proj a
  refl _ := rfl
  trans _ _ _ h1 h2 := h2.trans h1

def newEntries {α : Type} (log : Env → List α) (good : α → Prop) : Rel where
  r a b := ∀ x ∈ log b, x ∈ log a ∨ good x
  refl _ _ hx := Or.inl hx
  trans _ _ _ h1 h2 x hx := (h2 x hx).elim (h1 x) Or.inr

section
variable {α β : Type} {log : Env → List α} {good : α → Prop}

theorem pres_keeps {proj : Env → α} {m : M β} (h : ∀ s, proj (m s).2 = proj s) : Pres (keeps proj) m := ⟨h⟩

theorem pres_sameLog {m : M β} (h : ∀ s, log (m s).2 = log s) : Pres (newEntries log good) m :=
  ⟨fun s _ hx => Or.inl (h s ▸ hx)⟩

theorem pres_logCons {f : Env → Env} {x : α} (hx : good x) (h : ∀ s, log (f s) = x :: log s) :
    Pres (newEntries log good) (M.modify f) :=
  pres_modify fun s y hy => by
    rw [h s, List.mem_cons] at hy
    exact hy.elim (fun e => Or.inr (e ▸ hx)) Or.inl

theorem frameOk_keeps {proj : Env → α}
    (h : ∀ a b : Env, b.prot = a.prot → b.calls = a.calls → b.reads = a.reads → proj b = proj a) : FrameOk (keeps proj) :=
  ⟨fun hf => pres_keeps fun s => h _ _ (hf s).1 (hf s).2.1 (hf s).2.2⟩

theorem protOk_newEntries (h : ∀ a b : Env, b.calls = a.calls → b.reads = a.reads → log b = log a) :
    ProtOk (newEntries log good) :=
  ⟨fun hf => pres_sameLog fun s => h _ _ (hf s).1 (hf s).2⟩

end

def protEq : Rel := keeps Env.prot

/-- "A native flagged side-effect free really is": it leaves the protected state alone. -/
def SafeNativesPure (cfg : Cfg) : Prop :=
  ∀ name f, cfg.native name = some f → f.safe = true → ∀ self args p, (f.run self args p).2 = p

/-- The built-in `Reference#set` writes: it must not be flagged side-effect free. -/
def RefSetUnsafe (cfg : Cfg) : Prop := ∀ f, cfg.native "Reference#set" = some f → f.safe = false

/-- `hfl` with `genSafe` for `flag` is `NativeFlagsFromTable` of IcingaProofs/C19/Tables.lean, which this module does
    not import. -/
theorem safe_of_flag {native : String → Option Native} {flag : String → Option Bool}
    (hfl : ∀ n f, native n = some f → flag n = some f.safe) {n : String} {f : Native} {b : Bool}
    (hn : native n = some f) (h : flag n = some b) : f.safe = b :=
  Option.some.inj ((hfl n f hn).symm.trans h)

theorem refSetUnsafe_of_flags {cfg : Cfg} {flag : String → Option Bool}
    (hfl : ∀ n f, cfg.native n = some f → flag n = some f.safe) (h : flag "Reference#set" = some false) :
    RefSetUnsafe cfg := fun _ hf => safe_of_flag hfl hf h

theorem frameOk_protEq : FrameOk protEq := frameOk_keeps fun _ _ h _ _ => h
theorem readOk_protEq (cfg : Cfg) (sb : Bool) : ReadOk protEq cfg sb := fun _ _ _ => pres_keeps fun _ => rfl
theorem logOk_protEq (cfg : Cfg) : LogOk protEq cfg := fun _ _ _ _ => pres_keeps fun _ => rfl

theorem invokeOk_protEq (cfg : Cfg) (hp : SafeNativesPure cfg) (hset : RefSetUnsafe cfg) : InvokeOk protEq cfg :=
  invokeOk_of (logOk_protEq cfg) (readOk_protEq cfg _) (fun f hf hs => absurd hs (by simp [hset f hf]))
    fun name f hn hs self args => pres_keeps fun s => by rw [runOpaque_snd]; exact hp name f hn hs self args s.prot

theorem eval_pres_protEq (cfg : Cfg) (hg : ∀ k, mutating k = true → cfg.guard k = true) (hct : ∀ t, cfg.ctorEffect t = false)
    (hcc : cfg.callCheck = true) (hcb : CbChecks cfg) (hp : SafeNativesPure cfg) (hset : RefSetUnsafe cfg) (fuel : Nat) (e : Expr) :
    Pres protEq (eval cfg true fuel e) :=
  eval_pres cfg
    (tolerates_of frameOk_protEq (readOk_protEq cfg _) (readOk_protEq cfg _) (readOk_protEq cfg _) (logOk_protEq cfg)
      (invokeOk_protEq cfg hp hset) hcc hcb (Or.inl hct))
    (fun k hk => Or.inl (hg k hk)) fuel e

def callsOk (cfg : Cfg) : Rel := newEntries Env.calls fun c => safeCallee cfg c = true

theorem protOk_callsOk (cfg : Cfg) : ProtOk (callsOk cfg) := protOk_newEntries fun _ _ h _ => h

theorem readOk_callsOk (cfg : Cfg) (sb : Bool) : ReadOk (callsOk cfg) cfg sb := fun _ _ _ => pres_sameLog fun _ => rfl
theorem logOk_callsOk (cfg : Cfg) : LogOk (callsOk cfg) cfg :=
  fun name f hn hs => pres_logCons (x := Callee.native name) (by simp [safeCallee, hn, hs]) fun _ => rfl

theorem eval_pres_callsOk (cfg : Cfg) (hcc : cfg.callCheck = true) (hcb : CbChecks cfg) (fuel : Nat) (e : Expr) :
    Pres (callsOk cfg) (eval cfg true fuel e) :=
  eval_pres cfg
    (tolerates_of_protOk (protOk_callsOk cfg) (readOk_callsOk cfg _) (readOk_callsOk cfg _) (readOk_callsOk cfg _)
      (logOk_callsOk cfg) hcc hcb)
    (fun _ _ => Or.inr (protOk_callsOk cfg)) fuel e

def readsOk (cfg : Cfg) : Rel := newEntries Env.reads fun x => cfg.hidden x.1 x.2 = false

theorem protOk_readsOk (cfg : Cfg) : ProtOk (readsOk cfg) := protOk_newEntries fun _ _ _ h => h

theorem readOk_readsOk (cfg : Cfg) (hf : cfg.fieldCheck = true) : ReadOk (readsOk cfg) cfg true :=
  fun t f h => pres_logCons (x := (t, f)) (by simpa [hf] using h) fun _ => rfl
theorem logOk_readsOk (cfg : Cfg) : LogOk (readsOk cfg) cfg := fun _ _ _ _ => pres_sameLog fun _ => rfl

theorem eval_pres_readsOk (cfg : Cfg) (hcc : cfg.callCheck = true) (hcb : CbChecks cfg) (hf : cfg.fieldCheck = true)
    (hr : cfg.refGetSandboxed = true) (hi : cfg.importSandboxed = true) (fuel : Nat) (e : Expr) :
    Pres (readsOk cfg) (eval cfg true fuel e) :=
  have read := readOk_readsOk cfg hf
  eval_pres cfg (tolerates_of_protOk (protOk_readsOk cfg) read (hr ▸ read) (hi ▸ read) (logOk_readsOk cfg) hcc hcb)
    (fun _ _ => Or.inr (protOk_readsOk cfg)) fuel e

end Icinga.C19
