/-
  C19 — when the model's observations satisfy the specification predicate.
-/
import IcingaProofs.C19.Lemmas
import IcingaModel.C19.Spec

namespace Icinga.C19

theorem unsafeInvoked_eq_false {good : Callee → Bool} {old new : List Callee} (h : ∀ c ∈ new, c ∈ old ∨ good c = true) :
    (new.any fun c => !(old.contains c) && !good c) = false := by
  rw [List.any_eq_false]
  intro c hc
  rcases h c hc with h' | h' <;> simp [h']

/-- `hk`: the two cases in which `specStep` rejects a value as such — the call of a native without the flag, the read
    of a field with it. -/
theorem specStep_modelObs {cfg : Cfg} {kind : OpKind} {flagged : Bool} {fuel : Nat} {e : Expr} {env : Env}
    (hk : outcomeOf (eval cfg true fuel e env).1 = .ok →
      (kind = .native → flagged = true) ∧ (kind = .field → flagged = false))
    (hp : (eval cfg true fuel e env).2.prot = env.prot)
    (hc : ∀ c ∈ (eval cfg true fuel e env).2.calls, c ∈ env.calls ∨ safeCallee cfg c = true) :
    specStep (modelObs cfg kind flagged fuel e env) = none := by
  simp only [specStep, modelObs, observe, hp, unsafeInvoked_eq_false hc]
  by_cases hok : outcomeOf (eval cfg true fuel e env).1 = .ok
  · cases kind <;> simp [(hk hok).1, (hk hok).2]
  · simp [hok]

theorem specStep_modelEventsObs {cfg : Cfg} {fuel : Nat} {filters : List Expr} {env : Env}
    (hp : (pushEvent cfg fuel filters env).2.prot = env.prot)
    (hc : ∀ c ∈ (pushEvent cfg fuel filters env).2.calls, c ∈ env.calls ∨ safeCallee cfg c = true) :
    specStep (modelEventsObs cfg fuel filters env) = none := by
  have hd := pushEvent_delivered_ok cfg fuel filters env
  have h2 : ((pushEvent cfg fuel filters env).1.any fun p => p.1 && p.2 != .ok) = false := by
    rw [List.any_eq_false]
    intro p hpm
    cases hp1 : p.1 with
    | false => simp
    | true => simp [hd p hpm hp1]
  simp only [specStep, modelEventsObs, hp, unsafeInvoked_eq_false hc, h2]
  simp

theorem specTrace_none : ∀ {obs : List Obs}, (∀ o ∈ obs, specStep o = none) → specTrace obs = none
  | [], _ => rfl
  | o :: rest, h => by
    rw [specTrace, h o List.mem_cons_self]
    exact specTrace_none fun o' ho' => h o' (List.mem_cons_of_mem _ ho')

end Icinga.C19
