/-
  C04 — the invariants: of single checkables (`ChkInv`, `FlightInv`, `RearmInv`), each kept by `Chk.apply`, and the global `Inv`,
  which adds the two sums over all checkables; what follows from them.
-/
import IcingaProofs.C04.Step
import IcingaProofs.C04.Sums
import IcingaModel.C04.Trace

namespace Icinga.C04

/-- Per-checkable invariant.  The ghosts `synced` / `keySynced` guard the two clauses that fail between an attribute write and the
    handler call that follows it; the fourth clause is PluginCheckTask's bookkeeping (running processes = helpers between spawn and
    `+1`, plus the outstanding balance of `+1`/`-1`); by the fifth a checkable in the pending set has a dispatched helper that has
    not passed its final section yet, which will take it out again. -/
def ChkInv (x : Chk) : Prop :=
  ¬(x.inIdle = true ∧ x.inPending = true) ∧
  (x.synced = true → (x.schedulable = true ↔ (x.inIdle = true ∨ x.inPending = true))) ∧
  (x.keySynced = true → x.inIdle = true → x.idleKey = x.nextCheck) ∧
  (x.procs : Int) = (x.hs : Int) + x.pbal ∧
  (x.inPending = true → 0 < x.hq + x.hu + x.hx + x.hs + x.hr + x.hd)

/-- Single-flight invariant: command bodies, running processes and finished processes whose result is still on its
    way — together 1 iff `m_CheckRunning`, else 0. -/
def FlightInv (x : Chk) : Prop := x.hx + x.procs + x.pz = if x.running then 1 else 0

/-- Re-arming invariant: while an execution attempt that has passed `ExecuteCheck`'s early `UpdateNextCheck()` is outstanding and no
    outside party has written `next_check` since the (earliest outstanding) dispatch, `next_check` lies after that dispatch. -/
def RearmInv (x : Chk) : Prop :=
  x.foreign = false → 0 < x.hu + x.hx + x.hs + x.hr + x.hd → x.dispatchedAt < x.nextCheck

def Inv (s : St) : Prop :=
  (∀ c, ChkInv (s.chk c)) ∧ s.counter = sumTo s.n (fun i => (s.chk i).units) ∧
  sumTo s.n (fun i => (s.chk i).slots) ≤ s.max

namespace ChkInv
variable {x : Chk} (h : ChkInv x)
include h

theorem not_both : ¬(x.inIdle = true ∧ x.inPending = true) := h.1

theorem synced_iff : x.synced = true → (x.schedulable = true ↔ (x.inIdle = true ∨ x.inPending = true)) := h.2.1

theorem key : x.keySynced = true → x.inIdle = true → x.idleKey = x.nextCheck := h.2.2.1

theorem proc_balance : (x.procs : Int) = (x.hs : Int) + x.pbal := h.2.2.2.1

theorem pending_helper : x.inPending = true → 0 < x.helpers := h.2.2.2.2

end ChkInv

namespace Inv
variable {s : St} (h : Inv s)
include h

theorem chk (c : Nat) : ChkInv (s.chk c) := h.1 c

theorem counter_eq : s.counter = sumTo s.n (fun i => (s.chk i).units) := h.2.1

theorem slots_le : sumTo s.n (fun i => (s.chk i).slots) ≤ s.max := h.2.2

end Inv

theorem FlightInv.le_one {x : Chk} (h : FlightInv x) : x.hx + x.procs + x.pz ≤ 1 := by
  unfold FlightInv at h
  rw [h]
  split <;> decide

theorem FlightInv.eq_one_iff {x : Chk} (h : FlightInv x) : x.hx + x.procs + x.pz = 1 ↔ x.running = true := by
  unfold FlightInv at h
  rw [h]
  cases x.running <;> decide

theorem FlightInv.execs_le_one {x : Chk} (h : FlightInv x) : x.execs ≤ 1 :=
  Nat.le_trans (Nat.le_add_right _ _) h.le_one

/-- what `inv_step` needs of the one checkable an action rewrites: `du` is what the action does to the counter (`Chk.delta`), `dt`
    the slots it takes (`Chk.taken`) -/
def Keeps (x y : Chk) (du dt : Int) : Prop := ChkInv y ∧ y.units = x.units + du ∧ y.slots ≤ x.slots + dt

theorem Keeps.same {x y : Chk} (h : ChkInv y) (hu : y.units = x.units) (hs : y.slots = x.slots) : Keeps x y 0 0 :=
  ⟨h, by omega, by omega⟩

theorem schedulable_active {x : Chk} (h : x.schedulable = true) : x.active = true := by
  unfold Chk.schedulable at h
  cases ha : x.active
  · rw [ha] at h; exact nomatch h
  · rfl

theorem keeps_objectHandler (x : Chk) (h : ChkInv x) : Keeps x x.objectHandler 0 0 := by
  have ⟨hboth, hsync, hkey, hbal, hpend⟩ := h
  unfold Chk.objectHandler
  dsimp only
  split
  · next hs =>
    split
    · -- already pending: nothing moves
      next hp => exact .same ⟨hboth, fun _ => ⟨fun _ => .inr hp, fun _ => hs⟩, hkey, hbal, hpend⟩ rfl rfl
    · -- into the idle set, under its old key if it was there already
      next hp =>
      rw [idleInsert_eq]
      refine .same ⟨fun hh => hp hh.2, fun _ => ⟨fun _ => .inl rfl, fun _ => hs⟩, fun hk _ => ?_, hbal, hpend⟩ rfl rfl
      dsimp only
      split
      · next hi => exact hkey hk hi
      · rfl
  · -- not this node's to schedule: out of both sets
    next hs =>
    exact .same ⟨(fun hh => nomatch hh.1),
      fun _ => ⟨fun h' => absurd h' hs, fun h' => h'.elim (fun h => nomatch h) (fun h => nomatch h)⟩,
      (fun _ h => nomatch h), hbal, fun h => nomatch h⟩ rfl rfl

theorem keeps_helperFinish (x : Chk) (h : ChkInv x) : Keeps x x.helperFinish 0 0 := by
  have ⟨hboth, hsync, hkey, hbal, hpend⟩ := h
  unfold Chk.helperFinish
  dsimp only
  split
  · next hp =>
    -- it was pending, hence not idle, and schedulable if its handlers have run
    have hsch : x.synced = true → x.schedulable = true := fun hs => (hsync hs).2 (.inr hp)
    split
    · rw [idleInsert_eq]
      exact .same ⟨(fun hh => nomatch hh.2), fun hs => ⟨fun _ => .inl rfl, fun _ => hsch hs⟩,
        fun _ _ => if_neg fun hi => hboth ⟨hi, hp⟩, hbal, fun h => nomatch h⟩ rfl rfl
    · next ha =>
      exact .same ⟨(fun hh => nomatch hh.2),
        fun hs => absurd (schedulable_active (hsch hs)) ha, hkey, hbal, fun h => nomatch h⟩ rfl rfl
  · next hp => exact .same ⟨hboth, hsync, hkey, hbal, fun hp' => absurd hp' hp⟩ rfl rfl

theorem keeps_apply (x : Chk) (a : Act) (hg : x.can a) (h : ChkInv x) : Keeps x (x.apply a) (x.delta a) (x.taken a) := by
  have ⟨hboth, hsync, hkey, hbal, hpend⟩ := h
  cases a with
  | force | passiveResult | procResult => exact .same h rfl rfl
  -- an attribute write clears the ghost under which the clause it could break is claimed
  | setActive | setPaused => exact .same ⟨hboth, (fun h => nomatch h), hkey, hbal, hpend⟩ rfl rfl
  | setNextCheck | ownResched => exact .same ⟨hboth, hsync, (fun h => nomatch h), hbal, hpend⟩ rfl rfl
  | objectHandler => exact keeps_objectHandler x h
  | nextCheckChanged =>
    show Keeps x x.nextCheckChanged 0 0
    unfold Chk.nextCheckChanged
    dsimp only
    split
    · exact .same ⟨hboth, hsync, fun _ _ => rfl, hbal, hpend⟩ rfl rfl
    · next hi => exact .same ⟨hboth, hsync, fun _ hi' => absurd hi' hi, hbal, hpend⟩ rfl rfl
  | helperFinish => exact keeps_helperFinish x h
  | sched c now i =>
    have hi : x.inIdle = true := hg
    by_cases hsk : Chk.skipsIn x.forced i = true <;>
      simp only [Chk.apply, Chk.delta, Chk.sched, Chk.taken, hsk, Bool.false_eq_true, ↓reduceIte]
    · -- skipped: stays idle, under its `next_check`
      show Keeps x x.skip 0 0
      exact .same ⟨fun hh => hboth ⟨hi, hh.2⟩, fun hs => ⟨fun _ => .inl rfl, fun _ => (hsync hs).2 (.inl hi)⟩, fun _ _ => rfl,
        hbal, hpend⟩ rfl rfl
    · -- dispatched: idle → pending, one more helper
      show Keeps x (x.pick now) 1 1
      refine ⟨⟨(fun hh => nomatch hh.1), fun hs => ⟨fun _ => .inr rfl, fun _ => (hsync hs).2 (.inl hi)⟩, (fun _ h => nomatch h), hbal,
        fun _ => ?_⟩, ?_, ?_⟩ <;> dsimp only [Chk.pick, Chk.units, Chk.slots] <;> omega
  -- a helper or a process moves one stage on: the sets are untouched, the counting clauses are linear arithmetic
  | rearm c now v =>
    dsimp only [Keeps, ChkInv, Chk.apply, Chk.can, Chk.rearm, Chk.units, Chk.slots, Chk.delta, Chk.taken] at hg ⊢
    refine ⟨⟨hboth, hsync, (fun h => nomatch h), hbal, fun hp => have := hpend hp; ?_⟩, ?_, ?_⟩ <;> omega
  | helperGuard c =>
    show Keeps x x.helperGuard 0 0
    rw [helperGuard_eq]
    split <;> dsimp only [Keeps, ChkInv, Chk.can, Chk.units, Chk.slots] at hg ⊢ <;>
      refine ⟨⟨hboth, hsync, hkey, hbal, fun hp => have := hpend hp; ?_⟩, ?_, ?_⟩ <;> omega
  | result | spawn | pluginInc | procExit | helperDec =>
    dsimp only [Keeps, ChkInv, Chk.apply, Chk.can, Chk.result, Chk.spawn, Chk.pluginInc, Chk.procExit, Chk.helperDec,
      Chk.units, Chk.slots, Chk.delta, Chk.taken] at hg ⊢
    refine ⟨⟨hboth, hsync, hkey, ?_, fun hp => have := hpend hp; ?_⟩, ?_, ?_⟩ <;> omega

theorem chkInv_apply (x : Chk) (a : Act) (hg : x.can a) (h : ChkInv x) : ChkInv (x.apply a) :=
  (keeps_apply x a hg h).1

theorem chkInv_default : ChkInv {} := by
  unfold ChkInv Chk.schedulable; decide

theorem flightInv_apply (x : Chk) (a : Act) (hg : x.can a) (h : FlightInv x) : FlightInv (x.apply a) := by
  cases a with
  | setActive | setPaused | setNextCheck | ownResched | rearm | force | passiveResult | pluginInc | helperDec => exact h
  | objectHandler => obtain ⟨_, _, _, e⟩ := objectHandler_frame x; show FlightInv x.objectHandler; rw [e]; exact h
  | nextCheckChanged => obtain ⟨_, e⟩ := nextCheckChanged_frame x; show FlightInv x.nextCheckChanged; rw [e]; exact h
  | helperFinish => obtain ⟨_, _, _, e⟩ := helperFinish_frame x; show FlightInv x.helperFinish; rw [e]; exact h
  | sched c now i => show FlightInv (if _ then _ else _); split <;> exact h
  | helperGuard =>
    show FlightInv x.helperGuard
    unfold FlightInv at h ⊢
    rw [helperGuard_eq]
    show x.hx + (if x.running then 0 else 1) + x.procs + x.pz = 1
    by_cases hr : x.running = true
    · -- busy: the sum stays 1
      rw [if_pos hr] at h ⊢; omega
    · -- free: the sum goes 0 → 1
      rw [if_neg hr] at h ⊢; omega
  | spawn =>
    have : 0 < x.hx := hg
    exact (show x.hx - 1 + (x.procs + 1) + x.pz = x.hx + x.procs + x.pz by omega).trans h
  | procExit =>
    have : 0 < x.procs := hg
    exact (show x.hx + (x.procs - 1) + (x.pz + 1) = x.hx + x.procs + x.pz by omega).trans h
  | result | procResult =>
    -- what ends was in flight, and at most one thing is
    have := h.le_one
    unfold FlightInv
    dsimp only [Chk.apply, Chk.can, Chk.result, Chk.procResult] at hg ⊢
    show _ = 0
    omega

theorem flightInv_default : FlightInv {} := rfl

theorem rearmInv_apply (x : Chk) (a : Act) (hg : x.can a) (h : RearmInv x) : RearmInv (x.apply a) := by
  cases a with
  | setActive | setPaused | force | passiveResult | procExit | procResult => exact h
  | objectHandler => obtain ⟨_, _, _, e⟩ := objectHandler_frame x; show RearmInv x.objectHandler; rw [e]; exact h
  | nextCheckChanged => obtain ⟨_, e⟩ := nextCheckChanged_frame x; show RearmInv x.nextCheckChanged; rw [e]; exact h
  | setNextCheck => exact fun hf => nomatch hf
  -- `UpdateNextCheck` reads a clock not before the dispatch and yields a later value
  | ownResched c now v => exact fun _ _ => Int.lt_of_le_of_lt hg.1 hg.2
  | rearm c now v => exact fun _ _ => Int.lt_of_le_of_lt hg.2.1 hg.2.2
  | sched c now i =>
    show RearmInv (if _ then _ else _)
    split
    · exact h
    · -- a first dispatch resets the ghosts, but then no helper is past the early `UpdateNextCheck`; a later one leaves them alone
      intro hf hh
      by_cases h0 : x.hq + x.hu + x.hx + x.hs + x.hr + x.hd = 0
      · exact absurd hh (show ¬ 0 < x.hu + x.hx + x.hs + x.hr + x.hd by omega)
      · simp only [Chk.pick, if_neg h0] at hf ⊢
        exact h hf hh
  -- the helper that moves on is itself past the early `UpdateNextCheck`, so the premise held before
  | helperGuard =>
    dsimp only [Chk.can] at hg
    show RearmInv x.helperGuard
    rw [helperGuard_eq]
    exact fun hf _ => h hf (by omega)
  | helperFinish =>
    dsimp only [Chk.can] at hg
    obtain ⟨_, _, _, e⟩ := helperFinish_frame x
    show RearmInv x.helperFinish
    rw [e]
    exact fun hf _ => h hf (by omega)
  | result | spawn | pluginInc | helperDec =>
    dsimp only [Chk.can] at hg
    exact fun hf _ => h hf (by omega)

theorem rearmInv_default : RearmInv {} := fun _ h => nomatch h

theorem ChkInv.slots_le_units {x : Chk} (h : ChkInv x) : x.slots ≤ x.units := by
  have := h.proc_balance
  unfold Chk.units Chk.slots
  omega

theorem execs_le_slots (x : Chk) : (x.execs : Int) ≤ x.slots := by
  unfold Chk.execs Chk.slots; omega

theorem inv_init (n : Nat) (max : Int) (hm : 0 ≤ max) : Inv (init n max) := by
  refine ⟨fun _ => chkInv_default, (sumTo_zero n _ fun _ _ => rfl).symm, ?_⟩
  show sumTo n (fun _ => ({} : Chk).slots) ≤ max
  rw [sumTo_zero n (fun _ => ({} : Chk).slots) fun _ _ => rfl]; exact hm

theorem Inv.slots_le_counter {s : St} (h : Inv s) : sumTo s.n (fun i => (s.chk i).slots) ≤ s.counter := by
  rw [h.counter_eq]; exact sumTo_le _ _ _ fun i _ => (h.chk i).slots_le_units

theorem Inv.counter_nonneg {s : St} (h : Inv s) : 0 ≤ s.counter :=
  Int.le_trans (sumTo_nonneg _ _ fun i _ => by unfold Chk.slots; omega) h.slots_le_counter

theorem executing_le_slots (s : St) : s.executing ≤ sumTo s.n (fun i => (s.chk i).slots) :=
  sumTo_le _ _ _ fun _ _ => execs_le_slots _

theorem Inv.executing_le_max {s : St} (h : Inv s) : s.executing ≤ s.max :=
  Int.le_trans (executing_le_slots s) h.slots_le

theorem inv_step {s : St} {a : Act} (h : Inv s) (hen : s.enabled a) : Inv (s.after a) := by
  have hroom := taken_room hen
  have hsl := h.slots_le_counter
  obtain ⟨hc, hg⟩ := enabled_can hen
  obtain ⟨_, k2, k3⟩ := keeps_apply _ a hg (h.chk _)
  have eu := sum_upd Chk.units s a.on ((s.chk a.on).apply a) hc
  have es := sum_upd Chk.slots s a.on ((s.chk a.on).apply a) hc
  refine ⟨chk_step chkInv_apply h.chk hen, Eq.trans ?_ eu.symm, Int.le_trans (Int.le_of_eq es) ?_⟩
  · rw [after_counter]
    have := h.counter_eq
    omega
  · -- a dispatch needs `counter < max`, and every slot in use holds a unit of the counter
    rw [after_max]
    have := h.slots_le
    omega

theorem Inv.run {acts : List Act} {s s' : St} (h : Inv s) (hr : run s acts = some s') : Inv s' :=
  run_induction (fun _ _ => inv_step) h hr

theorem inv_run {n : Nat} {max : Int} (hm : 0 ≤ max) {acts : List Act} {s : St} (hr : run (init n max) acts = some s) :
    Inv s :=
  (inv_init n max hm).run hr

theorem Chk.settled_iff (x : Chk) : x.settled = true ↔ x.helpers = 0 ∧ x.procs = 0 ∧ x.pz = 0 := by
  unfold Chk.settled
  rw [Bool.and_eq_true, Bool.and_eq_true, beq_iff_eq, beq_iff_eq, beq_iff_eq, and_assoc]

theorem ChkInv.no_helpers {x : Chk} (h : ChkInv x) (h0 : x.helpers = 0) :
    x.inPending = false ∧ (x.synced = true → (x.schedulable = true ↔ x.inIdle = true)) := by
  have hnp : x.inPending = false := Bool.eq_false_iff.2 fun hp => Nat.ne_of_gt (h.pending_helper hp) h0
  exact ⟨hnp, fun hs => (h.synced_iff hs).trans (by rw [hnp]; exact or_iff_left Bool.false_ne_true)⟩

theorem St.settled_iff (s : St) : s.settled = true ↔ ∀ c, c < s.n → (s.chk c).settled = true := by
  unfold St.settled
  rw [List.all_eq_true]
  exact ⟨fun h c hc => h c (List.mem_range.2 hc), fun h c hc => h c (List.mem_range.1 hc)⟩

theorem ChkInv.settled_units {x : Chk} (h : ChkInv x) (hs : x.settled = true) : x.units = 0 := by
  obtain ⟨h0, _, _⟩ := x.settled_iff.1 hs
  have := h.proc_balance
  unfold Chk.helpers at h0
  unfold Chk.units
  omega

theorem Inv.settled_counter {s : St} (h : Inv s) (hs : s.settled = true) : s.counter = 0 := by
  rw [h.counter_eq]
  exact sumTo_zero _ _ fun i hi => (h.chk i).settled_units (s.settled_iff.1 hs i hi)

end Icinga.C04
