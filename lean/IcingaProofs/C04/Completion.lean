/-
  C04 — the completion path of one checkable: a measure of the work left on it; while work is left, the foremost stage of the path
  has an enabled action, and every action of the path decreases the measure.
-/
import IcingaProofs.C04.Invariants
namespace Icinga.C04

/-- Each helper counts with the largest number of stages it may still pass (`hq` 6: re-arm, guard, spawn, `+1`, `-1`, final
    section; … `hd` 1), a running process with 2 (exit, result), a finished one with 1.  Every action of the path `Act.completes`
    lowers the measure; `spawn` would raise it (`hx` → `hs` + `procs`: 4 → 3 + 2), so it is not on the path: a command body that
    is still running is ended by `result`. -/
def Chk.work (x : Chk) : Nat := 6 * x.hq + 5 * x.hu + 4 * x.hx + 3 * x.hs + 2 * x.hr + x.hd + 2 * x.procs + x.pz

def Act.completes (c : Nat) : Act → Bool
  | .rearm c' _ _ => c' == c
  | .helperGuard c' => c' == c
  | .result c' => c' == c
  | .pluginInc c' => c' == c
  | .procExit c' => c' == c
  | .procResult c' => c' == c
  | .helperDec c' => c' == c
  | .helperFinish c' => c' == c
  | _ => false

theorem completes_on {c : Nat} {a : Act} (h : a.completes c = true) : a.on = c := by
  cases a with
  | rearm | helperGuard | result | pluginInc | procExit | procResult | helperDec | helperFinish => exact eq_of_beq h
  | _ => exact nomatch h

theorem work_zero_settled (x : Chk) (h : x.work = 0) : x.settled = true := by
  have hle : x.helpers + x.procs + x.pz ≤ x.work := by unfold Chk.helpers Chk.work; omega
  rw [h] at hle
  obtain ⟨h12, h3⟩ := Nat.add_eq_zero_iff.1 (Nat.le_zero.1 hle)
  exact x.settled_iff.2 ⟨(Nat.add_eq_zero_iff.1 h12).1, (Nat.add_eq_zero_iff.1 h12).2, h3⟩

theorem work_apply (x : Chk) (c : Nat) (a : Act) (ha : a.completes c = true) (hg : x.can a) :
    (x.apply a).work < x.work := by
  cases a with
  | rearm | result | pluginInc | procExit | procResult | helperDec =>
    dsimp only [Chk.apply, Chk.can, Chk.work, Chk.rearm, Chk.result, Chk.pluginInc, Chk.procExit, Chk.procResult,
      Chk.helperDec] at hg ⊢
    omega
  | helperGuard =>
    show x.helperGuard.work < _
    rw [helperGuard_eq]
    split <;> dsimp only [Chk.can, Chk.work] at hg ⊢ <;> omega
  | helperFinish =>
    obtain ⟨_, _, _, e⟩ := helperFinish_frame x
    show x.helperFinish.work < _
    rw [e]
    dsimp only [Chk.can, Chk.work] at hg ⊢
    omega
  | _ => exact nomatch ha

theorem completion_step (s : St) (c : Nat) (hc : c < s.n) (hw : (s.chk c).work ≠ 0) :
    ∃ a, s.enabled a ∧ a.completes c = true ∧ ((s.after a).chk c).work < (s.chk c).work := by
  have go : ∀ a : Act, a.completes c = true → s.enabled a →
      ∃ a, s.enabled a ∧ a.completes c = true ∧ ((s.after a).chk c).work < (s.chk c).work := by
    intro a ha hen
    cases completes_on ha
    refine ⟨a, hen, ha, ?_⟩
    rw [after_chk]
    exact work_apply _ _ a ha (enabled_can hen).2
  by_cases hq : 0 < (s.chk c).hq
  · -- `ExecuteCheck`'s early UpdateNextCheck: the clock is not before the dispatch, the value after the clock
    exact go (.rearm c (s.chk c).dispatchedAt ((s.chk c).dispatchedAt + 1)) (beq_self_eq_true c)
      ⟨hc, hq, Int.le_refl _, Int.lt_succ _⟩
  by_cases hu : 0 < (s.chk c).hu
  · exact go (.helperGuard c) (beq_self_eq_true c) ⟨hc, hu⟩
  by_cases hx : 0 < (s.chk c).hx
  · exact go (.result c) (beq_self_eq_true c) ⟨hc, hx⟩
  by_cases hs : 0 < (s.chk c).hs
  · exact go (.pluginInc c) (beq_self_eq_true c) ⟨hc, hs⟩
  by_cases hr : 0 < (s.chk c).hr
  · exact go (.helperDec c) (beq_self_eq_true c) ⟨hc, hr⟩
  by_cases hd : 0 < (s.chk c).hd
  · exact go (.helperFinish c) (beq_self_eq_true c) ⟨hc, hd⟩
  by_cases hp : 0 < (s.chk c).procs
  · exact go (.procExit c) (beq_self_eq_true c) ⟨hc, hp⟩
  have hz : 0 < (s.chk c).pz := by unfold Chk.work at hw; omega
  exact go (.procResult c) (beq_self_eq_true c) ⟨hc, hz⟩

theorem settle_exists (c : Nat) (s : St) (hc : c < s.n) :
    ∃ acts s', run s acts = some s' ∧ (∀ a ∈ acts, a.completes c = true) ∧ (s'.chk c).settled = true := by
  induction hk : (s.chk c).work using Nat.strongRecOn generalizing s with
  | _ k ih =>
    by_cases h0 : (s.chk c).work = 0
    · exact ⟨[], s, rfl, (fun _ h => nomatch h), work_zero_settled _ h0⟩
    · obtain ⟨a, hen, ha, hlt⟩ := completion_step s c hc h0
      obtain ⟨acts, s', hr, hall, hset⟩ := ih _ (hk ▸ hlt) (s.after a) hc rfl
      refine ⟨a :: acts, s', run_cons.2 ⟨_, step_iff.2 ⟨hen, rfl⟩, hr⟩, ?_, hset⟩
      intro b hb
      rcases List.mem_cons.1 hb with rfl | hb
      · exact ha
      · exact hall b hb

theorem completes_not_passive (c : Nat) (a : Act) (h : a.completes c = true) : a.isPassive = false := by
  cases a with
  | passiveResult => exact nomatch h
  | _ => rfl

end Icinga.C04
