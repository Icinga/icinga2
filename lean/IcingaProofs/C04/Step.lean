/-
  C04 — the step calculus.  Every action of the model rewrites one checkable (`Act.on`, `Chk.apply`, guarded by `Chk.can`) and moves
  the counter (`Chk.delta`): `step` allows it iff `St.enabled` and then yields `St.after` (`step_iff`).  Lemmas about a step speak of
  `s.enabled a` and `s.after a`, not of `step`.  So a fact about single checkables is proved on `Chk.apply` and lifted to steps and
  runs once (`chk_step`, `run_induction`, `chk_run`).
-/
import IcingaModel.C04.Model
import IcingaModel.C04.Spec

namespace Icinga.C04

namespace schedEnabled
variable {s : St} {c : Nat} {now : Int} (h : schedEnabled s c now)
include h

theorem lt : c < s.n := h.1

theorem idle : (s.chk c).inIdle = true := h.2.1

theorem due : (s.chk c).idleKey ≤ now := h.2.2.1

theorem free : s.counter < s.max := h.2.2.2.1

theorem min : ∀ i, i < s.n → (s.chk i).inIdle = true → (s.chk c).idleKey ≤ (s.chk i).idleKey := h.2.2.2.2

end schedEnabled

def Act.on : Act → Nat
  | .setActive c _ | .setPaused c _ | .objectHandler c | .setNextCheck c _ | .ownResched c _ _ | .rearm c _ _
  | .nextCheckChanged c | .force c | .sched c _ _ | .helperGuard c | .result c | .spawn c | .pluginInc c | .procExit c
  | .procResult c | .passiveResult c | .helperDec c | .helperFinish c => c

def Chk.apply (x : Chk) : Act → Chk
  | .setActive _ b => x.setActive b
  | .setPaused _ b => x.setPaused b
  | .objectHandler _ => x.objectHandler
  | .setNextCheck _ v => x.setNextCheck v
  | .ownResched _ _ v => x.ownResched v
  | .rearm _ _ v => x.rearm v
  | .nextCheckChanged _ => x.nextCheckChanged
  | .force _ => x.force
  | .sched _ now i => x.sched now i
  | .helperGuard _ => x.helperGuard
  | .result _ => x.result
  | .spawn _ => x.spawn
  | .pluginInc _ => x.pluginInc
  | .procExit _ => x.procExit
  | .procResult _ => x.procResult
  | .passiveResult _ => x.passiveResult
  | .helperDec _ => x.helperDec
  | .helperFinish _ => x.helperFinish

/-- what an action's enabling condition asks of its checkable (`schedEnabled` asks more, of the whole state) -/
def Chk.can (x : Chk) : Act → Prop
  | .ownResched _ now v => x.dispatchedAt ≤ now ∧ now < v
  | .rearm _ now v => 0 < x.hq ∧ x.dispatchedAt ≤ now ∧ now < v
  | .sched _ _ _ => x.inIdle = true
  | .helperGuard _ => 0 < x.hu
  | .result _ | .spawn _ => 0 < x.hx
  | .pluginInc _ => 0 < x.hs
  | .procExit _ => 0 < x.procs
  | .procResult _ => 0 < x.pz
  | .helperDec _ => 0 < x.hr
  | .helperFinish _ => 0 < x.hd
  | _ => True

/-- slots (`Chk.slots`) an action takes: only a dispatch raises the slots in use -/
def Chk.taken (x : Chk) : Act → Int
  | .sched _ _ i => if Chk.skipsIn x.forced i then 0 else 1
  | _ => 0

/-- what an action does to `m_PendingChecks`: a dispatch takes a unit along with its slot -/
def Chk.delta (x : Chk) : Act → Int
  | .pluginInc _ => 1
  | .procExit _ | .helperDec _ => -1
  | .sched c now i => x.taken (.sched c now i)
  | _ => 0

def St.after (s : St) (a : Act) : St :=
  { s.upd a.on ((s.chk a.on).apply a) with counter := s.counter + (s.chk a.on).delta a }

theorem after_chk (s : St) (a : Act) : (s.after a).chk a.on = (s.chk a.on).apply a := if_pos rfl

theorem after_chk_ne (s : St) (a : Act) {i : Nat} (h : i ≠ a.on) : (s.after a).chk i = s.chk i := if_neg h

theorem after_counter (s : St) (a : Act) : (s.after a).counter = s.counter + (s.chk a.on).delta a := rfl

theorem after_n (s : St) (a : Act) : (s.after a).n = s.n := rfl

theorem after_max (s : St) (a : Act) : (s.after a).max = s.max := rfl

theorem after_eq_upd {s : St} {a : Act} (h : (s.chk a.on).delta a = 0) : s.after a = s.upd a.on ((s.chk a.on).apply a) := by
  unfold St.after; rw [h, Int.add_zero]; rfl

def St.enabled (s : St) : Act → Prop
  | .sched c now _ => schedEnabled s c now
  | a => a.on < s.n ∧ (s.chk a.on).can a

theorem ite_some_iff {p : Prop} [Decidable p] {t s' : St} : (if p then some t else none) = some s' ↔ p ∧ s' = t :=
  Option.ite_none_right_eq_some.trans (and_congr_right fun _ => Option.some_inj.trans eq_comm)

theorem step_iff {s s' : St} {a : Act} : step s a = some s' ↔ s.enabled a ∧ s' = s.after a := by
  have plain : ∀ {p : Prop} [Decidable p], (s.chk a.on).delta a = 0 →
      ((if p then some (s.upd a.on ((s.chk a.on).apply a)) else none) = some s' ↔ p ∧ s' = s.after a) :=
    fun h => by rw [after_eq_upd h]; exact ite_some_iff
  cases a with
  | sched c now i =>
    refine Option.ite_none_right_eq_some.trans (and_congr_right fun _ => ?_)
    by_cases hsk : Chk.skipsIn (s.chk c).forced i = true <;>
      simp only [St.after, Act.on, Chk.apply, Chk.sched, Chk.delta, Chk.taken, hsk, ↓reduceIte, Int.add_zero] <;>
      exact Option.some_inj.trans eq_comm
  | pluginInc c | procExit c | helperDec c => exact ite_some_iff
  | setActive c b | setPaused c b | objectHandler c | setNextCheck c v | nextCheckChanged c | force c | passiveResult c =>
    exact (plain rfl).trans (and_congr_left' (iff_of_eq (and_true _)).symm)
  | ownResched c now v | rearm c now v | helperGuard c | result c | spawn c | procResult c | helperFinish c =>
    exact plain rfl

theorem enabled_can {s : St} {a : Act} (h : s.enabled a) : a.on < s.n ∧ (s.chk a.on).can a := by
  cases a with
  | sched c now i => exact ⟨h.lt, h.idle⟩
  | _ => exact h

theorem after_dispatch (s : St) (c : Nat) (now : Int) (i : SkipIn) (hsk : Chk.skipsIn (s.chk c).forced i = false) :
    (s.after (.sched c now i)).chk c = (s.chk c).pick now ∧ (s.after (.sched c now i)).counter = s.counter + 1 :=
  ⟨(after_chk s _).trans (if_neg (Bool.eq_false_iff.1 hsk)),
    (after_counter s _).trans (congrArg (s.counter + ·) (if_neg (Bool.eq_false_iff.1 hsk)))⟩

theorem after_skip (s : St) (c : Nat) (now : Int) (i : SkipIn) (hsk : Chk.skipsIn (s.chk c).forced i = true) :
    (s.after (.sched c now i)).chk c = (s.chk c).skip ∧ (s.after (.sched c now i)).counter = s.counter :=
  ⟨(after_chk s _).trans (if_pos hsk), by rw [after_eq_upd (a := .sched c now i) (if_pos hsk)]; rfl⟩

theorem skipsIn_eq_not_eligible (f : Bool) (i : SkipIn) :
    Chk.skipsIn f i = (!f && !eligible i.isService i.own i.hostChecks i.svcChecks i.inPeriod i.depOk) := by
  unfold Chk.skipsIn Chk.skips eligible SkipIn.enabled
  cases i.depOk <;> cases (i.own && if i.isService = true then i.svcChecks else i.hostChecks) <;> cases i.inPeriod <;> rfl

theorem skipsIn_eq_false_iff {f : Bool} {i : SkipIn} :
    Chk.skipsIn f i = false ↔ f = true ∨ eligible i.isService i.own i.hostChecks i.svcChecks i.inPeriod i.depOk = true := by
  rw [skipsIn_eq_not_eligible]
  cases f <;> cases eligible i.isService i.own i.hostChecks i.svcChecks i.inPeriod i.depOk <;> decide

theorem skipsIn_eq_true_iff {f : Bool} {i : SkipIn} :
    Chk.skipsIn f i = true ↔ f = false ∧ eligible i.isService i.own i.hostChecks i.svcChecks i.inPeriod i.depOk = false := by
  rw [skipsIn_eq_not_eligible]
  cases f <;> cases eligible i.isService i.own i.hostChecks i.svcChecks i.inPeriod i.depOk <;> decide

/-- a dispatch finds the counter below `max`: what the slots clause of `Inv` rests on -/
theorem taken_room {s : St} {a : Act} (hen : s.enabled a) :
    (s.chk a.on).taken a = 0 ∨ ((s.chk a.on).taken a = 1 ∧ s.counter < s.max) := by
  cases a with
  | sched c now i =>
    by_cases hsk : Chk.skipsIn (s.chk c).forced i = true
    · exact .inl (if_pos hsk)
    · exact .inr ⟨if_neg hsk, schedEnabled.free hen⟩
  | _ => exact .inl rfl

theorem chk_step_rel {R : Chk → Chk → Prop} (hrefl : ∀ x, R x x) {s : St} {a : Act}
    (hR : ∀ x, x.can a → R x (x.apply a)) (hen : s.enabled a) (c : Nat) : R (s.chk c) ((s.after a).chk c) := by
  by_cases h : c = a.on
  · rw [h, after_chk]; exact hR _ (enabled_can hen).2
  · rw [after_chk_ne s a h]; exact hrefl _

theorem chk_step {P : Chk → Prop} (hP : ∀ x a, x.can a → P x → P (x.apply a)) {s : St} {a : Act}
    (h : ∀ c, P (s.chk c)) (hen : s.enabled a) (c : Nat) : P ((s.after a).chk c) :=
  chk_step_rel (R := fun x y => P x → P y) (fun _ => id) (fun x hg => hP x a hg) hen c (h c)

theorem run_cons {s s' : St} {a : Act} {as : List Act} :
    run s (a :: as) = some s' ↔ ∃ s1, step s a = some s1 ∧ run s1 as = some s' := by
  simp only [run]
  cases step s a with
  | none => exact ⟨fun h => (nomatch h), fun ⟨_, ht, _⟩ => nomatch ht⟩
  | some s1 => exact ⟨fun h => ⟨s1, rfl, h⟩, fun ⟨_, ht, h⟩ => by cases ht; exact h⟩

theorem run_induction {P : St → Prop} (hP : ∀ s a, P s → s.enabled a → P (s.after a)) {acts : List Act} {s s' : St}
    (h : P s) (hr : run s acts = some s') : P s' := by
  induction acts generalizing s with
  | nil => cases hr; exact h
  | cons a as ih =>
    obtain ⟨s1, hs1, hr⟩ := run_cons.1 hr
    obtain ⟨hen, rfl⟩ := step_iff.1 hs1
    exact ih (hP s a h hen) hr

theorem run_append {s s1 s2 : St} {l1 l2 : List Act} (h1 : run s l1 = some s1) (h2 : run s1 l2 = some s2) :
    run s (l1 ++ l2) = some s2 := by
  induction l1 generalizing s with
  | nil => cases h1; exact h2
  | cons a as ih =>
    obtain ⟨s', hs, h1⟩ := run_cons.1 h1
    exact run_cons.2 ⟨s', hs, ih h1⟩

theorem run_n_max {acts : List Act} {s s' : St} (hr : run s acts = some s') : s'.n = s.n ∧ s'.max = s.max :=
  run_induction (P := fun t => t.n = s.n ∧ t.max = s.max)
    (fun t a h _ => ⟨(after_n t a).trans h.1, (after_max t a).trans h.2⟩) ⟨rfl, rfl⟩ hr

theorem chk_run_from {P : Chk → Prop} (hP : ∀ x a, x.can a → P x → P (x.apply a)) {acts : List Act} {s s' : St}
    (h : ∀ c, P (s.chk c)) (hr : run s acts = some s') : ∀ c, P (s'.chk c) :=
  run_induction (fun _ _ => chk_step hP) h hr

theorem chk_run {P : Chk → Prop} (hP : ∀ x a, x.can a → P x → P (x.apply a)) (h0 : P {})
    {n : Nat} {max : Int} {acts : List Act} {s : St} (hr : run (init n max) acts = some s) (c : Nat) : P (s.chk c) :=
  chk_run_from hP (fun _ => h0) hr c

/-! The sections with branches, as one record update each: the fields a handler can touch at all.  An invariant that does not
    read them is carried over by rewriting with the equation. -/

theorem idleInsert_eq (x : Chk) :
    x.idleInsert = { x with inIdle := true, idleKey := if x.inIdle then x.idleKey else x.nextCheck } := by
  unfold Chk.idleInsert
  by_cases h : x.inIdle = true
  · rw [if_pos h, if_pos h, ← h]
  · rw [if_neg h, if_neg h]

theorem objectHandler_frame (x : Chk) :
    ∃ i k p, x.objectHandler = { x with synced := true, inIdle := i, idleKey := k, inPending := p } := by
  unfold Chk.objectHandler
  dsimp only
  split
  · split
    · exact ⟨_, _, _, rfl⟩
    · exact ⟨_, _, _, idleInsert_eq _⟩
  · exact ⟨_, _, _, rfl⟩

theorem nextCheckChanged_frame (x : Chk) : ∃ k, x.nextCheckChanged = { x with keySynced := true, idleKey := k } := by
  unfold Chk.nextCheckChanged
  dsimp only
  split <;> exact ⟨_, rfl⟩

theorem helperGuard_eq (x : Chk) :
    x.helperGuard = { x with running := true, hu := x.hu - 1, hx := x.hx + (if x.running then 0 else 1),
                             hr := x.hr + (if x.running then 1 else 0) } := by
  unfold Chk.helperGuard
  split
  · next h => cases x; cases h; rfl
  · rfl

theorem helperFinish_frame (x : Chk) :
    ∃ i k p, x.helperFinish = { x with hd := x.hd - 1, inIdle := i, idleKey := k, inPending := p } := by
  unfold Chk.helperFinish
  dsimp only
  split
  · split
    · exact ⟨_, _, _, idleInsert_eq _⟩
    · exact ⟨_, _, _, rfl⟩
  · next h => exact ⟨_, _, x.inPending, rfl⟩

theorem helperFinish_pending (x : Chk) (hp : x.inPending = true) :
    x.helperFinish.inPending = false ∧ (x.active = true → x.helperFinish.inIdle = true) := by
  unfold Chk.helperFinish
  dsimp only
  rw [if_pos hp]
  split
  · rw [idleInsert_eq]; exact ⟨rfl, fun _ => rfl⟩
  · next h => exact ⟨rfl, fun ha => absurd ha h⟩

/-- the executions of its checkable that an action starts and (`Act.ends`) ends: what `obsStep` reports as `execStart` / `execEnd` -/
def Chk.starts (x : Chk) : Act → Nat
  | .helperGuard _ => if x.running then 0 else 1
  | _ => 0

def Act.ends : Act → Nat
  | .result _ | .procExit _ => 1
  | _ => 0

/-- `spawn` neither starts nor ends an execution: it turns a command body into a process -/
theorem execs_apply (x : Chk) (a : Act) (hg : x.can a) : (x.apply a).execs + a.ends = x.execs + x.starts a := by
  cases a with
  | objectHandler => obtain ⟨_, _, _, e⟩ := objectHandler_frame x; show x.objectHandler.execs = _; rw [e]; rfl
  | nextCheckChanged => obtain ⟨_, e⟩ := nextCheckChanged_frame x; show x.nextCheckChanged.execs = _; rw [e]; rfl
  | helperFinish => obtain ⟨_, _, _, e⟩ := helperFinish_frame x; show x.helperFinish.execs = _; rw [e]; rfl
  | sched c now i => show (if _ then _ else _ : Chk).execs = _; split <;> rfl
  | helperGuard =>
    show x.helperGuard.execs = x.execs + if x.running then 0 else 1
    rw [helperGuard_eq]
    exact Nat.add_right_comm _ _ _
  | spawn | result | procExit =>
    dsimp only [Chk.apply, Chk.can, Chk.spawn, Chk.result, Chk.procExit, Chk.execs, Chk.starts, Act.ends] at hg ⊢
    omega
  | _ => rfl

end Icinga.C04
