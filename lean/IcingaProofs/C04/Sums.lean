/-
  C04 — sums over the checkables (`sumTo`): how a sum moves when one term is replaced; and the choice of an entry with the least key.
-/
import IcingaModel.C04.Model

namespace Icinga.C04

theorem sumTo_le (n : Nat) (f g : Nat → Int) (h : ∀ i, i < n → f i ≤ g i) : sumTo n f ≤ sumTo n g := by
  induction n with
  | zero => exact Int.le_refl _
  | succ k ih => exact Int.add_le_add (ih fun i hi => h i (by omega)) (h k (by omega))

theorem sumTo_congr (n : Nat) (f g : Nat → Int) (h : ∀ i, i < n → f i = g i) : sumTo n f = sumTo n g :=
  Int.le_antisymm (sumTo_le n f g fun i hi => Int.le_of_eq (h i hi)) (sumTo_le n g f fun i hi => Int.le_of_eq (h i hi).symm)

theorem sumTo_update (n : Nat) (f : Nat → Int) (c : Nat) (v : Int) (hc : c < n) :
    sumTo n (fun i => if i = c then v else f i) = sumTo n f - f c + v := by
  induction n with
  | zero => omega
  | succ k ih =>
    simp only [sumTo]
    by_cases hk : k = c
    · subst hk
      rw [sumTo_congr k _ f (fun i hi => if_neg (by omega)), if_pos rfl]; omega
    · rw [ih (by omega), if_neg hk]; omega

theorem sumTo_const_zero (n : Nat) : sumTo n (fun _ => 0) = 0 := by
  induction n with
  | zero => rfl
  | succ k ih => simp only [sumTo]; rw [ih]; rfl

theorem sumTo_zero (n : Nat) (f : Nat → Int) (h : ∀ i, i < n → f i = 0) : sumTo n f = 0 :=
  (sumTo_congr n f _ h).trans (sumTo_const_zero n)

theorem sumTo_nonneg (n : Nat) (f : Nat → Int) (h : ∀ i, i < n → 0 ≤ f i) : 0 ≤ sumTo n f :=
  sumTo_const_zero n ▸ sumTo_le n _ f h

theorem sumTo_ge_term (n : Nat) (f : Nat → Int) (h : ∀ i, 0 ≤ f i) (c : Nat) (hc : c < n) : f c ≤ sumTo n f := by
  -- compare `f` with the function that keeps only its term at `c`
  have e := sumTo_update n (fun _ => 0) c (f c) hc
  rw [sumTo_const_zero] at e
  have := sumTo_le n (fun i => if i = c then f c else 0) f fun i _ => by
    split
    · next hic => rw [hic]; exact Int.le_refl _
    · exact h i
  omega

theorem sum_upd (g : Chk → Int) (s : St) (c : Nat) (x : Chk) (hc : c < s.n) :
    sumTo (s.upd c x).n (fun i => g ((s.upd c x).chk i)) =
    sumTo s.n (fun i => g (s.chk i)) - g (s.chk c) + g x := by
  have : (fun i => g ((s.upd c x).chk i)) = (fun i => if i = c then g x else g (s.chk i)) := by
    funext i; simp only [St.upd]; split <;> rfl
  rw [this]; exact sumTo_update s.n (fun i => g (s.chk i)) c (g x) hc

theorem exists_min (p : Nat → Prop) (key : Nat → Int) (n c0 : Nat) (h0 : c0 < n) (hp : p c0) :
    ∃ c, c < n ∧ p c ∧ ∀ i, i < n → p i → key c ≤ key i := by
  -- induction on the prefix searched, not on `n`: the candidate (`c0` at the start) may lie beyond the prefix
  have upto : ∀ m, m ≤ n → ∃ c, c < n ∧ p c ∧ ∀ i, i < m → p i → key c ≤ key i := by
    intro m
    induction m with
    | zero => exact fun _ => ⟨c0, h0, hp, fun i hi => absurd hi (Nat.not_lt_zero i)⟩
    | succ k ih =>
      intro hk
      obtain ⟨c, hc, hpc, hmin⟩ := ih (by omega)
      by_cases hlt : p k ∧ key k < key c
      · refine ⟨k, by omega, hlt.1, fun i hi hpi => ?_⟩
        by_cases hik : i = k
        · rw [hik]; exact Int.le_refl _
        · have := hmin i (by omega) hpi; omega
      · refine ⟨c, hc, hpc, fun i hi hpi => ?_⟩
        by_cases hik : i = k
        · have : ¬ key k < key c := fun h => hlt ⟨hik ▸ hpi, h⟩
          rw [hik]; omega
        · exact hmin i (by omega) hpi
  exact upto n (Nat.le_refl n)

end Icinga.C04
