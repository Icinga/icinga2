/-
  C04 — the simulation behind the whole-trace theorem: a relation between the model state and the specification state (`Rel`: the
  model's invariants hold and the specification's list of executing checkables is the model's; `KRel`: what the specification
  knows about responsibility is true of the model), preserved by every action, under which every observation the model emits
  passes the specification.
-/
import IcingaProofs.C04.Invariants
import IcingaModel.C04.Trace

namespace Icinga.C04

def specRun (sp : SpecSt) (l : List Ev) : SpecSt := l.foldl specNext sp

theorem specTrace_append (sp : SpecSt) (l1 l2 : List Ev) (h1 : specTrace sp l1 = none)
    (h2 : specTrace (specRun sp l1) l2 = none) : specTrace sp (l1 ++ l2) = none := by
  induction l1 generalizing sp with
  | nil => exact h2
  | cons e es ih =>
    simp only [List.cons_append, specTrace] at *
    split at h1
    · cases h1
    · exact ih _ h1 h2

/-- "quiet": the observation leaves the specification state alone -/
theorem specTrace_quiet (sp : SpecSt) (l : List Ev) (h : ∀ e ∈ l, specNext sp e = sp ∧ specStep sp e = none) :
    specTrace sp l = none ∧ specRun sp l = sp := by
  induction l with
  | nil => exact ⟨rfl, rfl⟩
  | cons e es ih =>
    have he := h e List.mem_cons_self
    have ih' := ih (fun x hx => h x (List.mem_cons_of_mem _ hx))
    constructor
    · simp only [specTrace, he.2, he.1]; exact ih'.1
    · simp only [specRun, List.foldl, he.1]; exact ih'.2

theorem getKnown_drop (k : List (Nat × Bool)) (c c' : Nat) :
    getKnown (dropKnown k c) c' = if c' = c then none else getKnown k c' := by
  induction k with
  | nil => simp [dropKnown, getKnown]
  | cons hd tl ih =>
    obtain ⟨a, b⟩ := hd
    simp only [dropKnown]
    by_cases hac : a = c
    · simp only [hac, if_true, ih]
      by_cases hcc : c' = c
      · simp [hcc]
      · have : ¬ c = c' := fun h => hcc h.symm
        simp [hcc, getKnown, this]
    · simp only [hac, if_false, getKnown, ih]
      by_cases hcc : c' = c
      · subst hcc; simp [hac]
      · simp [hcc]

def KRel (s : St) (sp : SpecSt) : Prop :=
  ∀ c b, getKnown sp.known c = some b → (s.chk c).synced = true ∧ (s.chk c).schedulable = b

theorem krel_forget {s s' : St} {sp : SpecSt} {c : Nat} (hoth : ∀ i, i ≠ c → s'.chk i = s.chk i) (hk : KRel s sp) :
    KRel s' { sp with known := dropKnown sp.known c } := by
  intro i b hb
  rw [getKnown_drop] at hb
  split at hb
  · cases hb
  · next hic => rw [hoth i hic]; exact hk i b hb

theorem krel_learn {s s' : St} {sp : SpecSt} {c : Nat} (hoth : ∀ i, i ≠ c → s'.chk i = s.chk i) (hk : KRel s sp)
    (hsy : (s'.chk c).synced = true) :
    KRel s' { sp with known := (c, (s'.chk c).schedulable) :: dropKnown sp.known c } := by
  intro i b hb
  simp only [getKnown] at hb
  split at hb
  · next hic => cases hb; rw [← hic]; exact ⟨hsy, rfl⟩
  · exact krel_forget hoth hk i b hb

/-- the actions that bear on responsibility: the writes of `active` / `paused` (observed as `opBegin`: the specification forgets
    what it knew of the checkable) and the object handler (observed as `authority`: it learns it anew) -/
def Act.isAuth : Act → Bool
  | .setActive _ _ | .setPaused _ _ | .objectHandler _ => true
  | _ => false

theorem synced_schedulable_apply (x : Chk) (a : Act) (ha : a.isAuth = false) :
    (x.apply a).synced = x.synced ∧ (x.apply a).schedulable = x.schedulable := by
  cases a with
  | setActive | setPaused | objectHandler => exact nomatch ha
  | nextCheckChanged =>
    obtain ⟨_, e⟩ := nextCheckChanged_frame x
    show x.nextCheckChanged.synced = _ ∧ x.nextCheckChanged.schedulable = _
    rw [e]; exact ⟨rfl, rfl⟩
  | helperFinish =>
    obtain ⟨_, _, _, e⟩ := helperFinish_frame x
    show x.helperFinish.synced = _ ∧ x.helperFinish.schedulable = _
    rw [e]; exact ⟨rfl, rfl⟩
  | sched c now i =>
    show (if _ then _ else _ : Chk).synced = _ ∧ (if _ then _ else _ : Chk).schedulable = _
    split <;> exact ⟨rfl, rfl⟩
  | helperGuard =>
    show x.helperGuard.synced = _ ∧ x.helperGuard.schedulable = _
    rw [helperGuard_eq]
    exact ⟨rfl, rfl⟩
  | _ => exact ⟨rfl, rfl⟩

theorem krel_of_not_auth {s : St} {sp : SpecSt} {a : Act} (hk : KRel s sp) (ha : a.isAuth = false)
    (hen : s.enabled a) : KRel (s.after a) sp := by
  intro c b hb
  have := chk_step_rel (R := fun x y => y.synced = x.synced ∧ y.schedulable = x.schedulable) (fun _ => ⟨rfl, rfl⟩)
    (fun x _ => synced_schedulable_apply x a ha) hen c
  rw [this.1, this.2]; exact hk c b hb

theorem krel_step {s : St} {sp : SpecSt} {a : Act} (hk : KRel s sp) (hen : s.enabled a) :
    KRel (s.after a) (specRun sp (obsStep s a (s.after a))) := by
  cases hauth : a.isAuth with
  | false =>
    -- no observation of such an action is an `opBegin` or an `authority`
    have hkn : (specRun sp (obsStep s a (s.after a))).known = sp.known := by
      cases a with
      | setActive | setPaused | objectHandler => exact nomatch hauth
      | sched c now i =>
        show (specRun sp ((if _ then _ else _) ++ _)).known = _
        split <;> rfl
      | helperGuard c | helperDec c =>
        show (specRun sp (if _ then _ else _)).known = _
        split <;> rfl
      | _ => rfl
    intro c b hb
    rw [hkn] at hb
    exact krel_of_not_auth hk hauth hen c b hb
  | true =>
    cases a with
    | setActive c b | setPaused c b => exact krel_forget (fun _ hi => after_chk_ne s _ hi) hk
    | objectHandler c =>
      refine krel_learn (fun _ hi => after_chk_ne s _ hi) hk ?_
      obtain ⟨_, _, _, e⟩ := objectHandler_frame (s.chk c)
      rw [show (s.after (.objectHandler c)).chk c = (s.chk c).objectHandler from after_chk s _, e]
    | _ => exact nomatch hauth

/-- The simulation relation.  `execs = 1` in `mem` is "has a running execution": `FlightInv` excludes more.  `len` is stated
    beside `nodup` and `mem` because nothing says that the members lie below `n`, and the bound on the length comes from the sum
    over `i < n`.  What the specification knows of responsibility (`KRel`) is kept apart: it moves with other observations
    (`opBegin`, `authority`) than the list, and only the `loc` observations need it. -/
structure Rel (s : St) (sp : SpecSt) : Prop where
  inv : Inv s
  flight : ∀ c, FlightInv (s.chk c)
  rearm : ∀ c, RearmInv (s.chk c)
  max : sp.max = s.max
  nodup : sp.executing.Nodup
  mem : ∀ c, c ∈ sp.executing ↔ (s.chk c).execs = 1
  len : (sp.executing.length : Int) = s.executing

theorem rel_init (n : Nat) (max : Int) (hm : 0 ≤ max) : Rel (init n max) { max := max } :=
  ⟨inv_init n max hm, fun _ => flightInv_default, fun _ => rearmInv_default, rfl, List.nodup_nil,
    fun _ => ⟨(fun h => nomatch h), fun h => nomatch (h : 0 = 1)⟩, (sumTo_zero n _ fun _ _ => rfl).symm⟩

theorem loc_ok (s : St) (sp : SpecSt) (h : Inv s) (hk : KRel s sp) (c : Nat) :
    specNext sp (locOf s c) = sp ∧ specStep sp (locOf s c) = none := by
  refine ⟨rfl, ?_⟩
  have h1 := (h.chk c).not_both
  have h2 := (h.chk c).synced_iff
  have hip : ((s.chk c).inIdle && (s.chk c).inPending) = false :=
    Bool.eq_false_iff.2 fun hb => h1 (Bool.and_eq_true _ _ ▸ hb)
  cases hkn : getKnown sp.known c with
  | none => simp only [locOf, specStep, hip, hkn, Bool.false_eq_true, ↓reduceIte]
  | some b =>
    obtain ⟨hs1, hs2⟩ := hk c b hkn
    have hor : ((s.chk c).inIdle || (s.chk c).inPending) = b := by
      rw [← hs2, Bool.eq_iff_iff, Bool.or_eq_true]; exact (h2 hs1).symm
    cases b <;> simp only [locOf, specStep, hip, hkn, hor, Bool.false_eq_true, ↓reduceIte]

theorem decision_ok (sp : SpecSt) (c : Nat) (f : Bool) (i : SkipIn) :
    specStep sp (Ev.decision c f (Chk.skipsIn f i)
      (eligible i.isService i.own i.hostChecks i.svcChecks i.inPeriod i.depOk)) = none := by
  rw [skipsIn_eq_not_eligible]
  cases f <;> cases eligible i.isService i.own i.hostChecks i.svcChecks i.inPeriod i.depOk <;> rfl

/-- what the specification's list must satisfy at the one checkable the step rewrites -/
theorem Rel.of_step {s : St} {sp sp' : SpecSt} {a : Act} (h : Rel s sp) (hen : s.enabled a) (hm : sp'.max = sp.max)
    (hnd : sp'.executing.Nodup) (hne : ∀ i, i ≠ a.on → (i ∈ sp'.executing ↔ i ∈ sp.executing))
    (hon : a.on ∈ sp'.executing ↔ ((s.chk a.on).apply a).execs = 1)
    (hlen : (sp'.executing.length : Int) + (s.chk a.on).execs = sp.executing.length + ((s.chk a.on).apply a).execs) :
    Rel (s.after a) sp' := by
  refine ⟨inv_step h.inv hen, chk_step flightInv_apply h.flight hen, chk_step rearmInv_apply h.rearm hen,
    hm.trans (h.max.trans (after_max s a).symm), hnd, fun i => ?_, ?_⟩
  · by_cases hic : i = a.on
    · rw [hic, after_chk]; exact hon
    · rw [after_chk_ne s a hic, hne i hic]; exact h.mem i
  · have : (s.after a).executing = s.executing - ((s.chk a.on).execs : Int) + (((s.chk a.on).apply a).execs : Int) :=
      sum_upd (fun y => (y.execs : Int)) s a.on _ (enabled_can hen).1
    have := h.len
    omega

theorem rel_same {s : St} {sp : SpecSt} {a : Act} (h : Rel s sp) (hen : s.enabled a)
    (hx : ((s.chk a.on).apply a).execs = (s.chk a.on).execs) (sp' : SpecSt) (hm : sp'.max = sp.max)
    (he : sp'.executing = sp.executing) : Rel (s.after a) sp' :=
  h.of_step hen hm (he ▸ h.nodup) (fun _ _ => he ▸ Iff.rfl) (by rw [he, h.mem, hx]) (by rw [he, hx])

theorem rel_quiet {s : St} {sp : SpecSt} {a : Act} (h : Rel s sp) (hen : s.enabled a)
    (hx : ((s.chk a.on).apply a).execs = (s.chk a.on).execs)
    (hq : ∀ e ∈ obsStep s a (s.after a), specNext sp e = sp ∧ specStep sp e = none) :
    specTrace sp (obsStep s a (s.after a)) = none ∧ Rel (s.after a) (specRun sp (obsStep s a (s.after a))) := by
  have := specTrace_quiet sp _ hq
  exact ⟨this.1, by rw [this.2]; exact rel_same h hen hx sp rfl rfl⟩

theorem rel_exec_start {s : St} {sp : SpecSt} {a : Act} (h : Rel s sp) (hen : s.enabled a)
    (hinc : ((s.chk a.on).apply a).execs = (s.chk a.on).execs + 1) :
    specTrace sp [Ev.execStart a.on] = none ∧ Rel (s.after a) (specRun sp [Ev.execStart a.on]) := by
  -- single flight after the step: `execs` went 0 → 1, so the checkable was not in the list
  have h1 := (chk_step flightInv_apply h.flight hen a.on).execs_le_one
  rw [after_chk] at h1
  have hnew : ((s.chk a.on).apply a).execs = 1 := by omega
  have hnotmem : a.on ∉ sp.executing := fun hm => by have := (h.mem _).1 hm; omega
  have hrel : Rel (s.after a) (specRun sp [Ev.execStart a.on]) :=
    h.of_step hen rfl (List.nodup_cons.2 ⟨hnotmem, h.nodup⟩) (fun i hic => List.mem_cons.trans (or_iff_right hic))
      ⟨fun _ => hnew, fun _ => List.mem_cons_self⟩ (by show ((sp.executing.length + 1 : Nat) : Int) + _ = _; omega)
  refine ⟨?_, hrel⟩
  -- the list after the step is as long as the executions running then, which `Inv` bounds
  have hbound := hrel.inv.executing_le_max
  have hlen : ((sp.executing.length + 1 : Nat) : Int) = (s.after a).executing := hrel.len
  have hmax : sp.max = (s.after a).max := hrel.max
  have hc1 : sp.executing.contains a.on = false := by simpa using hnotmem
  have hle : ¬ sp.max < ((sp.executing.length + 1 : Nat) : Int) := by omega
  simp only [specTrace, specStep, hc1, hle, Bool.false_eq_true, ↓reduceIte]

theorem rel_exec_end {s : St} {sp : SpecSt} {a : Act} (h : Rel s sp) (hen : s.enabled a)
    (hdec : ((s.chk a.on).apply a).execs + 1 = (s.chk a.on).execs) :
    specTrace sp [Ev.execEnd a.on] = none ∧ Rel (s.after a) (specRun sp [Ev.execEnd a.on]) := by
  -- single flight before the step: `execs` goes 1 → 0, so the checkable is in the list
  have h1 := (h.flight a.on).execs_le_one
  have hmem : a.on ∈ sp.executing := (h.mem _).2 (by omega)
  constructor
  · have : sp.executing.contains a.on = true := by simpa using hmem
    simp only [specTrace, specStep, this, ↓reduceIte]
  · refine h.of_step hen rfl (h.nodup.erase _) (fun i hic => h.nodup.mem_erase_iff.trans (and_iff_right hic))
      ⟨fun hm => absurd rfl (h.nodup.mem_erase_iff.1 hm).1, fun hm => by omega⟩ ?_
    show ((sp.executing.erase a.on).length : Int) + _ = _
    rw [List.length_erase_of_mem hmem]
    have := List.length_pos_of_mem hmem
    omega

/-- The action is classed by what it does to `execs` of its checkable (`execs_apply`): unchanged — the list stays (`rel_same`), and
    unless the action bears on responsibility (`opBegin`, `authority` move `sp.known`) every observation is quiet (`rel_quiet`); one
    more — the observation is `execStart` (`rel_exec_start`); one less — `execEnd` (`rel_exec_end`).  What remains per action is
    that each quiet observation passes. -/
theorem rel_step {s : St} {sp : SpecSt} {a : Act} (h : Rel s sp) (hk : KRel s sp) (hen : s.enabled a) :
    specTrace sp (obsStep s a (s.after a)) = none ∧ Rel (s.after a) (specRun sp (obsStep s a (s.after a))) := by
  have hinv' := inv_step h.inv hen
  have hk' : a.isAuth = false → KRel (s.after a) sp := fun ha => krel_of_not_auth hk ha hen
  have hg := (enabled_can hen).2
  have hx := execs_apply _ a hg
  -- once the action is known `a.ends` and `starts a` are literals, so `hx` reduces to the hypothesis each `rel_` lemma asks for
  cases a with
  | setActive c b | setPaused c b => exact ⟨rfl, rel_same h hen hx _ rfl rfl⟩
  | objectHandler c =>
    -- after the handler the specification knows `c`'s responsibility (`specRun sp [authority …, loc …]` is `specNext sp (authority …)`);
    -- the membership it then sees agrees with it
    let s' := s.after (.objectHandler c)
    let sp1 := specNext sp (.authority c (s'.chk c).schedulable)
    have hloc : specNext sp1 (locOf s' c) = sp1 ∧ specStep sp1 (locOf s' c) = none :=
      loc_ok s' sp1 hinv' (krel_step hk hen) c
    -- `authority` always passes (`rfl`); `loc` is judged against `sp1`
    exact ⟨specTrace_append sp [.authority c (s'.chk c).schedulable] [locOf s' c] rfl
      (specTrace_quiet sp1 [_] fun e he => by rw [List.mem_singleton.1 he]; exact hloc).1, rel_same h hen hx _ rfl rfl⟩
  | setNextCheck | ownResched | rearm | force | spawn | pluginInc | procResult | passiveResult =>
    exact rel_quiet h hen hx fun _ he => nomatch he
  | nextCheckChanged c | helperFinish c =>
    refine rel_quiet h hen hx fun ev he => ?_
    rw [List.mem_singleton.1 he]; exact loc_ok _ sp hinv' (hk' rfl) c
  | sched c now i =>
    refine rel_quiet h hen hx fun ev he => ?_
    rcases List.mem_append.1 he with he | he
    · -- a dispatch found the counter below `max_concurrent_checks`
      split at he
      · exact nomatch he
      · rw [List.mem_singleton.1 he]
        exact ⟨rfl, if_pos ⟨h.inv.counter_nonneg, schedEnabled.free hen⟩⟩
    · rcases List.mem_cons.1 he with rfl | he
      · exact ⟨rfl, decision_ok sp c _ i⟩
      · rw [List.mem_singleton.1 he]; exact loc_ok _ sp hinv' (hk' rfl) c
  | helperGuard c =>
    have hobs : obsStep s (.helperGuard c) (s.after (.helperGuard c)) = if (s.chk c).running = true then [] else [Ev.execStart c] := rfl
    have hx : (s.chk c).helperGuard.execs = (s.chk c).execs + if (s.chk c).running then 0 else 1 := hx
    cases hrun : (s.chk c).running <;> rw [hrun] at hx
    · -- the guard succeeds: an execution starts
      rw [hobs, hrun]
      exact rel_exec_start h hen hx
    · -- busy: the helper returns, nothing starts
      exact rel_quiet h hen hx (by rw [hobs, hrun]; exact fun _ he => nomatch he)
  | result c | procExit c => exact rel_exec_end h hen hx
  | helperDec c =>
    refine rel_quiet h hen hx fun ev he => ?_
    have he : ev ∈ (if (s.chk c).foreign = true then [] else [Ev.rearmed c (s.chk c).dispatchedAt (s.chk c).nextCheck]) := he
    split at he
    · exact nomatch he
    · next hfor =>
      rw [List.mem_singleton.1 he]
      -- the returning helper is counted in `hr`, so `RearmInv`'s premise holds
      have hr : 0 < (s.chk c).hr := hg
      exact ⟨rfl, if_pos (h.rearm c (Bool.eq_false_iff.2 hfor) (by omega))⟩

theorem quiescent_ok (s : St) (sp : SpecSt) (h : Inv s) : specTrace sp (quiescentObs s) = none := by
  refine (specTrace_quiet sp _ fun e he => ?_).1
  rcases List.mem_append.1 he with he | he
  · obtain ⟨c, _, hc⟩ := List.mem_filterMap.1 he
    dsimp only at hc
    split at hc
    · next hsync =>
      cases hc
      refine ⟨rfl, ?_⟩
      simp only [Bool.and_eq_true, beq_iff_eq] at hsync
      -- all its helpers have finished, so it is not pending; hence it is schedulable iff idle, and then under its `next_check`
      obtain ⟨hnp, hsi⟩ := (h.chk c).no_helpers hsync.2
      unfold specStep
      rw [hnp, Bool.eq_iff_iff.2 (hsi hsync.1.1)]
      cases hi : (s.chk c).inIdle
      · rfl
      · rw [(h.chk c).key hsync.1.2 hi]; simp
    · cases hc
  · split at he
    · next hset => rw [List.mem_singleton.1 he]; exact ⟨rfl, if_pos (h.settled_counter hset)⟩
    · exact nomatch he

theorem rel_run (acts : List Act) (s : St) (sp : SpecSt) (tr : List Ev) (h : Rel s sp) (hk : KRel s sp)
    (ht : traceOf s acts = some tr) : specTrace sp tr = none := by
  induction acts generalizing s sp tr with
  | nil =>
    cases ht
    exact quiescent_ok s sp h.inv
  | cons a as ih =>
    simp only [traceOf] at ht
    split at ht
    · next s1 hs1 =>
      cases hrest : traceOf s1 as with
      | none => rw [hrest] at ht; cases ht
      | some tr1 =>
        rw [hrest] at ht; cases ht
        obtain ⟨hen, rfl⟩ := step_iff.1 hs1
        have hstep := rel_step h hk hen
        exact specTrace_append sp _ _ hstep.1 (ih _ _ tr1 hstep.2 (krel_step hk hen) hrest)
    · cases ht

end Icinga.C04
