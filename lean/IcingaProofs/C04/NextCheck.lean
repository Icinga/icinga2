/-
  C04 — the bounds of `UpdateNextCheck`'s adjustment over `Rat`: `0 ≤ fmod x y < y`, hence `0 ≤ nextCheckAdj < interval`.
-/
import IcingaModel.C04.Model

namespace Icinga.C04

theorem mul_div_cancel' (x y : Rat) (hy : 0 < y) : y * (x / y) = x :=
  (Rat.mul_comm _ _).trans (Rat.div_mul_cancel (Rat.ne_of_gt hy))

theorem fmod_nonneg (x y : Rat) (hy : 0 < y) : 0 ≤ fmod x y := by
  have h := Rat.mul_le_mul_of_nonneg_left (Rat.floor_le (x / y)) (Rat.le_of_lt hy)
  rw [mul_div_cancel' x y hy] at h
  exact (Rat.le_iff_sub_nonneg _ _).1 h

theorem fmod_lt (x y : Rat) (hy : 0 < y) : fmod x y < y := by
  have h := Rat.mul_lt_mul_of_pos_left (Rat.lt_floor_add_one (x / y)) hy
  rw [mul_div_cancel' x y hy, Rat.intCast_add, Rat.mul_add] at h
  unfold fmod
  grind

theorem rat_div_nonneg (a b : Rat) (ha : 0 ≤ a) (hb : 0 < b) : 0 ≤ a / b := by
  rw [Rat.div_def]; exact Rat.mul_nonneg ha (Rat.le_of_lt (Rat.inv_pos.2 hb))

theorem ratMin_bounds (a b : Rat) (ha : 0 ≤ a) (hb : 0 ≤ b) : 0 ≤ ratMin a b ∧ ratMin a b ≤ b := by
  unfold ratMin
  split
  · exact ⟨hb, Rat.le_refl⟩
  · next h => exact ⟨ha, Rat.not_lt.1 h⟩

theorem adj_bounds (now off interval : Rat) (hi : 0 < interval) :
    0 ≤ nextCheckAdj now off interval ∧ nextCheckAdj now off interval < interval := by
  -- the cap (the `ratMin` line of `nextCheckAdj`) keeps whatever bounds the raw adjustment has
  have cap : ∀ a adj : Rat, 0 ≤ a → 0 ≤ adj → adj < interval →
      0 ≤ (if adj ≠ 0 then ratMin a adj else adj) ∧ (if adj ≠ 0 then ratMin a adj else adj) < interval := by
    intro a adj ha h0 h1
    split
    · have := ratMin_bounds a adj ha h0
      exact ⟨this.1, by grind⟩
    · exact ⟨h0, h1⟩
  have h5 := rat_div_nonneg _ 100 (fmod_nonneg off (interval * 5) (Rat.mul_pos hi (by decide))) (by decide)
  have h100 : 0 < interval * 100 := Rat.mul_pos hi (by decide)
  unfold nextCheckAdj
  refine cap _ _ (Rat.add_nonneg (by decide +kernel) h5) ?_ ?_ <;> split
  · exact rat_div_nonneg _ 100 (fmod_nonneg _ _ h100) (by decide)
  · exact Rat.le_refl
  · exact (Rat.div_lt_iff (by decide)).2 (fmod_lt _ _ h100)
  · exact hi

end Icinga.C04
