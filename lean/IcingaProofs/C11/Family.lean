/-
  C11 — the concrete topologies the general theorems are instantiated on: the chain
  zone 0 (endpoints 0,1) ── zone 1 (2,3) ── zone 2 (4,5)  plus the global zone 3 (`ChainShape`; every topology of this
  shape is a `Cluster`).  `family`, the list the two `…_partial` theorems name: everything connected and each one of the 11
  directly related pairs cut, iterated ascending on every node; three of these connectivities also descending on every node
  and alternating by node.  `threeTopo`: three endpoints in one zone, for `no_duplicate_three_endpoints_counterexample`.
-/
import IcingaProofs.C11.Ledger
namespace Icinga.C11

/-- the directly related pairs of the chain -/
def chainPairs : List (Ep × Ep) :=
  [(0, 1), (2, 3), (4, 5), (0, 2), (0, 3), (1, 2), (1, 3), (2, 4), (2, 5), (3, 4), (3, 5)]

/-- bit `i` of `mask` set: the `i`-th pair of `pairs` is connected, in both directions -/
def maskConn (pairs : List (Ep × Ep)) (mask : Nat) (a b : Ep) : Bool :=
  (pairs.zipIdx).any (fun p => ((p.1.1 == a && p.1.2 == b) || (p.1.1 == b && p.1.2 == a)) && mask.testBit p.2)

/-- `ord`: 0 every node iterates ascending, 1 descending, 2 odd nodes descending -/
def chainTopo (mask : Nat) (ord : Nat) : Topo :=
  { parent := fun z => if z = 1 then some 0 else if z = 2 then some 1 else none,
    isGlobal := fun z => z == 3,
    zones := [0, 1, 2, 3],
    zoneOf := fun e => e / 2,
    eps := fun s z => if z < 3 then (if (ord == 1) || (ord == 2 && s % 2 == 1) then [2 * z + 1, 2 * z] else [2 * z, 2 * z + 1]) else [],
    conn := maskConn chainPairs mask }

def chainEps : List Ep := [0, 1, 2, 3, 4, 5]
def chainZones : List Zone := [0, 1, 2, 3]

/-- all pairs connected (mask 2047) and each single pair cut -/
def cutMasks : List Nat := 2047 :: (List.range 11).map (fun i => 2047 - 2 ^ i)

def familyA : List (Nat × Nat) := (cutMasks.take 6).map (fun m => (m, 0))
def familyB : List (Nat × Nat) := (cutMasks.drop 6).map (fun m => (m, 0))
def familyC : List (Nat × Nat) := [(2047, 1), (2047, 2), (2046, 1), (2046, 2), (2039, 1), (2039, 2)]

/-- `familyA ++ familyB` is `cutMasks` with iteration order 0 (the two halves have no meaning of their own); `familyC` adds
    the orders 1 and 2 for three of the masks -/
def family : List (Nat × Nat) := familyA ++ familyB ++ familyC

/-- `chainEps` is written as the literal `[0, …, 5]`, to which `List.range 6` reduces: hence `List.mem_range` applies -/
theorem mem_chainEps {e : Ep} : e ∈ chainEps ↔ e < 6 := List.mem_range (n := 6)

theorem mem_chainZones {z : Zone} : z ∈ chainZones ↔ z ≤ 3 := (List.mem_range (n := 4)).trans Nat.lt_succ_iff

/-- Outside the property's quantifier: a zone with THREE endpoints (0,1,2; 0 and 1 do not see each other, both see 2)
    above a child zone with endpoint 3 that 0 and 1 reach. -/
def threeTopo : Topo :=
  { parent := fun z => if z = 1 then some 0 else none,
    isGlobal := fun _ => false,
    zones := [0, 1],
    zoneOf := fun e => if e = 3 then 1 else 0,
    eps := fun _ z => if z = 0 then [0, 1, 2] else if z = 1 then [3] else [],
    conn := fun a b => a != b && !((a == 0 && b == 1) || (a == 1 && b == 0)) && !((a == 2 && b == 3) || (a == 3 && b == 2)) }

/-- the chain; every node lists the two endpoints of a zone in an order of its own, connectivity is any symmetric relation -/
structure ChainShape (T : Topo) : Prop where
  parent : T.parent = fun z => if z = 1 then some 0 else if z = 2 then some 1 else none
  isGlobal : T.isGlobal = fun z => z == 3
  zones : T.zones = [0, 1, 2, 3]
  zoneOf : T.zoneOf = fun e => e / 2
  eps : ∀ s z, T.eps s z = (if z < 3 then [2 * z, 2 * z + 1] else []) ∨
    T.eps s z = (if z < 3 then [2 * z + 1, 2 * z] else [])
  conn_symm : ∀ a b, T.conn a b = T.conn b a

theorem maskConn_symm (pairs : List (Ep × Ep)) (mask : Nat) (a b : Ep) :
    maskConn pairs mask a b = maskConn pairs mask b a := by
  unfold maskConn
  congr 1
  funext p
  rw [Bool.or_comm]

theorem chainTopo_shape (mask ord : Nat) : ChainShape (chainTopo mask ord) where
  parent := rfl
  isGlobal := rfl
  zones := rfl
  zoneOf := rfl
  eps s z := by
    by_cases c : ((ord == 1) || (ord == 2 && s % 2 == 1)) = true
    · right; simp only [chainTopo, c, ↓reduceIte]
    · left; simp only [chainTopo, c, Bool.false_eq_true, ↓reduceIte]
  conn_symm := maskConn_symm chainPairs mask

namespace ChainShape
variable {T : Topo} (sh : ChainShape T)
include sh

theorem parent_cases {z p : Zone} (h : T.parent z = some p) : (z = 1 ∧ p = 0) ∨ (z = 2 ∧ p = 1) := by
  rw [sh.parent] at h
  dsimp only at h
  by_cases h1 : z = 1
  · rw [if_pos h1] at h
    exact Or.inl ⟨h1, (Option.some.inj h).symm⟩
  · rw [if_neg h1] at h
    by_cases h2 : z = 2
    · rw [if_pos h2] at h
      exact Or.inr ⟨h2, (Option.some.inj h).symm⟩
    · rw [if_neg h2] at h
      cases h

theorem parent_lt {z p : Zone} (h : T.parent z = some p) : p < z := by
  rcases sh.parent_cases h with ⟨rfl, rfl⟩ | ⟨rfl, rfl⟩ <;> decide

theorem mem_eps {s e : Ep} {z : Zone} : e ∈ T.eps s z ↔ z < 3 ∧ e / 2 = z := by
  have half : ∀ a b : Nat, a / 2 = b ↔ a = 2 * b ∨ a = 2 * b + 1 := fun a b => by omega
  rw [half]
  by_cases hz : z < 3
  · rcases sh.eps s z with h | h <;> rw [h, if_pos hz] <;>
      simp only [List.mem_cons, List.not_mem_nil, or_false, hz, true_and]
    exact or_comm
  · have h : T.eps s z = [] := by
      have := sh.eps s z
      rwa [if_neg hz, if_neg hz, or_self] at this
    rw [h]
    exact ⟨fun h => (nomatch h), fun h => absurd h.1 hz⟩

theorem zoneOf_eq (e : Ep) : T.zoneOf e = e / 2 := by rw [sh.zoneOf]

theorem member_iff {e : Ep} : Member T e ↔ e < 6 := by
  unfold Member
  simp only [sh.mem_eps, sh.zoneOf_eq, and_true, forall_const]
  exact Nat.div_lt_iff_lt_mul (by decide)

theorem cluster : Cluster T where
  global_no_parent g hg := by
    cases hp : T.parent g with
    | none => rfl
    | some p =>
      rw [sh.isGlobal] at hg
      rcases sh.parent_cases hp with ⟨rfl, _⟩ | ⟨rfl, _⟩ <;> exact absurd hg (by decide)
  parent_not_global z p hp := by
    rw [sh.isGlobal]
    rcases sh.parent_cases hp with ⟨_, rfl⟩ | ⟨_, rfl⟩ <;> rfl
  zone_of_mem s z e h := by rw [sh.zoneOf_eq]; exact (sh.mem_eps.mp h).2
  mem_indep s s' z e h := sh.mem_eps.mpr (sh.mem_eps.mp h)
  eps_nodup s z := by
    rcases sh.eps s z with h | h <;> rw [h] <;> split <;> simp
  two s z := by
    rcases sh.eps s z with h | h <;> rw [h] <;> split <;> simp
  zones_nodup := by rw [sh.zones]; decide
  conn_symm := sh.conn_symm
  acyclic := ⟨fun z => z, fun _ _ => sh.parent_lt⟩

/-- `hdepth_of_rank` wants a rank that stays within `maxDepth` on every `Nat`, zones of the chain or not: hence `min · 2` -/
theorem rank_lt {z p : Zone} (h : T.parent z = some p) : min p 2 < min z 2 := by
  rcases sh.parent_cases h with ⟨rfl, rfl⟩ | ⟨rfl, rfl⟩ <;> decide

theorem registered {z p : Zone} (h : T.parent z = some p) : z ∈ T.zones := by
  rw [sh.zones]
  rcases sh.parent_cases h with ⟨rfl, _⟩ | ⟨rfl, _⟩ <;> decide

theorem anc_le {a b : Zone} (h : Anc T a b) : b ≤ a :=
  anc_rank (rank := fun z => z) (fun _ _ => sh.parent_lt) h

theorem entitled_nonempty {orig : Ep} {oz : Zone} (ho : orig < 6) (hz : oz ≤ 3) {Z : Zone}
    (h : NetEntitled T (T.zoneOf orig) oz Z) : ∃ x, Member T x ∧ T.zoneOf x = Z := by
  have hZ : Z < 3 := by
    cases hg : T.isGlobal oz with
    | true =>
      rw [netEntitled_global hg, sh.zoneOf_eq] at h
      cases h with
      | refl => exact Nat.div_lt_of_lt_mul ho
      | step hp _ => rcases sh.parent_cases hp with ⟨rfl, _⟩ | ⟨rfl, _⟩ <;> decide
    | false =>
      have h := anc_of_isChildOf ((netEntitled_ordinary hg).mp h)
      rw [sh.isGlobal] at hg
      exact Nat.lt_of_le_of_lt (sh.anc_le h) (Nat.lt_of_le_of_ne hz (beq_eq_false_iff_ne.mp hg))
  exact ⟨2 * Z, sh.member_iff.mpr (Nat.mul_lt_mul_of_le_of_lt (Nat.le_refl 2) hZ (by decide)), by rw [sh.zoneOf_eq]; exact Nat.mul_div_cancel_left Z (by decide)⟩

end ChainShape

end Icinga.C11
