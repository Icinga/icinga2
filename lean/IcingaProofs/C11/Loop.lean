/-
  C11 — the inner loop of `RelayMessageOne` (`relayZone`: a fold of `relayStep` over one zone's endpoints): what one
  iteration does, and what a whole pass does to `sent`, `skipped` and the log flags.  The `relayed` flag only matters
  in a foreign zone, so a pass sends to every member of the node's own zone that passes the guards and to the first
  such member of a foreign zone (`foldl_relayStep_sent`).
-/
import IcingaModel.C11.Spec
namespace Icinga.C11

theorem foldl_invariant {α β : Type} (f : β → α → β) (P : β → Prop) (l : List α)
    (h : ∀ b, ∀ a ∈ l, P b → P (f b a)) : ∀ b, P b → P (l.foldl f b) :=
  fun _ hb => List.foldlRecOn l f hb fun b hb a ha => h b a ha hb

section Zone
variable (T : Topo) (self : Ep) (o : Origin) (m : Option Ep) (cz : Zone)

theorem relayStep_cases (st : ZState) (e : Ep) :
    (e = self ∧ relayStep T self o m cz st e = st) ∨
    (e ≠ self ∧ T.conn self e = false ∧ relayStep T self o m cz st e =
      { st with logNeeded := true, logDone := if cz == T.zoneOf self then false else st.logDone }) ∨
    (e ≠ self ∧ T.conn self e = true ∧ blocked T self o m cz st.relayed e = true ∧ relayStep T self o m cz st e =
      { st with logNeeded := true, logDone := true, skipped := st.skipped ++ [e] }) ∨
    (e ≠ self ∧ T.conn self e = true ∧ blocked T self o m cz st.relayed e = false ∧ relayStep T self o m cz st e =
      { st with logNeeded := true, logDone := true, relayed := true, sent := st.sent ++ [e] }) := by
  unfold relayStep
  by_cases h1 : e = self
  · exact Or.inl ⟨h1, by rw [if_pos (beq_iff_eq.mpr h1)]⟩
  · right
    rw [if_neg (by simpa using h1)]
    cases h2 : T.conn self e with
    | false => exact Or.inl ⟨h1, rfl, rfl⟩
    | true =>
      right
      cases h3 : blocked T self o m cz st.relayed e with
      | true => exact Or.inl ⟨h1, rfl, rfl, rfl⟩
      | false => exact Or.inr ⟨h1, rfl, rfl, rfl⟩

theorem eligible_relayed (r : Bool) (e : Ep) :
    eligible T self o m cz r e = (eligible T self o m cz false e && !(r && cz != T.zoneOf self)) := by
  unfold eligible blocked
  cases r <;> cases (cz != T.zoneOf self) <;> simp

theorem relayStep_sent_relayed (st : ZState) (e : Ep) :
    (relayStep T self o m cz st e).sent = (if eligible T self o m cz st.relayed e then st.sent ++ [e] else st.sent) ∧
    (relayStep T self o m cz st e).relayed = (st.relayed || eligible T self o m cz st.relayed e) := by
  unfold eligible
  rcases relayStep_cases T self o m cz st e with ⟨h1, h⟩ | ⟨_, h2, h⟩ | ⟨_, h2, h3, h⟩ | ⟨h1, h2, h3, h⟩ <;> rw [h]
  · simp [h1]
  · simp [h2]
  · simp [h2, h3]
  · simp [h1, h2, h3]

theorem foldl_relayStep_sent (l : List Ep) : ∀ st : ZState,
    (l.foldl (relayStep T self o m cz) st).sent = st.sent ++
      if cz = T.zoneOf self then l.filter (eligible T self o m cz false)
      else if st.relayed then [] else (l.find? (eligible T self o m cz false)).toList := by
  induction l with
  | nil => intro st; simp
  | cons e es ih =>
    intro st
    obtain ⟨hs, hr⟩ := relayStep_sent_relayed T self o m cz st e
    rw [List.foldl_cons, ih, hs, hr, eligible_relayed T self o m cz st.relayed e]
    by_cases hcz : cz = T.zoneOf self
    · rw [if_pos hcz, if_pos hcz, bne_eq_false_iff_eq.mpr hcz, Bool.and_false, Bool.not_false, Bool.and_true,
        List.filter_cons]
      split
      · exact List.append_assoc _ _ _
      · rfl
    · rw [if_neg hcz, if_neg hcz, bne_iff_ne.mpr hcz, Bool.and_true, List.find?_cons]
      cases st.relayed <;> cases eligible T self o m cz false e <;> simp

theorem foldl_relayStep_logNeeded (l : List Ep) : ∀ st : ZState,
    (l.foldl (relayStep T self o m cz) st).logNeeded = (st.logNeeded || l.any (· != self)) := by
  induction l with
  | nil => exact fun st => (Bool.or_false _).symm
  | cons e es ih =>
    intro st
    rw [List.foldl_cons, ih, List.any_cons, ← Bool.or_assoc]
    congr 1
    rcases relayStep_cases T self o m cz st e with ⟨h1, h⟩ | ⟨h1, _, h⟩ | ⟨h1, _, _, h⟩ | ⟨h1, _, _, h⟩ <;> rw [h]
    · rw [bne_eq_false_iff_eq.mpr h1, Bool.or_false]
    all_goals
      show true = (st.logNeeded || e != self)
      rw [bne_iff_ne.mpr h1, Bool.or_true]

theorem foldl_relayStep_served (x : Ep) (l : List Ep) : ∀ st : ZState,
    (x ∈ (l.foldl (relayStep T self o m cz) st).sent ∨ x ∈ (l.foldl (relayStep T self o m cz) st).skipped) ↔
      (x ∈ st.sent ∨ x ∈ st.skipped) ∨ (x ∈ l ∧ x ≠ self ∧ T.conn self x = true) := by
  induction l with
  | nil => exact fun st => (or_iff_left fun h => nomatch h.1).symm
  | cons e es ih =>
    intro st
    rw [List.foldl_cons, ih, List.mem_cons, or_and_right, ← or_assoc]
    refine or_congr_left ?_
    rcases relayStep_cases T self o m cz st e with ⟨h1, h⟩ | ⟨h1, h2, h⟩ | ⟨h1, h2, _, h⟩ | ⟨h1, h2, _, h⟩ <;> rw [h]
    · exact (or_iff_left fun hx => hx.2.1 (hx.1.trans h1)).symm
    · exact (or_iff_left fun hx => by rw [hx.1, h2] at hx; exact Bool.false_ne_true hx.2.2).symm
    · show _ ∨ x ∈ st.skipped ++ [e] ↔ _
      rw [List.mem_append, List.mem_singleton, ← or_assoc]
      exact or_congr_right ⟨fun hx => ⟨hx, hx ▸ h1, hx ▸ h2⟩, And.left⟩
    · show x ∈ st.sent ++ [e] ∨ _ ↔ _
      rw [List.mem_append, List.mem_singleton, or_right_comm]
      exact or_congr_right ⟨fun hx => ⟨hx, hx ▸ h1, hx ▸ h2⟩, And.left⟩

variable {T self o m cz}

theorem eligible_unrelayed_iff {e : Ep} : eligible T self o m cz false e = true ↔
    e ≠ self ∧ T.conn self e = true ∧ o.client ≠ some e ∧ o.fromZone ≠ some cz ∧ (m = some self ∨ m = some e) := by
  unfold eligible blocked
  simp only [Bool.false_and, Bool.false_or, Bool.and_eq_true, Bool.not_eq_true', Bool.or_eq_false_iff, Bool.and_eq_false_iff,
    bne_iff_ne, ne_eq, beq_eq_false_iff_ne, bne_eq_false_iff_eq, and_assoc]

theorem relayZone_sent_own (hcz : cz = T.zoneOf self) :
    (relayZone T self o m cz).sent = (T.eps self cz).filter (eligible T self o m cz false) := by
  unfold relayZone
  rw [foldl_relayStep_sent, if_pos hcz]
  rfl

theorem relayZone_sent_foreign (hcz : cz ≠ T.zoneOf self) :
    (relayZone T self o m cz).sent = ((T.eps self cz).find? (eligible T self o m cz false)).toList := by
  unfold relayZone
  rw [foldl_relayStep_sent, if_neg hcz]
  rfl

theorem relayZone_sent_prefix :
    (relayZone T self o m cz).sent <+: (T.eps self cz).filter (eligible T self o m cz false) := by
  by_cases hcz : cz = T.zoneOf self
  · rw [relayZone_sent_own hcz]
    exact List.prefix_rfl
  · rw [relayZone_sent_foreign hcz, ← List.head?_filter, ← List.take_one]
    exact List.take_prefix _ _

theorem relayZone_sent_eligible {e : Ep} (h : e ∈ (relayZone T self o m cz).sent) :
    e ∈ T.eps self cz ∧ eligible T self o m cz false e = true :=
  List.mem_filter.mp (relayZone_sent_prefix.subset h)

theorem relayZone_sent_nodup (h : (T.eps self cz).Nodup) : (relayZone T self o m cz).sent.Nodup :=
  (h.filter _).sublist relayZone_sent_prefix.sublist

theorem relayZone_foreign_unique (hcz : cz ≠ T.zoneOf self) {a b : Ep} (ha : a ∈ (relayZone T self o m cz).sent)
    (hb : b ∈ (relayZone T self o m cz).sent) : a = b := by
  rw [relayZone_sent_foreign hcz, Option.mem_toList] at ha hb
  exact Option.some.inj (ha.symm.trans hb)

theorem relayZone_sends (h : ∃ x ∈ T.eps self cz, eligible T self o m cz false x = true) :
    ∃ e ∈ T.eps self cz, e ∈ (relayZone T self o m cz).sent := by
  by_cases hcz : cz = T.zoneOf self
  · obtain ⟨x, hx, hel⟩ := h
    exact ⟨x, hx, by rw [relayZone_sent_own hcz]; exact List.mem_filter.mpr ⟨hx, hel⟩⟩
  · obtain ⟨e, he⟩ := Option.isSome_iff_exists.mp (List.find?_isSome.mpr h)
    exact ⟨e, List.mem_of_find?_eq_some he, by rw [relayZone_sent_foreign hcz, Option.mem_toList]; exact he⟩

theorem unreachableB_iff {z : Zone} : unreachableB T self z = true ↔
    (∃ x ∈ T.eps self z, x ≠ self) ∧ ∀ e ∈ T.eps self z, e ≠ self → T.conn self e = false := by
  unfold unreachableB
  simp only [Bool.and_eq_true, List.any_eq_true, List.all_eq_true, bne_iff_ne, ne_eq, Bool.or_eq_true, beq_iff_eq,
    Bool.not_eq_true', Decidable.or_iff_not_imp_left]

theorem relayZone_unreachable (h : unreachableB T self cz = true) :
    (relayZone T self o m cz).logNeeded = true ∧ (relayZone T self o m cz).logDone = false := by
  obtain ⟨⟨x, hx, hxne⟩, hall⟩ := unreachableB_iff.mp h
  constructor
  · rw [relayZone, foldl_relayStep_logNeeded]
    exact List.any_eq_true.mpr ⟨x, hx, bne_iff_ne.mpr hxne⟩
  · refine foldl_invariant (relayStep T self o m cz) (fun st => st.logDone = false) _ ?_ {} rfl
    intro st e he hst
    rcases relayStep_cases T self o m cz st e with ⟨_, h⟩ | ⟨_, _, h⟩ | ⟨h1, h2, _⟩ | ⟨h1, h2, _⟩
    · rw [h]; exact hst
    · rw [h]
      show (if cz == T.zoneOf self then false else st.logDone) = false
      split
      · rfl
      · exact hst
    all_goals
      rw [hall e he h1] at h2
      cases h2

theorem relayZone_served_iff {x : Ep} :
    (x ∈ (relayZone T self o m cz).sent ∨ x ∈ (relayZone T self o m cz).skipped) ↔
      x ∈ T.eps self cz ∧ x ≠ self ∧ T.conn self x = true :=
  (foldl_relayStep_served T self o m cz x _ {}).trans (or_iff_right fun h => h.elim (nomatch ·) (nomatch ·))

end Zone

end Icinga.C11
