/-
  C11 — one node: the minimum that `GetMaster` takes; the walk along the parents (`allParents`, `isChildOfFuel`) versus
  `Anc`; the zones the relay step runs its inner loop for as one list (`loopZones`), so that `relayFuel`'s results are a
  `flatMap` / `any` of `relayZone`'s over it and who is sent to reads off `sent_guards` and `loops_iff_global` /
  `loops_iff_chain`.  Also here: reported log positions only move a position forward (`reportPos`), and the maximum
  `SyncSendMessage` takes (`maxStamp`).
-/
import IcingaProofs.C11.Loop
namespace Icinga.C11

theorem minEp_eq_min? : ∀ l : List Ep, minEp l = l.min?
  | [] => rfl
  | e :: es => by
    rw [minEp, minEp_eq_min? es, List.min?_cons]
    cases es.min? with
    | none => rfl
    | some m => exact congrArg some Nat.min_def.symm

theorem minEp_eq_none {l : List Ep} : minEp l = none ↔ l = [] := by
  rw [minEp_eq_min?, List.min?_eq_none_iff]

theorem minEp_eq_some_iff {l : List Ep} {m : Ep} : minEp l = some m ↔ m ∈ l ∧ ∀ x ∈ l, m ≤ x := by
  rw [minEp_eq_min?, List.min?_eq_some_iff]

theorem minEp_congr {l1 l2 : List Ep} (h : ∀ x, x ∈ l1 ↔ x ∈ l2) : minEp l1 = minEp l2 :=
  Option.ext fun m => by simp only [minEp_eq_some_iff, h]

section Master
variable {T : Topo} {self : Ep} {e : Ep}

theorem getMaster_eq_some_iff {x : Ep} : getMaster T self = some x ↔
    x ∈ T.eps self (T.zoneOf self) ∧ (T.conn self x = true ∨ x = self) ∧
      ∀ y ∈ T.eps self (T.zoneOf self), (T.conn self y = true ∨ y = self) → x ≤ y := by
  unfold getMaster
  simp only [minEp_eq_some_iff, List.mem_filter, Bool.or_eq_true, beq_iff_eq, and_imp, and_assoc]

theorem master_in_own_zone {m : Ep} (h : getMaster T self = some m) : m ∈ T.eps self (T.zoneOf self) :=
  (getMaster_eq_some_iff.mp h).1

theorem masterIsB_iff {x : Ep} : masterIsB T self x = true ↔ getMaster T self = some x := by
  rw [getMaster_eq_some_iff]
  unfold masterIsB
  simp only [Bool.and_eq_true, List.contains_iff_mem, List.all_eq_true, Bool.or_eq_true, beq_iff_eq, and_assoc,
    Bool.not_eq_true', decide_eq_true_eq]
  refine and_congr_right fun _ => and_congr_right fun _ => forall_congr' fun y => forall_congr' fun _ => ?_
  rw [← Bool.not_eq_true, Bool.or_eq_true, beq_iff_eq, Decidable.imp_iff_not_or]

theorem notMaster_of_notMasterB (h : notMasterB T self = true) : getMaster T self ≠ some self := by
  unfold notMasterB at h
  simp only [List.any_eq_true, Bool.and_eq_true, decide_eq_true_eq] at h
  obtain ⟨x, hx, hc, hlt⟩ := h
  intro hm
  exact absurd hlt (Nat.not_lt.mpr ((getMaster_eq_some_iff.mp hm).2.2 x hx (Or.inl hc)))

theorem isZoneMasterB_of_master (hz : ∀ z e, e ∈ T.eps self z → T.zoneOf e = z) (hm : getMaster T self = some e)
    (hne : e ≠ self) : isZoneMasterB T self e = true := by
  have hB := masterIsB_iff.mpr hm
  unfold masterIsB at hB
  unfold isZoneMasterB
  rw [Bool.and_eq_true, Bool.and_eq_true] at hB ⊢
  obtain ⟨⟨hmem, hc⟩, hall⟩ := hB
  rw [beq_eq_false_iff_ne.mpr hne, Bool.or_false] at hc
  exact ⟨⟨beq_iff_eq.mpr (hz _ _ (List.contains_iff_mem.mp hmem)), hc⟩, hall⟩

end Master

theorem Anc.trans {T : Topo} {a b c : Zone} (h1 : Anc T a b) (h2 : Anc T b c) : Anc T a c := by
  induction h1 with
  | refl => exact h2
  | step hp _ ih => exact Anc.step hp (ih h2)

theorem Anc.tail {T : Topo} {a b c : Zone} (h : Anc T a b) (hp : T.parent b = some c) : Anc T a c :=
  h.trans (Anc.step hp (Anc.refl c))

theorem anc_rank {T : Topo} {rank : Zone → Nat} (hr : ∀ z p, T.parent z = some p → rank p < rank z) {a b : Zone}
    (h : Anc T a b) : rank b ≤ rank a := by
  induction h with
  | refl => exact Nat.le_refl _
  | step hp _ ih => exact Nat.le_trans ih (Nat.le_of_lt (hr _ _ hp))

theorem mem_allParents_succ {T : Topo} {n : Nat} {a z : Zone} :
    z ∈ allParents T (n + 1) a ↔ ∃ p, T.parent a = some p ∧ (z = p ∨ z ∈ allParents T n p) := by
  rw [allParents]
  cases T.parent a with
  | none => simp
  | some p => simp

theorem isChildOfFuel_succ {T : Topo} {n : Nat} {a z : Zone} :
    isChildOfFuel T (n + 1) a z = true ↔ z = a ∨ ∃ p, T.parent a = some p ∧ isChildOfFuel T n p z = true := by
  rw [isChildOfFuel]
  by_cases h : a = z
  · simp [h]
  · have h' : ¬ z = a := fun e => h e.symm
    cases T.parent a with
    | none => simp [h, h']
    | some p => simp [h, h']

theorem mem_allParents_parent (T : Topo) : ∀ (n : Nat) (a z : Zone),
    z ∈ allParents T n a → ∃ c, Anc T a c ∧ T.parent c = some z := by
  intro n
  induction n with
  | zero => intro a z h; cases h
  | succ n ih =>
    intro a z h
    obtain ⟨p, hp, rfl | h⟩ := mem_allParents_succ.mp h
    · exact ⟨a, Anc.refl a, hp⟩
    · obtain ⟨c, hc, hcz⟩ := ih p z h
      exact ⟨c, Anc.step hp hc, hcz⟩

theorem anc_of_mem_chain {T : Topo} {n : Nat} {a z : Zone} (h : z ∈ a :: allParents T n a) : Anc T a z := by
  rcases List.mem_cons.mp h with rfl | h
  · exact Anc.refl _
  · obtain ⟨c, hc, hcz⟩ := mem_allParents_parent T n a z h
    exact hc.tail hcz

theorem mem_chain_of_anc {T : Topo} {rank : Zone → Nat} (hr : ∀ z p, T.parent z = some p → rank p < rank z)
    {a b : Zone} (h : Anc T a b) : ∀ {n : Nat}, rank a ≤ n → b ∈ a :: allParents T n a := by
  induction h with
  | refl => intro n _; exact List.mem_cons_self
  | @step a p b hp _ ih =>
    intro n hn
    have hlt := hr _ _ hp
    cases n with
    | zero => omega
    | succ k => exact List.mem_cons_of_mem _ (mem_allParents_succ.mpr ⟨p, hp, List.mem_cons.mp (ih (by omega))⟩)

theorem isChildOfFuel_iff (T : Topo) : ∀ (n : Nat) (a z : Zone),
    isChildOfFuel T (n + 1) a z = true ↔ z ∈ a :: allParents T n a := by
  intro n
  induction n with
  | zero =>
    intro a z
    rw [isChildOfFuel_succ]
    simp [isChildOfFuel, allParents]
  | succ n ih =>
    intro a z
    rw [isChildOfFuel_succ, List.mem_cons, mem_allParents_succ]
    simp only [ih, List.mem_cons]

theorem isChildOf_iff {T : Topo} {a z : Zone} : isChildOf T a z = true ↔ z ∈ a :: allParents T maxDepth a :=
  isChildOfFuel_iff T maxDepth a z

theorem anc_of_isChildOf {T : Topo} {a z : Zone} (h : isChildOf T a z = true) : Anc T a z :=
  anc_of_mem_chain (isChildOf_iff.mp h)

theorem allParents_parent_none (T : Topo) (n : Nat) (a : Zone) (h : T.parent a = none) : allParents T n a = [] := by
  cases n <;> simp [allParents, h]

theorem chain_nonglobal {T : Topo} (hd : Detached T) {fuel : Nat} {tz z : Zone} (hg : T.isGlobal tz = false)
    (hz : z ∈ tz :: allParents T fuel tz) : T.isGlobal z = false := by
  rcases List.mem_cons.mp hz with rfl | hz'
  · exact hg
  · obtain ⟨c, _, hc⟩ := mem_allParents_parent T fuel _ z hz'
    exact hd.parent_not_global c z hc

theorem chain_nodup {T : Topo} {rank : Zone → Nat} (hr : ∀ z p, T.parent z = some p → rank p < rank z) :
    ∀ (n : Nat) (a : Zone), (a :: allParents T n a).Nodup := by
  intro n
  induction n with
  | zero => intro a; simp [allParents]
  | succ n ih =>
    intro a
    rw [List.nodup_cons]
    constructor
    · intro h
      obtain ⟨c, hc, hca⟩ := mem_allParents_parent T _ a a h
      exact Nat.lt_irrefl _ (Nat.lt_of_lt_of_le (hr c a hca) (anc_rank hr hc))
    · unfold allParents
      cases hp : T.parent a with
      | none => simp
      | some p => simpa using ih p

/-- the zones for which `SyncRelayMessage` on node `self` runs the inner loop of `RelayMessageOne`, in order: the target
    zones of every related zone among the object's zone and its parents -/
def loopZones (fuel : Nat) (T : Topo) (self : Ep) (oz : Option Zone) : List Zone :=
  (targetZone T self oz :: allParents T fuel (targetZone T self oz)).flatMap
    (fun z => if related T self z then targetZones T self z else [])

/-- the early return of `RelayMessageOne` for an unrelated zone does what the loops do over no target zones -/
theorem relayOne_eq (T : Topo) (self : Ep) (o : Origin) (m : Option Ep) (z : Zone) : relayOne T self o m z =
    let rs := (if related T self z then targetZones T self z else []).map (relayZone T self o m)
    ⟨rs.flatMap (·.sent), rs.flatMap (·.skipped), !rs.any (fun r => r.logNeeded && !r.logDone)⟩ := by
  unfold relayOne
  cases related T self z <;> rfl

section One
variable (T : Topo) (self : Ep) (o : Origin)

theorem relayFuel_originZone {fuel : Nat} {oz : Option Zone} {log : Bool} :
    (relayFuel fuel T self o oz log).originZone = o.fromZone := rfl

end One

section Fuel
variable {T : Topo} {self : Ep} {o : Origin} {oz : Option Zone} {log : Bool} {fuel : Nat} {e : Ep}

theorem relayFuel_sent : (relayFuel fuel T self o oz log).sent =
    (loopZones fuel T self oz).flatMap (fun cz => (relayZone T self o (getMaster T self) cz).sent) := by
  unfold relayFuel loopZones
  simp only [relayOne_eq, List.flatMap_map, List.flatMap_assoc]

theorem relayFuel_skipped : (relayFuel fuel T self o oz log).skipped =
    (loopZones fuel T self oz).flatMap (fun cz => (relayZone T self o (getMaster T self) cz).skipped) := by
  unfold relayFuel loopZones
  simp only [relayOne_eq, List.flatMap_map, List.flatMap_assoc]

theorem relayFuel_persist : (relayFuel fuel T self o oz log).persist =
    (log && (loopZones fuel T self oz).any fun cz =>
      (relayZone T self o (getMaster T self) cz).logNeeded && !(relayZone T self o (getMaster T self) cz).logDone) := by
  unfold relayFuel loopZones
  simp only [relayOne_eq, List.any_map, List.any_flatMap, Bool.not_not, Function.comp_def]

theorem mem_sent_iff : e ∈ (relayFuel fuel T self o oz log).sent ↔
    ∃ cz ∈ loopZones fuel T self oz, e ∈ (relayZone T self o (getMaster T self) cz).sent := by
  rw [relayFuel_sent, List.mem_flatMap]

theorem mem_skipped_iff : e ∈ (relayFuel fuel T self o oz log).skipped ↔
    ∃ cz ∈ loopZones fuel T self oz, e ∈ (relayZone T self o (getMaster T self) cz).skipped := by
  rw [relayFuel_skipped, List.mem_flatMap]

theorem persist_of_unreachable {cz : Zone} (hl : cz ∈ loopZones fuel T self oz) (hun : unreachableB T self cz = true) :
    (relayFuel fuel T self o oz log).persist = log := by
  obtain ⟨h1, h2⟩ := relayZone_unreachable (o := o) (m := getMaster T self) hun
  rw [relayFuel_persist, List.any_eq_true.mpr ⟨cz, hl, by rw [h1, h2]; rfl⟩, Bool.and_true]

end Fuel

theorem flatMap_targetZones_nonglobal {T : Topo} {self : Ep} (l : List Zone) (h : ∀ z ∈ l, T.isGlobal z = false) :
    l.flatMap (fun z => if related T self z then targetZones T self z else []) = l.filter (related T self) := by
  induction l with
  | nil => rfl
  | cons z l ih =>
    have hz : targetZones T self z = [z] := by
      rw [targetZones, if_neg (by rw [h z List.mem_cons_self]; exact Bool.false_ne_true)]
    rw [List.flatMap_cons, List.filter_cons, ih fun x hx => h x (List.mem_cons_of_mem _ hx), hz]
    split <;> rfl

theorem loopZones_eq {T : Topo} (hd : Detached T) (fuel : Nat) (self : Ep) (oz : Option Zone) :
    loopZones fuel T self oz =
      if T.isGlobal (targetZone T self oz) = true then
        T.zoneOf self :: T.zones.filter (fun z => T.parent z == some (T.zoneOf self))
      else (targetZone T self oz :: allParents T fuel (targetZone T self oz)).filter (related T self) := by
  unfold loopZones
  by_cases hg : T.isGlobal (targetZone T self oz) = true
  · rw [if_pos hg, allParents_parent_none T fuel _ (hd.global_no_parent _ hg), List.flatMap_singleton, targetZones,
      if_pos hg, if_pos (by rw [related, hg]; rfl)]
  · rw [if_neg hg]
    exact flatMap_targetZones_nonglobal _ fun z hz => chain_nonglobal hd (by simpa using hg) hz

theorem loops_iff_global {T : Topo} (hd : Detached T) {self : Ep} (oz : Option Zone) {fuel : Nat} {cz : Zone}
    (hg : T.isGlobal (targetZone T self oz) = true) : cz ∈ loopZones fuel T self oz ↔
      cz = T.zoneOf self ∨ (cz ∈ T.zones ∧ T.parent cz = some (T.zoneOf self)) := by
  rw [loopZones_eq hd, if_pos hg, List.mem_cons, List.mem_filter, beq_iff_eq]

theorem loops_iff_chain {T : Topo} (hd : Detached T) {self : Ep} (oz : Option Zone) {fuel : Nat} {cz : Zone}
    (hg : T.isGlobal (targetZone T self oz) = false) : cz ∈ loopZones fuel T self oz ↔
      cz ∈ targetZone T self oz :: allParents T fuel (targetZone T self oz) ∧ related T self cz = true := by
  rw [loopZones_eq hd, hg, if_neg Bool.false_ne_true, List.mem_filter]

theorem related_of_directlyRelated {T : Topo} {self : Ep} {z : Zone} (h : directlyRelated T self z = true) :
    related T self z = true := by
  unfold directlyRelated at h
  unfold related
  simp only [Bool.or_assoc] at h ⊢
  rw [h, Bool.or_true]

section Rules
variable {T : Topo} {self : Ep} {oz : Option Zone} {fuel : Nat}

theorem entitledB_iff {z : Zone} : entitledB fuel T self oz z = true ↔
    if T.isGlobal (targetZone T self oz) = true then z = T.zoneOf self ∨ T.parent z = some (T.zoneOf self)
    else z ∈ targetZone T self oz :: allParents T fuel (targetZone T self oz) := by
  unfold entitledB
  split
  · rw [Bool.or_eq_true, beq_iff_eq, beq_iff_eq]
  · exact isChildOfFuel_iff T fuel _ _

theorem entitledB_iff_global {z : Zone} (hg : T.isGlobal (targetZone T self oz) = true) :
    entitledB fuel T self oz z = true ↔ z = T.zoneOf self ∨ T.parent z = some (T.zoneOf self) := by
  rw [entitledB_iff, if_pos hg]

theorem entitledB_iff_chain {z : Zone} (hg : T.isGlobal (targetZone T self oz) = false) :
    entitledB fuel T self oz z = true ↔ z ∈ targetZone T self oz :: allParents T fuel (targetZone T self oz) := by
  rw [entitledB_iff, hg, if_neg Bool.false_ne_true]

theorem loops_entitledB (hd : Detached T) {z : Zone} (hcz : z ∈ loopZones fuel T self oz) :
    entitledB fuel T self oz z = true := by
  cases hg : T.isGlobal (targetZone T self oz) with
  | true => exact (entitledB_iff_global hg).mpr (((loops_iff_global hd _ hg).mp hcz).imp_right And.right)
  | false => exact (entitledB_iff_chain hg).mpr ((loops_iff_chain hd _ hg).mp hcz).1

theorem entitled_of_entitledB {z : Zone} (h : entitledB fuel T self oz z = true) : Entitled T self oz z := by
  rw [entitledB_iff] at h
  unfold Entitled
  split
  · rwa [if_pos ‹_›] at h
  · rw [if_neg ‹_›] at h
    exact anc_of_mem_chain h

theorem replaySends_present {target : Ep} : replaySends T self (.present oz) target =
    (T.isGlobal (targetZone T self oz) || entitledB maxDepth T self oz (T.zoneOf target)) := by
  show (T.isGlobal (targetZone T self oz) || isChildOf T (targetZone T self oz) (T.zoneOf target)) = _
  unfold entitledB isChildOf
  cases T.isGlobal (targetZone T self oz) <;> rfl

theorem nodupB_iff : ∀ (l : List Ep), nodupB l = true ↔ l.Nodup := by
  intro l
  induction l with
  | nil => simp [nodupB]
  | cons a l ih => simp [nodupB, ih, List.nodup_cons]

theorem originOf_fromZone_cross {msg : Msg} (h : T.zoneOf msg.frm ≠ T.zoneOf msg.to) :
    (originOf T msg).fromZone = some (T.zoneOf msg.frm) :=
  if_pos (bne_iff_ne.mpr h)

theorem originOf_fromZone_peer {msg : Msg} (h : T.zoneOf msg.frm = T.zoneOf msg.to) :
    (originOf T msg).fromZone = msg.originZone :=
  if_neg (by rw [h, bne_self_eq_false]; exact Bool.false_ne_true)

theorem reRelay_eq {h : Handler} {msg : Msg} {objZone : Option Zone} (hp : h.passesOrigin = true) (hr : h.relays = true) :
    reRelay T h msg objZone = relay T msg.to (originOf T msg) (h.objZone objZone) true := by
  rw [reRelay, if_pos hr, Handler.origin, if_pos hp]

/-! the two shapes a clause of `specCase` has: an implication as `!c || d`, its violation as `c && !d` -/

theorem not_or_eq_true {c d : Bool} (h : c = true → d = true) : (!c || d) = true := by
  cases c
  · rfl
  · exact h rfl

theorem and_not_eq_false {c d : Bool} (h : c = true → d = true) : (c && !d) = false := by
  cases c
  · rfl
  · rw [h rfl]; rfl

end Rules

section Sent
variable {T : Topo} {self : Ep} {o : Origin} {oz : Option Zone} {log : Bool} {fuel : Nat} {e : Ep}

theorem sent_guards (h : e ∈ (relayFuel fuel T self o oz log).sent) :
    ∃ cz ∈ loopZones fuel T self oz, e ∈ T.eps self cz ∧ e ≠ self ∧ T.conn self e = true ∧ o.client ≠ some e ∧
      o.fromZone ≠ some cz ∧ (getMaster T self = some self ∨ getMaster T self = some e) := by
  obtain ⟨cz, hl, he⟩ := mem_sent_iff.mp h
  obtain ⟨h1, h2⟩ := relayZone_sent_eligible he
  exact ⟨cz, hl, h1, eligible_unrelayed_iff.mp h2⟩

theorem sent_of_guards_own (hl : T.zoneOf self ∈ loopZones fuel T self oz) (he : e ∈ T.eps self (T.zoneOf self))
    (hg : e ≠ self ∧ T.conn self e = true ∧ o.client ≠ some e ∧ o.fromZone ≠ some (T.zoneOf self) ∧
      (getMaster T self = some self ∨ getMaster T self = some e)) : e ∈ (relayFuel fuel T self o oz log).sent := by
  refine mem_sent_iff.mpr ⟨_, hl, ?_⟩
  rw [relayZone_sent_own rfl]
  exact List.mem_filter.mpr ⟨he, eligible_unrelayed_iff.mpr hg⟩

/-- the converse of `sent_guards` holds in the node's own zone (`sent_of_guards_own`); of a foreign zone only the first such
    endpoint is sent to -/
theorem sent_of_guards_zone {cz : Zone} (hl : cz ∈ loopZones fuel T self oz) (he : e ∈ T.eps self cz)
    (hg : e ≠ self ∧ T.conn self e = true ∧ o.client ≠ some e ∧ o.fromZone ≠ some cz ∧
      (getMaster T self = some self ∨ getMaster T self = some e)) :
    ∃ e' ∈ T.eps self cz, e' ∈ (relayFuel fuel T self o oz log).sent := by
  obtain ⟨e', he', hs⟩ := relayZone_sends ⟨e, he, eligible_unrelayed_iff.mpr hg⟩
  exact ⟨e', he', mem_sent_iff.mpr ⟨cz, hl, hs⟩⟩

theorem sent_zone_of (hz : ∀ z e, e ∈ T.eps self z → T.zoneOf e = z) (h : e ∈ (relayFuel fuel T self o oz log).sent) :
    T.zoneOf e ∈ loopZones fuel T self oz ∧ o.client ≠ some e ∧ o.fromZone ≠ some (T.zoneOf e) := by
  obtain ⟨cz, hl, hmem, _, _, hcl, hfz, _⟩ := sent_guards h
  rw [hz cz e hmem]
  exact ⟨hl, hcl, hfz⟩

theorem sent_reachable (h : e ∈ (relayFuel fuel T self o oz log).sent) : e ≠ self ∧ T.conn self e = true := by
  obtain ⟨_, _, _, hne, hc, _⟩ := sent_guards h
  exact ⟨hne, hc⟩

theorem skipped_conn (h : e ∈ (relayFuel fuel T self o oz log).skipped) : e ≠ self ∧ T.conn self e = true := by
  obtain ⟨cz, _, he⟩ := mem_skipped_iff.mp h
  exact (relayZone_served_iff.mp (Or.inr he)).2

theorem received_no_echo {msg : Msg} (hz : ∀ z e, e ∈ T.eps msg.to z → T.zoneOf e = z)
    (h : e ∈ (relayFuel fuel T msg.to (originOf T msg) oz log).sent) :
    e ≠ msg.frm ∧ (T.zoneOf msg.frm ≠ T.zoneOf msg.to → T.zoneOf e ≠ T.zoneOf msg.frm) ∧
      (T.zoneOf msg.frm = T.zoneOf msg.to → msg.originZone ≠ some (T.zoneOf e)) := by
  obtain ⟨_, h1, h2⟩ := sent_zone_of hz h
  refine ⟨fun heq => h1 (by rw [heq]; rfl), ?_, ?_⟩
  · intro hne heq
    rw [originOf_fromZone_cross hne] at h2
    exact h2 (by rw [heq])
  · intro heq
    rwa [originOf_fromZone_peer heq] at h2

theorem crosser_is_master (hz : ∀ z x, x ∈ T.eps self z → T.zoneOf x = z) (h : e ∈ (relayFuel fuel T self o oz log).sent)
    (hne : T.zoneOf e ≠ T.zoneOf self) : getMaster T self = some self := by
  obtain ⟨_, _, _, _, _, _, _, hm⟩ := sent_guards h
  exact hm.resolve_right fun hme => hne (hz _ _ (master_in_own_zone hme))

theorem sent_single_entry (hz : ∀ z e, e ∈ T.eps self z → T.zoneOf e = z) {a b : Ep}
    (ha : a ∈ (relayFuel fuel T self o oz log).sent) (hb : b ∈ (relayFuel fuel T self o oz log).sent)
    (hab : T.zoneOf a = T.zoneOf b) (hf : T.zoneOf a ≠ T.zoneOf self) : a = b := by
  obtain ⟨ca, _, ha'⟩ := mem_sent_iff.mp ha
  obtain ⟨cb, _, hb'⟩ := mem_sent_iff.mp hb
  rw [← hz ca a (relayZone_sent_eligible ha').1] at ha'
  rw [← hz cb b (relayZone_sent_eligible hb').1, ← hab] at hb'
  exact relayZone_foreign_unique hf ha' hb'

theorem loopZones_nodup (wf : WF T self) : (loopZones fuel T self oz).Nodup := by
  obtain ⟨rank, hr⟩ := wf.acyclic
  rw [loopZones_eq wf.toDetached]
  split
  · refine List.nodup_cons.mpr ⟨fun h => ?_, wf.zones_nodup.filter _⟩
    exact Nat.lt_irrefl _ (hr _ _ (beq_iff_eq.mp (List.mem_filter.mp h).2))
  · exact (chain_nodup hr fuel _).filter _

theorem sent_nodup (wf : WF T self) : (relayFuel fuel T self o oz log).sent.Nodup := by
  have hk : ∀ cz, ∀ b ∈ (relayZone T self o (getMaster T self) cz).sent, T.zoneOf b = cz := fun cz b hb =>
    wf.zone_of_mem cz b (relayZone_sent_eligible hb).1
  rw [relayFuel_sent]
  -- the passes over different zones send to endpoints of different zones
  refine List.pairwise_flatMap.mpr ⟨fun cz _ => relayZone_sent_nodup (wf.eps_nodup cz),
    List.Pairwise.imp (fun hne x hx y hy hxy => hne (by rw [← hk _ x hx, hxy, hk _ y hy])) (loopZones_nodup wf)⟩

end Sent

section Forward
variable {T : Topo} {self : Ep}

theorem candidate_loops (hd : Detached T) {oz : Option Zone} {fuel : Nat} {z : Zone} (hzc : z ∈ candidateZones T self oz)
    (hrel : directlyRelated T self z = true) (hent : entitledB fuel T self oz z = true) : z ∈ loopZones fuel T self oz := by
  cases hg : T.isGlobal (targetZone T self oz) with
  | true =>
    unfold candidateZones at hzc
    rw [if_pos hg, List.mem_cons] at hzc
    exact (loops_iff_global hd _ hg).mpr
      (((entitledB_iff_global hg).mp hent).elim Or.inl fun h => hzc.imp_right fun h' => ⟨h', h⟩)
  | false =>
    exact (loops_iff_chain hd _ hg).mpr ⟨(entitledB_iff_chain hg).mp hent, related_of_directlyRelated hrel⟩

theorem concernedB_iff {c : Case} {fuel : Nat} {target : Ep} : concernedB fuel T c target = true ↔
    target ≠ c.self ∧ target ∈ T.eps c.self (T.zoneOf target) ∧ T.zoneOf target ∈ candidateZones T c.self c.objZone ∧
      directlyRelated T c.self (T.zoneOf target) = true ∧ entitledB fuel T c.self c.objZone (T.zoneOf target) = true := by
  simp only [concernedB, Bool.and_eq_true, bne_iff_ne, ne_eq, List.contains_iff_mem, and_assoc]

theorem mem_queued {r : Result} {e : Ep} : e ∈ queued T self r ↔ e ∈ r.sent ∧ T.syncing self e = false := by
  rw [queued, List.mem_filter, Bool.not_eq_true']

theorem peer_due_sent (hd : Detached T) (c : Case) {fuel : Nat}
    (hent : entitledB fuel T c.self c.objZone (T.zoneOf c.self) = true) {p : Ep} (hp : p ∈ T.eps c.self (T.zoneOf c.self))
    (hdue : peerDueB T c p = true) : p ∈ queued T c.self (relayFuel fuel T c.self c.origin c.objZone c.log) := by
  unfold peerDueB at hdue
  simp only [Bool.and_eq_true, bne_iff_ne, ne_eq, Bool.not_eq_true', Bool.or_eq_true] at hdue
  obtain ⟨⟨⟨⟨⟨hne, hc⟩, hsync⟩, hcl⟩, hfz⟩, hm⟩ := hdue
  refine mem_queued.mpr ⟨?_, hsync⟩
  have hcand : T.zoneOf c.self ∈ candidateZones T c.self c.objZone := by
    unfold candidateZones; split <;> exact List.mem_cons_self
  exact sent_of_guards_own (candidate_loops hd hcand (by simp [directlyRelated]) hent) hp
    ⟨hne, hc, hcl, hfz, hm.imp masterIsB_iff.mp masterIsB_iff.mp⟩

theorem zone_due_sent (hd : Detached T) (c : Case) {fuel : Nat} {z : Zone} (hzc : z ∈ candidateZones T c.self c.objZone)
    (hrel : directlyRelated T c.self z = true) (hent : entitledB fuel T c.self c.objZone z = true)
    (hdue : zoneDueB T c z = true) :
    ∃ e, e ∈ queued T c.self (relayFuel fuel T c.self c.origin c.objZone c.log) ∧ e ∈ T.eps c.self z := by
  unfold zoneDueB at hdue
  simp only [Bool.and_eq_true, bne_iff_ne, ne_eq, List.all_eq_true, List.any_eq_true, Bool.not_eq_true'] at hdue
  obtain ⟨⟨⟨⟨_, hm⟩, hfz⟩, hall⟩, x, hx, hxne, hxc⟩ := hdue
  obtain ⟨e, hmem, he⟩ := sent_of_guards_zone (o := c.origin) (log := c.log) (candidate_loops hd hzc hrel hent) hx
    ⟨hxne, hxc, (hall x hx).1, hfz, Or.inl (masterIsB_iff.mp hm)⟩
  exact ⟨e, mem_queued.mpr ⟨he, (hall e hmem).2⟩, hmem⟩

end Forward

section LogPositions

theorem foldl_reportPos_lt_iff (ts : Int) : ∀ (ps : List Int) (l : Int),
    ps.foldl reportPos l < ts ↔ l < ts ∧ ∀ p ∈ ps, p < ts := by
  intro ps
  induction ps with
  | nil => exact fun l => ⟨fun h => ⟨h, fun _ h => nomatch h⟩, And.left⟩
  | cons p ps ih =>
    intro l
    rw [List.foldl_cons, ih, List.forall_mem_cons, ← and_assoc]
    refine and_congr_left fun _ => ?_
    unfold reportPos
    split <;> omega

theorem logRun_lpos_lt_iff {T : Topo} {self : Ep} {o : Origin} {oz : Option Zone} {log : Bool} {target : Ep}
    {pre post : List Int} {ts : Int} (ro : RecObj) : (logRun T self o oz log target pre post ts ro).lpos < ts ↔
      target ∉ (relay T self o oz log).skipped ∧ 0 < ts ∧ ∀ p ∈ pre ++ post, p < ts := by
  show List.foldl reportPos (skipPos _ ts target _) post < ts ↔ _
  rw [foldl_reportPos_lt_iff, List.forall_mem_append]
  unfold skipPos
  by_cases hs : target ∈ (relay T self o oz log).skipped
  · rw [if_pos (List.contains_iff_mem.mpr hs)]
    exact ⟨fun h => absurd h.1 (Int.lt_irrefl _), fun h => absurd hs h.1⟩
  · rw [if_neg (by rwa [List.contains_iff_mem]), foldl_reportPos_lt_iff]
    exact ⟨fun h => ⟨hs, h.1.1, h.1.2, h.2⟩, fun h => ⟨⟨h.2.1, h.2.2.1⟩, h.2.2.2⟩⟩

theorem replayCopies_eq_zero {T : Topo} {self target : Ep} {persisted : Bool} {ts lpos : Int} {ro : RecObj} (h : ts ≤ lpos) :
    replayCopies T self persisted ts lpos ro target = 0 := by
  unfold replayCopies
  rw [decide_eq_false (Int.not_lt.mpr h), Bool.and_false, Bool.false_and]
  rfl

theorem replayCopies_eq_one_iff {T : Topo} {self target : Ep} {persisted : Bool} {ts lpos : Int} {ro : RecObj} :
    replayCopies T self persisted ts lpos ro target = 1 ↔
      persisted = true ∧ lpos < ts ∧ replaySends T self ro target = true := by
  have hc : (persisted && decide (lpos < ts) && replaySends T self ro target) = true ↔
      persisted = true ∧ lpos < ts ∧ replaySends T self ro target = true := by
    rw [Bool.and_eq_true, Bool.and_eq_true, decide_eq_true_eq, and_assoc]
  unfold replayCopies
  rw [← hc]
  split
  · exact ⟨fun _ => ‹_›, fun _ => rfl⟩
  · exact ⟨fun h => absurd h (by decide), fun h => absurd h ‹_›⟩

theorem replayCopies_le_one {T : Topo} {self target : Ep} {persisted : Bool} {ts lpos : Int} {ro : RecObj} :
    replayCopies T self persisted ts lpos ro target ≤ 1 := by
  unfold replayCopies
  split
  · exact Nat.le_refl 1
  · exact Nat.zero_le 1

end LogPositions

section SyncSend

/-- `List.max?_cons'`: `(0 :: stamps).max? = some (stamps.foldl max 0)`, which is `maxStamp stamps` by definition -/
theorem maxStamp_spec (stamps : List Nat) :
    maxStamp stamps ∈ 0 :: stamps ∧ ∀ x ∈ 0 :: stamps, x ≤ maxStamp stamps :=
  List.max?_eq_some_iff.mp List.max?_cons'

/-- `sync_send_one_copy` without its positivity hypothesis: `0` is the least timestamp there is -/
theorem syncSend_newest (stamps : List Nat) (hne : stamps ≠ []) (hnd : stamps.Nodup) :
    syncSend false stamps = [maxStamp stamps] ∧ maxStamp stamps ∈ stamps ∧ ∀ x ∈ stamps, x ≤ maxStamp stamps := by
  obtain ⟨h0, hle⟩ := maxStamp_spec stamps
  have hle : ∀ x ∈ stamps, x ≤ maxStamp stamps := fun x hx => hle x (List.mem_cons_of_mem _ hx)
  have hmem : maxStamp stamps ∈ stamps := by
    rcases List.mem_cons.mp h0 with h | h
    · cases stamps with
      | nil => exact absurd rfl hne
      | cons x xs =>
        have h1 := hle x List.mem_cons_self
        rw [h] at h1 ⊢
        rw [Nat.le_zero.mp h1]
        exact List.mem_cons_self
    · exact h
  refine ⟨?_, hmem, hle⟩
  unfold syncSend
  rw [if_neg Bool.false_ne_true, List.filter_beq, hnd.count, if_pos hmem]
  rfl

end SyncSend

end Icinga.C11
