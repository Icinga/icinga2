/-
  C11 — `no_duplicate` / `finite` for any zone forest (the "compass" of DESIGN.md Appendix A.4).  Because of who emitted it
  (`MsgOK`; induction on `Relayed`) a message that enters a zone from another one comes from the neighbour zone on the
  originator's side (`Toward`), zone peers hand that neighbour on in `originZone` (`CompassAt`), and whoever sends across a
  border considers itself the zone master.  The interleaving (`Once`; induction over the run) adds: two zone peers that both
  hold the event see each other, so not both are master (`no_rival`); so a zone is entered once and nobody is addressed twice.
-/
import IcingaProofs.C11.Ledger
namespace Icinga.C11

section Forest
variable {T : Topo} {rank : Zone → Nat}

theorem anc_comparable {a c d : Zone} (h1 : Anc T a c) (h2 : Anc T a d) : Anc T c d ∨ Anc T d c := by
  induction h1 with
  | refl => exact Or.inl h2
  | @step a p c hp hpc ih =>
    cases h2 with
    | refl => exact Or.inr (Anc.step hp hpc)
    | @step _ p' _ hp' hpd =>
      rw [hp] at hp'
      cases hp'
      exact ih hpd

theorem sibling_unique (hr : ∀ z p, T.parent z = some p → rank p < rank z) {a c d z : Zone}
    (h1 : Anc T a c) (h2 : Anc T a d) (hc : T.parent c = some z) (hd : T.parent d = some z) : c = d := by
  have key : ∀ {x y : Zone}, Anc T x y → T.parent x = some z → T.parent y = some z → x = y := by
    intro x y hxy hx hy
    cases hxy with
    | refl => rfl
    | @step _ p _ hp hpy =>
      rw [hx] at hp
      cases hp
      have h1 := anc_rank hr hpy
      have h2 := hr _ _ hy
      omega
  rcases anc_comparable h1 h2 with h | h
  · exact key h hc hd
  · exact (key h hd hc).symm

end Forest

/-- `g` is the neighbour of `Z` on the side of the originating zone `Z0`: the child of `Z` through which `Z0` hangs
    below `Z`, or the parent of `Z` when `Z` hangs below `Z0` -/
def Toward (T : Topo) (Z0 Z g : Zone) : Prop :=
  (T.parent g = some Z ∧ Anc T Z0 g) ∨ (T.parent Z = some g ∧ Anc T g Z0)

/-- the compass: what `FromZone` an endpoint of zone `Z` sees on the message that brings it the event -/
def CompassAt (T : Topo) (Z0 Z : Zone) (f : Option Zone) : Prop :=
  (Z = Z0 ∧ f = none) ∨ (Z ≠ Z0 ∧ ∃ g, f = some g ∧ Toward T Z0 Z g)

theorem toward_rank {T : Topo} {rank : Zone → Nat} (hr : ∀ z p, T.parent z = some p → rank p < rank z)
    {Z0 Z g : Zone} (h : Toward T Z0 Z g) :
    (rank Z < rank g ∧ rank g ≤ rank Z0) ∨ (rank Z0 ≤ rank g ∧ rank g < rank Z) := by
  rcases h with ⟨hp, ha⟩ | ⟨hp, ha⟩
  · exact Or.inl ⟨hr _ _ hp, anc_rank hr ha⟩
  · exact Or.inr ⟨anc_rank hr ha, hr _ _ hp⟩

theorem toward_unique {T : Topo} {rank : Zone → Nat} (hr : ∀ z p, T.parent z = some p → rank p < rank z)
    {Z0 Z g1 g2 : Zone} (h1 : Toward T Z0 Z g1) (h2 : Toward T Z0 Z g2) : g1 = g2 := by
  rcases h1 with ⟨hp1, ha1⟩ | ⟨hp1, ha1⟩ <;> rcases h2 with ⟨hp2, ha2⟩ | ⟨hp2, ha2⟩
  · exact sibling_unique hr ha1 ha2 hp1 hp2
  · -- `Z` would lie below `g1`, which is below `Z0`, which is below `g2`, the parent of `Z`
    exact absurd (Nat.lt_of_lt_of_le (hr _ _ hp1) (Nat.le_trans (anc_rank hr ha1) (anc_rank hr ha2)))
      (Nat.lt_asymm (hr _ _ hp2))
  · exact absurd (Nat.lt_of_lt_of_le (hr _ _ hp2) (Nat.le_trans (anc_rank hr ha2) (anc_rank hr ha1)))
      (Nat.lt_asymm (hr _ _ hp1))
  · rw [hp1] at hp2; cases hp2; rfl

theorem toward_ne {T : Topo} {rank : Zone → Nat} (hr : ∀ z p, T.parent z = some p → rank p < rank z)
    {Z0 Z g : Zone} (h : Toward T Z0 Z g) : Z ≠ Z0 := by
  intro e
  have := toward_rank hr h
  rw [e] at this
  omega

theorem toward_antisymm {T : Topo} {rank : Zone → Nat} (hr : ∀ z p, T.parent z = some p → rank p < rank z)
    {Z0 Z g : Zone} (h1 : Toward T Z0 Z g) (h2 : Toward T Z0 g Z) : False := by
  have := toward_rank hr h1
  have := toward_rank hr h2
  omega

section Direction
variable {T : Topo} {rank : Zone → Nat} {Z0 : Zone} {e e' : Ep} {o : Origin} {oz : Zone} {fuel : Nat} {log : Bool}

/-- object of an ordinary zone: crossing a zone border moves the event away from the originating zone -/
theorem direction_chain (hd : Detached T) (hr : ∀ z p, T.parent z = some p → rank p < rank z)
    (hz : ∀ z x, x ∈ T.eps e z → T.zoneOf x = z) (hg : T.isGlobal oz = false) (h0 : Anc T oz Z0)
    (hc : CompassAt T Z0 (T.zoneOf e) o.fromZone)
    (he' : e' ∈ (relayFuel fuel T e o (some oz) log).sent) (hne : T.zoneOf e' ≠ T.zoneOf e) :
    Toward T Z0 (T.zoneOf e') (T.zoneOf e) := by
  obtain ⟨hs, _, hecho⟩ := sent_zone_of hz he'
  obtain ⟨hchain, hrel⟩ := (loops_iff_chain hd (some oz) hg).mp hs
  have hanc : Anc T oz (T.zoneOf e') := anc_of_mem_chain hchain
  have hng := chain_nonglobal hd hg hchain
  have hadj : T.parent (T.zoneOf e) = some (T.zoneOf e') ∨ T.parent (T.zoneOf e') = some (T.zoneOf e) := by
    unfold related at hrel
    simp only [hng, Bool.false_or, Bool.or_eq_true, beq_iff_eq] at hrel
    rcases hrel with (h | h) | h
    · exact absurd h hne
    · exact Or.inl h
    · exact Or.inr h
  rcases hc with ⟨hZ, _⟩ | ⟨_, g, hf, ht⟩
  · -- the sender is in the originating zone
    rw [hZ] at hadj ⊢
    exact hadj.imp (fun h => ⟨h, Anc.refl _⟩) (fun h => ⟨h, Anc.refl _⟩)
  · have hecho_g : g ≠ T.zoneOf e' := by
      intro h; apply hecho; rw [hf, h]
    rcases ht with ⟨hp, ha⟩ | ⟨hp, ha⟩
    · -- the sender's zone is above the originating zone; `g` is its child on the originator's side
      rcases hadj with h | h
      · -- the target is the parent
        exact Or.inl ⟨h, ha.tail hp⟩
      · -- the target is a child of the sender's zone on `oz`'s chain: the chain passes through one child, `g`, which the
        -- echo guard excludes
        exact absurd (sibling_unique hr (Anc.trans h0 ha) hanc hp h) hecho_g
    · -- the sender's zone is below the originating zone; `g` is its parent
      rcases hadj with h | h
      · -- the target is the parent, that is `g`
        rw [hp] at h; cases h; exact absurd rfl hecho_g
      · -- the target is a child
        exact Or.inr ⟨h, Anc.step hp ha⟩

theorem direction_global (hd : Detached T) (hz : ∀ z x, x ∈ T.eps e z → T.zoneOf x = z) (hg : T.isGlobal oz = true)
    (hq : Anc T (T.zoneOf e) Z0) (he' : e' ∈ (relayFuel fuel T e o (some oz) log).sent)
    (hne : T.zoneOf e' ≠ T.zoneOf e) : Toward T Z0 (T.zoneOf e') (T.zoneOf e) := by
  rcases (loops_iff_global hd (some oz) hg).mp (sent_zone_of hz he').1 with h | ⟨_, h⟩
  · exact absurd h hne
  · exact Or.inr ⟨h, hq⟩

end Direction

section Members

theorem Cluster.wf {T : Topo} (cl : Cluster T) (s : Ep) : WF T s :=
  { cl.toDetached with zone_of_mem := cl.zone_of_mem s, eps_nodup := cl.eps_nodup s, zones_nodup := cl.zones_nodup,
                       acyclic := cl.acyclic }

theorem three_in_two {l : List Ep} (hl : l.length ≤ 2) {a b c : Ep} (ha : a ∈ l) (hb : b ∈ l) (hc : c ∈ l)
    (hab : a ≠ b) (hac : a ≠ c) (hbc : b ≠ c) : False := by
  have hn : [a, b, c].Nodup := by simp [hab, hac, hbc]
  have := hn.length_le_of_subset (l₂ := l) (by
    intro x hx
    simp only [List.mem_cons, List.not_mem_nil, or_false] at hx
    rcases hx with rfl | rfl | rfl <;> assumption)
  exact absurd (Nat.le_trans this hl : 3 ≤ 2) (by decide)

theorem three_members {T : Topo} (cl : Cluster T) {a b c : Ep} (ha : Member T a) (hb : Member T b) (hc : Member T c)
    (hzb : T.zoneOf b = T.zoneOf a) (hzc : T.zoneOf c = T.zoneOf a)
    (hab : a ≠ b) (hac : a ≠ c) (hbc : b ≠ c) : False := by
  have h1 := ha a
  have h2 := hb a; rw [hzb] at h2
  have h3 := hc a; rw [hzc] at h3
  exact three_in_two (cl.two a _) h1 h2 h3 hab hac hbc

theorem masters_agree {T : Topo} {a b : Ep} (ha : getMaster T a = some a) (hb : getMaster T b = some b)
    (hz : T.zoneOf a = T.zoneOf b) (hma : Member T a) (hmb : Member T b)
    (hab : T.conn a b = true) (hba : T.conn b a = true) : a = b := by
  exact Nat.le_antisymm ((getMaster_eq_some_iff.mp ha).2.2 b (by rw [hz]; exact hmb a) (Or.inl hab))
    ((getMaster_eq_some_iff.mp hb).2.2 a (by rw [← hz]; exact hma b) (Or.inl hba))

end Members

/-- the messages ever sent that were not discarded, where `MsgOK.intra` looks for the message that brought a sender the event;
    the invariants speak of `wire`, of which this is a part (`wire_of_hist`) -/
def hist (n : Net) : List Msg := n.accepted ++ n.inflight

/-- What a message on the wire knows of its sender, whatever the interleaving (`Ledger.msgOK`; `Q` is always
    `NetEntitled`).  `compass`: the origin its recipient will relay with points towards the originating zone.  `intra`: a
    message between zone peers outside the originating zone was sent by a node that got the event from another zone.
    `cross`: whoever sends across a zone border considers itself the zone master. -/
structure MsgOK (T : Topo) (orig : Ep) (Q : Zone → Prop) (n : Net) (m : Msg) : Prop where
  frm_processed : m.frm ∈ n.processed
  frm_member : Member T m.frm
  to_member : Member T m.to
  ne : m.frm ≠ m.to
  conn : T.conn m.frm m.to = true
  q : Q (T.zoneOf m.to)
  compass : CompassAt T (T.zoneOf orig) (T.zoneOf m.to) (originOf T m).fromZone
  intra : T.zoneOf m.frm = T.zoneOf m.to →
    T.zoneOf m.to = T.zoneOf orig ∨ ∃ mc ∈ hist n, mc.to = m.frm ∧ T.zoneOf mc.frm ≠ T.zoneOf mc.to
  cross : T.zoneOf m.frm ≠ T.zoneOf m.to → getMaster T m.frm = some m.frm

/-- what `no_duplicate` needs of the interleaving; everything else about a message (`MsgOK`) follows from who emitted it
    (`Ledger.msgOK`) -/
structure Once (T : Topo) (orig : Ep) (n : Net) : Prop where
  nodup : (orig :: (wire n).map (·.to)).Nodup
  one_cross : ∀ m1 ∈ wire n, ∀ m2 ∈ wire n, T.zoneOf m1.frm ≠ T.zoneOf m1.to → T.zoneOf m2.frm ≠ T.zoneOf m2.to →
    T.zoneOf m1.to = T.zoneOf m2.to → m1.to = m2.to

section Path
variable {T : Topo} {orig : Ep} {oz : Zone} {n : Net} (cl : Cluster T)
  (horig : NetEntitled T (T.zoneOf orig) oz (T.zoneOf orig)) (hM : Member T orig)

theorem Cluster.member_of_mem (cl : Cluster T) {s e : Ep} {z : Zone} (h : e ∈ T.eps s z) : Member T e := by
  intro x
  rw [cl.zone_of_mem s z e h]
  exact cl.mem_indep s x z e h

theorem member_of_sent (cl : Cluster T) {e e' : Ep} {o : Origin} {ozo : Option Zone} {fuel : Nat} {log : Bool}
    (h : e' ∈ (relayFuel fuel T e o ozo log).sent) : Member T e' := by
  obtain ⟨_, _, hmem, _⟩ := sent_guards h
  exact cl.member_of_mem hmem

include cl horig in
theorem sent_toward {e e' : Ep} {o : Origin} (hq : NetEntitled T (T.zoneOf orig) oz (T.zoneOf e))
    (hC : CompassAt T (T.zoneOf orig) (T.zoneOf e) o.fromZone) (he' : e' ∈ (relay T e o (some oz) true).sent)
    (hne : T.zoneOf e' ≠ T.zoneOf e) : Toward T (T.zoneOf orig) (T.zoneOf e') (T.zoneOf e) := by
  obtain ⟨rank, hr⟩ := cl.acyclic
  cases hg : T.isGlobal oz with
  | true => exact direction_global cl.toDetached (cl.zone_of_mem e) hg ((netEntitled_global hg).mp hq) he' hne
  | false =>
    exact direction_chain cl.toDetached hr (cl.zone_of_mem e) hg
      (anc_of_isChildOf ((netEntitled_ordinary hg).mp horig)) hC he' hne

include cl horig in
theorem emit_compass {e : Ep} {o : Origin} (hQ : NetEntitled T (T.zoneOf orig) oz (T.zoneOf e))
    (hC : CompassAt T (T.zoneOf orig) (T.zoneOf e) o.fromZone) {m : Msg} (hm : m ∈ emit T e o oz) :
    CompassAt T (T.zoneOf orig) (T.zoneOf m.to) (originOf T m).fromZone := by
  obtain ⟨rank, hr⟩ := cl.acyclic
  obtain ⟨hto, hfrm, hoz⟩ := mem_emit.mp hm
  by_cases hx : T.zoneOf m.to = T.zoneOf e
  · rw [originOf_fromZone_peer (by rw [hfrm, hx]), hoz, hx]
    exact hC
  · have ht := sent_toward cl horig hQ hC hto hx
    rw [originOf_fromZone_cross (by rw [hfrm]; exact fun h => hx h.symm), hfrm]
    exact Or.inr ⟨toward_ne hr ht, _, rfl, ht⟩

include cl horig hM in
theorem Relayed.compass {e : Ep} {o : Origin} (h : Relayed T orig oz e o) :
    Member T e ∧ NetEntitled T (T.zoneOf orig) oz (T.zoneOf e) ∧ CompassAt T (T.zoneOf orig) (T.zoneOf e) o.fromZone := by
  induction h with
  | orig => exact ⟨hM, horig, Or.inl ⟨rfl, rfl⟩⟩
  | hop h hm _ ih =>
    obtain ⟨_, hQ, hC⟩ := ih
    exact ⟨member_of_sent cl (mem_emit.mp hm).1, h.entitled cl.toNetWF hm, emit_compass cl horig hQ hC hm⟩

/-- with two members per zone, a node that got the event from its zone peer has nobody left in its zone to send to -/
theorem sent_after_peer (cl : Cluster T) {m : Msg} (hf : Member T m.frm) (ht : Member T m.to) (hne : m.frm ≠ m.to)
    (hx : T.zoneOf m.frm = T.zoneOf m.to) {e' : Ep} (he' : e' ∈ (relay T m.to (originOf T m) (some oz) true).sent) :
    T.zoneOf e' ≠ T.zoneOf m.to := by
  intro hz
  exact three_members cl ht (member_of_sent cl he') hf hz hx (Ne.symm (sent_reachable he').1) (Ne.symm hne)
    (received_no_echo (cl.zone_of_mem m.to) he').1

theorem wire_of_hist {m : Msg} (h : m ∈ hist n) : m ∈ wire n :=
  (List.mem_append.mp h).elim wire_of_accepted wire_of_inflight

include cl horig hM in
/-- Nothing of `MsgOK` is about the interleaving: the sender relayed (`Ledger.mem_wire`), so it knew the compass; that it sent
    to a zone peer only after a message from another zone is "never back to the sender" with two members per zone. -/
theorem Ledger.msgOK (l : Ledger T orig oz n) {m : Msg} (hm : m ∈ wire n) :
    MsgOK T orig (NetEntitled T (T.zoneOf orig) oz) n m := by
  obtain ⟨e, o, hrw, hme⟩ := l.mem_wire.mp hm
  obtain ⟨hMe, hQ, hC⟩ := (l.relayed hrw).compass cl horig hM
  have hQt := (l.relayed hrw).entitled cl.toNetWF hme
  have hCt := emit_compass cl horig hQ hC hme
  obtain ⟨hto, hfrm, _⟩ := mem_emit.mp hme
  have hreach := sent_reachable hto
  have hMt := member_of_sent cl hto
  rw [← hfrm] at hMe hreach hrw
  refine { frm_processed := l.mem_processed.mpr ⟨o, hrw⟩, frm_member := hMe, to_member := hMt, ne := Ne.symm hreach.1,
           conn := hreach.2, q := hQt, compass := hCt, intra := fun hx => ?_, cross := fun hx => ?_ }
  · rcases hrw with ⟨h, _⟩ | ⟨mc, hmc, h, rfl⟩
    · left; rw [← hx, h]
    · right
      refine ⟨mc, List.mem_append_left _ hmc, h, fun hxc => ?_⟩
      obtain ⟨e0, _, hr0, hm0⟩ := l.mem_wire.mp (wire_of_accepted hmc)
      obtain ⟨hto0, hfrm0, _⟩ := mem_emit.mp hm0
      have hM0 : Member T mc.frm := by rw [hfrm0]; exact ((l.relayed hr0).compass cl horig hM).1
      rw [← h] at hx hMe
      exact sent_after_peer cl hM0 hMe (by rw [hfrm0]; exact Ne.symm (sent_reachable hto0).1) hxc (h ▸ hfrm ▸ hto) hx.symm
  · exact crosser_is_master (cl.zone_of_mem m.frm) (hfrm ▸ hto) (Ne.symm hx)

end Path

section Inv
variable {T : Topo} {orig : Ep} {oz : Zone} {n : Net} (cl : Cluster T)
  (horig : NetEntitled T (T.zoneOf orig) oz (T.zoneOf orig)) (hM : Member T orig)
  (l : Ledger T orig oz n) (k : Once T orig n)

include l k in
theorem Once.not_processed {m : Msg} (hm : m ∈ n.inflight) : m.to ∉ n.processed := by
  intro h
  have nd := k.nodup
  rw [wire, List.append_assoc, List.map_append, ← List.cons_append, ← l.processed_eq, List.nodup_append] at nd
  exact nd.2.2 _ h _ (List.mem_map.mpr ⟨m, List.mem_append_right _ hm, rfl⟩) rfl

theorem MsgOK.cross_toward {Q : Zone → Prop} {m : Msg} (ok : MsgOK T orig Q n m) (hx : T.zoneOf m.frm ≠ T.zoneOf m.to) :
    T.zoneOf m.to ≠ T.zoneOf orig ∧ Toward T (T.zoneOf orig) (T.zoneOf m.to) (T.zoneOf m.frm) := by
  have hc := ok.compass
  rw [originOf_fromZone_cross hx] at hc
  rcases hc with ⟨_, h⟩ | ⟨h1, g, h2, h3⟩
  · cases h
  · cases h2; exact ⟨h1, h3⟩

include cl horig hM l k

theorem Once.alone_in_zone {m : Msg} (hm : m ∈ n.inflight)
    (hx : T.zoneOf m.frm ≠ T.zoneOf m.to) {m2 : Msg} (hm2 : m2 ∈ wire n) (hz : T.zoneOf m2.to = T.zoneOf m.to) :
    m2.to = m.to := by
  have ok2 := l.msgOK cl horig hM hm2
  by_cases hx2 : T.zoneOf m2.frm = T.zoneOf m2.to
  · apply Classical.byContradiction
    intro hne
    have hre : m2.frm ≠ m.to := fun h' => k.not_processed l hm (h' ▸ ok2.frm_processed)
    exact three_members cl (l.msgOK cl horig hM (wire_of_inflight hm)).to_member ok2.to_member ok2.frm_member hz
      (hx2.trans hz) (Ne.symm hne) (Ne.symm hre) (Ne.symm ok2.ne)
  · exact k.one_cross m2 hm2 m (wire_of_inflight hm) hx2 hx hz

/-- two holders of the event in one zone do not both consider themselves its master: either one got the event from the
    other, so they see each other, or the message is alone in the zone -/
theorem Once.no_rival {m : Msg} (hm : m ∈ n.inflight)
    (hme : getMaster T m.to = some m.to) {p : Ep} (hp : p ∈ n.processed) (hzp : T.zoneOf p = T.zoneOf m.to)
    (hmp : Member T p) (hpm : getMaster T p = some p) : False := by
  have ok := l.msgOK cl horig hM (wire_of_inflight hm)
  have hne : p ≠ m.to := fun h => k.not_processed l hm (h ▸ hp)
  by_cases hx : T.zoneOf m.frm = T.zoneOf m.to
  · -- the message came from the zone peer
    by_cases hps : p = m.frm
    · subst hps
      have hc := ok.conn
      exact hne (masters_agree hpm hme hzp hmp ok.to_member hc (by rw [cl.conn_symm]; exact hc))
    · exact three_members cl ok.to_member hmp ok.frm_member hzp hx (Ne.symm hne) (Ne.symm ok.ne) hps
  · -- the message came from another zone: nobody else in this zone can hold the event
    obtain ⟨hz0, _⟩ := ok.cross_toward hx
    obtain ⟨_, ⟨h, _⟩ | ⟨mp, hmpa, hto, _⟩⟩ := l.mem_processed.mp hp
    · rw [h] at hzp; exact hz0 hzp.symm
    · exact hne (by rw [← hto]; exact k.alone_in_zone cl horig hM l hm hx (wire_of_accepted hmpa) (by rw [hto, hzp]))

/-- a zone the recipient of an in-flight message will enter has not been addressed before: it lies beyond the recipient's
    zone as seen from the originating zone (`sent_toward`), so whoever was sent there before was sent by a member of the
    recipient's zone that considers itself the master, as the recipient does (`no_rival`) -/
theorem Once.nothing_beyond {m : Msg} (hm : m ∈ n.inflight) {e' : Ep}
    (he' : e' ∈ (relay T m.to (originOf T m) (some oz) true).sent) (hz : T.zoneOf e' ≠ T.zoneOf m.to) :
    T.zoneOf e' ≠ T.zoneOf orig ∧ ∀ m2 ∈ wire n, T.zoneOf m2.to ≠ T.zoneOf e' := by
  obtain ⟨rank, hr⟩ := cl.acyclic
  have ok := l.msgOK cl horig hM (wire_of_inflight hm)
  have hme := crosser_is_master (cl.zone_of_mem m.to) he' hz
  have ht := sent_toward cl horig ok.q ok.compass he' hz
  refine ⟨toward_ne hr ht, fun m2 hm2 hz2 => ?_⟩
  have hmc : ∃ mc ∈ wire n, T.zoneOf mc.frm ≠ T.zoneOf mc.to ∧ T.zoneOf mc.to = T.zoneOf e' := by
    by_cases hx : T.zoneOf m2.frm = T.zoneOf m2.to
    · rcases (l.msgOK cl horig hM hm2).intra hx with h | ⟨mc, hmc, hto, hxc⟩
      · rw [hz2] at h; exact absurd h (toward_ne hr ht)
      · exact ⟨mc, wire_of_hist hmc, hxc, by rw [hto, hx, hz2]⟩
    · exact ⟨m2, hm2, hx, hz2⟩
  obtain ⟨mc, hmc, hxc, hzc⟩ := hmc
  have okc := l.msgOK cl horig hM hmc
  obtain ⟨_, htc⟩ := okc.cross_toward hxc
  rw [hzc] at htc
  have hzp : T.zoneOf mc.frm = T.zoneOf m.to := toward_unique hr htc ht
  exact k.no_rival cl horig hM l hm hme okc.frm_processed hzp okc.frm_member (okc.cross hxc)

/-- whoever the recipient of an in-flight message will send to has not been addressed before: its zone peer, because the
    message then came from another zone and is the only one into this zone (`alone_in_zone`); an endpoint of another
    zone by `nothing_beyond` -/
theorem Once.fresh {m : Msg} (hm : m ∈ n.inflight) {e' : Ep}
    (he' : e' ∈ (relay T m.to (originOf T m) (some oz) true).sent) : e' ≠ orig ∧ ∀ m2 ∈ wire n, m2.to ≠ e' := by
  have ok := l.msgOK cl horig hM (wire_of_inflight hm)
  by_cases hz : T.zoneOf e' = T.zoneOf m.to
  · have hx : T.zoneOf m.frm ≠ T.zoneOf m.to := fun hx => sent_after_peer cl ok.frm_member ok.to_member ok.ne hx he' hz
    obtain ⟨hz0, _⟩ := ok.cross_toward hx
    refine ⟨fun h => hz0 (by rw [← hz, h]), fun m2 hm2 hto => ?_⟩
    exact (sent_reachable he').1 (by rw [← hto]; exact k.alone_in_zone cl horig hM l hm hx hm2 (by rw [hto, hz]))
  · obtain ⟨h1, h2⟩ := k.nothing_beyond cl horig hM l hm he' hz
    exact ⟨fun h => h1 (by rw [h]), fun m2 hm2 hto => h2 m2 hm2 (by rw [hto])⟩

end Inv

section Step
variable {T : Topo} {orig : Ep} {oz : Zone}

theorem emit_single_entry {e : Ep} {o : Origin} (hz : ∀ z x, x ∈ T.eps e z → T.zoneOf x = z) {m1 m2 : Msg}
    (h1 : m1 ∈ emit T e o oz) (h2 : m2 ∈ emit T e o oz) (hx1 : T.zoneOf m1.frm ≠ T.zoneOf m1.to)
    (hzone : T.zoneOf m1.to = T.zoneOf m2.to) : m1.to = m2.to := by
  obtain ⟨ht1, hf1, _⟩ := mem_emit.mp h1
  rw [hf1] at hx1
  exact sent_single_entry hz ht1 (mem_emit.mp h2).1 hzone (Ne.symm hx1)

theorem once_start (cl : Cluster T) : Once T orig (start T orig oz) := by
  have hh : wire (start T orig oz) = emit T orig Origin.loc oz := rfl
  refine ⟨?_, ?_⟩
  · rw [hh, emit_map_to]
    exact List.nodup_cons.mpr ⟨fun h => (sent_reachable h).1 rfl, sent_nodup (cl.wf orig)⟩
  · rw [hh]
    exact fun m1 h1 m2 h2 hx1 _ hz => emit_single_entry (cl.zone_of_mem orig) h1 h2 hx1 hz

/-- Delivering a message keeps `Once`: what its recipient emits goes to endpoints not addressed before (`Once.fresh`) and
    enters only zones not addressed before (`Once.nothing_beyond`), each through one endpoint (`emit_single_entry`). -/
theorem Once.step (cl : Cluster T) (horig : NetEntitled T (T.zoneOf orig) oz (T.zoneOf orig))
    (hM : Member T orig) {n : Net} (l : Ledger T orig oz n) (k : Once T orig n) (i : Nat) :
    Once T orig (deliver T oz n i) := by
  refine deliver_cases k fun m hget => ?_
  have hm : m ∈ n.inflight := List.mem_of_getElem? hget
  have hperm := wire_deliver_accept hget (l.accept cl.toNetWF horig (wire_of_inflight hm))
  generalize deliver T oz n i = n' at hperm ⊢
  have hmem : ∀ x, x ∈ wire n' ↔ x ∈ wire n ∨ x ∈ emit T m.to (originOf T m) oz := by
    intro x; rw [hperm.mem_iff, List.mem_append]
  refine ⟨?_, ?_⟩
  · rw [((hperm.map (·.to)).cons orig).nodup_iff, List.map_append, ← List.cons_append, List.nodup_append, emit_map_to]
    refine ⟨k.nodup, sent_nodup (cl.wf m.to), ?_⟩
    intro a ha b hb hab
    rcases List.mem_cons.mp ha with rfl | ha
    · exact (k.fresh cl horig hM l hm hb).1 hab.symm
    · obtain ⟨m2, hm2, hto⟩ := List.mem_map.mp ha
      exact (k.fresh cl horig hM l hm hb).2 m2 hm2 (by rw [hto, hab])
  · intro m1 h1 m2 h2 hx1 hx2 hz
    rcases (hmem m1).mp h1 with h1 | h1 <;> rcases (hmem m2).mp h2 with h2 | h2
    · exact k.one_cross m1 h1 m2 h2 hx1 hx2 hz
    · obtain ⟨ht2, hf2, _⟩ := mem_emit.mp h2
      rw [hf2] at hx2
      exact absurd hz ((k.nothing_beyond cl horig hM l hm ht2 (Ne.symm hx2)).2 m1 h1)
    · obtain ⟨ht1, hf1, _⟩ := mem_emit.mp h1
      rw [hf1] at hx1
      exact absurd hz.symm ((k.nothing_beyond cl horig hM l hm ht1 (Ne.symm hx1)).2 m2 h2)
    · exact emit_single_entry (cl.zone_of_mem m.to) h1 h2 hx1 hz

end Step

section Run
variable {T : Topo}

theorem Once.run (cl : Cluster T) {orig : Ep} (hM : Member T orig) {oz : Zone}
    (horig : NetEntitled T (T.zoneOf orig) oz (T.zoneOf orig)) {n : Net} (l : Ledger T orig oz n) (k : Once T orig n)
    (sched : List Nat) : Once T orig (run T oz n sched) :=
  (run_induction (fun n => Ledger T orig oz n ∧ Once T orig n) (fun _ i h => ⟨h.1.step i, h.2.step cl horig hM h.1 i⟩)
    sched _ ⟨l, k⟩).2

/-- the originator's zone is NOT entitled (object of an ordinary zone that is neither the originator's zone nor below it):
    nothing is accepted, so what the originator emitted stays in flight or is discarded and nobody else relays -/
structure NEInv (T : Topo) (orig : Ep) (oz : Zone) (n : Net) : Prop where
  accepted : n.accepted = []
  processed : n.processed = [orig]
  nodup : ((n.discarded ++ n.inflight).map (·.to)).Nodup
  orig_not : orig ∉ (n.discarded ++ n.inflight).map (·.to)
  msgs : ∀ m ∈ n.inflight, m.frm = orig ∧ isChildOf T oz (T.zoneOf m.to) = true
  members : ∀ m ∈ n.discarded ++ n.inflight, Member T m.to

theorem Ledger.neInv (cl : Cluster T) {orig : Ep} {oz : Zone} (hg : T.isGlobal oz = false)
    (hne : isChildOf T oz (T.zoneOf orig) = false) {n : Net} (l : Ledger T orig oz n) : NEInv T orig oz n := by
  have hacc : n.accepted = [] := List.eq_nil_iff_forall_not_mem.mpr fun m hm =>
    nomatch congrArg Origin.client ((l.accepted m hm).alone cl.toNetWF hg hne).2
  have hp := l.perm
  unfold wire at hp
  rw [hacc, List.nil_append, List.flatMap_nil, List.append_nil] at hp
  have hto := hp.map (·.to)
  rw [emit_map_to] at hto
  refine ⟨hacc, by rw [l.processed_eq, hacc]; rfl, hto.nodup_iff.mpr (sent_nodup (cl.wf orig)),
    fun h => (sent_reachable (hto.mem_iff.mp h)).1 rfl, fun m hm => ?_, fun m hm => ?_⟩
  · obtain ⟨hto, hfrm, _⟩ := mem_emit.mp (hp.mem_iff.mp (List.mem_append_right _ hm))
    exact ⟨hfrm, sent_isChildOf cl.toNetWF hg hto⟩
  · exact member_of_sent cl (mem_emit.mp (hp.mem_iff.mp hm)).1

/-- what `no_duplicate` and `finite` read off, whether or not the originator is entitled -/
structure HistoryDistinct (T : Topo) (orig : Ep) (n : Net) : Prop where
  nodup : (orig :: (wire n).map (·.to)).Nodup
  processed_eq : n.processed = orig :: n.accepted.map (·.to)
  members : ∀ m ∈ wire n, Member T m.to

/-- `k`: `Once` exists only for an entitled originator; otherwise `NEInv` holds, without any induction -/
theorem Ledger.historyDistinct (cl : Cluster T) {orig : Ep} (hM : Member T orig) {oz : Zone} {n : Net}
    (l : Ledger T orig oz n) (k : NetEntitled T (T.zoneOf orig) oz (T.zoneOf orig) → Once T orig n) :
    HistoryDistinct T orig n := by
  by_cases horig : NetEntitled T (T.zoneOf orig) oz (T.zoneOf orig)
  · exact ⟨(k horig).nodup, l.processed_eq, fun m hm => (l.msgOK cl horig hM hm).to_member⟩
  · have ⟨hg, hne⟩ : T.isGlobal oz = false ∧ isChildOf T oz (T.zoneOf orig) = false := by simpa [netEntitled_orig] using horig
    have ne := l.neInv cl hg hne
    have hw : wire n = n.discarded ++ n.inflight := by rw [wire, ne.accepted, List.nil_append]
    exact ⟨by rw [hw]; exact List.nodup_cons.mpr ⟨ne.orig_not, ne.nodup⟩, l.processed_eq, by rw [hw]; exact ne.members⟩

theorem history_distinct (cl : Cluster T) {orig : Ep} (hM : Member T orig) (oz : Zone) (sched : List Nat) :
    HistoryDistinct T orig (run T oz (start T orig oz) sched) :=
  (ledger_run sched).historyDistinct cl hM fun horig => (once_start cl).run cl hM horig ledger_start sched

theorem HistoryDistinct.processed_nodup {orig : Ep} {n : Net} (h : HistoryDistinct T orig n) : n.processed.Nodup := by
  rw [h.processed_eq]
  exact ((((List.sublist_append_left _ _).trans (List.sublist_append_left _ _)).map _).cons_cons orig).nodup h.nodup

theorem HistoryDistinct.length_le {orig : Ep} {n : Net} (h : HistoryDistinct T orig n) (hM : Member T orig) (allEps : List Ep)
    (hall : ∀ s z e, e ∈ T.eps s z → e ∈ allEps) :
    n.processed.length + n.discarded.length + n.inflight.length ≤ allEps.length := by
  have := h.nodup.length_le_of_subset (l₂ := allEps) (by
    intro x hx
    rcases List.mem_cons.mp hx with rfl | hx
    · exact hall x _ x (hM x)
    · obtain ⟨m, hmm, rfl⟩ := List.mem_map.mp hx
      exact hall m.to _ m.to (h.members m hmm m.to))
  rw [h.processed_eq]
  simp only [wire, List.length_cons, List.length_map, List.length_append] at this ⊢
  omega

end Run

end Icinga.C11
