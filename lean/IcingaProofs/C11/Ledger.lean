/-
  C11 — the network of nodes: the relay steps an event's propagation can perform (`Relayed`) and the ledger of a run
  (`Ledger`, `ledger_run`: the only induction over deliveries that needs nothing of the topology).  What holds of a message
  because of who emitted it goes by induction on `Relayed`, not on the run: entitlement (`EntInv`), acceptance for an entitled
  originator (`OnChain`; `Ledger.accept`, `Ledger.no_discard`), and that nobody else relays when the originator is not
  entitled (`Relayed.alone`).
-/
import IcingaProofs.C11.Relay
namespace Icinga.C11

theorem mem_emit {T : Topo} {s : Ep} {o : Origin} {oz : Zone} {msg : Msg} :
    msg ∈ emit T s o oz ↔ msg.to ∈ (relay T s o (some oz) true).sent ∧ msg.frm = s ∧ msg.originZone = o.fromZone := by
  unfold emit
  rw [List.mem_map]
  constructor
  · rintro ⟨e, he, rfl⟩
    exact ⟨he, rfl, rfl⟩
  · rintro ⟨h1, h2, h3⟩
    exact ⟨msg.to, h1, by rw [← h2, ← h3]⟩

theorem emit_map_to (T : Topo) (e : Ep) (o : Origin) (oz : Zone) :
    (emit T e o oz).map (·.to) = (relay T e o (some oz) true).sent := by
  unfold emit
  rw [List.map_map]
  exact List.map_id _

section Deliver
variable {T : Topo} {oz : Zone} {n : Net} {i : Nat} {m : Msg}

theorem deliver_none (h : n.inflight[i]? = none) : deliver T oz n i = n := by
  unfold deliver
  rw [h]

theorem deliver_accept (h : n.inflight[i]? = some m) (ha : accept T oz (originOf T m) = true) :
    deliver T oz n i =
      { inflight := n.inflight.eraseIdx i ++ emit T m.to (originOf T m) oz, processed := n.processed ++ [m.to],
        accepted := n.accepted ++ [m],
        persisted := if (relay T m.to (originOf T m) (some oz) true).persist then n.persisted ++ [m.to] else n.persisted,
        discarded := n.discarded } := by
  unfold deliver
  simp only [h, ha, if_true]

theorem deliver_reject (h : n.inflight[i]? = some m) (ha : accept T oz (originOf T m) = false) :
    deliver T oz n i = { n with inflight := n.inflight.eraseIdx i, discarded := n.discarded ++ [m] } := by
  unfold deliver
  simp only [h, ha, Bool.false_eq_true, if_false]

theorem deliver_cases {P : Net → Prop} (h : P n) (hs : ∀ m, n.inflight[i]? = some m → P (deliver T oz n i)) :
    P (deliver T oz n i) := by
  cases hget : n.inflight[i]? with
  | none => rw [deliver_none hget]; exact h
  | some m => exact hs m hget

end Deliver

theorem run_induction {T : Topo} {oz : Zone} (P : Net → Prop) (hstep : ∀ n i, P n → P (deliver T oz n i)) :
    ∀ (sched : List Nat) (n : Net), P n → P (run T oz n sched) :=
  fun sched => foldl_invariant (deliver T oz) P sched fun n i _ => hstep n i

theorem eraseIdx_perm {α : Type} (l : List α) (i : Nat) (a : α) (h : l[i]? = some a) : (a :: l.eraseIdx i).Perm l := by
  obtain ⟨hi, rfl⟩ := List.getElem?_eq_some_iff.mp h
  rw [List.eraseIdx_eq_take_drop_succ]
  refine List.perm_middle.symm.trans (List.Perm.of_eq ?_)
  rw [← List.drop_eq_getElem_cons hi, List.take_append_drop]

/-- the relay steps the propagation of one event can perform, whatever the delivery order: there is no schedule in it -/
inductive Relayed (T : Topo) (orig : Ep) (oz : Zone) : Ep → Origin → Prop
  | orig : Relayed T orig oz orig Origin.loc
  | hop {e : Ep} {o : Origin} {m : Msg} : Relayed T orig oz e o → m ∈ emit T e o oz →
      accept T oz (originOf T m) = true → Relayed T orig oz m.to (originOf T m)

/-- the relay steps performed up to state `n` -/
def RelayedIn (T : Topo) (orig : Ep) (n : Net) (e : Ep) (o : Origin) : Prop :=
  (e = orig ∧ o = Origin.loc) ∨ ∃ m ∈ n.accepted, m.to = e ∧ o = originOf T m

/-- everything ever put on the wire -/
def wire (n : Net) : List Msg := n.accepted ++ n.discarded ++ n.inflight

theorem wire_of_accepted {n : Net} {m : Msg} (h : m ∈ n.accepted) : m ∈ wire n :=
  List.mem_append_left _ (List.mem_append_left _ h)

theorem wire_of_discarded {n : Net} {m : Msg} (h : m ∈ n.discarded) : m ∈ wire n :=
  List.mem_append_left _ (List.mem_append_right _ h)

theorem wire_of_inflight {n : Net} {m : Msg} (h : m ∈ n.inflight) : m ∈ wire n := List.mem_append_right _ h

theorem wire_deliver_accept {T : Topo} {oz : Zone} {n : Net} {i : Nat} {m : Msg} (hget : n.inflight[i]? = some m)
    (hacc : accept T oz (originOf T m) = true) :
    (wire (deliver T oz n i)).Perm (wire n ++ emit T m.to (originOf T m) oz) := by
  rw [deliver_accept hget hacc]
  show (n.accepted ++ [m] ++ n.discarded ++ (n.inflight.eraseIdx i ++ emit T m.to (originOf T m) oz)).Perm _
  rw [← List.append_assoc]
  refine List.Perm.append_right _ ?_
  simp only [wire, List.append_assoc, List.singleton_append]
  exact (List.perm_middle.symm.trans ((eraseIdx_perm n.inflight i m hget).append_left _)).append_left _

/-- What a run does, for every topology: the messages ever put on the wire are, up to order, what the relay steps performed
    so far have emitted. -/
structure Ledger (T : Topo) (orig : Ep) (oz : Zone) (n : Net) : Prop where
  processed_eq : n.processed = orig :: n.accepted.map (·.to)
  accepted : ∀ m ∈ n.accepted, Relayed T orig oz m.to (originOf T m)
  discarded : ∀ m ∈ n.discarded, accept T oz (originOf T m) = false
  perm : (wire n).Perm
    (emit T orig Origin.loc oz ++ n.accepted.flatMap fun m => emit T m.to (originOf T m) oz)

section Ledger
variable {T : Topo} {orig : Ep} {oz : Zone} {n : Net} {e : Ep} {o : Origin}

theorem Ledger.relayed (l : Ledger T orig oz n) (h : RelayedIn T orig n e o) : Relayed T orig oz e o := by
  rcases h with ⟨rfl, rfl⟩ | ⟨m, hm, rfl, rfl⟩
  · exact .orig
  · exact l.accepted m hm

theorem Ledger.mem_processed (l : Ledger T orig oz n) : e ∈ n.processed ↔ ∃ o, RelayedIn T orig n e o := by
  rw [l.processed_eq, List.mem_cons, List.mem_map]
  constructor
  · rintro (rfl | ⟨m, hm, rfl⟩)
    · exact ⟨_, Or.inl ⟨rfl, rfl⟩⟩
    · exact ⟨_, Or.inr ⟨m, hm, rfl, rfl⟩⟩
  · rintro ⟨o, ⟨rfl, _⟩ | ⟨m, hm, rfl, _⟩⟩
    · exact Or.inl rfl
    · exact Or.inr ⟨m, hm, rfl⟩

/-- `perm` as a membership: whose message is this (→), has what was emitted been put on the wire (←) -/
theorem Ledger.mem_wire (l : Ledger T orig oz n) {m : Msg} :
    m ∈ wire n ↔ ∃ e o, RelayedIn T orig n e o ∧ m ∈ emit T e o oz := by
  rw [l.perm.mem_iff, List.mem_append, List.mem_flatMap]
  constructor
  · rintro (h | ⟨m0, hm0, h⟩)
    · exact ⟨orig, _, Or.inl ⟨rfl, rfl⟩, h⟩
    · exact ⟨_, _, Or.inr ⟨m0, hm0, rfl, rfl⟩, h⟩
  · rintro ⟨e, o, ⟨rfl, rfl⟩ | ⟨m0, hm0, rfl, rfl⟩, h⟩
    · exact Or.inl h
    · exact Or.inr ⟨m0, hm0, h⟩

theorem ledger_start : Ledger T orig oz (start T orig oz) where
  processed_eq := rfl
  accepted _ h := nomatch h
  discarded _ h := nomatch h
  perm := by simp [start, wire]

theorem Ledger.step (l : Ledger T orig oz n) (i : Nat) : Ledger T orig oz (deliver T oz n i) := by
  refine deliver_cases l fun m hget => ?_
  cases hacc : accept T oz (originOf T m) with
  | true =>
    obtain ⟨e, o, hr, hm⟩ := l.mem_wire.mp (wire_of_inflight (List.mem_of_getElem? hget))
    have hw := wire_deliver_accept hget hacc
    rw [deliver_accept hget hacc] at hw ⊢
    refine ⟨by simp [l.processed_eq], ?_, l.discarded, ?_⟩
    · intro m' hm'
      rcases List.mem_append.mp hm' with h | h
      · exact l.accepted m' h
      · rw [List.mem_singleton.mp h]; exact (l.relayed hr).hop hm hacc
    · rw [List.flatMap_append, List.flatMap_singleton, ← List.append_assoc]
      exact hw.trans (l.perm.append_right _)
  | false =>
    rw [deliver_reject hget hacc]
    refine ⟨l.processed_eq, l.accepted, ?_, ?_⟩
    · intro m' hm'
      rcases List.mem_append.mp hm' with h | h
      · exact l.discarded m' h
      · rw [List.mem_singleton.mp h]; exact hacc
    · show (n.accepted ++ (n.discarded ++ [m]) ++ n.inflight.eraseIdx i).Perm _
      refine List.Perm.trans ?_ l.perm
      simp only [wire, List.append_assoc]
      exact ((eraseIdx_perm n.inflight i m hget).append_left _).append_left _

theorem Ledger.run (l : Ledger T orig oz n) (sched : List Nat) : Ledger T orig oz (run T oz n sched) :=
  run_induction _ (fun _ i l => l.step i) sched _ l

theorem ledger_run (sched : List Nat) : Ledger T orig oz (run T oz (start T orig oz) sched) :=
  ledger_start.run sched

end Ledger

section Net
variable {T : Topo}

theorem netEntitled_global {Z0 oz z : Zone} (hg : T.isGlobal oz = true) : NetEntitled T Z0 oz z ↔ Anc T z Z0 := by
  unfold NetEntitled
  rw [if_pos hg]

theorem netEntitled_ordinary {Z0 oz z : Zone} (hg : T.isGlobal oz = false) :
    NetEntitled T Z0 oz z ↔ isChildOf T oz z = true := by
  unfold NetEntitled
  rw [hg, if_neg Bool.false_ne_true]

/-- the hypothesis of `net_no_discard` and `complete_when_connected` says that the originator's own zone is entitled -/
theorem netEntitled_orig {Z0 oz : Zone} : NetEntitled T Z0 oz Z0 ↔ T.isGlobal oz = true ∨ isChildOf T oz Z0 = true := by
  cases hg : T.isGlobal oz with
  | true => exact ⟨fun _ => Or.inl rfl, fun _ => (netEntitled_global hg).mpr (Anc.refl _)⟩
  | false =>
    rw [netEntitled_ordinary hg]
    exact ⟨Or.inr, fun h => h.resolve_left Bool.false_ne_true⟩

theorem sent_isChildOf (wf : NetWF T) {s e : Ep} {o : Origin} {oz : Zone} (hg : T.isGlobal oz = false)
    (h : e ∈ (relay T s o (some oz) true).sent) : isChildOf T oz (T.zoneOf e) = true := by
  exact isChildOf_iff.mpr ((loops_iff_chain wf.toDetached (some oz) hg).mp (sent_zone_of (wf.zone_of_mem s) h).1).1

theorem emit_entitled (wf : NetWF T) {s : Ep} {o : Origin} {Z0 oz : Zone} {msg : Msg}
    (hs : T.isGlobal oz = true → Anc T (T.zoneOf s) Z0) (hm : msg ∈ emit T s o oz) :
    NetEntitled T Z0 oz (T.zoneOf msg.to) := by
  obtain ⟨hto, _, _⟩ := mem_emit.mp hm
  cases hg : T.isGlobal oz with
  | false => exact (netEntitled_ordinary hg).mpr (sent_isChildOf wf hg hto)
  | true =>
    rw [netEntitled_global hg]
    rcases (loops_iff_global wf.toDetached (some oz) hg).mp (sent_zone_of (wf.zone_of_mem s) hto).1 with h | ⟨_, h⟩
    · rw [h]; exact hs hg
    · exact Anc.step h (hs hg)

/-- what `net_only_entitled` says of a state -/
structure EntInv (T : Topo) (orig : Ep) (oz : Zone) (n : Net) : Prop where
  processed : ∀ e ∈ n.processed, e = orig ∨ NetEntitled T (T.zoneOf orig) oz (T.zoneOf e)
  inflight : ∀ msg ∈ n.inflight, NetEntitled T (T.zoneOf orig) oz (T.zoneOf msg.to)
  discarded : ∀ msg ∈ n.discarded, NetEntitled T (T.zoneOf orig) oz (T.zoneOf msg.to)

theorem Relayed.entitled (wf : NetWF T) {orig e : Ep} {o : Origin} {oz : Zone} (h : Relayed T orig oz e o) {m : Msg}
    (hm : m ∈ emit T e o oz) : NetEntitled T (T.zoneOf orig) oz (T.zoneOf m.to) := by
  induction h generalizing m with
  | orig => exact emit_entitled wf (fun _ => Anc.refl _) hm
  | hop _ hm0 _ ih => exact emit_entitled wf (fun hg => (netEntitled_global hg).mp (ih hm0)) hm

theorem Ledger.entInv (wf : NetWF T) {orig : Ep} {oz : Zone} {n : Net} (l : Ledger T orig oz n) : EntInv T orig oz n := by
  have key := fun (m : Msg) (hm : m ∈ wire n) =>
    (l.mem_wire.mp hm).elim fun _ h => h.elim fun _ h => (l.relayed h.1).entitled wf h.2
  refine ⟨fun e he => ?_, fun m hm => key m (wire_of_inflight hm), fun m hm => key m (wire_of_discarded hm)⟩
  obtain ⟨_, ⟨h, _⟩ | ⟨m, hm, rfl, _⟩⟩ := l.mem_processed.mp he
  · exact Or.inl h
  · exact Or.inr (key m (wire_of_accepted hm))

/-- the recipient's zone, the sender's zone and the zone the `originZone` field names are `oz` or above it -/
def OnChain (T : Topo) (oz : Zone) (m : Msg) : Prop :=
  isChildOf T oz (T.zoneOf m.to) = true ∧ isChildOf T oz (T.zoneOf m.frm) = true ∧
    ∀ z, m.originZone = some z → isChildOf T oz z = true

/-- object of an ordinary zone, entitled originator: `inflight` is `OnChain` written out (`Ledger.onChain` says it of the
    whole wire), so every recipient accepts; `discarded` is what `net_no_discard` says of a state -/
structure AccInv (T : Topo) (oz : Zone) (n : Net) : Prop where
  inflight : ∀ msg ∈ n.inflight, isChildOf T oz (T.zoneOf msg.to) = true ∧ isChildOf T oz (T.zoneOf msg.frm) = true ∧
    ∀ z, msg.originZone = some z → isChildOf T oz z = true
  discarded : n.discarded = []

theorem OnChain.origin {oz : Zone} {msg : Msg} (h : OnChain T oz msg) :
    ∀ z, (originOf T msg).fromZone = some z → isChildOf T oz z = true := by
  intro z hz
  unfold originOf at hz
  dsimp only at hz
  split at hz
  · cases hz; exact h.2.1
  · exact h.2.2 z hz

theorem OnChain.accepted {oz : Zone} {msg : Msg} (h : OnChain T oz msg) : accept T oz (originOf T msg) = true := by
  unfold accept canAccess
  cases hf : (originOf T msg).fromZone with
  | none => rfl
  | some z =>
    show (T.isGlobal oz || isChildOf T oz z) = true
    rw [h.origin z hf, Bool.or_true]

theorem emit_onChain (wf : NetWF T) {s : Ep} {o : Origin} {oz : Zone} (hg : T.isGlobal oz = false)
    (hs : isChildOf T oz (T.zoneOf s) = true) (ho : ∀ z, o.fromZone = some z → isChildOf T oz z = true) :
    ∀ msg ∈ emit T s o oz, OnChain T oz msg := by
  intro msg hm
  obtain ⟨hto, hfrm, hoz⟩ := mem_emit.mp hm
  exact ⟨sent_isChildOf wf hg hto, by rw [hfrm]; exact hs, by rw [hoz]; exact ho⟩

theorem accept_global {oz : Zone} (hg : T.isGlobal oz = true) (o : Origin) : accept T oz o = true := by
  unfold accept canAccess
  cases o.fromZone with
  | none => rfl
  | some z => rw [hg]; exact Bool.true_or _

section Accept
variable {orig e : Ep} {o : Origin} {oz : Zone} {n : Net}

theorem Relayed.chain (wf : NetWF T) (hg : T.isGlobal oz = false) (horig : isChildOf T oz (T.zoneOf orig) = true)
    (h : Relayed T orig oz e o) {m : Msg} (hm : m ∈ emit T e o oz) : OnChain T oz m := by
  induction h generalizing m with
  | orig => exact emit_onChain (o := Origin.loc) wf hg horig (fun _ hz => nomatch hz) m hm
  | hop _ hm0 _ ih => exact emit_onChain wf hg (ih hm0).1 (ih hm0).origin m hm

theorem Ledger.onChain (wf : NetWF T) (hg : T.isGlobal oz = false) (horig : isChildOf T oz (T.zoneOf orig) = true)
    (l : Ledger T orig oz n) {m : Msg} (hm : m ∈ wire n) : OnChain T oz m :=
  (l.mem_wire.mp hm).elim fun _ h => h.elim fun _ h => (l.relayed h.1).chain wf hg horig h.2

theorem Ledger.accept (wf : NetWF T) (horig : NetEntitled T (T.zoneOf orig) oz (T.zoneOf orig))
    (l : Ledger T orig oz n) {m : Msg} (hm : m ∈ wire n) : accept T oz (originOf T m) = true := by
  cases hg : T.isGlobal oz with
  | true => exact accept_global hg _
  | false => exact (l.onChain wf hg ((netEntitled_ordinary hg).mp horig) hm).accepted

theorem Ledger.no_discard (wf : NetWF T) (horig : NetEntitled T (T.zoneOf orig) oz (T.zoneOf orig))
    (l : Ledger T orig oz n) : n.discarded = [] :=
  List.eq_nil_iff_forall_not_mem.mpr fun m hm =>
    Bool.false_ne_true ((l.discarded m hm).symm.trans (l.accept wf horig (wire_of_discarded hm)))

theorem Ledger.accInv (wf : NetWF T) (hg : T.isGlobal oz = false) (horig : isChildOf T oz (T.zoneOf orig) = true)
    (l : Ledger T orig oz n) : AccInv T oz n :=
  ⟨fun _ hm => l.onChain wf hg horig (wire_of_inflight hm), l.no_discard wf ((netEntitled_ordinary hg).mpr horig)⟩

/-- an originator that is not entitled: its recipients discard, so nobody else relays -/
theorem Relayed.alone (wf : NetWF T) (hg : T.isGlobal oz = false) (hne : isChildOf T oz (T.zoneOf orig) = false)
    (h : Relayed T orig oz e o) : e = orig ∧ o = Origin.loc := by
  induction h with
  | orig => exact ⟨rfl, rfl⟩
  | @hop e o m _ hm hacc ih =>
    obtain ⟨rfl, rfl⟩ := ih
    exfalso
    obtain ⟨hto, hfrm, _⟩ := mem_emit.mp hm
    have hent := sent_isChildOf wf hg hto
    have hz : T.zoneOf m.frm ≠ T.zoneOf m.to := by
      rw [hfrm]; intro heq; rw [← heq, hne] at hent; cases hent
    unfold accept canAccess at hacc
    rw [originOf_fromZone_cross hz, hfrm] at hacc
    simp only [hg, hne, Bool.or_self] at hacc
    cases hacc

end Accept

theorem netEntitled_of_netEntitledB {Z0 oz z : Zone} (h : netEntitledB T Z0 oz z = true) : NetEntitled T Z0 oz z := by
  unfold netEntitledB at h
  cases hg : T.isGlobal oz <;> rw [hg] at h
  · exact (netEntitled_ordinary hg).mpr h
  · exact (netEntitled_global hg).mpr (anc_of_isChildOf h)

/-- the executable form walks at most `maxDepth` parents: it agrees when that reaches every ancestor -/
theorem netEntitledB_of_netEntitled (hdepth : ∀ a b, Anc T a b → isChildOf T a b = true) {Z0 oz z : Zone}
    (h : NetEntitled T Z0 oz z) : netEntitledB T Z0 oz z = true := by
  unfold netEntitledB
  cases hg : T.isGlobal oz
  · exact (netEntitled_ordinary hg).mp h
  · exact hdepth _ _ ((netEntitled_global hg).mp h)

end Net

end Icinga.C11
