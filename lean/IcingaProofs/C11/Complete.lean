/-
  C11 — the propagation argument of `complete_when_connected` at quiescence.  It rests on the ledger of the run and on what
  every message knows of its sender (`Ledger.msgOK`), not on `Once`: completeness needs no uniqueness.  By `Ledger.mem_wire`
  everything a node that processed the event had to send has been delivered.  So the originating zone is served, a zone with
  one processed member is served, and the master of a served zone reaches the next entitled zone away from the originator
  (`next_zone_served`): induction along the path to the target zone, down or (object of an ordinary zone) up.
-/
import IcingaProofs.C11.Compass
namespace Icinga.C11

def Served (T : Topo) (n : Net) (Z : Zone) : Prop := ∀ p, Member T p → T.zoneOf p = Z → p ∈ n.processed

section Zone
variable {T : Topo}

theorem master_self_or_peer (cl : Cluster T) {e p : Ep} (hMe : Member T e) (hMp : Member T p)
    (hz : T.zoneOf p = T.zoneOf e) (hne : e ≠ p) : getMaster T e = some e ∨ getMaster T e = some p := by
  cases hm : getMaster T e with
  | none =>
    exfalso
    unfold getMaster at hm
    have := minEp_eq_none.mp hm
    have he : e ∈ (T.eps e (T.zoneOf e)).filter (fun x => T.conn e x || x == e) := by
      rw [List.mem_filter]; exact ⟨hMe e, by simp⟩
    rw [this] at he; cases he
  | some x =>
    have hx := master_in_own_zone hm
    by_cases hxe : x = e
    · left; rw [hxe]
    · by_cases hxp : x = p
      · right; rw [hxp]
      · exfalso
        have hp : p ∈ T.eps e (T.zoneOf e) := by rw [← hz]; exact hMp e
        exact three_in_two (cl.two e _) (hMe e) hp hx hne (Ne.symm hxe) (Ne.symm hxp)

theorem exists_zone_min (cl : Cluster T) {Z : Zone} (h : ∃ x, Member T x ∧ T.zoneOf x = Z) :
    ∃ m, Member T m ∧ T.zoneOf m = Z ∧ ∀ x, Member T x → T.zoneOf x = Z → m ≤ x := by
  obtain ⟨x0, hM0, hz0⟩ := h
  have hx0 : x0 ∈ T.eps x0 Z := by rw [← hz0]; exact hM0 x0
  cases hm : minEp (T.eps x0 Z) with
  | none => rw [minEp_eq_none.mp hm] at hx0; cases hx0
  | some m =>
    have hmem := (minEp_eq_some_iff.mp hm).1
    have hzm := cl.zone_of_mem x0 Z m hmem
    refine ⟨m, cl.member_of_mem hmem, hzm, ?_⟩
    · intro x hMx hzx
      apply (minEp_eq_some_iff.mp hm).2
      rw [← hzx]; exact hMx x0

theorem zone_min_is_master (cl : Cluster T) {m : Ep} (hM : Member T m)
    (hmin : ∀ x, Member T x → T.zoneOf x = T.zoneOf m → m ≤ x) : getMaster T m = some m :=
  getMaster_eq_some_iff.mpr ⟨hM m, Or.inr rfl, fun y hy _ => hmin y (cl.member_of_mem hy) (cl.zone_of_mem m _ y hy)⟩

end Zone

section Routing
variable {T : Topo} {Z0 oz : Zone} {s : Ep}

theorem loops_own (hd : Detached T) (hE : NetEntitled T Z0 oz (T.zoneOf s)) :
    T.zoneOf s ∈ loopZones maxDepth T s (some oz) := by
  cases hg : T.isGlobal oz with
  | true => exact (loops_iff_global hd (some oz) hg).mpr (Or.inl rfl)
  | false =>
    exact (loops_iff_chain hd (some oz) hg).mpr ⟨isChildOf_iff.mp ((netEntitled_ordinary hg).mp hE), by simp [related]⟩

/-- `hreg`: the relay step looks for the children of the local zone among the registered zones -/
theorem loops_toward (cl : Cluster T) (hreg : ∀ z p, T.parent z = some p → z ∈ T.zones) {Z' : Zone}
    (hE : NetEntitled T Z0 oz Z') (ht : Toward T Z0 Z' (T.zoneOf s)) : Z' ∈ loopZones maxDepth T s (some oz) := by
  obtain ⟨rank, hr⟩ := cl.acyclic
  cases hg : T.isGlobal oz with
  | true =>
    rcases ht with ⟨hp, ha⟩ | ⟨hp, _⟩
    · -- an object of a global zone does not travel upwards: what is entitled lies below the originating zone
      have := anc_rank hr ((netEntitled_global hg).mp hE)
      have := anc_rank hr ha
      have := hr _ _ hp
      omega
    · exact (loops_iff_global cl.toDetached (some oz) hg).mpr (Or.inr ⟨hreg _ _ hp, hp⟩)
  | false =>
    refine (loops_iff_chain cl.toDetached (some oz) hg).mpr ⟨isChildOf_iff.mp ((netEntitled_ordinary hg).mp hE), ?_⟩
    rcases ht with ⟨hp, _⟩ | ⟨hp, _⟩ <;> simp [related, hp]

/-- `hdepth`: the fuelled walk of `isChildOf` reaches every ancestor (`hdepth_of_rank`) -/
theorem netEntitled_parent (hdepth : ∀ a b, Anc T a b → isChildOf T a b = true) {a p : Zone} (hp : T.parent a = some p)
    (hE : NetEntitled T Z0 oz a) (hanc : T.isGlobal oz = true → Anc T p Z0) : NetEntitled T Z0 oz p := by
  cases hg : T.isGlobal oz with
  | true => exact (netEntitled_global hg).mpr (hanc hg)
  | false =>
    exact (netEntitled_ordinary hg).mpr (hdepth _ _ ((anc_of_isChildOf ((netEntitled_ordinary hg).mp hE)).tail hp))

end Routing

section Quiescent
variable {T : Topo} {orig : Ep} {oz : Zone} {n : Net} (cl : Cluster T) (mc : MastersConnected T)
  (horig : NetEntitled T (T.zoneOf orig) oz (T.zoneOf orig)) (hM : Member T orig)
  (l : Ledger T orig oz n) (hq : n.inflight = [])

include cl horig l in
theorem processed_entitled {e : Ep} (he : e ∈ n.processed) : NetEntitled T (T.zoneOf orig) oz (T.zoneOf e) :=
  ((l.entInv cl.toNetWF).processed e he).elim (fun h => by rw [h]; exact horig) id

include cl horig l hq in
theorem sends_processed {e : Ep} {o : Origin} (hr : RelayedIn T orig n e o) {e' : Ep}
    (he' : e' ∈ (relay T e o (some oz) true).sent) : e' ∈ n.processed := by
  have hmsg : (⟨e', e, o.fromZone⟩ : Msg) ∈ _ := l.mem_wire.mpr ⟨_, _, hr, mem_emit.mpr ⟨he', rfl, rfl⟩⟩
  unfold wire at hmsg
  rw [hq, l.no_discard cl.toNetWF horig, List.append_nil, List.append_nil] at hmsg
  exact l.mem_processed.mpr ⟨_, Or.inr ⟨_, hmsg, rfl, rfl⟩⟩

include cl mc horig l hq in
theorem peer_served {e p : Ep} {o : Origin} (hr : RelayedIn T orig n e o) (hMe : Member T e) (hMp : Member T p)
    (hz : T.zoneOf p = T.zoneOf e) (hne : e ≠ p) (hcl : o.client ≠ some p) (hfz : o.fromZone ≠ some (T.zoneOf e)) :
    p ∈ n.processed := by
  have hrt := loops_own (s := e) cl.toDetached (processed_entitled cl horig l (l.mem_processed.mpr ⟨o, hr⟩))
  exact sends_processed cl horig l hq hr (sent_of_guards_own hrt (by rw [← hz]; exact hMp e)
    ⟨Ne.symm hne, mc.peers e p hMe hMp hz.symm hne, hcl, hfz, master_self_or_peer cl hMe hMp hz hne⟩)

include cl mc horig hM l hq

theorem origin_zone_served : Served T n (T.zoneOf orig) := by
  intro p hMp hz
  by_cases hne : orig = p
  · rw [← hne]; exact l.mem_processed.mpr ⟨_, Or.inl ⟨rfl, rfl⟩⟩
  · exact peer_served cl mc horig l hq (Or.inl ⟨rfl, rfl⟩) hM hMp hz hne (by intro h; cases h) (by intro h; cases h)

theorem zone_served_of_member {e p : Ep} (he : e ∈ n.processed) (hZ : T.zoneOf e ≠ T.zoneOf orig) (hMp : Member T p)
    (hz : T.zoneOf p = T.zoneOf e) : p ∈ n.processed := by
  by_cases hne : e = p
  · rw [← hne]; exact he
  obtain ⟨_, ⟨h, _⟩ | ⟨m, hm, hto, _⟩⟩ := l.mem_processed.mp he
  · rw [h] at hZ; exact absurd rfl hZ
  · have ok := l.msgOK cl horig hM (wire_of_accepted hm)
    have hMe : Member T e := hto ▸ ok.to_member
    by_cases hx : T.zoneOf m.frm = T.zoneOf m.to
    · -- got it from the peer
      by_cases hs : m.frm = p
      · rw [← hs]; exact ok.frm_processed
      · exfalso
        have h1 : T.zoneOf m.frm = T.zoneOf e := by rw [hx, hto]
        have h2 : m.frm ≠ e := by rw [← hto]; exact ok.ne
        exact three_members cl hMe hMp ok.frm_member hz h1 hne (Ne.symm h2) (Ne.symm hs)
    · -- got it from another zone: hands it to the peer
      apply peer_served cl mc horig l hq (Or.inr ⟨m, hm, hto, rfl⟩) hMe hMp hz hne
      · show some m.frm ≠ some p
        intro h; cases h
        apply hx; rw [hz, hto]
      · rw [originOf_fromZone_cross hx]
        intro h
        apply hx
        rw [hto]
        exact Option.some.inj h

variable (hreg : ∀ z p, T.parent z = some p → z ∈ T.zones)
  (hinhab : ∀ Z, NetEntitled T (T.zoneOf orig) oz Z → ∃ x, Member T x ∧ T.zoneOf x = Z)
include hreg hinhab

/-- the master of a served zone hands the event to an endpoint of the entitled neighbour zone `Z'` on the far side from the
    originating zone, and a zone with one processed member is served (`zone_served_of_member`) -/
theorem next_zone_served {Z Z' : Zone} (hserved : Served T n Z) (hE : NetEntitled T (T.zoneOf orig) oz Z)
    (hE' : NetEntitled T (T.zoneOf orig) oz Z') (ht : Toward T (T.zoneOf orig) Z' Z) : Served T n Z' := by
  obtain ⟨rank, hr⟩ := cl.acyclic
  have hZ' : ∃ x, Member T x ∧ T.zoneOf x = Z' := hinhab Z' hE'
  obtain ⟨mZ, hMm, hzm, hmin⟩ := exists_zone_min cl (hinhab Z hE)
  have hmaster := zone_min_is_master cl hMm (by rw [hzm]; exact hmin)
  have hproc := hserved mZ hMm hzm
  have hadj : T.parent Z' = some Z ∨ T.parent Z = some Z' := ht.symm.imp And.left And.left
  obtain ⟨x, hMx, hzx, hcx⟩ := mc.cross mZ Z' hMm (by rw [hzm]; exact hmin) (by rw [hzm]; exact hadj) hZ'
  have hZZ' : Z' ≠ Z := by
    rcases hadj with h | h
    · intro e; rw [e] at h; exact Nat.lt_irrefl _ (hr _ _ h)
    · intro e; rw [e] at h; exact Nat.lt_irrefl _ (hr _ _ h)
  -- the origin with which mZ relayed does not forbid Z'
  have horigin : ∃ o, RelayedIn T orig n mZ o ∧ o.fromZone ≠ some Z' ∧ ∀ y, T.zoneOf y = Z' → o.client ≠ some y := by
    obtain ⟨_, ⟨h, _⟩ | ⟨m, hm, hto, _⟩⟩ := l.mem_processed.mp hproc
    · -- `mZ` originated the event
      refine ⟨Origin.loc, Or.inl ⟨h, rfl⟩, ?_, ?_⟩
      · intro h'; cases h'
      · intro y _ h'; cases h'
    · -- the compass at `mZ` points back toward the originator, `Z'` lies the other way; a sender in `Z'` would
      -- have put `Z'` into `FromZone`
      have h1 : (originOf T m).fromZone ≠ some Z' := by
        intro h'
        rcases (l.msgOK cl horig hM (wire_of_accepted hm)).compass with ⟨_, h⟩ | ⟨_, g, hg, htg⟩
        · rw [h] at h'; cases h'
        · rw [hg] at h'; cases h'
          rw [hto, hzm] at htg
          exact toward_antisymm hr htg ht
      refine ⟨originOf T m, Or.inr ⟨m, hm, hto, rfl⟩, h1, fun y hy hcl => h1 ?_⟩
      have hfy : m.frm = y := Option.some.inj hcl
      rw [originOf_fromZone_cross (by rw [hfy, hy, hto, hzm]; exact hZZ'), hfy, hy]
  obtain ⟨o, hrw, hfz, hcl⟩ := horigin
  have hx' : x ∈ T.eps mZ Z' := by rw [← hzx]; exact hMx mZ
  have hxne : x ≠ mZ := by intro e; rw [e, hzm] at hzx; exact hZZ' hzx.symm
  obtain ⟨e', hmem, he'⟩ := sent_of_guards_zone (log := true) (loops_toward cl hreg hE' (by rw [hzm]; exact ht)) hx'
    ⟨hxne, hcx, hcl x hzx, hfz, Or.inl hmaster⟩
  have hze' := cl.zone_of_mem mZ Z' e' hmem
  intro q hMq hzq
  exact zone_served_of_member cl mc horig hM l hq (sends_processed cl horig l hq hrw he')
    (by rw [hze']; exact toward_ne hr ht) hMq (by rw [hzq, hze'])

variable (hdepth : ∀ a b, Anc T a b → isChildOf T a b = true)
include hdepth

/-- from a served zone `z0` at or below the originating zone to any entitled zone further down -/
theorem served_down {a z0 : Zone} (h : Anc T a z0) : Anc T z0 (T.zoneOf orig) → NetEntitled T (T.zoneOf orig) oz a →
    Served T n z0 → Served T n a := by
  induction h with
  | refl => exact fun _ _ hs => hs
  | @step a p z0 hp hanc ih =>
    intro h0 hEa hs
    have hEp := netEntitled_parent hdepth hp hEa fun _ => hanc.trans h0
    exact next_zone_served cl mc horig hM l hq hreg hinhab (ih h0 hEp hs) hEp hEa (Or.inr ⟨hp, hanc.trans h0⟩)

/-- object of an ordinary zone: from a served entitled zone `a` at or above the originating zone to any zone further up -/
theorem served_up (hg : T.isGlobal oz = false) {a z : Zone} (h : Anc T a z) : Anc T (T.zoneOf orig) a →
    NetEntitled T (T.zoneOf orig) oz a → Served T n a → Served T n z := by
  induction h with
  | refl => exact fun _ _ hs => hs
  | @step a p z hp _ ih =>
    intro h0 hEa hs
    have hEp := netEntitled_parent hdepth hp hEa fun h => absurd h (by rw [hg]; exact Bool.false_ne_true)
    exact ih (h0.tail hp) hEp (next_zone_served cl mc horig hM l hq hreg hinhab hs hEa hEp (Or.inl ⟨hp, h0⟩))

/-- what is entitled lies on one line with the originating zone (`anc_comparable`): below it or, for an object of an
    ordinary zone, above it -/
theorem served_of_entitled {Z : Zone} (hE : NetEntitled T (T.zoneOf orig) oz Z) : Served T n Z := by
  have hs0 := origin_zone_served cl mc horig hM l hq
  cases hg : T.isGlobal oz with
  | true => exact served_down cl mc horig hM l hq hreg hinhab hdepth ((netEntitled_global hg).mp hE) (Anc.refl _) hE hs0
  | false =>
    have hZ := anc_of_isChildOf ((netEntitled_ordinary hg).mp hE)
    rcases anc_comparable hZ (anc_of_isChildOf ((netEntitled_ordinary hg).mp horig)) with hdown | hup
    · exact served_down cl mc horig hM l hq hreg hinhab hdepth hdown (Anc.refl _) hE hs0
    · exact served_up cl mc horig hM l hq hreg hinhab hdepth hg hup (Anc.refl _) horig hs0

end Quiescent

section Reflect
variable {T : Topo} {allEps : List Ep} {zones : List Zone}

/-- the smallest member of a zone is what `mastersConnectedB` computes as its master -/
theorem minEp_zone_eq (hall : ∀ e, Member T e ↔ e ∈ allEps) {m : Ep} (hm : Member T m)
    (hmin : ∀ x, Member T x → T.zoneOf x = T.zoneOf m → m ≤ x) :
    minEp (allEps.filter (fun e => T.zoneOf e == T.zoneOf m)) = some m := by
  refine minEp_eq_some_iff.mpr ⟨List.mem_filter.mpr ⟨(hall m).mp hm, by simp⟩, fun x hx => ?_⟩
  obtain ⟨hx1, hx2⟩ := List.mem_filter.mp hx
  exact hmin x ((hall x).mpr hx1) (by simpa using hx2)

theorem mastersConnected_of_B (cl : Cluster T) (hall : ∀ e, Member T e ↔ e ∈ allEps)
    (hzones : ∀ e ∈ allEps, T.zoneOf e ∈ zones) (h : mastersConnectedB T allEps zones = true) :
    MastersConnected T := by
  unfold mastersConnectedB at h
  rw [List.all_eq_true] at h
  -- what the predicate says about a zone's smallest member
  have key : ∀ m, Member T m → (∀ x, Member T x → T.zoneOf x = T.zoneOf m → m ≤ x) →
      (∀ p, Member T p → T.zoneOf p = T.zoneOf m → p ≠ m → T.conn m p = true) ∧
      (∀ z' ∈ zones, (T.parent z' = some (T.zoneOf m) ∨ T.parent (T.zoneOf m) = some z') →
        (∃ x, Member T x ∧ T.zoneOf x = z') → ∃ e', Member T e' ∧ T.zoneOf e' = z' ∧ T.conn m e' = true) := by
    intro m hm hmin
    have hz := h _ (hzones m ((hall m).mp hm))
    rw [minEp_zone_eq hall hm hmin] at hz
    simp only [Bool.and_eq_true, List.all_eq_true] at hz
    constructor
    · intro p hp hzp hne
      have := hz.1 p (List.mem_filter.mpr ⟨(hall p).mp hp, by simpa using hzp⟩)
      simpa [hne] using this
    · intro z' hz' hadj ⟨x, hx, hzx⟩
      have := hz.2 z' hz'
      have hadj' : (T.parent z' == some (T.zoneOf m) || T.parent (T.zoneOf m) == some z') = true := by
        simpa using hadj
      have hnonempty : (allEps.filter (fun e => T.zoneOf e == z')).isEmpty = false := by
        rw [List.isEmpty_eq_false_iff_exists_mem]
        exact ⟨x, List.mem_filter.mpr ⟨(hall x).mp hx, by simpa using hzx⟩⟩
      simp only [hadj', hnonempty, Bool.not_true, Bool.false_or, List.any_eq_true] at this
      obtain ⟨e', he', hc⟩ := this
      have he'' := List.mem_filter.mp he'
      exact ⟨e', (hall e').mpr he''.1, by simpa using he''.2, hc⟩
  constructor
  · -- peers: one of `a`, `b` is the zone's smallest member
    intro a b ha hb hz hne
    obtain ⟨m, hm, hzm, hmin⟩ := exists_zone_min cl ⟨a, ha, rfl⟩
    have hk := (key m hm (by rw [hzm]; exact hmin)).1
    by_cases ham : a = m
    · subst ham; exact hk b hb hz.symm (Ne.symm hne)
    · by_cases hbm : b = m
      · subst hbm; rw [cl.conn_symm]; exact hk a ha hz hne
      · exact (three_members cl hm ha hb (by rw [hzm]) (by rw [hzm, hz]) (Ne.symm ham) (Ne.symm hbm) hne).elim
  · -- cross
    intro m Z' hm hmin hadj ⟨x, hx, hzx⟩
    exact (key m hm hmin).2 Z' (hzx ▸ hzones x ((hall x).mp hx)) hadj ⟨x, hx, hzx⟩

theorem completeB_of_forall (hall : ∀ e ∈ allEps, Member T e) {orig : Ep} {oz : Zone} {n : Net}
    (h : ∀ e, Member T e → NetEntitled T (T.zoneOf orig) oz (T.zoneOf e) → e ∈ n.processed) :
    completeB T allEps orig oz n = true := by
  unfold completeB
  rw [List.all_eq_true]
  intro e he
  obtain ⟨he, hent⟩ := List.mem_filter.mp he
  rw [List.contains_iff_mem]
  exact h e (hall e he) (netEntitled_of_netEntitledB hent)

end Reflect

end Icinga.C11
