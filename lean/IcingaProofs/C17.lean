/-
  C17 — Runtime objects: all-or-nothing, faithful creation; values cannot inject config.
-/
import IcingaProofs.C17.RoundTrip
import IcingaProofs.C17.PathLemmas
import IcingaProofs.C17.Observe

namespace Icinga.C17

/-- Every NUL-free byte string survives `EmitString` → string-literal lexer unchanged, and the lexer
    stops exactly at the closing quote the writer put there: whatever follows (`rest`) is left
    untouched, so no byte of `s` can end the literal early or swallow what comes after it.
    (Full statement without `hs` is false: `string_nul_counterexample`, F-C17b.) -/
theorem string_emit_lex_roundtrip (s : Str) (hs : chNUL ∉ s) (rest : Str) :
    lexString (emitString s ++ rest) = some (s, rest) :=
  lexString_emitString s hs rest

example : lexString (emitString ['a', '"', '\\', '\n', '}', '}', '}', '*', '/', '#'] ++ ['\n', 'x']) =
    some (['a', '"', '\\', '\n', '}', '}', '}', '*', '/', '#'], ['\n', 'x']) := by decide +kernel

/-- F-C17b: a string containing U+0000 is truncated at the NUL up to the next escape sequence
    (`while (*yptr)` copy loop, config_lexer.ll:98-103): `"ab\0cd"` is read back as `"ab"`. -/
theorem string_nul_counterexample :
    lexString (emitString ['a', 'b', chNUL, 'c', 'd']) = some (['a', 'b'], []) := by decide +kernel

/-- The emitted literal denotes the number rounded to six fractional digits: kernel-evaluated WITNESS for one
    number with seven fractional digits — what `emitNumber` writes for it, and what `parseNumber` reads from that text
    without the sign.  (For all numbers: `parseValueF_emitNumber`; it is part of `emit_parse_roundtrip`, whose
    right-hand side carries `round6Ms attrs`.) -/
theorem number_emit_denotes_round6 :
    emitNumber ⟨true, 12345671234567, 7⟩ = ['-','1','2','3','4','5','6','7','.','1','2','3','4','5','7'] ∧
    parseNumber ['1','2','3','4','5','6','7','.','1','2','3','4','5','7', '\n'] =
      some (⟨false, 1234567123457, 6⟩, ['\n']) := by decide +kernel

/-- A number with at most six fractional decimal digits is written exactly: the number case of
    `faithful_attributes_partial` (the hypothesis is sufficient, not necessary: 10/10^7 is written exactly too). -/
theorem faithful_number_partial (d : Dec) (h : d.scale ≤ 6) :
    (round6 d).neg = d.neg ∧ (round6 d).mant * 10 ^ d.scale = d.mant * 10 ^ (round6 d).scale :=
  round6_same d h

example : (round6 ⟨false, 5, 1⟩).mant = 500000 := by decide +kernel

/-- F-C17a: `1e-7` is written as `0.000000` and read back as 0. -/
theorem number_precision_counterexample :
    emitNumber ⟨false, 1, 7⟩ = ['0', '.', '0', '0', '0', '0', '0', '0'] ∧
    (round6 ⟨false, 1, 7⟩).mant = 0 := by decide +kernel

/-- `emit_parse_roundtrip`: for EVERY type, name, template list and attribute dictionary (as above)
    the text `EmitConfigItem` generates is read back by the lexer/parser as exactly ONE statement
    `object <type> "<name>" [ignore_on_error]` whose body imports exactly the given templates and assigns
    exactly the supplied paths (dotted keys split) the supplied values, numbers rounded to six fractional
    digits.  (`parseItem` is defined to return an item only when the WHOLE text is one object statement; that it
    rejects a given text with a further statement or a foreign token is stated by no theorem or example here.) -/
theorem emit_parse_roundtrip (ty name : Str) (ioe : Bool) (imports : List Str) (attrs : List (Str × Value))
    (text : Str) (h : InputOk ty name imports attrs)
    (he : emitConfigItem ty name ioe imports attrs = some text) :
    parseItem text = some { ty := ty, name := name, ioe := ioe, imports := imports,
                            assigns := pathsOf (round6Ms attrs) } :=
  parseItem_emit ty name ioe imports attrs text h he

/-- `no_injection`: the STRUCTURE of the generated configuration depends on the inputs only through
    the list of keys: same type, same name, same templates, one assignment per supplied key with
    exactly that key's path, in order — whatever the name, the keys and the values contain. -/
theorem no_injection (ty name : Str) (ioe : Bool) (imports : List Str) (attrs : List (Str × Value))
    (text : Str) (h : InputOk ty name imports attrs)
    (he : emitConfigItem ty name ioe imports attrs = some text) :
    ∃ it, parseItem text = some it ∧ it.ty = ty ∧ it.name = name ∧ it.ioe = ioe ∧ it.imports = imports ∧
      it.assigns.map (·.1) = attrs.map (fun kv => splitDots kv.1) := by
  refine ⟨_, emit_parse_roundtrip ty name ioe imports attrs text h he, rfl, rfl, rfl, rfl, ?_⟩
  clear h he
  induction attrs with
  | nil => rfl
  | cons kv r ih => obtain ⟨k, v⟩ := kv; simpa [pathsOf, round6Ms] using ih

/-- The same for `CreateObjectConfig` (attribute whitelist, name parts, `version`): if it returns a
    text, that text is the one object statement over `allAttrs`. -/
theorem create_config_roundtrip (ti : TypeInfo) (fullName : Str) (ioe : Bool) (templates : List Str)
    (attrs : List (Str × Value)) (parts : Option (List (Str × Value))) (now : Dec) (text : Str)
    (h : InputOk ti.name (shortName fullName parts)
          templates (allAttrs attrs parts now))
    (he : createObjectConfig ti fullName ioe templates attrs parts now = some text) :
    parseItem text = some { ty := ti.name,
                            name := shortName fullName parts,
                            ioe := ioe, imports := templates,
                            assigns := pathsOf (round6Ms (allAttrs attrs parts now)) } := by
  unfold createObjectConfig at he
  split at he
  · exact emit_parse_roundtrip _ _ ioe templates _ text h he
  · cases he

/-- `faithful_attributes_partial`: the values the text assigns denote exactly the supplied ones when
    every number has at most six fractional decimal digits (full statement false: F-C17a,
    `number_precision_counterexample`). -/
theorem faithful_attributes_partial (attrs : List (Str × Value)) (h : MsExact attrs) :
    MsEq (round6Ms attrs) attrs :=
  round6Ms_faithful attrs h

example : InputOk ['H','o','s','t'] ['h','"','\n','}'] [['t','"']]
    [(['v','a','r','s','.','x'], .dict [(['a','\n','b'], .str ['*','/'])])] :=
  ⟨by decide, by decide, by
    intro kv hkv
    simp at hkv; subst hkv
    refine ⟨by decide, ?_⟩
    simp [VSafe, MsSafe, KeyOk]
    decide⟩

/-- A concrete hostile-but-harmless input, evaluated by the kernel (regression witness; the general
    statement is `emit_parse_roundtrip`). -/
theorem emit_parse_roundtrip_witness :
    ((emitConfigItem ['H','o','s','t'] ['h','"','\n','}','1'] true [['t','p','l']]
        [(['v','a','r','s'], .dict [(['a',' ','b'], .num ⟨false, 15, 1⟩), (['i','f'], .arr [.empty, .bool true, .dict []]),
            (['k'], .str ['*','/','"','\\','\n','}','}','}','#','/','/'])]),
         (['v','a','r','s','.','x','.','y'], .num ⟨true, 5, 0⟩)]).bind parseItem).map
      (fun it => itemBeq it
        { ty := ['H','o','s','t'], name := ['h','"','\n','}','1'], ioe := true, imports := [['t','p','l']],
          assigns := [((['v','a','r','s'], []), .dict [(['a',' ','b'], .num ⟨false, 1500000, 6⟩),
              (['i','f'], .arr [.empty, .bool true, .dict []]),
              (['k'], .str ['*','/','"','\\','\n','}','}','}','#','/','/'])]),
            ((['v','a','r','s'], [['x'], ['y']]), .num ⟨true, 5000000, 6⟩)] }) = some true := by decide +kernel

set_option maxRecDepth 100000 in
/-- Regression for F-C17c (fixed by 917b518): the multi-line key `"x = 1\nb"` is written as a quoted
    string and comes back as ONE key. -/
example :
    emitKey ['x',' ','=',' ','1','\n','b'] = ['"','x',' ','=',' ','1','\\','n','b','"'] ∧
    ((emitConfigItem ['H'] ['h'] false []
        [(['v','a','r','s'], .dict [(['x',' ','=',' ','1','\n','b'], .bool true)])]).bind parseItem).map
      (fun it => assignsBeq it.assigns
        [((['v','a','r','s'], []), .dict [(['x',' ','=',' ','1','\n','b'], .bool true)])]) = some true := by decide +kernel

set_option maxRecDepth 100000 in
/-- Regression for F-C17d (fixed by d511a4f): a template name with a quote and line breaks is escaped
    and comes back as that one template name. -/
example :
    ((emitConfigItem ['H'] ['h'] false [['t','"','\n','g','.','x',' ','=',' ','1','\n','/','/']] []).bind parseItem).map
      (fun it => it.imports == [['t','"','\n','g','.','x',' ','=',' ','1','\n','/','/']] && it.assigns.isEmpty)
      = some true := by decide +kernel

/-- Regression for 3c83e1d (`in` and `debugger` added to `ConfigWriter::GetKeywords`): a nested key `in` or
    `debugger` is written `@in` / `@debugger` and comes back as that key (before, it was written bare, the
    lexer read a keyword and the text was rejected).  The general statement is `emit_parse_roundtrip`, which
    covers these keys. -/
theorem lexer_keyword_key_roundtrip :
    emitKey ['i','n'] = ['@','i','n'] ∧ emitKey ['d','e','b','u','g','g','e','r'] = ['@','d','e','b','u','g','g','e','r'] ∧
    ((emitConfigItem ['H'] ['h'] false []
        [(['v','a','r','s'], .dict [(['i','n'], .bool true), (['d','e','b','u','g','g','e','r'], .empty)])]).bind parseItem).map
      (fun it => assignsBeq it.assigns
        [((['v','a','r','s'], []), .dict [(['i','n'], .bool true), (['d','e','b','u','g','g','e','r'], .empty)])]) = some true := by
  decide +kernel

/-- Every keyword of the lexer (transcribed from config_lexer.ll) is in the writer's list (transcribed from
    `ConfigWriter::GetKeywords`), and vice versa: no key is written bare that the lexer reads as a keyword.
    (False before 3c83e1d: `in` and `debugger` were missing.) -/
theorem lexer_keywords_known_to_writer :
    (∀ k ∈ lexerKeywords, k ∈ writerKeywords) ∧ (∀ k ∈ writerKeywords, k ∈ lexerKeywords) :=
  ⟨fun _ h => keywords_perm.subset h, fun _ h => keywords_perm.symm.subset h⟩

/-- Five evaluations of `emitKey`: a key with a `-`, the empty key and a key with a line break are quoted, a keyword
    gets `@`, an identifier is written bare. -/
theorem bare_key_is_identifier_witness :
    emitKey ['a','-','b'] = ['"','a','-','b','"'] ∧ emitKey ['i','f'] = ['@','i','f'] ∧
    emitKey ['a','_','1'] = ['a','_','1'] ∧ emitKey [] = ['"','"'] ∧
    emitKey ['a','\n','b'] = ['"','a','\\','n','b','"'] := by decide +kernel

/-- `EscapeName` can be undone (by `Utility::UnescapeString`), for EVERY name: no two names are written
    the same way, whatever `%`, `/`, `..`, quotes or bytes they contain. -/
theorem escapeName_injective (a b : Str) (h : escapeName a = escapeName b) : a = b := by
  have := congrArg unescapeName h
  rwa [unescape_escapeName, unescape_escapeName] at this

/-- Two names give the same `confPath` in one type directory only if they are the same name: where `confPath` is the
    file (names that are not truncated, see `confPath`), a create cannot overwrite (or, failing, remove) the file of
    another object of its type. -/
theorem confPath_injective (plural a b : Str) (h : confPath plural a = confPath plural b) : a = b := by
  unfold confPath at h
  exact escapeName_injective a b (List.append_cancel_right (List.append_cancel_left h))

/-- The file lies directly in the type's directory below `conf.d`: after the directory prefix no `/` follows,
    whatever the name contains (`../up`, `/abs`, `a/../b` cannot leave the directory). -/
theorem confPath_in_type_dir (plural name : Str) :
    ∃ base, confPath plural name = confDirPrefix plural ++ base ∧ '/' ∉ base := by
  refine ⟨escapeName name ++ confSuffix, rfl, ?_⟩
  simp only [List.mem_append, not_or]
  exact ⟨escapeName_no_slash name, by decide⟩

example : confPath ['h','o','s','t','s'] ['.','.','/','u','p'] =
    ['c','o','n','f','.','d','/','h','o','s','t','s','/','.','.','%','2','F','u','p','.','c','o','n','f'] := by decide +kernel
example : confPath ['h'] ['a','/','b'] ≠ confPath ['h'] ['a','%','2','F','b'] := by decide +kernel
example : pathExpected ['h'] ['a','/','b'] (confPath ['h'] ['a','%','2','F','b']) = false := by decide +kernel
example : pathExpected ['h'] ['a','/','b'] (confPath ['h'] ['a','/','b']) = true := by decide +kernel

/-- All-or-nothing for every fault — including a committed object whose name differs from the requested
    one (F-C17e, fixed by 86ebd6a: fault `nameMismatch`) — except an exception out of `ActivateItems` (see
    `activate_exception_counterexample`; hence `_partial`): either the call reports success without a fault and the state
    gained exactly the active object (`_api` or not: `api`) and the children apply rules generated for it, their items
    and the object's file; or the state is exactly as before
    (no object, item or file left behind) and `true` is returned only for `ignore_on_error`.
    Second exclusion, `hs`: the rolled-back Service of a failed name check stays in its host's service map
    (F-C17k, `rolled_back_service_resolvable_counterexample`).
    Full statement (no `hf`) fails in the model AND in the real code (known finding F-C17i, witness
    corpus/C17/f_c17i_start_throws.ops: a FileLogger whose log file cannot be opened): the catch block at
    configobjectutility.cpp:310-318 reports failure and the deferred `removeConfigPath` (211) removes the file, but
    nothing unregisters the committed object.
    `hfresh` is what `confPath_injective` gives for an object that does not exist yet (the invariant that
    every file belongs to a live object is not proved along `run`).  `generated` = children generated by
    apply rules (committed and rolled back together with the object). -/
theorem create_all_or_nothing_partial (st : St) (k : Key) (path : Str) (parents : List Key) (fault : Fault) (api : Bool)
    (generated : List Key)
    (hfresh : path ∉ st.files) (hitem : k ∉ st.items) (hf : fault ≠ .activateThrows) (hs : fault.leftInHostMap = []) :
    ((createObject st k path parents fault api generated).2 = .ok ∧ fault = .none ∧ st.has k = false ∧
        (createObject st k path parents fault api generated).1.objs =
          { key := k, api := api, active := true, file := path } ::
            (generated.map (fun g => { key := g, api := false, active := true, file := [] }) ++ st.objs) ∧
        (createObject st k path parents fault api generated).1.items = k :: (generated ++ st.items) ∧
        (createObject st k path parents fault api generated).1.files = path :: st.files)
    ∨ ((createObject st k path parents fault api generated).1 = st ∧
        ((createObject st k path parents fault api generated).2 = .ok → fault = .ignored)) := by
  obtain ⟨ho, hd, hi, hfl, hh, hres⟩ | ⟨hk, -, ho, hi, hc⟩ :=
    createObject_outcome st k path parents fault api generated _ rfl
  · -- rolled back: with a fresh path, no item of that name and nothing left in a host map every field is as before
    rw [filter_ne_fresh k st.items hitem, or_self] at hi
    rw [rmFile_fresh path st.files hfresh, or_self] at hfl
    rw [hs, List.nil_append, or_self] at hh
    exact .inr ⟨St.ext_fields ho hi hfl hd hh, hres⟩
  · rcases hc with ⟨hn, hok, hfl, -⟩ | ⟨ha, -⟩
    · exact .inl ⟨hok, hn, hk, ho, hi, by rw [hfl, rmFile_fresh path st.files hfresh]⟩
    · exact absurd ha hf

/-- Every registered configuration item belongs to a registered object — in every state reachable by ANY sequence
    of creates (every fault) and deletes (cascading or not, aborted by an exception or not). -/
theorem items_owned_invariant (st : St) (h : ItemsOwned st) (ops : List Op) : ItemsOwned (run st ops) :=
  run_preserves ItemsOwned step_itemsOwned st h ops

/-- `create_all_or_nothing_partial` in every REACHABLE state: the hypothesis that no item of the requested name is
    registered (`hitem`) is discharged by `items_owned_invariant`, and nothing is asked about whether the object
    exists (an existing one is refused and nothing changes).  Remaining hypotheses: the file name is fresh
    (`confPath_injective` is the reason it is) and the fault is neither F-C17i (`hf`) nor F-C17k (`hs`). -/
theorem create_all_or_nothing_reachable (st0 : St) (h0 : ItemsOwned st0) (ops : List Op)
    (k : Key) (path : Str) (parents : List Key) (fault : Fault) (api : Bool) (generated : List Key)
    (hfresh : path ∉ (run st0 ops).files) (hf : fault ≠ .activateThrows) (hs : fault.leftInHostMap = []) :
    ((createObject (run st0 ops) k path parents fault api generated).2 = .ok ∧ fault = .none ∧ (run st0 ops).has k = false ∧
        (createObject (run st0 ops) k path parents fault api generated).1.objs =
          { key := k, api := api, active := true, file := path } ::
            (generated.map (fun g => { key := g, api := false, active := true, file := [] }) ++ (run st0 ops).objs) ∧
        (createObject (run st0 ops) k path parents fault api generated).1.items = k :: (generated ++ (run st0 ops).items) ∧
        (createObject (run st0 ops) k path parents fault api generated).1.files = path :: (run st0 ops).files)
    ∨ ((createObject (run st0 ops) k path parents fault api generated).1 = run st0 ops ∧
        ((createObject (run st0 ops) k path parents fault api generated).2 = .ok → fault = .ignored)) := by
  by_cases hk : (run st0 ops).has k = true
  · rw [createObject_exists _ k path parents fault api generated hk]
    exact .inr ⟨rfl, fun h => by cases h⟩
  · have hitem : k ∉ (run st0 ops).items := fun hm => hk (items_owned_invariant st0 h0 ops k hm)
    exact create_all_or_nothing_partial _ k path parents fault api generated hfresh hitem hf hs

example : ItemsOwned ⟨[], [], [], [], []⟩ := by intro k hk; cases hk

/-- All-or-nothing covers the children apply rules generate: a create that fails for ANY reason (here:
    a generated sibling is invalid, `commitFails`) leaves neither the object nor any generated child. -/
example : createObject ⟨[], [], [], [], []⟩ ⟨['H'], ['h']⟩ ['f'] [] .commitFails true [⟨['S'], ['h','!','a']⟩] =
    (⟨[], [], [], [], []⟩, .fail) := by decide +kernel

example : (createObject ⟨[], [], [], [], []⟩ ⟨['H'], ['h']⟩ ['f'] [] .none true [⟨['S'], ['h','!','a']⟩]).1.keys =
    [⟨['H'], ['h']⟩, ⟨['S'], ['h','!','a']⟩] := by decide +kernel

/-- Regression for F-C17e (fixed by 86ebd6a): a name mismatch after commit fails and leaves nothing. -/
example : createObject ⟨[], [], [], [], []⟩ ⟨['N'], ['s','h','!','!','b']⟩ ['f'] [] .nameMismatch = (⟨[], [], [], [], []⟩, .fail) := by
  decide +kernel

example : (createObject ⟨[], [], [], [], []⟩ ⟨['H'], ['h']⟩ ['f'] [] .none).2 = .ok ∧
    (createObject ⟨[], [], [], [], []⟩ ⟨['H'], ['h']⟩ ['f'] [] .commitFails) = (⟨[], [], [], [], []⟩, .fail) := by decide +kernel

/-- The excluded case (F-C17i, reproduced on the real code: `PUT /v1/objects/fileloggers/x` with a `path` that
    cannot be opened makes `FileLogger::Start` throw): an exception from `ActivateItems` leaves the registered
    object, marked active, and its item behind while the file is removed and `false` is returned. -/
theorem activate_exception_counterexample :
    createObject ⟨[], [], [], [], []⟩ ⟨['H'], ['h']⟩ ['f'] [] .activateThrows =
      (⟨[⟨⟨['H'], ['h']⟩, true, true, ['f']⟩], [⟨['H'], ['h']⟩], [], [], []⟩, .fail) := by decide +kernel

/-- The other excluded case (F-C17k, reproduced on the real code, corpus/C17/f_c17k_rolled_back_service.ops):
    `PUT /v1/objects/services/sh!n0!x` fails the name check (the committed Service is called `sh!n0`) and is rolled
    back — no object, no item, no file — but the rolled-back Service stays in its host's service map:
    `Service::GetByNamePair("sh", "n0")` finds it, and a Downtime, Comment, Notification or Dependency can then be
    created for a service that does not exist.  (Hypothesis `hs` of `create_all_or_nothing_partial`.) -/
theorem rolled_back_service_resolvable_counterexample :
    let req : Key := ⟨tyService, ['s', 'h', '!', 'n', '0', '!', 'x']⟩
    let got : Key := ⟨tyService, ['s', 'h', '!', 'n', '0']⟩
    createObject ⟨[], [], [], [], []⟩ req ['f'] [] (.nameMismatchSvc got) = (⟨[], [], [], [], [got]⟩, .fail) ∧
      (createObject ⟨[], [], [], [], []⟩ req ['f'] [] (.nameMismatchSvc got)).1.resolvesService got = true := by decide +kernel

/-- A delete that reports success has removed the object, its item and (for an `_api` object) its file, and the
    object is no longer resolved through its host (F-C17f, fixed by edf9289: nothing can be created for
    a deleted service any more) — for every state, with or without cascade, and whatever deactivation the
    environment answers with an exception (`thr`). -/
theorem delete_removes_object_and_file (st : St) (k : Key) (cascade : Bool) (o : Obj) (thr : Option Key)
    (ho : st.find k = some o) (hok : (deleteObject st k cascade thr).2 = .ok) :
    k ∉ (deleteObject st k cascade thr).1.keys ∧ k ∉ (deleteObject st k cascade thr).1.items ∧
      o.file ∉ (deleteObject st k cascade thr).1.files ∧
      (deleteObject st k cascade thr).1.resolvesService k = false := by
  obtain ⟨hapi, hh, e⟩ := deleteObject_ok ho hok
  -- the call ended with the removal of `o` from some state
  rw [e, (deleteHelper_ok List.not_mem_nil hh).2, ← find_key ho]
  exact ⟨(has_false_iff _ _).mp (removeObj_has_false _ o),
    fun h => ((mem_removeObj_items _ o _).mp h).2 rfl, fun h => ((mem_removeObj_files _ o hapi _).mp h).2 rfl,
    removeObj_resolvesService _ o⟩

/-- Regression for F-C17f (fixed by edf9289): a created and then deleted Service is not resolvable through
    its host any more.  (General statement: last conjunct of `delete_removes_object_and_file`.) -/
theorem deleted_service_unresolvable_regression :
    let k : Key := ⟨tyService, ['h', '!', 's']⟩
    let st1 := (createObject ⟨[], [], [], [], []⟩ k ['f'] [] .none).1
    st1.resolvesService k = true ∧ (deleteObject st1 k false).2 = .ok ∧
      (deleteObject st1 k false).1.resolvesService k = false := by decide +kernel

/-- Regression for F-C17g (fixed by 6a109cb): an object that depends on itself (a TimePeriod whose
    `includes` names itself can be created) is deleted by a cascading delete — each object is visited
    once — and a non-cascading delete is refused like any delete of an object with dependents. -/
theorem cyclic_cascade_delete_regression :
    let k : Key := ⟨['T'], ['t', 'p']⟩
    let j : Key := ⟨['T'], ['t', 'q']⟩
    let st1 := (createObject ⟨[], [], [], [], []⟩ k ['f'] [k] .none).1
    -- a two-cycle k ↔ j
    let st2 := (createObject (createObject ⟨[], [], [], [], []⟩ k ['f'] [] .none).1 j ['g'] [k] .none).1
    let st3 : St := { st2 with deps := (k, j) :: st2.deps }
    (deleteObject st1 k true).2 = .ok ∧ (deleteObject st1 k true).1.keys = [] ∧ (deleteObject st1 k true).1.files = [] ∧
      deleteObject st1 k false = (st1, .fail) ∧
      (deleteObject st3 k true).2 = .ok ∧ (deleteObject st3 k true).1.keys = [] ∧ (deleteObject st3 k true).1.files = [] := by
  decide +kernel

/-- Objects not created through the API are refused and nothing changes. -/
theorem refuse_non_api (st : St) (k : Key) (cascade : Bool) (o : Obj)
    (ho : st.find k = some o) (hapi : o.api = false) :
    deleteObject st k cascade = (st, .fail) :=
  deleteObject_non_api ho hapi cascade none

/-- Without `cascade`: an object with live dependents is refused and nothing changes; otherwise at
    most the object itself goes (no other object is removed). -/
theorem cascade_only_when_asked (st : St) (k : Key) (o : Obj) (ho : st.find k = some o) :
    (children st o.key ≠ [] → deleteObject st k false = (st, .fail)) ∧
    ((deleteObject st k false).1 = st ∨ (deleteObject st k false).1 = removeObj st o) := by
  cases hapi : o.api
  · rw [deleteObject_non_api ho hapi]
    exact ⟨fun _ => rfl, .inl rfl⟩
  · rw [deleteObject_api ho hapi]
    by_cases hch : children st o.key = []
    · rw [deleteHelper_leaf hch List.not_mem_nil]
      exact ⟨fun h => absurd hch h, .inr rfl⟩
    · rw [deleteHelper_refused hch]
      exact ⟨fun _ => rfl, .inl rfl⟩

example : deleteObject ⟨[⟨⟨['H'], ['h']⟩, true, true, ['f']⟩, ⟨⟨['S'], ['s']⟩, true, true, ['g']⟩],
      [], [['f'], ['g']], [(⟨['S'], ['s']⟩, ⟨['H'], ['h']⟩)], []⟩ ⟨['H'], ['h']⟩ true =
    (⟨[], [], [], [], []⟩, .ok) := by decide +kernel

/-- A delete — cascading or not, successful, refused or aborted by an exception out of a deactivation (`thr`),
    whatever the dependency graph looks like (cycles included) — only ever REMOVES: the names, items and files
    afterwards are sub-lists of those before, and every object that is still there is the object it was, at most
    deactivated; nothing is added, re-ordered or replaced. -/
theorem delete_only_removes (st : St) (k : Key) (cascade : Bool) (thr : Option Key) :
    (deleteObject st k cascade thr).1.keys.Sublist st.keys ∧ (deleteObject st k cascade thr).1.items.Sublist st.items ∧
      (deleteObject st k cascade thr).1.files.Sublist st.files ∧
      ∀ x ∈ (deleteObject st k cascade thr).1.objs, ∃ y ∈ st.objs, x = y ∨ x = { y with active := false } :=
  ⟨(deleteObject_shrunk st k cascade thr).keys, (deleteObject_shrunk st k cascade thr).items,
   (deleteObject_shrunk st k cascade thr).files, (deleteObject_shrunk st k cascade thr).objs⟩

/-- A cascade that reports success is complete one level down — for every state, every graph (cycles included: an
    object visited again further down is skipped there, `busy`, and removed by the call that is under way for it)
    and whatever deactivation the environment answers with an exception: the object and EVERY live object that
    depends on it directly are gone.  (Before 0ce9ca7 false for a dependent whose deactivation
    fails: F-C17j.  Spec clause `cascade_complete` demands the transitive closure on the
    implementation's trace; for the model this level, `cascade_only_dependents` and `delete_only_removes` are proved.) -/
theorem cascade_success_complete (st : St) (k : Key) (o : Obj) (thr : Option Key) (ho : st.find k = some o)
    (hok : (deleteObject st k true thr).2 = .ok) :
    (deleteObject st k true thr).1.has k = false ∧
      ∀ c ∈ children st k, (deleteObject st k true thr).1.has c = false :=
  deleteObject_ok_children ho hok

/-- Without a fault a cascading delete of a runtime-created object always succeeds (and is then complete:
    `cascade_success_complete`). -/
theorem cascade_removes_children (st : St) (k : Key) (o : Obj) (ho : st.find k = some o) (hapi : o.api = true) :
    (deleteObject st k true).2 = .ok ∧ (deleteObject st k true).1.has k = false ∧
      ∀ c ∈ children st k, (deleteObject st k true).1.has c = false := by
  have hok : (deleteObject st k true).2 = .ok := by
    rw [deleteObject_api ho hapi]
    exact (ite_ok_iff _).mpr (deleteHelper_nofault_ok _ st o [])
  exact ⟨hok, cascade_success_complete st k o none ho hok⟩

/-- A delete that reports FAILURE — refused, or aborted by an exception out of the deactivation of the object or,
    since 0ce9ca7, of any dependent visited by the cascade — has not removed the object: it is still registered.
    (With `delete_removes_object_and_file`: the result says what happened to the object, for every state, graph
    and fault.) -/
theorem failed_delete_keeps_target (st : St) (k : Key) (cascade : Bool) (thr : Option Key) (o : Obj)
    (ho : st.find k = some o) (hfail : (deleteObject st k cascade thr).2 = .fail) :
    (deleteObject st k cascade thr).1.has k = true := by
  have hhas := find_has ho
  cases hapi : o.api
  · rw [deleteObject_non_api ho hapi]; exact hhas
  · rw [deleteObject_api ho hapi] at hfail ⊢
    rw [← find_key ho] at hhas ⊢
    exact deleteHelper_fail_keeps hhas ((ite_fail_iff _).mp hfail)

/-- Regression for F-C17j (fixed by 0ce9ca7; corpus/C17/fixed_c17j_cascade_aborted_dependent.ops): the deactivation of a
    dependent fails in the middle of a cascade — the dependent stays (deactivated, with its item and file), and so
    does the object it refers to, with its item and file; failure is reported.  (Before the fix the object was
    removed and success reported.) -/
theorem cascade_aborted_dependent_regression :
    let h : Key := ⟨['H'], ['h']⟩
    let s : Key := ⟨['S'], ['s']⟩
    let st : St := ⟨[⟨h, true, true, ['f']⟩, ⟨s, true, true, ['g']⟩], [h, s], [['f'], ['g']], [(s, h)], []⟩
    deleteObject st h true (some s) =
      (⟨[⟨h, true, true, ['f']⟩, ⟨s, true, false, ['g']⟩], [h, s], [['f'], ['g']], [], []⟩, .fail) := by decide +kernel

/-- A deletion aborted by an exception out of the object's deactivation, then tried again (the call sequence of seeded
    change C17-12): for EVERY state and every active runtime object without live dependents, the aborted call
    reports failure and leaves the object whole (registered, item and file untouched, only deactivated) — and the
    next delete of it succeeds and removes object, item and file.  The model starts every call with an empty `busy`:
    that `l_DeletionInProgress` is released at every exit is built into `deleteObject`, not proved here. -/
theorem aborted_delete_then_retry (st : St) (k : Key) (c c' : Bool) (o : Obj) (ho : st.find k = some o)
    (hapi : o.api = true) (hact : o.active = true) (hch : children st k = []) :
    deleteObject st k c (some k) = (deactivateObj st o, .fail) ∧
      (deactivateObj st o).has k = true ∧ (deactivateObj st o).items = st.items ∧ (deactivateObj st o).files = st.files ∧
      (deleteObject (deactivateObj st o) k c').2 = .ok ∧
      k ∉ (deleteObject (deactivateObj st o) k c').1.keys ∧ k ∉ (deleteObject (deactivateObj st o) k c').1.items ∧
      o.file ∉ (deleteObject (deactivateObj st o) k c').1.files := by
  have hfind := deactivateObj_find st k o ho
  have hab : deleteObject st k c (some k) = (deactivateObj st o, .fail) := by
    rw [deleteObject_leaf ho hapi hch, ← find_key ho, finishDelete_throws st o hact]
    rfl
  -- the retry meets the same object, deactivated and still without dependents: its tail removes it
  have hok : (deleteObject (deactivateObj st o) k c').2 = .ok := by
    rw [deleteObject_leaf hfind hapi (deactivateObj_children st o k hch)]
    rfl
  have hrm := delete_removes_object_and_file (deactivateObj st o) k c' _ none hfind hok
  exact ⟨hab, by rw [deactivateObj_has]; exact find_has ho, rfl, rfl, hok, hrm.1, hrm.2.1, hrm.2.2.1⟩

example : children ⟨[⟨⟨['U'], ['u']⟩, true, true, ['f']⟩], [⟨['U'], ['u']⟩], [['f']], [], []⟩ ⟨['U'], ['u']⟩ = [] ∧
    deleteObject ⟨[⟨⟨['U'], ['u']⟩, true, true, ['f']⟩], [⟨['U'], ['u']⟩], [['f']], [], []⟩ ⟨['U'], ['u']⟩ false (some ⟨['U'], ['u']⟩) =
      (⟨[⟨⟨['U'], ['u']⟩, true, false, ['f']⟩], [⟨['U'], ['u']⟩], [['f']], [], []⟩, .fail) := by decide +kernel

example : children ⟨[⟨⟨['H'], ['h']⟩, true, true, ['f']⟩, ⟨⟨['S'], ['s']⟩, true, true, ['g']⟩],
      [], [['f'], ['g']], [(⟨['S'], ['s']⟩, ⟨['H'], ['h']⟩)], []⟩ ⟨['H'], ['h']⟩ = [⟨['S'], ['s']⟩] := by decide +kernel

/-- Whatever a delete removes — cascading or not, aborted by an exception or not, whatever the dependency graph looks
    like (cycles included) — is the object itself or an object that depends on it, directly or through others, along
    the dependency edges of the state before (`DependsOn`: reflexive-transitive closure): nothing unrelated ever goes.
    (Spec clause `cascade_only_dependents`, here proved of the model for every state; with `delete_only_removes`:
    the effect of a delete is confined to removing dependents.) -/
theorem cascade_only_dependents (st : St) (k : Key) (cascade : Bool) (thr : Option Key) (x : Key)
    (hx : x ∈ st.keys) (hn : x ∉ (deleteObject st k cascade thr).1.keys) : DependsOn st.deps x k :=
  -- what is gone after one more tail was gone before it, or is the object of that tail
  deleteObject_preserves (fun s => x ∉ s.keys → DependsOn st.deps x k) st k cascade thr
    (fun s y hd h hn => Classical.byCases (fun hm : x ∈ s.keys =>
      finishDelete_gone s y thr x ((has_true_iff s x).mpr hm) ((has_false_iff _ x).mpr hn) ▸ hd) h)
    (fun hn => absurd hx hn) hn

example : DependsOn [((⟨['S'], ['s']⟩ : Key), (⟨['H'], ['h']⟩ : Key))] ⟨['S'], ['s']⟩ ⟨['H'], ['h']⟩ :=
  .step (.refl _) (by decide)

/-- an unrelated object survives a cascade -/
example : (deleteObject ⟨[⟨⟨['H'], ['h']⟩, true, true, ['f']⟩, ⟨⟨['S'], ['s']⟩, true, true, ['g']⟩, ⟨⟨['U'], ['u']⟩, true, true, ['e']⟩],
      [], [['f'], ['g'], ['e']], [(⟨['S'], ['s']⟩, ⟨['H'], ['h']⟩)], []⟩ ⟨['H'], ['h']⟩ true).1.keys = [⟨['U'], ['u']⟩] := by decide +kernel

/-- What appears as a side effect of a create (the children apply rules generate for the new object) is
    never a runtime (`_api`) object: whatever the outcome, every object of the resulting state is the
    requested one, or was there before, or does not carry the `_api` package — so `DeleteObject` refuses it
    when addressed directly (`refuse_non_api`) and never removes a file for it (`removeObj`). -/
theorem generated_children_not_runtime (st : St) (k : Key) (path : Str) (parents : List Key) (fault : Fault) (api : Bool)
    (generated : List Key) :
    ∀ x ∈ (createObject st k path parents fault api generated).1.objs, x.key = k ∨ x ∈ st.objs ∨ x.api = false := by
  intro x hx
  obtain ⟨ho, -⟩ | ⟨-, -, ho, -⟩ := createObject_outcome st k path parents fault api generated _ rfl
  · exact .inr (.inl (ho ▸ hx))
  · rw [ho] at hx
    rcases List.mem_cons.mp hx with rfl | hx
    · exact .inl rfl
    · rcases List.mem_append.mp hx with hx | hx
      · obtain ⟨g, -, rfl⟩ := List.mem_map.mp hx
        exact .inr (.inr rfl)
      · exact .inr (.inl hx)

example : ((createObject ⟨[], [], [], [], []⟩ ⟨['H'], ['h']⟩ ['f'] [] .none true [⟨['S'], ['h','!','a']⟩]).1.objs.map (·.api)) =
    [true, false] := by decide +kernel

/-- Never two objects of one type with the same name: invariant of every create/delete sequence,
    whatever faults occur. -/
theorem unique_names (st : St) (h : st.keys.Nodup) (ops : List Op) : (run st ops).keys.Nodup :=
  run_preserves (·.keys.Nodup) step_nodup st h ops

example : (St.keys ⟨[], [], [], [], []⟩).Nodup := by decide +kernel

/-- THE SPECIFICATION ON THE MODEL'S OWN STEP, non-cascading deletes: in every state with unique names in which
    distinct runtime objects have distinct files (`confPath_injective`), `specDelete` — the predicate the check
    evaluates on the implementation's observations — accepts what the model does for `delete k` without cascade,
    whatever `k` is: absent, not created at runtime, refused because of live dependents, or deleted.  (`created`,
    `fileOf`, `deps`: the driver's book-keeping, here read off the state.) -/
theorem noncascading_delete_meets_spec (st : St) (k : Key) (hnd : st.keys.Nodup)
    (hfiles : ∀ a ∈ st.objs, ∀ b ∈ st.objs, a.api = true → b.api = true → a.file = b.file → a = b) :
    specDelete (observe st) k false (st.has k)
      (if st.has k then some (deleteObject st k false).2 else none)
      (createdOf st) (fileOfSt st) st.deps (observe (deleteObject st k false).1) = none := by
  cases ho : st.find k with
  | none =>
    simp only [deleteObject_none ho, find_none_has ho, Bool.false_eq_true, ↓reduceIte]
    exact specDelete_noop _ k false false none _ _ _ (observe_nodupKeys (.refl st) hnd) (observe_allRegistered st)
      (by simp) (by simp)
  | some o =>
    by_cases hdel : o.api = true ∧ children st k = []
    · -- the call gets as far as the tail of the helper, which removes the object
      simp only [deleteObject_leaf ho hdel.1 hdel.2, find_has ho, ↓reduceIte]
      exact leaf_delete_meets_spec st k o none hnd ho hdel.1 hdel.2
        (fun _ b hb hbapi => hfiles b hb o (find_mem ho) hbapi hdel.1)
    · -- the call is refused (not created at runtime, or live dependents) and nothing changes
      have hst : deleteObject st k false = (st, .fail) := by
        cases hapi : o.api
        · exact refuse_non_api st k false o ho hapi
        · exact (cascade_only_when_asked st k o ho).1 (by rw [find_key ho]; exact fun h => hdel ⟨hapi, h⟩)
      simp only [hst, find_has ho, ↓reduceIte]
      exact specDelete_noop _ k false true _ _ _ _ (observe_nodupKeys (.refl st) hnd) (observe_allRegistered st)
        (fun _ => ⟨_, by rw [observe_find, ho]; rfl⟩) (by simp)

/-- The specification on the model's own step, the aborted delete (the exception out of the object's deactivation,
    fault `thr = some k`, for a runtime object without live dependents): the model fails,
    leaves the object deactivated and otherwise whole, and `specDelete` with that fault accepts exactly this. -/
theorem aborted_delete_meets_spec (st : St) (k : Key) (o : Obj) (hnd : st.keys.Nodup)
    (ho : st.find k = some o) (hapi : o.api = true) (hact : o.active = true) (hch : children st k = []) :
    deleteObject st k false (some k) = (deactivateObj st o, .fail) ∧
    specDelete (observe st) k false true (some .fail)
      (createdOf st) (fileOfSt st) st.deps (observe (deactivateObj st o)) (some k) = none := by
  have h := leaf_delete_meets_spec st k o (some k) hnd ho hapi hch
  rw [← find_key ho, finishDelete_throws st o hact] at h
  -- nothing is removed, so no files are compared
  exact ⟨(aborted_delete_then_retry st k false false o ho hapi hact hch).1, find_key ho ▸ h (fun h => by cases h)⟩

/-- Along every operation sequence (any creates with any faults, any deletes, aborted or not) from a state with
    unique names: what the model does for a non-cascading delete in the state reached meets the specification.
    `hfiles` (distinct runtime objects have distinct files in the state reached) is what `confPath_injective` gives
    when every create writes to `confPath`; it is not proved as an invariant of `run` (the path is an oracle input). -/
theorem noncascading_delete_meets_spec_along_run (st0 : St) (h0 : st0.keys.Nodup) (ops : List Op) (k : Key)
    (hfiles : ∀ a ∈ (run st0 ops).objs, ∀ b ∈ (run st0 ops).objs, a.api = true → b.api = true → a.file = b.file → a = b) :
    specDelete (observe (run st0 ops)) k false ((run st0 ops).has k)
      (if (run st0 ops).has k then some (deleteObject (run st0 ops) k false).2 else none)
      (createdOf (run st0 ops)) (fileOfSt (run st0 ops)) (run st0 ops).deps
      (observe (deleteObject (run st0 ops) k false).1) = none :=
  noncascading_delete_meets_spec (run st0 ops) k (unique_names st0 h0 ops) hfiles

/-- the specification is not vacuous: the trace of seeded change C17-12 (a retry that reports success and removes
    nothing) is rejected -/
example :
    let u : Key := ⟨['U'], ['u']⟩
    let st : St := ⟨[⟨u, true, false, ['f']⟩], [u], [['f']], [], []⟩
    specDelete (observe st) u false true (some .ok) (createdOf st) (fileOfSt st) st.deps (observe st) =
      some "delete_removes_object_and_file" := by decide +kernel

/-- the hypotheses are satisfiable on a non-trivial state, and the accepted step is the deletion -/
example :
    let u : Key := ⟨['U'], ['u']⟩
    let g : Key := ⟨['G'], ['g']⟩
    let st : St := ⟨[⟨u, true, true, ['f']⟩, ⟨g, true, true, ['h']⟩], [u, g], [['f'], ['h']], [(u, g)], []⟩
    st.keys.Nodup ∧ (deleteObject st u false).2 = .ok ∧ (deleteObject st g false).2 = .fail := by decide +kernel

end Icinga.C17
