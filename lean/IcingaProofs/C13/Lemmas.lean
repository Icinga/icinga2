/-
  C13 — the two fuelled walks (`Zone::IsChildOf` as modelled, `belowB` of the specification) are one function run with
  different fuel (`maxDepth`, `specDepth`), sound for the closure `Below` and monotone in the fuel; what the
  connection's endpoint and `FromZone` are; the executable entitlement read zone by zone.
-/
import IcingaModel.C13.Model
import IcingaModel.C13.Spec

namespace Icinga.C13

theorem belowB_succ_iff {f : Forest} {n : Nat} {a z : Zone} :
    belowB f (n + 1) a z = true ↔ a = z ∨ ∃ p, f.parent a = some p ∧ belowB f n p z = true := by
  simp only [belowB, Bool.or_eq_true, beq_iff_eq]
  cases f.parent a <;> simp

theorem belowB_sound {f : Forest} : ∀ {n : Nat} {a z : Zone}, belowB f n a z = true → Below f a z
  | 0, _, _, h => by cases h
  | n + 1, a, _, h => by
    obtain rfl | ⟨p, hp, h⟩ := belowB_succ_iff.mp h
    · exact Below.refl a
    · exact Below.step hp (belowB_sound h)

theorem belowB_mono {f : Forest} : ∀ {n k : Nat} {a z : Zone}, n ≤ k → belowB f n a z = true → belowB f k a z = true
  | 0, _, _, _, _, h => by cases h
  | n + 1, 0, _, _, hk, _ => absurd hk (Nat.not_succ_le_zero n)
  | n + 1, k + 1, a, z, hk, h =>
    belowB_succ_iff.mpr <| (belowB_succ_iff.mp h).imp_right fun ⟨p, hp, h⟩ =>
      ⟨p, hp, belowB_mono (Nat.le_of_succ_le_succ hk) h⟩

theorem belowB_self {f : Forest} {n : Nat} {a : Zone} : belowB f (n + 1) a a = true :=
  belowB_succ_iff.mpr (Or.inl rfl)

theorem belowB_parent {f : Forest} (n : Nat) {a p : Zone} (h : f.parent a = some p) : belowB f (n + 2) a p = true :=
  belowB_succ_iff.mpr (Or.inr ⟨p, h, belowB_self⟩)

theorem isChildOfFuel_eq_belowB (f : Forest) : ∀ (n : Nat) (a z : Zone), isChildOfFuel f n a z = belowB f n a z
  | 0, _, _ => rfl
  | n + 1, a, z => by
    unfold isChildOfFuel belowB
    by_cases haz : a = z
    · simp [haz]
    · cases hp : f.parent a <;> simp [haz, isChildOfFuel_eq_belowB f n]

theorem isChildOf_eq_belowB {f : Forest} {a z : Zone} : isChildOf f a z = belowB f maxDepth a z :=
  isChildOfFuel_eq_belowB f maxDepth a z

theorem isChildOfFuel_sound {f : Forest} {n : Nat} {a z : Zone} (h : isChildOfFuel f n a z = true) : Below f a z :=
  belowB_sound (isChildOfFuel_eq_belowB f n a z ▸ h)

theorem isChildOf_sound {f : Forest} {a z : Zone} (h : isChildOf f a z = true) : Below f a z :=
  isChildOfFuel_sound h

/-- The model's walk is the specification's with less fuel.  Everything of the form "accepted ⇒ the executable
    specification is satisfied" rests on `maxDepth ≤ specDepth` (40 ≤ 64) through this lemma. -/
theorem belowB_of_isChildOf {f : Forest} {a z : Zone} (h : isChildOf f a z = true) : belowB f specDepth a z = true :=
  belowB_mono (by decide : maxDepth ≤ specDepth) (isChildOf_eq_belowB ▸ h)

theorem objWithinB_sound {f : Forest} {l s : Zone} {oz : Option Zone}
    (h : objWithinB f l s oz = true) : ObjWithin f l s oz := by
  unfold objWithinB at h
  unfold ObjWithin
  simp only [Bool.or_eq_true] at h
  exact h.imp id belowB_sound

theorem objWithinB_of_canAccessObject {f : Forest} {l s : Zone} {oz : Option Zone}
    (h : canAccessObject f l s oz = true) : objWithinB f l s oz = true := by
  unfold canAccessObject at h
  unfold objWithinB
  simp only [Bool.or_eq_true] at h ⊢
  exact h.imp id belowB_of_isChildOf

theorem canAccessObject_sound {f : Forest} {l s : Zone} {oz : Option Zone}
    (h : canAccessObject f l s oz = true) : ObjWithin f l s oz :=
  objWithinB_sound (objWithinB_of_canAccessObject h)

theorem Below.trans {f : Forest} {a b c : Zone} (h1 : Below f a b) (h2 : Below f b c) : Below f a c := by
  induction h1 with
  | refl _ => exact h2
  | step hp _ ih => exact Below.step hp (ih h2)

theorem ObjWithin.mono {f : Forest} {l s t : Zone} {oz : Option Zone}
    (h : ObjWithin f l s oz) (hst : Below f s t) : ObjWithin f l t oz := by
  unfold ObjWithin at *
  rcases h with h | h
  · exact Or.inl h
  · exact Or.inr (h.trans hst)

theorem Below.eq_of_root {f : Forest} {a z : Zone} (hp : f.parent a = none) (h : Below f a z) : a = z := by
  cases h with
  | refl => rfl
  | step hp' _ => cases hp.symm.trans hp'

theorem ObjWithin.eq_of_root {f : Forest} {l s z : Zone} (hp : f.parent z = none) (hg : f.isGlobal z = false)
    (h : ObjWithin f l s (some z)) : s = z := by
  rcases h with h | h
  · cases hg.symm.trans h
  · exact (h.eq_of_root hp).symm

theorem endpoint_eq_some_iff {c : Ctx} {ez : Zone} :
    c.endpoint = some ez ↔ c.authenticated = true ∧ c.endpointZone = some ez := by
  unfold Ctx.endpoint
  cases c.authenticated <;> simp

/-- The specification spells "there is an endpoint" out (`specStep`, `specOrigin`); this folds it back. -/
theorem endpoint_isSome_eq (c : Ctx) : (c.authenticated && c.endpointZone.isSome) = c.endpoint.isSome := by
  cases ha : c.authenticated <;> simp [Ctx.endpoint, ha]

theorem endpointZone_ne_local {c : Ctx} {s : Zone} (hz : c.endpointZone = some s) (hne : s ≠ c.localZone) :
    c.endpointZone ≠ some c.localZone :=
  fun h => hne (Option.some.inj (hz.symm.trans h))

/-- jsonrpcconnection.cpp:320-321 -/
theorem fromZone_foreign {c : Ctx} {ez : Zone} (h : c.endpoint = some ez) (hne : ez ≠ c.localZone) :
    c.fromZone = some ez := by
  simp [Ctx.fromZone, fromZone, h, hne]

/-- jsonrpcconnection.cpp:322-323: whatever the message claims -/
theorem fromZone_own {c : Ctx} (h : c.endpoint = some c.localZone) : c.fromZone = c.originZone := by
  simp [Ctx.fromZone, fromZone, h]

/-- jsonrpcconnection.cpp:319 -/
theorem fromZone_anonymous {c : Ctx} (h : c.endpoint = none) : c.fromZone = none := by
  simp [Ctx.fromZone, fromZone, h]

theorem fromZone_ignores_originZone {c : Ctx} (h : c.endpoint ≠ some c.localZone) (o : Option Zone) :
    ({ c with originZone := o } : Ctx).fromZone = c.fromZone := by
  show fromZone c.localZone c.endpoint o = fromZone c.localZone c.endpoint c.originZone
  cases he : c.endpoint with
  | none => rfl
  | some ez =>
    have hne : ez ≠ c.localZone := fun h' => h (he.trans (congrArg some h'))
    simp only [fromZone, if_pos hne]

/-- The property and its executable form (`entitledB_iff`) in one shape. -/
theorem entitled_iff {f : Forest} {m : Method} {c : Ctx} :
    Entitled f m c ↔ m.cls = .certRequest ∨ ∃ s, c.endpoint = some s ∧ EntitledZone f m.cls s c := by
  simp only [Entitled, endpoint_eq_some_iff, and_assoc, exists_and_left]

theorem entitled_iff_of_zone {f : Forest} {m : Method} {c : Ctx} {s : Zone} {cls : MClass}
    (hz : c.endpointZone = some s) (hm : m.cls = cls) (hnc : cls ≠ .certRequest) :
    Entitled f m c ↔ c.authenticated = true ∧ EntitledZone f cls s c := by
  subst hm
  simp [Entitled, hz, hnc]

theorem entitledB_iff {f : Forest} {m : Method} {c : Ctx} :
    entitledB f m c = true ↔
      m.cls = .certRequest ∨ ∃ s, c.endpoint = some s ∧ entitledZoneB f m.cls s c = true := by
  unfold entitledB
  cases hz : c.endpointZone <;> simp [endpoint_eq_some_iff, hz, and_assoc]

theorem entitledZoneB_sound {f : Forest} {cls : MClass} {s : Zone} {c : Ctx}
    (h : entitledZoneB f cls s c = true) : EntitledZone f cls s c := by
  cases cls <;> simp only [entitledZoneB, EntitledZone] at h ⊢
  case stateUpdate => exact objWithinB_sound h
  case checkResult =>
    simp only [Bool.or_eq_true] at h
    exact h.imp objWithinB_sound id
  case execResult =>
    cases hx : c.execEndpointZone with
    | none => simp [hx] at h
    | some xz => simp only [hx] at h; exact ⟨xz, rfl, belowB_sound h⟩
  case zoneInternal => simpa using h
  case config => simp only [Bool.and_eq_true] at h; exact ⟨belowB_sound h.1, h.2⟩
  case command => simp only [Bool.and_eq_true, Bool.or_eq_true] at h; exact ⟨belowB_sound h.1, h.2⟩
  case certUpdate => exact belowB_sound h

/-- Why the sender in the counterexamples to the full statement is not entitled. -/
theorem not_entitled_stateUpdate_root_object {f : Forest} {m : Method} {c : Ctx} {s z : Zone}
    (hm : m.cls = .stateUpdate) (hs : c.endpointZone = some s) (ho : c.objZone = some z)
    (hp : f.parent z = none) (hg : f.isGlobal z = false) (hne : s ≠ z) : ¬ Entitled f m c := by
  intro h
  have he := ((entitled_iff_of_zone hs hm nofun).mp h).2
  change ObjWithin f c.localZone s c.objZone at he
  rw [ho] at he
  exact hne (he.eq_of_root hp hg)

theorem inFC13a_iff {f : Forest} {m : Method} {c : Ctx} :
    inFC13a f m c = true ↔
      (m.cls = .stateUpdate ∨ m.cls = .checkResult ∨ m.cls = .execResult) ∧ c.authenticated = true ∧
      c.endpointZone = some c.localZone ∧ ∀ z, c.originZone = some z → entitledZoneB f m.cls z c = true := by
  unfold inFC13a
  simp only [Bool.and_eq_true, Bool.or_eq_true, beq_iff_eq, or_assoc, and_assoc]
  cases c.originZone <;> simp

end Icinga.C13
