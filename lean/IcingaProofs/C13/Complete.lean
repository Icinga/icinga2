/-
  C13 — the COMPLETENESS direction: in a zone forest that `Zone::OnAllConfigLoaded` admits (every zone has a bounded
  number of proper ancestors, zone.cpp:24-46) the fuelled walk of `Zone::IsChildOf` finds every chain of parents and
  "above" and "below" exclude each other; wherever a walk finds every chain, `Zone::CanAccessObject` and the
  executable entitlement are exactly the property's relations; and `depthOf_some` (the driver's count stays below its
  fuel, and more fuel does not change it), what `loadedB_sound` needs.
-/
import IcingaProofs.C13.Lemmas

namespace Icinga.C13

/-- **A forest of a configuration that loaded.**  `Zone::OnAllConfigLoaded` (zone.cpp:24-46) follows the parent names
    of every zone and throws when it meets more than `bound` proper ancestors — in particular on every cycle.  So the
    number of proper ancestors is a rank that strictly decreases towards the parent and never exceeds `bound`. -/
def Loaded (f : Forest) (bound : Nat) : Prop :=
  ∃ d : Zone → Nat, (∀ a p, f.parent a = some p → d p < d a) ∧ ∀ a, d a ≤ bound

theorem Loaded.mono {f : Forest} {b b' : Nat} (h : Loaded f b) (hb : b ≤ b') : Loaded f b' :=
  let ⟨d, hd, hle⟩ := h
  ⟨d, hd, fun a => Nat.le_trans (hle a) hb⟩

theorem Below.rank_le {f : Forest} {d : Zone → Nat} (hd : ∀ a p, f.parent a = some p → d p < d a)
    {a z : Zone} (h : Below f a z) : d z ≤ d a := by
  induction h with
  | refl _ => exact Nat.le_refl _
  | step hp _ ih => have := hd _ _ hp; omega

/-- The rank drops by at least one at every step towards the parent, so the chain from `a` up to `z` has at most
    `d a - d z` steps: any fuel beyond that difference finds it. -/
theorem belowB_of_below {f : Forest} {d : Zone → Nat} (hd : ∀ a p, f.parent a = some p → d p < d a)
    {a z : Zone} (h : Below f a z) : ∀ n, d a - d z < n → belowB f n a z = true := by
  induction h with
  | refl a =>
    intro n hn
    cases n with
    | zero => omega
    | succ n => exact belowB_self
  | @step a p z hp hb ih =>
    intro n hn
    cases n with
    | zero => omega
    | succ n =>
      have hdrop : d p < d a := hd _ _ hp
      -- natural subtraction: without `d z ≤ d p` the difference `d p - d z` could be cut off at 0 and say nothing
      have hrest : d z ≤ d p := Below.rank_le hd hb
      exact belowB_succ_iff.mpr (Or.inr ⟨_, hp, ih n (by omega)⟩)

theorem belowB_iff_below_of_bound_lt_fuel {f : Forest} {bound n : Nat} (hl : Loaded f bound) (hb : bound < n)
    (a z : Zone) : belowB f n a z = true ↔ Below f a z := by
  refine ⟨belowB_sound, fun h => ?_⟩
  obtain ⟨d, hd, hle⟩ := hl
  apply belowB_of_below hd h
  have := hle a
  omega

theorem isChildOfFuel_iff_below_of_bound_lt_fuel {f : Forest} {bound n : Nat} (hl : Loaded f bound) (hb : bound < n)
    (a z : Zone) : isChildOfFuel f n a z = true ↔ Below f a z :=
  isChildOfFuel_eq_belowB f n a z ▸ belowB_iff_below_of_bound_lt_fuel hl hb a z

theorem canAccessObject_iff_of_complete {f : Forest} (hw : ∀ a z, isChildOf f a z = true ↔ Below f a z)
    {l s : Zone} {oz : Option Zone} : canAccessObject f l s oz = true ↔ ObjWithin f l s oz := by
  unfold canAccessObject ObjWithin
  simp only [Bool.or_eq_true, hw]
  exact Iff.rfl

/-- The executable entitlement is the proposition's text with `belowB f specDepth` for `Below f`. -/
theorem entitledZoneB_iff_of_complete {f : Forest} (hw : ∀ a z, belowB f specDepth a z = true ↔ Below f a z)
    {cls : MClass} {s : Zone} {c : Ctx} : entitledZoneB f cls s c = true ↔ EntitledZone f cls s c := by
  cases cls <;> simp only [entitledZoneB, EntitledZone, objWithinB, ObjWithin]
  case execResult => cases c.execEndpointZone <;> simp [hw]
  all_goals simp [hw]

theorem Below.antisymm_of_loaded {f : Forest} {bound : Nat} (hl : Loaded f bound) {a z : Zone}
    (h1 : Below f a z) (h2 : Below f z a) : a = z := by
  obtain ⟨d, hd, _⟩ := hl
  cases h1 with
  | refl _ => rfl
  | step hp hb =>
    rename_i p
    -- one step up and back down to `a`: the rank would drop below itself
    have hdrop : d p < d a := hd _ _ hp
    have hup : d z ≤ d p := Below.rank_le hd hb
    have hback : d a ≤ d z := Below.rank_le hd h2
    omega

theorem depthOf_some {f : Forest} {n : Nat} : ∀ {a : Zone} {d : Nat},
    depthOf f n a = some d → d < n ∧ depthOf f (n + 1) a = some d := by
  induction n with
  | zero => intro a d h; cases h
  | succ n ih =>
    intro a d h
    unfold depthOf at h ⊢
    cases hp : f.parent a with
    | none =>
      rw [hp] at h
      cases h
      exact ⟨Nat.succ_pos n, rfl⟩
    | some p =>
      simp only [hp, Option.map_eq_some_iff] at h ⊢
      obtain ⟨k, hk, rfl⟩ := h
      exact ⟨Nat.succ_lt_succ (ih hk).1, k, (ih hk).2, rfl⟩

end Icinga.C13
