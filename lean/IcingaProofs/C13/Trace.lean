/-
  C13 — observations read backwards: from what `observe`, `specStep` and `specTrace` report to what held at the
  message.
-/
import IcingaModel.C13.Spec

namespace Icinga.C13

theorem accepts_of_observe_applied {f : Forest} {m : Method} {c : Ctx} {eff : Obs}
    (h : (observe f m c eff).applied = true) : accepts f m c = true := by
  cases hacc : accepts f m c with
  | true => rfl
  | false => simp [observe, applies, hacc, Obs.nothing, Obs.applied] at h

theorem specStep_some {f : Forest} {m : Method} {c : Ctx} {o : Obs} {cl : Clause} (h : specStep f m c o = some cl) :
    (cl = .anonymousOnlyCertificate ∧ o.applied = true ∧ c.endpoint = none ∧ m.cls ≠ .certRequest) ∨
    (cl = .appliedOnlyIfEntitled ∧ o.applied = true ∧ entitledB f m c = false) ∨
    (cl = .sessionOnlyOwnEndpoint ∧ m.cls = .session ∧ (o.foreign || o.files || o.relayed || o.executed) = true) := by
  unfold specStep at h
  split at h
  · next hc =>
    simp only [Bool.and_eq_true, Bool.not_eq_true', bne_iff_ne] at hc
    obtain ⟨⟨happ, hnoep⟩, hcert⟩ := hc
    -- the specification spells "no endpoint" out (`endpoint_isSome_eq`; this module imports only the specification)
    have he : c.endpoint = none := by
      cases ha : c.authenticated with
      | false => simp [Ctx.endpoint, ha]
      | true => simpa [Ctx.endpoint, ha] using hnoep
    exact Or.inl ⟨(Option.some.inj h).symm, happ, he, hcert⟩
  · split at h
    · next hc =>
      simp only [Bool.and_eq_true, Bool.not_eq_true'] at hc
      obtain ⟨happ, hnent⟩ := hc
      exact Or.inr (Or.inl ⟨(Option.some.inj h).symm, happ, hnent⟩)
    · split at h
      · next hc =>
        simp only [Bool.and_eq_true, beq_iff_eq] at hc
        obtain ⟨hsess, hbeyond⟩ := hc
        exact Or.inr (Or.inr ⟨(Option.some.inj h).symm, hsess, hbeyond⟩)
      · cases h

theorem specTrace_some {f : Forest} {cl : Clause} {k : Nat} {tr : List (Method × Ctx × Obs)} {i : Nat}
    (h : specTrace f tr i = some (k, cl)) :
    ∃ j s, k = i + j ∧ tr[j]? = some s ∧ specStep f s.1 s.2.1 s.2.2 = some cl := by
  induction tr generalizing i with
  | nil => cases h
  | cons x rest ih =>
    unfold specTrace at h
    split at h
    · next hs =>
      cases h
      exact ⟨0, x, rfl, rfl, hs⟩
    · obtain ⟨j, s, hk, hj, hs⟩ := ih h
      exact ⟨j + 1, s, by omega, hj, hs⟩

end Icinga.C13
