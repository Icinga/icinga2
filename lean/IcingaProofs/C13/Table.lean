/-
  C13 — the decision table read class by class: the guard common to the rows of a class (`classGuard`), and what that
  guard yields in the terms of the EXECUTABLE specification (`belowB`, `entitledZoneB`): an update class is judged at
  `FromZone` (`classGuard_fromZone`), any other class at the endpoint's zone (`classGuard_sender`).
-/
import IcingaProofs.C13.Lemmas

namespace Icinga.C13

/-! Four guards let a message pass unless `FromZone` is set and fails a test (`guardExecEndpoint`: once the execution's
    endpoint is known); two test the connection's endpoint. -/

theorem guardAccess_iff {f : Forest} {c : Ctx} :
    guardAccess f c = true ↔ ∀ z, c.fromZone = some z → canAccessObject f c.localZone z c.objZone = true := by
  unfold guardAccess
  cases c.fromZone <;> simp

theorem guardLocal_iff {c : Ctx} : guardLocal c = true ↔ ∀ z, c.fromZone = some z → z = c.localZone := by
  unfold guardLocal
  cases c.fromZone <;> simp

theorem guardParent_iff {f : Forest} {c : Ctx} :
    guardParent f c = true ↔ ∀ z, c.fromZone = some z → isChildOf f c.localZone z = true := by
  unfold guardParent
  cases c.fromZone <;> simp

theorem guardExecEndpoint_iff {f : Forest} {c : Ctx} :
    guardExecEndpoint f c = true ↔
      ∃ xz, c.execEndpointZone = some xz ∧ ∀ z, c.fromZone = some z → isChildOf f xz z = true := by
  unfold guardExecEndpoint
  cases c.execEndpointZone <;> cases c.fromZone <;> simp

theorem guardCommandSender_iff {f : Forest} {c : Ctx} :
    guardCommandSender f c = true ↔
      ∃ ez, c.endpoint = some ez ∧ (ez = c.localZone ∨ f.parent c.localZone = some ez) := by
  unfold guardCommandSender
  cases c.endpoint <;> simp

theorem guardConfigSender_iff {f : Forest} {c : Ctx} :
    guardConfigSender f c = true ↔ ∃ ez, c.endpoint = some ez ∧ isChildOf f c.localZone ez = true := by
  unfold guardConfigSender
  cases c.endpoint <;> simp

/-- What `guardParent` (given an endpoint), `guardCommandSender` and `guardConfigSender` establish, each in its own
    way. -/
def SenderAbove (f : Forest) (c : Ctx) : Prop :=
  ∃ ez, c.endpoint = some ez ∧ belowB f specDepth c.localZone ez = true

theorem SenderAbove.sound {f : Forest} {c : Ctx} (h : SenderAbove f c) :
    c.authenticated = true ∧ ∃ s, c.endpointZone = some s ∧ Below f c.localZone s := by
  obtain ⟨ez, he, hb⟩ := h
  obtain ⟨ha, hz⟩ := endpoint_eq_some_iff.mp he
  exact ⟨ha, ez, hz, belowB_sound hb⟩

/-- The "own zone or above" guard: an own-zone sender passes it or not as `originZone` pleases, any other sender only
    from above. -/
theorem guardParent_senderAbove {f : Forest} {c : Ctx} (hep : c.endpoint.isSome = true) (hg : guardParent f c = true) :
    SenderAbove f c := by
  obtain ⟨ez, he⟩ := Option.isSome_iff_exists.mp hep
  refine ⟨ez, he, ?_⟩
  by_cases hne : ez = c.localZone
  · subst hne; exact belowB_self
  · exact belowB_of_isChildOf (guardParent_iff.mp hg ez (fromZone_foreign he hne))

theorem guardCommandSender_senderAbove {f : Forest} {c : Ctx} (hg : guardCommandSender f c = true) : SenderAbove f c := by
  obtain ⟨ez, he, h | h⟩ := guardCommandSender_iff.mp hg
  · subst h; exact ⟨_, he, belowB_self⟩
  · exact ⟨ez, he, belowB_parent _ h⟩

theorem guardConfigSender_senderAbove {f : Forest} {c : Ctx} (hg : guardConfigSender f c = true) : SenderAbove f c :=
  let ⟨ez, he, h⟩ := guardConfigSender_iff.mp hg
  ⟨ez, he, belowB_of_isChildOf h⟩

theorem guardLocal_sender {c : Ctx} {ez : Zone} (h : c.endpoint = some ez)
    (hg : guardLocal c = true) : ez = c.localZone := by
  by_cases hne : ez = c.localZone
  · exact hne
  · exact guardLocal_iff.mp hg ez (fromZone_foreign h hne)

/-- The guard common to the rows of a class.  (`event::SetRemovalInfo`, `config::DeleteObject`, `event::ExecuteCommand`
    and `event::Heartbeat` ask for more than their class; the two kinds of `config` rows test the sender's zone in two
    ways.) -/
def classGuard (f : Forest) (c : Ctx) : MClass → Bool
  | .stateUpdate => c.endpoint.isSome && c.objExists && guardAccess f c
  | .checkResult => c.endpoint.isSome && c.objExists && (guardAccess f c || c.senderIsCommandEndpoint)
  | .execResult => c.endpoint.isSome && c.objExists && guardExecEndpoint f c
  | .zoneInternal => c.endpoint.isSome && c.objExists && guardLocal c
  | .config => (c.endpoint.isSome && guardParent f c || guardConfigSender f c) && c.acceptConfig
  | .command => guardCommandSender f c && (c.forwardZone.isSome || c.acceptCommands)
  | .certUpdate => c.endpoint.isSome && guardParent f c
  | .session => c.endpoint.isSome
  | .certRequest => true

theorem accepts_classGuard {f : Forest} {m : Method} {c : Ctx} (h : accepts f m c = true) :
    classGuard f c m.cls = true := by
  cases m
  case heartbeat => cases h
  case executeCommand =>
    cases hf : c.forwardZone <;> simp only [accepts, hf, Bool.and_eq_true] at h <;>
      simp [Method.cls, classGuard, hf, h]
  case configDeleteObject | configUpdate | configUpdateObject | setRemovalInfo =>
    simp only [accepts, Bool.and_eq_true] at h
    simp [Method.cls, classGuard, h]
  -- every other row IS the guard of its class
  all_goals exact h

theorem accepts_stateUpdate {f : Forest} {m : Method} {c : Ctx} (hm : m.cls = .stateUpdate) :
    accepts f m c = ((m != .setRemovalInfo || guardParent f c) && classGuard f c .stateUpdate) := by
  cases m <;> cases hm
  case setRemovalInfo => simp [accepts, classGuard, Bool.and_assoc, Bool.and_left_comm]
  all_goals rfl

theorem accepts_stateUpdate_iff {f : Forest} {m : Method} {c : Ctx} (hm : m.cls = .stateUpdate) :
    accepts f m c = true ↔
      c.endpoint.isSome = true ∧ c.objExists = true ∧
      (∀ z, c.fromZone = some z → canAccessObject f c.localZone z c.objZone = true) ∧
      (m = .setRemovalInfo → ∀ z, c.fromZone = some z → isChildOf f c.localZone z = true) := by
  simp only [accepts_stateUpdate hm, classGuard, Bool.and_eq_true, Bool.or_eq_true, bne_iff_ne, guardAccess_iff,
    guardParent_iff, ← Decidable.imp_iff_not_or]
  exact ⟨fun ⟨h1, ⟨h2, h3⟩, h4⟩ => ⟨h2, h3, h4, h1⟩, fun ⟨h2, h3, h4, h1⟩ => ⟨h1, ⟨h2, h3⟩, h4⟩⟩

/-- The update classes are judged at `FromZone`, whatever zone that is, and not at the sender's zone.  For a sender of
    another zone the two are the same (`fromZone_foreign`); for one of the receiver's own zone `FromZone` is what the
    message names in `originZone` (`fromZone_own`): F-C13a comes from here and from nowhere else. -/
theorem classGuard_fromZone {f : Forest} {c : Ctx} {cls : MClass}
    (hcls : cls = .stateUpdate ∨ cls = .checkResult ∨ cls = .execResult) (hg : classGuard f c cls = true)
    {z : Zone} (hfz : c.fromZone = some z) : entitledZoneB f cls z c = true := by
  rcases hcls with rfl | rfl | rfl <;> simp only [classGuard, Bool.and_eq_true, Bool.or_eq_true] at hg
  · exact objWithinB_of_canAccessObject (guardAccess_iff.mp hg.2 z hfz)
  · simp only [entitledZoneB, Bool.or_eq_true]
    exact hg.2.imp (fun h => objWithinB_of_canAccessObject (guardAccess_iff.mp h z hfz)) id
  · obtain ⟨xz, hx, h⟩ := guardExecEndpoint_iff.mp hg.2
    simp only [entitledZoneB, hx]
    exact belowB_of_isChildOf (h z hfz)

theorem classGuard_senderAbove {f : Forest} {c : Ctx} {cls : MClass}
    (hcls : cls = .config ∨ cls = .command ∨ cls = .certUpdate) (hg : classGuard f c cls = true) : SenderAbove f c := by
  rcases hcls with rfl | rfl | rfl <;> simp only [classGuard, Bool.and_eq_true, Bool.or_eq_true] at hg
  · exact hg.1.elim (fun h => guardParent_senderAbove h.1 h.2) guardConfigSender_senderAbove
  · exact guardCommandSender_senderAbove hg.1
  · exact guardParent_senderAbove hg.1 hg.2

theorem classGuard_endpoint {f : Forest} {c : Ctx} {cls : MClass}
    (hg : classGuard f c cls = true) (hnc : cls ≠ .certRequest) : ∃ ez, c.endpoint = some ez := by
  cases cls
  case certRequest => exact absurd rfl hnc
  case config | command | certUpdate => exact (classGuard_senderAbove (by simp) hg).imp fun _ h => h.1
  case session => exact Option.isSome_iff_exists.mp hg
  all_goals
    simp only [classGuard, Bool.and_eq_true] at hg
    exact Option.isSome_iff_exists.mp hg.1.1

/-- Every other class is judged at the sender's own zone: its guard yields the right side of `entitledB_iff`. -/
theorem classGuard_sender {f : Forest} {c : Ctx} {cls : MClass}
    (hcls : ¬ (cls = .stateUpdate ∨ cls = .checkResult ∨ cls = .execResult)) (hg : classGuard f c cls = true) :
    cls = .certRequest ∨ ∃ ez, c.endpoint = some ez ∧ entitledZoneB f cls ez c = true := by
  cases cls
  case stateUpdate | checkResult | execResult => simp at hcls
  case certRequest => exact Or.inl rfl
  case zoneInternal =>
    obtain ⟨ez, he⟩ := classGuard_endpoint hg nofun
    simp only [classGuard, Bool.and_eq_true] at hg
    exact Or.inr ⟨ez, he, by simp [entitledZoneB, guardLocal_sender he hg.2]⟩
  case session =>
    obtain ⟨ez, he⟩ := classGuard_endpoint hg nofun
    exact Or.inr ⟨ez, he, rfl⟩
  -- configuration, commands, the certificate: a sender above, and the class's switch `hg.2` where it has one
  -- (`acceptConfig`; `forwardZone.isSome || acceptCommands`; the certificate has none, its `hg.2` is idle)
  all_goals
    obtain ⟨ez, he, hb⟩ := classGuard_senderAbove (by simp) hg
    simp only [classGuard, Bool.and_eq_true] at hg
    exact Or.inr ⟨ez, he, by simp [entitledZoneB, hb, hg.2]⟩

theorem accepts_fromZone {f : Forest} {m : Method} {c : Ctx} {z : Zone}
    (hm : m.cls = .stateUpdate ∨ m.cls = .checkResult ∨ m.cls = .execResult)
    (h : accepts f m c = true) (hfz : c.fromZone = some z) : entitledZoneB f m.cls z c = true :=
  classGuard_fromZone hm (accepts_classGuard h) hfz

/-- That a sender above is not ALSO strictly below the receiver needs a forest without cycles:
    `sender_strictly_below_is_refused`. -/
theorem accepts_senderAbove {f : Forest} {m : Method} {c : Ctx}
    (hm : m.cls = .config ∨ m.cls = .command ∨ m.cls = .certUpdate ∨ m = .setRemovalInfo)
    (h : accepts f m c = true) : SenderAbove f c := by
  rcases hm with hm | hm | hm | rfl
  · exact classGuard_senderAbove (.inl hm) (accepts_classGuard h)
  · exact classGuard_senderAbove (.inr (.inl hm)) (accepts_classGuard h)
  · exact classGuard_senderAbove (.inr (.inr hm)) (accepts_classGuard h)
  · -- the row is `ep && guardParent f c && …`: its first two conjuncts
    simp only [accepts, Bool.and_eq_true] at h
    exact guardParent_senderAbove h.1.1.1 h.1.1.2

end Icinga.C13
