/-
  C12 — replay log: the property theorems.  Model: IcingaModel/C12/Model.lean (transcription of
  lib/remote/apilistener.cpp PersistMessage/RotateLogFile/ReplayLog/ApiTimerHandler and of the receiver side in
  lib/remote/jsonrpcconnection.cpp); on-disk format: C20's netstring model.
-/
import IcingaProofs.C12.TraceLemmas
import IcingaProofs.C12.Sync

namespace Icinga.C12
open Icinga.C20

/-
  FULL STATEMENT (false of the unchanged code, Q-C12a): for all records in non-decreasing timestamp order
  ("arbitrary virtual times" includes a clock that does not advance between two events) a pass sends exactly
  the records newer than the peer's position that its zone may see.  `timestamp <= peer_ts → continue`
  (apilistener.cpp:1535) skips the second of two records with the same stamp: see `replay_exact_counterexample`.
  What holds is the statement for strictly increasing stamps.
-/

/-- **replay_exact_partial (one pass).**  With strictly increasing timestamps a pass over the records `xs`
    sends exactly those newer than `p` that pass the zone filter, in order, each once. -/
theorem replay_exact_partial (vis : Nat → Bool) (p lp : Int) (xs : List (Int × Entry))
    (hs : xs.Pairwise (fun a b => a.2.ts < b.2.ts)) :
    msgsOf (replayEntries vis ⟨p, lp, [], 0⟩ xs).out = (xs.map (·.2)).filter (wanted vis p) :=
  replayEntries_sorted vis xs ⟨p, lp, [], 0⟩ hs

example : msgsOf (replayEntries (fun o => o == 1) ⟨5, 5, [], 0⟩
    [(2, ⟨4, 1, none⟩), (2, ⟨6, 2, some 0⟩), (2, ⟨7, 3, some 1⟩), (9, ⟨8, 4, none⟩)]).out = [⟨7, 3, some 1⟩, ⟨8, 4, none⟩] := by decide +kernel

/-- **replay_exact_counterexample.**  Two records with the same timestamp: the second one is never replayed. -/
theorem replay_exact_counterexample :
    ¬ (∀ (vis : Nat → Bool) (p lp : Int) (xs : List (Int × Entry)), xs.Pairwise (fun a b => a.2.ts ≤ b.2.ts) →
        msgsOf (replayEntries vis ⟨p, lp, [], 0⟩ xs).out = (xs.map (·.2)).filter (wanted vis p)) := by
  intro h
  have := h (fun _ => true) 0 0 [(2, ⟨5, 1, none⟩), (2, ⟨5, 2, none⟩)] (by decide)
  revert this
  decide +kernel

/-- **replay_exact (whole ReplayLog).**  For a well-formed log directory ReplayLog — file selection by name,
    all passes of its loop — sends exactly the records on disk that are newer than the endpoint's position and
    visible to its zone, in timestamp order, none twice; and three loop iterations are enough. -/
theorem replay_exact (dec : Bytes → Option Entry) (vis : Nat → Bool) (limit : Nat) (now dur p : Int) (s : Sender)
    (hd : dur ≠ 0) (wf : WF dec now (openLog now s)) :
    msgsOf (replay dec vis limit now dur p s).out = ((fullView dec now (openLog now s)).map (·.2)).filter (wanted vis p) ∧
    (replay dec vis limit now dur p s).fuelOut = false :=
  replay_of_wf dec vis limit now dur p s hd wf

/-- **confirmed_not_replayed.**  Whatever is on disk (any order, any damage): ReplayLog never sends a record
    whose timestamp the peer's position already covers, nor one its zone may not see, and what it sends is a
    subsequence of the records on disk (nothing twice, nothing invented). -/
theorem confirmed_not_replayed (dec : Bytes → Option Entry) (vis : Nat → Bool) (limit : Nat) (now dur p : Int) (s : Sender) :
    (∀ e ∈ msgsOf (replay dec vis limit now dur p s).out, p < e.ts ∧ skipEntry vis p e = false) ∧
    (msgsOf (replay dec vis limit now dur p s).out).Sublist ((fullView dec now (openLog now s)).map (·.2)) := by
  by_cases hd : dur = 0
  · simp [hd, replay_zero]
  · rw [replay_first_pass dec vis limit now dur p s hd]
    obtain ⟨new, h1, h2, h3⟩ := replayEntries_sent vis (view dec now p (openLog now s)) ⟨p, p, [], 0⟩
    simp only [replayPass]
    simp only [msgsOf_nil, List.nil_append] at h1
    rw [h1]
    exact ⟨fun e he => ⟨not_skip_gt vis p e (h3 e he), h3 e he⟩,
      h2.trans (List.Sublist.map _ (view_sublist dec now p (openLog now s)))⟩

/-- **receiver_ignores_old.**  MessageHandler drops a message older than the recorded position and leaves the
    position alone; otherwise it accepts it and records its timestamp. -/
theorem receiver_ignores_old (rpos ts : Int) :
    (ts < rpos → recv rpos (some ts) = (false, rpos)) ∧ (¬ ts < rpos → recv rpos (some ts) = (true, ts)) := by
  constructor <;> intro h <;> simp [recv, h]

example : recv 10 (some 9) = (false, 10) ∧ recv 10 (some 10) = (true, 10) ∧ recv 10 (some 11) = (true, 11) := by decide +kernel

/-- **position_monotone.**  None of these three writers ever moves a position backwards: SetLogPositionHandler takes the
    maximum, the receiver's filter only records timestamps ≥ the old position, ReplayLog's `peer_ts` only grows.
    (The fourth writer, RelayMessageOne's `SetLocalLogPosition(ts)` for a skipped CONNECTED endpoint, apilistener.cpp:1321-1322,
    can lower a position that a confirmation had put ahead of the clock; that is harmless — no event with a stamp in between
    exists yet — and the property does not forbid it: clause position_advance_justified only restricts INCREASES.) -/
theorem position_monotone (dec : Bytes → Option Entry) (vis : Nat → Bool) (limit : Nat) (now dur : Int) (s : Sender)
    (lpos rpos v : Int) (ts : Option Int) :
    lpos ≤ setLogPos lpos v ∧ v ≤ setLogPos lpos v ∧ (setLogPos lpos v = lpos ∨ setLogPos lpos v = v) ∧
    rpos ≤ (recv rpos ts).2 ∧ lpos ≤ (replay dec vis limit now dur lpos s).peer := by
  have hset : (v > lpos ∧ setLogPos lpos v = v) ∨ (¬ v > lpos ∧ setLogPos lpos v = lpos) := by
    by_cases hv : v > lpos
    · exact Or.inl ⟨hv, if_pos hv⟩
    · exact Or.inr ⟨hv, if_neg hv⟩
  refine ⟨by omega, by omega, hset.elim (fun h => Or.inr h.2) (fun h => Or.inl h.2), ?_, ?_⟩
  · cases ts with
    | none => exact Int.le_refl _
    | some t =>
      simp only [recv]
      by_cases ht : t < rpos
      · rw [if_pos ht]; exact Int.le_refl _
      · rw [if_neg ht]; exact Int.not_lt.mp ht
  · by_cases hd : dur = 0
    · simp [hd, replay_zero]
    · rw [replay_first_pass dec vis limit now dur lpos s hd]
      exact (replayEntries_peer vis _ ⟨lpos, lpos, [], 0⟩).1

/-- **cleanup_safe.**  The timer deletes a file only if, for every related endpoint, the file is older than
    that endpoint's log_duration or lies entirely below its confirmed position — so with well-named files
    (`WF.named`) no record that ReplayLog would still send to a related endpoint inside its log_duration is lost. -/
theorem cleanup_safe (dec : Bytes → Option Entry) (vis : Nat → Bool) (now : Int) (peers : List Peer) (s : Sender)
    (f : LFile) (hf : f ∈ s.files) (hdel : f ∉ (cleanup now peers s).files) (p : Peer) (hp : p ∈ peers) (hr : p.related = true) :
    ((0 ≤ p.dur ∧ f.name * usec < now - p.dur) ∨ f.name * usec ≤ p.lpos) ∧
    ((∀ e ∈ entriesOf dec f.bytes, e.ts < f.name * usec) →
      ∀ e ∈ entriesOf dec f.bytes, (0 ≤ p.dur ∧ e.ts < now - p.dur) ∨ skipEntry vis p.lpos e = true) := by
  have hn : needsFile now f.name p = false :=
    Bool.eq_false_iff.mpr (fun h => hdel (List.mem_filter.mpr ⟨hf, List.any_eq_true.mpr ⟨p, hp, h⟩⟩))
  exact ⟨not_needsFile now f.name p hr hn, fun hnamed e he =>
    (not_needsFile_record now f.name p hr hn e.ts (hnamed e he)).imp_right
      (fun h => skipEntry_of_le vis _ _ (Int.le_of_lt h))⟩

example : (cleanup 100000000 [⟨true, 50000000, 70000000, 0, false, false⟩] { files := [⟨60, []⟩, ⟨80, []⟩, ⟨40, []⟩] }).files
    = [⟨80, []⟩] := by decide +kernel

/-- **truncation_tolerant.**  A log file cut at ANY byte offset `k` (crash, full disk) still yields exactly
    the records whose frames lie completely inside the first `k` bytes — `j` of them, where the `j`-th frame
    ends at or before `k` and the next one does not — never a wrong record, never an error that would hide them.
    (Other files are not touched by construction: `view` reads every file with a fresh reader.) -/
theorem truncation_tolerant (c : Codec) (es : List Entry) (k : Nat) :
    ∃ j, entriesOf c.dec ((fileOf c es).take k) = es.take j ∧
      (fileOf c (es.take j)).length ≤ k ∧ (j < es.length → k < (fileOf c (es.take (j + 1))).length) :=
  truncation_readable (c.readable es) k

/-- **damage_tolerant** (the arbitrary-tail version of `truncation_tolerant`).  A log file whose first `k` bytes
    are intact and are followed by ANY bytes `garbage` (a torn frame with later records appended behind it,
    random corruption, well-framed records whose text is not a JSON object — `dec` says `none` — …): ReplayLog
    reads, first and in order, the `j` records whose frames lie wholly inside the intact prefix; whatever it makes
    of the rest (`extra`: nothing, or what the bytes happen to decode to) comes after them. -/
theorem damage_tolerant (c : Codec) (es : List Entry) (k : Nat) (garbage : Bytes) :
    ∃ j extra, entriesOf c.dec ((fileOf c es).take k ++ garbage) = es.take j ++ extra ∧
      (fileOf c (es.take j)).length ≤ k ∧ (j < es.length → k < (fileOf c (es.take (j + 1))).length) :=
  damage_readable (c.readable es) k garbage

example : entriesOf (fun b => if b == [104] then some ⟨1, 1, none⟩ else none)
    (nsEncodeAll [[104]] ++ [52, 58, 110, 117, 108, 108, 44] ++ nsEncodeAll [[104]]) = [⟨1, 1, none⟩] := by decide +kernel

/-- **survives_restart.**  A crash that lost no byte of `current`, followed by a new process on the same
    directory, changes nothing in what ReplayLog sends.  (Byte-losing crashes: `crash_restart_exact`; graceful restarts and
    the endpoint positions: `Op.stopStart` / clause restart_keeps_positions in `model_trace_meets_spec_partial`.) -/
theorem survives_restart (dec : Bytes → Option Entry) (vis : Nat → Bool) (limit : Nat) (now now' dur p : Int) (s : Sender)
    (k : Nat) (hk : ∀ b, s.current = some b → b.length ≤ k) :
    (replay dec vis limit now dur p (start now' (crash k s))).out = (replay dec vis limit now dur p s).out := by
  refine congrArg ReplayResult.out (replay_congr dec vis limit now dur p _ s rfl ?_)
  cases h : s.current with
  | none => simp [openLog, start, crash, h]
  | some b => simp [openLog, start, crash, h, List.take_of_length_le (hk b h)]

/-- **relay_persists.**  An event one of whose target zones consists of a single, disconnected endpoint is
    written to the log (RelayMessageOne returns false → PersistMessage). -/
theorem relay_persists (peers : Nat → Peer) (master : Option Nat) (zones : List (Bool × List Nat)) (loc : Bool) (i : Nat)
    (hz : (loc, [i]) ∈ zones) (hc : (peers i).connected = false) : (relay peers master zones).needLog = true :=
  relay_needLog peers master zones (loc, [i]) hz (List.cons_ne_nil i [])
    (fun j hj => by rw [List.mem_singleton.mp hj]; exact hc)

example : (relay (fun i => if i == 0 then ⟨true, 1, 0, 0, true, false⟩ else ⟨true, 1, 0, 0, false, false⟩) none
    [(false, [1]), (true, [0])]) = ⟨true, [0], []⟩ := by decide +kernel

theorem rel_init (c : Codec) (t0 : Int) (h0 : 0 < t0) (pf sr tr : Bool) (durs : Nat → Int) :
    Rel c (specInit (dursList durs)) (initNode t0 pf sr tr durs) t0 :=
  { isOpen := rfl, files := rfl, cur := (by simp [initNode, start, openLog, specInit, encFile_nil]),
    curSize := (by simp [specInit, encFile_nil]), torn := rfl,
    intact := (by intro g hg; simp [ghostAll, specInit] at hg), sorted := (by simp [specInit]),
    nameLe := (by intro f hf; simp [specInit] at hf), lastPos := (by simpa [initNode, start, openLog] using h0),
    lastLe := (by simp [initNode, start, openLog]), incr := (by simp [ghostAll, specInit]),
    tsLe := (by intro g hg; simp [ghostAll, specInit] at hg), curLe := (by intro g hg; simp [specInit] at hg),
    named := (by intro f hf; simp [specInit] at hf), pos := rfl, conn := rfl, durs := rfl, dropped := rfl,
    rel := (fun _ => rfl) }

/-- **step_meets_spec.**  From related states, every operation of the node — at a time later than everything
    before, on one of the peers A … F — produces observed steps the specification accepts, and leaves related states. -/
theorem step_meets_spec (c : Codec) (limit : Nat) (sp : SpecSt) (n : Node) (t : Int) (op : Op) (hr : Rel c sp n t)
    (hp : op.peerOk = true) (ht : ∀ now, op.time = some now → t < now) :
    ∃ sp', specEnd sp (stepOp c limit n op).2 = some sp' ∧ Rel c sp' (stepOp c limit n op).1 (op.time.getD t) := by
  cases op with
  | relay now id sec => exact step_relay c limit sp n t now id sec (ht now rfl) hr
  | conn p => exact step_conn c limit sp n t p (of_decide_eq_true hp) hr
  | attach p => exact step_attach c limit sp n t p (of_decide_eq_true hp) hr
  | disc p => exact step_disc c limit sp n t p (of_decide_eq_true hp) hr
  | replay now p => exact step_replay c limit sp n t now p (of_decide_eq_true hp) (ht now rfl) hr
  | rotate now => exact step_rotate c limit sp n t now (ht now rfl) hr
  | timer now => exact step_timer c limit sp n t now (ht now rfl) hr
  | ack p v => exact step_ack c limit sp n t p v (of_decide_eq_true hp) hr
  | recv p ts => exact step_recv c limit sp n t p ts (of_decide_eq_true hp) hr
  | crashStart now sr tr => exact step_crashStart c limit sp n t now sr tr (ht now rfl) hr
  | stopStart now sr tr => exact step_stopStart c limit sp n t now sr tr (ht now rfl) hr
  | drop => exact step_drop c limit sp n t hr

theorem ClockOK.cons {t : Int} {op : Op} {rest : List Op} (h : ClockOK t (op :: rest)) :
    op.peerOk = true ∧ (∀ now, op.time = some now → t < now) ∧ ClockOK (op.time.getD t) rest := by
  obtain ⟨hp, hck⟩ := h
  cases hnow : op.time with
  | none => rw [hnow] at hck; exact ⟨hp, fun _ hm => (by cases hm), hck⟩
  | some now => rw [hnow] at hck; exact ⟨hp, fun _ hm => (by cases hm; exact hck.1), hck.2⟩

theorem run_ok (c : Codec) (limit : Nat) : ∀ (ops : List Op) (sp : SpecSt) (n : Node) (t : Int) (i : Nat),
    Rel c sp n t → ClockOK t ops →
    specTrace sp (runModel c limit n ops) i = none ∧ advanceTrace sp (runModel c limit n ops) i = none ∧
    ∃ sp' t', Rel c sp' (endNode c limit n ops) t' := by
  intro ops
  induction ops with
  | nil => intro sp n t i hr _; exact ⟨rfl, rfl, sp, t, hr⟩
  | cons op rest ih =>
    intro sp n t i hr hck
    obtain ⟨hp, ht, hrest⟩ := hck.cons
    obtain ⟨sp', h1, h2⟩ := step_meets_spec c limit sp n t op hr hp ht
    simp only [runModel, endNode]
    obtain ⟨ha1, ha2⟩ := traces_append _ sp sp' (runModel c limit (stepOp c limit n op).1 rest) i h1
    rw [ha1, ha2 (step_advance c limit sp n t op hr)]
    exact ih sp' _ (op.time.getD t) _ h2 hrest

/-
  FULL STATEMENT (false of the unchanged code, F-C12c): the model's trace satisfies the WHOLE specification, i.e.
  `specTrace … = none` AND `confirmTrace … = none` (clause confirmation_not_beyond_received).  The second half fails:
  ReplayLog queues `log::SetLogPosition` with its own file's name although nothing was received from the peer
  (`confirmation_counterexample`), and between two nodes that loses logged events (`premature_confirmation_counterexample`).
  What holds is every other clause (`model_trace_meets_spec_partial`: all of `specTrace`), and the clause itself for the
  timer's confirmations (`timer_confirmation_sound`).  Precisely: the node's own guarantees are relative to its recorded
  local position; "all logged events reach the peer" follows only under the extra hypothesis that this position was never
  raised by a SetLogPosition the peer queued inside ITS ReplayLog — the acknowledgements `Op.ack` of the trace are inputs.
-/

/-- **model_trace_meets_spec_partial** (the whole property on the model, except confirmation_not_beyond_received).  For every payload encoding, every rotation
    threshold, every configuration (which of the two zone members is master, in which order the two endpoints of the child
    zone and of the parent zone are visited, the six log_durations), and every
    finite sequence of events (any security object), connects, disconnects, ReplayLog runs, rotations, clean-up
    timer runs, log-position acknowledgements, incoming messages, crash-restarts (every byte written is on disk), GRACEFUL
    restarts (ApiListener::Stop closes and rotates the log, a new process starts: `Op.stopStart`) and runtime removal of a
    security object (`Op.drop`: ReplayLog no longer finds it, the spec no longer lets anybody see it) of the sender, under a virtual
    clock that advances by at least 1 µs per timed operation: the trace the model node produces satisfies the
    executable specification `specTrace` — every event one of whose target zones has no connected endpoint is logged; every replay
    delivers exactly known events, in order, none twice, none confirmed, none invisible, and all that are intact,
    unconfirmed, visible and inside the log_duration; the clean-up deletes nothing a related endpoint still needs;
    the receiver filter and the acknowledgement are exact; every new process comes up with the endpoint positions the old one
    had (clause restart_keeps_positions).
    (Crash points that cut `current` at ANY byte after ANY such history: `crash_anywhere_after_any_history`; what is appended
    behind a torn frame afterwards: `persisted_after_crash_partial` / `_counterexample`, F-C12g;
    equal timestamps are excluded by the clock hypothesis, see `replay_exact_counterexample`.) -/
theorem model_trace_meets_spec_partial (c : Codec) (limit : Nat) (t0 : Int) (h0 : 0 < t0) (pf sr tr : Bool) (durs : Nat → Int)
    (ops : List Op) (hc : ClockOK t0 ops) :
    specTrace (specInit (dursList durs)) (runModel c limit (initNode t0 pf sr tr durs) ops) 0 = none :=
  (run_ok c limit ops _ _ t0 0 (rel_init c t0 h0 pf sr tr durs) hc).1

/-- **timer_confirmation_sound.**  The confirmations the clean-up timer queues carry exactly the remote position
    (apilistener.cpp:993-1001): on related states the clause confirmation_not_beyond_received holds for the timer step. -/
theorem timer_confirmation_sound (c : Codec) (limit : Nat) (sp : SpecSt) (n : Node) (t now : Int) (h : Rel c sp n t) :
    ∀ st ∈ (stepOp c limit n (.timer now)).2, confirmStep sp st = none := by
  intro st hst
  simp only [stepOp, List.mem_singleton] at hst
  subst hst
  simp only [confirmStep]
  rw [if_neg]
  rw [Bool.not_eq_true, List.any_eq_false]
  intro p hp
  have hp6 := allPeers_lt hp
  rw [Bool.not_eq_true, List.any_eq_false]
  intro v hv
  rw [peerList_getD n _ [] p hp6] at hv
  -- what the timer queues for an endpoint is its remote position, if anything
  have hv' : v = (n.peers p).rpos := by
    by_cases hc : ((n.peers p).connected && (n.peers p).rpos != 0) = true <;>
      simp [timerSetPos, hc, setPosValues] at hv
    exact hv
  rw [hv', h.rpos hp6]
  simp

/-- **confirmation_counterexample.**  One logged event, nothing ever received from peer A (remote position 0):
    the model's ReplayLog queues SetLogPosition 1000002 s — the name of the file it replays — and the clause
    confirmation_not_beyond_received rejects that step. -/
theorem confirmation_counterexample :
    let e : Entry := ⟨1000000000001, 101, none⟩
    let out := (replayEntries (fun _ => true) ⟨0, 0, [], 0⟩ [(1000002, e)]).out
    out = [.msg e, .setPos 1000002000000] ∧
    confirmStep { (specInit [-1, -1, -1]) with cur := [⟨e, 140, true⟩] } ⟨.replay 1000001000000 0 (outObs out) none, [0, 0, 0, 0, 0, 0]⟩
      = some .replayFileName := by decide +kernel

/-- **premature_confirmation_counterexample** (two nodes, F-C12c).  While the link was down X logged event 101
    and Y logged 201 and 202; nothing is confirmed on either side.  X replays first; Y handles X's queue (the event,
    then X's in-replay SetLogPosition) before its own ReplayLog starts: Y then replays NOTHING — now and, because
    positions only grow, after every later reconnect — so 201 and 202 never reach X, although Y would have delivered
    both had its ReplayLog run first. -/
theorem premature_confirmation_counterexample :
    let vis : Nat → Bool := fun _ => true
    let x : PNode := ⟨[(1000002, ⟨1000000000001, 101, none⟩)], 0, 0⟩
    let y : PNode := ⟨[(1000002, ⟨1000000500000, 201, none⟩), (1000002, ⟨1000000700000, 202, none⟩)], 0, 0⟩
    let y' := (x.replayOut vis).foldl PNode.handle y
    -- both of Y's events are logged and unconfirmed
    (y.view.all (fun r => decide (r.2.ts > y.lpos)) = true) ∧
    -- had Y replayed first, X would have processed both
    (x.accepted (y.replayOut vis) = [⟨1000000500000, 201, none⟩, ⟨1000000700000, 202, none⟩]) ∧
    -- X's queue handled first: Y's position for X is X's file name, and Y replays nothing
    (y'.lpos = 1000002000000) ∧ (msgsOf (y'.replayOut vis) = []) ∧ (x.accepted (y'.replayOut vis) = []) := by decide +kernel

/-- **model_positions_justified** (clause position_advance_justified on the model).  Under the same hypotheses: along
    the model's trace an endpoint's local log position grows only by that endpoint's own confirmation, or to the
    timestamp of an event relayed while the endpoint itself was connected (RelayMessageOne only skips — and advances —
    endpoints that ARE connected, `relay_skipped_connected`): never for a disconnected endpoint, for which events
    are being persisted.  Together with `replay_exact` (everything newer than the position is replayed): events
    persisted while an endpoint was disconnected are replayed to it. -/
theorem model_positions_justified (c : Codec) (limit : Nat) (t0 : Int) (h0 : 0 < t0) (pf sr tr : Bool) (durs : Nat → Int)
    (ops : List Op) (hc : ClockOK t0 ops) :
    advanceTrace (specInit (dursList durs)) (runModel c limit (initNode t0 pf sr tr durs) ops) 0 = none :=
  (run_ok c limit ops _ _ t0 0 (rel_init c t0 h0 pf sr tr durs) hc).2.1

/-- **crash_restart_exact** (a whole-directory restart theorem for byte-losing crashes).  A well-formed log directory whose
    `current` holds the records `es`; the process dies and only the first `k` bytes of `current` reach the disk — ANY `k`, inside
    a frame or between frames —, a new process starts on the directory (ApiListener::Start reopens `current` for appending) and
    ReplayLog runs for an endpoint at position `p`: it sends EXACTLY the wanted (unconfirmed, visible) records of every rotated
    file and of the `j` records of `current` whose frames lie wholly inside the surviving prefix, in order, each once — the torn
    frame hides nothing before it and nothing in any other file. -/
theorem crash_restart_exact (c : Codec) (vis : Nat → Bool) (limit : Nat) (now now' dur p : Int) (s : Sender) (es : List Entry) (k : Nat)
    (hd : dur ≠ 0) (hcur : s.current = some (fileOf c es)) (wf : WF c.dec now (openLog now s)) :
    ∃ j, msgsOf (replay c.dec vis limit now dur p (start now' (crash k s))).out
          = ((sortByName s.files).flatMap (fun f => entriesOf c.dec f.bytes) ++ es.take j).filter (wanted vis p) ∧
      (fileOf c (es.take j)).length ≤ k ∧ (j < es.length → k < (fileOf c (es.take (j + 1))).length) := by
  obtain ⟨j, hj, hb1, hb2⟩ := truncation_tolerant c es k
  refine ⟨j, ?_, hb1, hb2⟩
  have hs'f : (openLog now (start now' (crash k s))).files = s.files := by simp [openLog, start, crash]
  have hs'c : (openLog now (start now' (crash k s))).current = some ((fileOf c es).take k) := by
    simp [openLog, start, crash, hcur]
  -- the new process finds the old directory, with a prefix of the records of `current`
  have hsub : (fullView c.dec now (openLog now (start now' (crash k s)))).Sublist (fullView c.dec now (openLog now s)) := by
    simp only [fullView, hs'f, hs'c, hj]
    simp only [openLog, hcur, entriesOf_fileOf]
    exact List.Sublist.append (List.Sublist.refl _) ((List.take_sublist j es).map _)
  have wf' : WF c.dec now (openLog now (start now' (crash k s))) :=
    ⟨wf.increasing.sublist hsub, fun f hf => wf.named f (hs'f ▸ hf)⟩
  rw [(replay_exact c.dec vis limit now dur p _ hd wf').1]
  simp [fullView, hs'f, hs'c, hj, List.map_flatMap, Function.comp_def]

/-- Two records in `current`, the cut falls inside the second frame — the first one is replayed. -/
example : msgsOf (replay (fun b => if b == [104] then some ⟨1, 1, none⟩ else if b == [105] then some ⟨2, 2, none⟩ else none)
    (fun _ => true) 50000 10 (-1) 0 (start 5 (crash 6 { current := some (nsEncodeAll [[104], [105]]) }))).out = [⟨1, 1, none⟩] := by decide +kernel

/-
  FULL STATEMENT (false of the unchanged code, F-C12g): after a crash at ANY byte `k` of `current`, what the NEW process
  persists is read back by ReplayLog, i.e. for all `k`:
      entriesOf c.dec ((fileOf c es).take k ++ fileOf c es2) = (the records wholly inside the first k bytes) ++ es2.
  ApiListener::Start only reopens `current` for appending (OpenLogFile, apilistener.cpp:1366-1382): behind a torn frame
  the new frames are swallowed by / collide with it, the reader stops there (:1517-1524) and never reaches them —
  `persisted_after_crash_counterexample`.  What holds is the statement for cuts that fall BETWEEN two frames.
-/

/-- **persisted_after_crash_partial.**  The crash cut `current` exactly behind its `j`-th frame: the surviving records and
    everything the new process appends (`es2`, any number of records) are read, in order. -/
theorem persisted_after_crash_partial (c : Codec) (es es2 : List Entry) (j : Nat) :
    entriesOf c.dec ((fileOf c es).take (fileOf c (es.take j)).length ++ fileOf c es2) = es.take j ++ es2 := by
  have hsplit : fileOf c es = fileOf c (es.take j) ++ fileOf c (es.drop j) := by
    rw [← fileOf_append, List.take_append_drop]
  rw [hsplit, List.take_left' rfl, ← fileOf_append]
  exact entriesOf_fileOf c _

example : entriesOf (fun b => if b == [104] then some ⟨1, 1, none⟩ else if b == [105] then some ⟨2, 2, none⟩ else none)
    ((nsEncodeAll [[104], [104]]).take 4 ++ nsEncodeAll [[105]]) = [⟨1, 1, none⟩, ⟨2, 2, none⟩] := by decide +kernel

/-- **persisted_after_crash_counterexample** (F-C12g).  The log holds one record; the process dies with 2 of its 4 bytes on
    disk; a new process starts, persists a second record for the absent peer (it IS on disk, behind the torn frame) — and
    ReplayLog to that peer, unconfirmed position 0, everything visible, sends nothing: the event a healthy process logged is
    never replayed. -/
theorem persisted_after_crash_counterexample :
    let dec : Bytes → Option Entry := fun b => if b == [104] then some ⟨1, 1, none⟩ else if b == [105] then some ⟨7, 2, none⟩ else none
    let s1 := persist 50000 1 [104] 1 (start 1 {})
    let s2 := start 5 (crash 2 s1)
    let s3 := persist 50000 7 [105] 7 s2
    s1.current = some (nsEncode [104]) ∧ s3.current = some ((nsEncode [104]).take 2 ++ nsEncode [105]) ∧
    msgsOf (replay dec (fun _ => true) 50000 9 (-1) 0 s3).out = [] ∧
    -- had the crash lost the whole torn frame (or none of it), the new record would be replayed
    msgsOf (replay dec (fun _ => true) 50000 9 (-1) 0 (persist 50000 7 [105] 7 (start 5 (crash 0 s1)))).out = [⟨7, 2, none⟩] := by
  decide +kernel

/-- The clause persisted_after_crash_replayed is not vacuous: it rejects exactly the replay that omits the event appended
    behind a frame a crash tore, accepts the replay that has it, and does not judge events a second crash cut off. -/
example : tornTrace (specInit [-1, -1, -1, -1, -1, -1]) {}
    [⟨.relay 10 1 none (some 20) none, [0, 0, 0, 0, 0, 0, 0, 0, 0, 0, 0, 0]⟩, ⟨.damage ⟨none, 7, false⟩, [0, 0, 0, 0, 0, 0, 0, 0, 0, 0, 0, 0]⟩,
     ⟨.restart, [0, 0, 0, 0, 0, 0, 0, 0, 0, 0, 0, 0]⟩, ⟨.relay 30 2 none (some 20) none, [0, 0, 0, 0, 0, 0, 0, 0, 0, 0, 0, 0]⟩,
     ⟨.replay 40 0 [] none, [0, 0, 0, 0, 0, 0, 0, 0, 0, 0, 0, 0]⟩] 0 = some 4 := by decide +kernel
example : tornTrace (specInit [-1, -1, -1, -1, -1, -1]) {}
    [⟨.relay 10 1 none (some 20) none, [0, 0, 0, 0, 0, 0, 0, 0, 0, 0, 0, 0]⟩, ⟨.damage ⟨none, 7, false⟩, [0, 0, 0, 0, 0, 0, 0, 0, 0, 0, 0, 0]⟩,
     ⟨.restart, [0, 0, 0, 0, 0, 0, 0, 0, 0, 0, 0, 0]⟩, ⟨.relay 30 2 none (some 20) none, [0, 0, 0, 0, 0, 0, 0, 0, 0, 0, 0, 0]⟩,
     ⟨.replay 40 0 [.m 2 30] none, [0, 0, 0, 0, 0, 0, 0, 0, 0, 0, 0, 0]⟩] 0 = none := by decide +kernel
example : tornTrace (specInit [-1, -1, -1, -1, -1, -1]) {}
    [⟨.relay 10 1 none (some 20) none, [0, 0, 0, 0, 0, 0, 0, 0, 0, 0, 0, 0]⟩, ⟨.damage ⟨none, 7, false⟩, [0, 0, 0, 0, 0, 0, 0, 0, 0, 0, 0, 0]⟩,
     ⟨.restart, [0, 0, 0, 0, 0, 0, 0, 0, 0, 0, 0, 0]⟩, ⟨.relay 30 2 none (some 20) none, [0, 0, 0, 0, 0, 0, 0, 0, 0, 0, 0, 0]⟩,
     ⟨.damage ⟨none, 9, false⟩, [0, 0, 0, 0, 0, 0, 0, 0, 0, 0, 0, 0]⟩, ⟨.replay 40 0 [] none, [0, 0, 0, 0, 0, 0, 0, 0, 0, 0, 0, 0]⟩] 0 = none := by decide +kernel

theorem reachable_rel (c : Codec) (limit : Nat) : ∀ (ops : List Op) (sp : SpecSt) (n : Node) (t : Int), Rel c sp n t → ClockOK t ops →
    ∃ sp' t', Rel c sp' (endNode c limit n ops) t' := by
  intro ops sp n t hr hck
  exact (run_ok c limit ops sp n t 0 hr hck).2.2

/-- **crash_anywhere_after_any_history** ("for all crash points", on the model node).  After EVERY operation sequence under an
    advancing clock — events, connects, replays, rotations, clean-ups, acknowledgements, graceful and crash restarts, object
    removal — let the process die with only the first `k` bytes of `current` on disk, for ANY `k`, and a new process replay to an
    endpoint at ANY position `p` with ANY visibility: `current` held well-framed records `es`, and the replay sends exactly the
    wanted records of all rotated files and of the first `j` records of `current`, `j` = the number of frames wholly inside the
    surviving `k` bytes. -/
theorem crash_anywhere_after_any_history (c : Codec) (limit : Nat) (t0 : Int) (h0 : 0 < t0) (pf sr tr : Bool) (durs : Nat → Int)
    (ops : List Op) (hc : ClockOK t0 ops) (vis : Nat → Bool) (now now' dur p : Int) (k : Nat) (hd : dur ≠ 0) :
    let s := (endNode c limit (initNode t0 pf sr tr durs) ops).snd
    ∃ es j, s.current = some (fileOf c es) ∧
      msgsOf (replay c.dec vis limit now dur p (start now' (crash k s))).out
          = ((sortByName s.files).flatMap (fun f => entriesOf c.dec f.bytes) ++ es.take j).filter (wanted vis p) ∧
      (fileOf c (es.take j)).length ≤ k ∧ (j < es.length → k < (fileOf c (es.take (j + 1))).length) := by
  intro s
  obtain ⟨sp, t, hr⟩ := reachable_rel c limit ops _ _ t0 (rel_init c t0 h0 pf sr tr durs) hc
  have hcur : s.current = some (fileOf c (sp.cur.map (·.e))) := hr.cur.trans (congrArg some (encFile_eq c sp.cur))
  obtain ⟨j, h1, h2, h3⟩ := crash_restart_exact c vis limit now now' dur p s _ k hd hcur (hr.wf now)
  exact ⟨_, j, hcur, h1, h2, h3⟩

/-- The clause rejects a position raised for a disconnected endpoint by a relayed event (what RelayMessageOne would
    do if it tested "zone already has it" before "endpoint is disconnected"), accepts it for a connected one. -/
example : advanceOk { (specInit []) with conn := [false, true, false, false, false, false] }
    ⟨.relay 50 7 (some 1) none none, [0, 0, 0, 0, 0, 0, 50, 0, 0, 0, 0, 0]⟩ = false := by decide +kernel
example : advanceOk { (specInit []) with conn := [false, true, false, true, false, false] }
    ⟨.relay 50 7 (some 1) none none, [0, 0, 0, 0, 0, 0, 50, 0, 0, 0, 0, 0]⟩ = true := by decide +kernel

/-- `ClockOK` is satisfiable on a non-trivial history (both kinds of restart, a rotation, clean-ups, replays). -/
example : ClockOK 1000000
    [.relay 1000001 1 none, .relay 1000002 2 (some 1), .rotate 3000000, .relay 3000001 3 (some 4), .timer 9000000,
     .conn 0, .replay 9000001 0, .ack 0 2000000, .recv 0 5, .crashStart 9500000 true false, .conn 1, .relay 9500001 4 (some 1),
     .conn 3, .replay 9500002 3, .conn 5, .replay 9500003 5, .relay 9500004 5 (some 3), .drop, .stopStart 9600000 false true,
     .conn 1, .replay 9600001 1, .timer 9700000] := by
  simp [ClockOK, Op.peerOk, Op.time]

/-- The clause restart_keeps_positions is not vacuous: a new process that comes up with a lost local position is rejected,
    one with the old positions is accepted.  And after the object "zx" was removed, replaying an event about it is rejected. -/
example : (specStep { (specInit [-1, -1, -1, -1, -1, -1]) with pos := [0, 0, 7, 0, 0, 0, 0, 0, 0, 0, 0, 0] }
    ⟨.restart, [0, 0, 0, 0, 0, 0, 0, 0, 0, 0, 0, 0]⟩).1 = some .restartKeepsPositions := by decide +kernel
example : (specStep { (specInit [-1, -1, -1, -1, -1, -1]) with pos := [0, 0, 7, 0, 0, 0, 0, 0, 0, 0, 0, 0] }
    ⟨.restart, [0, 0, 7, 0, 0, 0, 0, 0, 0, 0, 0, 0]⟩).1 = none := by decide +kernel
example : (specTrace (specInit [-1, -1, -1, -1, -1, -1])
    [⟨.relay 10 1 (some 3) (some 20) none, [0, 0, 0, 0, 0, 0, 0, 0, 0, 0, 0, 0]⟩, ⟨.drop, [0, 0, 0, 0, 0, 0, 0, 0, 0, 0, 0, 0]⟩,
     ⟨.conn 1, [0, 0, 0, 0, 0, 0, 0, 0, 0, 0, 0, 0]⟩, ⟨.replay 20 1 [.m 1 10] none, [0, 0, 0, 0, 0, 0, 0, 0, 0, 0, 0, 0]⟩] 0)
    = some (3, .replayVisible) := by decide +kernel

/-- The spec predicate is not vacuous: it rejects a replay that omits a logged, unconfirmed event, and one
    that repeats an event. -/
example : (specTrace (specInit [-1, -1, -1])
    [⟨.relay 10 1 none (some 20) none, [0, 0, 0, 0, 0, 0]⟩, ⟨.conn 0, [0, 0, 0, 0, 0, 0]⟩,
     ⟨.replay 20 0 [] none, [0, 0, 0, 0, 0, 0]⟩] 0) = some (2, .replayComplete) := by decide +kernel

example : (specTrace (specInit [-1, -1, -1])
    [⟨.relay 10 1 none (some 20) none, [0, 0, 0, 0, 0, 0]⟩, ⟨.conn 0, [0, 0, 0, 0, 0, 0]⟩,
     ⟨.replay 20 0 [.m 1 10, .m 1 10] none, [0, 0, 0, 0, 0, 0]⟩] 0) = some (2, .replayOrder) := by decide +kernel

example : (specTrace (specInit [-1, -1, -1])
    [⟨.relay 10 1 none (some 20) none, [0, 0, 0, 0, 0, 0]⟩, ⟨.conn 0, [0, 0, 0, 0, 0, 0]⟩,
     ⟨.replay 20 0 [.m 1 10] none, [0, 0, 0, 0, 0, 0]⟩] 0) = none := by decide +kernel

/-- Equal is not older: a receiver that drops a message whose `ts` EQUALS its recorded position is rejected,
    and so is one that processes an older message. -/
example : (specStep { (specInit [-1, -1, -1]) with pos := [0, 10, 0, 0, 0, 0] } ⟨.recv 0 10 false, [0, 10, 0, 0, 0, 0]⟩).1
    = some .receiverAcceptsNotOlder := by decide +kernel

example : (specStep { (specInit [-1, -1, -1]) with pos := [0, 10, 0, 0, 0, 0] } ⟨.recv 0 9 true, [0, 9, 0, 0, 0, 0]⟩).1
    = some .receiverFilter := by decide +kernel

example : (specStep { (specInit [-1, -1, -1]) with pos := [0, 10, 0, 0, 0, 0] } ⟨.recv 0 10 true, [0, 10, 0, 0, 0, 0]⟩).1
    = none := by decide +kernel

/-- The confirmation clause is not vacuous in the other direction either: a confirmation that equals the received
    position passes, one from the timer beyond it is `other`. -/
example : confirmStep { (specInit [-1, -1, -1]) with pos := [0, 10, 0, 0, 0, 0] } ⟨.timer 20 [] [[.l 10], [], []], [0, 10, 0, 0, 0, 0]⟩ = none := by decide +kernel
example : confirmStep { (specInit [-1, -1, -1]) with pos := [0, 10, 0, 0, 0, 0] } ⟨.timer 20 [] [[.l 11], [], []], [0, 10, 0, 0, 0, 0]⟩ = some .other := by decide +kernel

/-! ## "… nor of other files" -/

/-
  FULL STATEMENT (false of the unchanged code, F-C12d): whatever a damaged file decodes to (`xs`: its intact records
  followed by whatever the garbage yields), every record of the files behind it (`ys`, intact) that the peer still
  wants is sent.  False: a garbage record that is sent sets `peer_ts` to ITS timestamp (apilistener.cpp:1562), and
  `timestamp <= peer_ts` (:1535) then skips intact records of every later file — `other_files_replayed_counterexample`.
  What holds is the statement for garbage whose timestamps stay below the later records'.
  (A second way damage reaches other files is outside the model: a record whose `timestamp` is no number makes the
  comparison of :1535 throw outside the try block, F-C12e; the model's `dec` folds every undecodable record into `none`.)
-/

/-- **other_files_replayed_partial.**  ReplayLog reads the records `xs ++ ys` — `xs`: everything the files up to and
    including a damaged one yield, in ANY order and with ANY content; `ys`: the intact records of the files behind it.
    If no record of `xs` carries a timestamp above `b`, every record of `ys` newer than `b` that the peer wants (newer
    than its position, visible to its zone) is sent. -/
theorem other_files_replayed_partial (vis : Nat → Bool) (p lp b : Int) (xs ys : List (Int × Entry))
    (hs : ys.Pairwise (fun a b => a.2.ts < b.2.ts)) (hb : ∀ x ∈ xs, x.2.ts ≤ b) :
    ∀ y ∈ ys, b < y.2.ts → wanted vis p y.2 = true → y.2 ∈ msgsOf (replayEntries vis ⟨p, lp, [], 0⟩ (xs ++ ys)).out := by
  intro y hy hby hw
  rw [wanted_iff] at hw
  have hp := hw.1
  -- behind `xs` the position is still below `y`'s stamp, so `y` is wanted there as it was at `p`
  have hpeer : (replayEntries vis ⟨p, lp, [], 0⟩ xs).peer ≤ y.2.ts - 1 :=
    replayEntries_peer_le vis (y.2.ts - 1) xs ⟨p, lp, [], 0⟩ (by simp only; omega) (fun x hx => by have := hb x hx; omega)
  rw [replayEntries_append, replayEntries_sorted vis ys _ hs]
  exact List.mem_append_right _ (List.mem_filter.mpr ⟨List.mem_map.mpr ⟨y, hy, rfl⟩,
    (wanted_iff vis _ y.2).mpr ⟨by omega, hw.2⟩⟩)

/-- The hypotheses are satisfiable and the conclusion is not empty: an intact record, a garbage record with an OLD stamp,
    then the next file — its record is sent. -/
example : msgsOf (replayEntries (fun _ => true) ⟨0, 0, [], 0⟩
    ([(2, ⟨1000001, 1, none⟩), (2, ⟨7, 99, none⟩)] ++ [(3, ⟨2000002, 2, none⟩)])).out = [⟨1000001, 1, none⟩, ⟨2000002, 2, none⟩] := by decide +kernel

/-- **other_files_replayed_counterexample** (F-C12d).  File 2 = an intact record and a well-framed garbage record whose
    timestamp reads 9 000 001; file 3 = one intact record with timestamp 2 000 002, unconfirmed and visible: it is never sent. -/
theorem other_files_replayed_counterexample :
    ¬ (∀ (vis : Nat → Bool) (p lp : Int) (xs ys : List (Int × Entry)), ys.Pairwise (fun a b => a.2.ts < b.2.ts) →
        ∀ y ∈ ys, wanted vis p y.2 = true → y.2 ∈ msgsOf (replayEntries vis ⟨p, lp, [], 0⟩ (xs ++ ys)).out) := by
  intro h
  have := h (fun _ => true) 0 0 [(2, ⟨1, 1, none⟩), (2, ⟨9000001, 1, none⟩)] [(3, ⟨2000002, 2, none⟩)] (by decide)
    (3, ⟨2000002, 2, none⟩) (by decide) (by decide)
  revert this
  decide +kernel

/-! ## "… before it is considered in sync" -/

/-- **live_only_when_in_sync** (SyncSendMessage's gate, apilistener.cpp:1180, inside RelayMessageOne's loop).  Whatever the
    zones, the master and the endpoints' states: an event is queued live only for endpoints that are connected and whose
    `syncing` flag is clear. -/
theorem live_only_when_in_sync (peers : Nat → Peer) (master : Option Nat) (zones : List (Bool × List Nat)) :
    ∀ i ∈ (relay peers master zones).live, (peers i).connected = true ∧ (peers i).syncing = false :=
  relay_live_in_sync peers master zones

/-
  FULL STATEMENT (false of the unchanged code, F-C12f): for EVERY operation sequence the model's sync view satisfies
  `syncTrace`.  NewClientHandlerInternal adds the connection (Endpoint::AddClient) and only queues SyncClient, which sets
  `syncing` later: `Op.attach`.  An event relayed in that window is sent live in front of the replay —
  `no_live_before_sync_counterexample`.  What holds is the statement for sequences in which SyncClient is under way as
  soon as the connection exists (`NoWindow`: every connection starts with `Op.conn`).
-/

/-- **model_no_live_before_sync_partial.**  For every payload encoding, rotation threshold, configuration and every
    operation sequence without the connect window — no clock hypothesis, any peers, any order of events, connects,
    disconnects, SyncClient runs, rotations, timers, acknowledgements, incoming messages, crash-restarts — nothing is
    ever queued live for an endpoint between the moment its connection appears and the end of that connection's
    replay, and every SyncClient run ends with the `syncing` flag clear. -/
theorem model_no_live_before_sync_partial (c : Codec) (limit : Nat) (t0 : Int) (pf sr tr : Bool) (durs : Nat → Int)
    (ops : List Op) (hw : NoWindow ops) :
    syncTrace {} (runSync c limit (initNode t0 pf sr tr durs) ops) 0 = none :=
  reachable_sync c limit ops _ _ 0 (SyncInv.of_disconnected _ (fun _ => rfl)) hw

/-- The hypothesis is satisfiable on a history that does send live events, before and after replays. -/
example : NoWindow [.relay 3 1 none, .conn 0, .relay 4 2 none, .replay 5 0, .relay 6 3 none, .disc 0, .conn 0, .replay 7 0,
    .crashStart 8 false true, .conn 4, .replay 9 4, .relay 10 4 (some 0)] := by simp [NoWindow]

/-- **no_live_before_sync_counterexample** (F-C12f).  Event 1 is logged for the absent peer A; A's connection is added
    (`attach`); event 2 is relayed before SyncClient has started: it is queued live for A, in front of the replay of event 1. -/
theorem no_live_before_sync_counterexample (c : Codec) (limit : Nat) :
    syncTrace {} (runSync c limit (initNode 1 false false false (fun _ => -1))
      [.relay 3 1 none, .attach 0, .relay 5 2 none, .replay 6 0]) 0 = some (2, .liveBeforeSync) := by
  rfl

/-- With SyncClient under way (`conn`) the same history, continued by a third event after the replay, passes.  The clause itself rejects a SyncClient run that leaves
    `syncing` set and accepts a live event after the replay. -/
example (c : Codec) (limit : Nat) : syncTrace {} (runSync c limit (initNode 1 false false false (fun _ => -1))
    [.relay 3 1 none, .conn 0, .relay 5 2 none, .replay 6 0, .relay 7 3 none]) 0 = none :=
  model_no_live_before_sync_partial c limit 1 false false false _ _ (by simp [NoWindow])
example : syncTrace {} [.attach 0, .synced 0 true] 0 = some (1, .syncStuck) := by decide +kernel
example : syncTrace {} [.attach 0, .synced 0 false, .live [0]] 0 = none := by decide +kernel

/-- Visibility is a matter of the object's TYPE and name (a per-pass cache keyed by the name alone would get it wrong).  Peer B
    (zone sat) may see Zone "agent" (object 2) but not the object of another type with the same name that lives in zone
    master (object 7): a replay that lets the first verdict stand for both is rejected either way. -/
example : (specTrace (specInit [-1, -1, -1, -1, -1, -1])
    [⟨.relay 10 1 (some 7) (some 20) none, [0, 0, 0, 0, 0, 0, 0, 0, 0, 0, 0, 0]⟩,
     ⟨.relay 11 2 (some 2) (some 20) none, [0, 0, 0, 0, 0, 0, 0, 0, 0, 0, 0, 0]⟩, ⟨.conn 1, [0, 0, 0, 0, 0, 0, 0, 0, 0, 0, 0, 0]⟩,
     ⟨.replay 20 1 [] none, [0, 0, 0, 0, 0, 0, 0, 0, 0, 0, 0, 0]⟩] 0) = some (3, .replayComplete) := by decide +kernel
example : (specTrace (specInit [-1, -1, -1, -1, -1, -1])
    [⟨.relay 10 1 (some 2) (some 20) none, [0, 0, 0, 0, 0, 0, 0, 0, 0, 0, 0, 0]⟩,
     ⟨.relay 11 2 (some 7) (some 20) none, [0, 0, 0, 0, 0, 0, 0, 0, 0, 0, 0, 0]⟩, ⟨.conn 1, [0, 0, 0, 0, 0, 0, 0, 0, 0, 0, 0, 0]⟩,
     ⟨.replay 20 1 [.m 1 10, .m 2 11] none, [0, 0, 0, 0, 0, 0, 0, 0, 0, 0, 0, 0]⟩] 0) = some (3, .replayVisible) := by decide +kernel
example : (specTrace (specInit [-1, -1, -1, -1, -1, -1])
    [⟨.relay 10 1 (some 2) (some 20) none, [0, 0, 0, 0, 0, 0, 0, 0, 0, 0, 0, 0]⟩,
     ⟨.relay 11 2 (some 7) (some 20) none, [0, 0, 0, 0, 0, 0, 0, 0, 0, 0, 0, 0]⟩, ⟨.conn 1, [0, 0, 0, 0, 0, 0, 0, 0, 0, 0, 0, 0]⟩,
     ⟨.replay 20 1 [.m 1 10] none, [0, 0, 0, 0, 0, 0, 0, 0, 0, 0, 0, 0]⟩] 0) = none := by decide +kernel

end Icinga.C12
