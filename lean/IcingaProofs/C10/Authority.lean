/-
  C10 — what `authority` computes in the two situations in which the candidates are known (everybody sees everybody /
  nobody else is connected), and from that the verdict of a member of the two-member system (`absVerdict`).
-/
import IcingaProofs.C10.Order
import IcingaModel.C10.Spec

namespace Icinga.C10

theorem ownerOf_sort {ms : List Name} (hne : ms ≠ []) (name : Name) : ∃ o ∈ ms, ownerOf (sortNames ms) name = some o := by
  have hpos : 0 < (sortNames ms).length := by
    rw [(sortNames_perm ms).length_eq]
    exact List.length_pos_iff.2 hne
  have hlt := Nat.mod_lt (sdbm name).toNat hpos
  exact ⟨_, (sortNames_perm ms).mem_iff.1 (List.getElem_mem hlt), List.getElem?_eq_getElem hlt⟩

section zone
variable {ms : List Name} {self : Name} {conn : Name → Bool}

theorem candidates_append_unseen (ms : List Name) {extras : List Name} (hx : ∀ e ∈ extras, e ≠ self ∧ conn e = false) :
    candidates (ms ++ extras) self conn = candidates ms self conn := by
  have he : candidates extras self conn = [] :=
    List.filter_eq_nil_iff.2 fun e he => by simp [(hx e he).1, (hx e he).2]
  rw [candidates, List.filter_append]
  exact (congrArg _ he).trans (List.append_nil _)

/-- A zone enters `authority` through the set of its candidates and, in the cold-start test, through whether it has more
    than one member (`hl`, the `num_total > 1` of apilistener-authority.cpp:46); through nothing else. -/
theorem authority_congr {ms₁ ms₂ : List Name} (hc : (candidates ms₁ self conn).Perm (candidates ms₂ self conn))
    (hl : 1 < ms₁.length ↔ 1 < ms₂.length) (start now : Int) (name : Name) :
    authority (some ms₁) self conn start now name = authority (some ms₂) self conn start now name := by
  simp only [authority, coldStart, gt_iff_lt, sortNames_congr hc, hc.length_eq, decide_eq_decide.2 hl]

theorem authority_set_inv {start now : Int} {name : Name} {a : Bool}
    (h : authority (some ms) self conn start now name = .set a) :
    ∃ o, ownerOf (sortNames (candidates ms self conn)) name = some o ∧ a = (o == self) := by
  simp only [authority] at h
  split at h
  · cases h
  · split at h
    · cases h
    · rename_i o ho
      exact ⟨o, ho, (Verdict.set.inj h).symm⟩

theorem inGrace_iff (start now : Int) : inGrace start now = true ↔ start = 0 ∨ now - start < 30 := by
  simp [inGrace]

theorem inGrace_old {start now : Int} (hstart : start ≠ 0) (hage : 30 ≤ now - start) : inGrace start now = false :=
  Bool.eq_false_iff.2 fun h => ((inGrace_iff start now).1 h).elim hstart (by omega)

theorem candidates_all (h : ∀ e ∈ ms, e = self ∨ conn e = true) : candidates ms self conn = ms :=
  List.filter_eq_self.2 fun e he => by
    rcases h e he with rfl | hc
    · simp
    · simp [hc]

/-- `num_total > 1 && endpoints.size() <= 1` fails when every member is a candidate. -/
theorem coldStart_all (n : Nat) (start now : Int) : coldStart n n start now = false := by
  by_cases h : n ≤ 1
  · have : ¬ n > 1 := by omega
    simp [coldStart, this]
  · simp [coldStart, h]

theorem authority_all {name o : Name}
    (h : ∀ e ∈ ms, e = self ∨ conn e = true) (ho : ownerOf (sortNames ms) name = some o) (start now : Int) :
    authority (some ms) self conn start now name = .set (o == self) := by
  simp [authority, candidates_all h, coldStart_all, ho]

theorem candidates_alone (hnd : ms.Nodup) (hself : self ∈ ms) (hconn : ∀ e ∈ ms, e ≠ self → conn e = false) :
    candidates ms self conn = [self] := by
  have hf : candidates ms self conn = ms.filter (· == self) :=
    List.filter_congr fun e he => by
      by_cases h : e = self
      · simp [h]
      · simp [hconn e he h]
  rw [hf, List.filter_beq, hnd.count, if_pos hself]
  rfl

/-- With nobody else connected the test of :46 is the specification's grace period, in a zone of several members. -/
theorem coldStart_one (n : Nat) (start now : Int) : coldStart n 1 start now = (decide (1 < n) && inGrace start now) := by
  simp [coldStart, inGrace]

theorem authority_alone (hnd : ms.Nodup) (hself : self ∈ ms) (hconn : ∀ e ∈ ms, e ≠ self → conn e = false) (start now : Int) (name : Name) :
    authority (some ms) self conn start now name =
      if decide (1 < ms.length) && inGrace start now then .keep else .set true := by
  simp [authority, candidates_alone hnd hself hconn, coldStart_one, ownerOf, sortNames, insertName, Nat.mod_one]

end zone

theorem authority_single (self : Name) (conn : Name → Bool) (start now : Int) (name : Name) :
    authority (some [self]) self conn start now name = .set true :=
  authority_alone (List.pairwise_singleton _ self) (List.mem_singleton_self self) (fun _ he hne => absurd (List.mem_singleton.1 he) hne)
    start now name

/-- Member `s` is the one the zone of both picks for `name` when they see each other. -/
def own (nA nB name : Name) : Side → Bool
  | .A => ownerOf (sortNames [nA, nB]) name == some nA
  | .B => ownerOf (sortNames [nA, nB]) name == some nB

theorem own_eq {nA nB name o : Name} (ho : ownerOf (sortNames [nA, nB]) name = some o) (s : Side) :
    own nA nB name s = (o == selfOf nA nB s) := by
  cases s <;> simp [own, selfOf, ho]

theorem beq_pair {nA nB o : Name} (hne : nA ≠ nB) (hm : o ∈ [nA, nB]) : (o == nA) = !(o == nB) := by
  rcases List.mem_cons.1 hm with rfl | hm
  · rw [beq_self_eq_true, beq_eq_false_iff_ne.2 hne]
    rfl
  · rw [List.mem_singleton.1 hm, beq_self_eq_true, beq_eq_false_iff_ne.2 (Ne.symm hne)]
    rfl

theorem own_xor (nA nB name : Name) (hne : nA ≠ nB) : own nA nB name .A = !own nA nB name .B := by
  obtain ⟨o, hm, ho⟩ := ownerOf_sort (List.cons_ne_nil nA [nB]) name
  rw [own_eq ho, own_eq ho]
  exact beq_pair hne hm

/-- The verdict as a function of what the property talks about. -/
def absVerdict (l : Layout) (sees : Bool) (start now : Int) (ow : Bool) : Verdict :=
  match l with
  | .pair => if sees then .set ow else if inGrace start now then .keep else .set true
  | _ => .set true

theorem absVerdict_sees (start now : Int) (ow : Bool) : absVerdict .pair true start now ow = .set ow := rfl

theorem absVerdict_cold {start now : Int} (hg : inGrace start now = true) (ow : Bool) :
    absVerdict .pair false start now ow = .keep := by
  simp [absVerdict, hg]

theorem absVerdict_alone {start now : Int} (hg : inGrace start now = false) (ow : Bool) :
    absVerdict .pair false start now ow = .set true := by
  simp [absVerdict, hg]

/-- The two members see each other: no `nA ≠ nB` is needed. -/
theorem authority_pair_sees (nA nB : Name) (s : Side) (start now : Int) (name : Name) :
    authority (some [nA, nB]) (selfOf nA nB s) (fun e => true && e == otherOf nA nB s) start now name
      = .set (own nA nB name s) := by
  obtain ⟨o, _, ho⟩ := ownerOf_sort (List.cons_ne_nil nA [nB]) name
  have hall : ∀ e ∈ [nA, nB], e = selfOf nA nB s ∨ (true && e == otherOf nA nB s) = true := by
    cases s <;> simp [selfOf, otherOf]
  rw [authority_all hall ho, own_eq ho]

theorem authority_abs (l : Layout) (nA nB : Name) (hne : nA ≠ nB) (s : Side) (sees : Bool) (start now : Int) (name : Name) :
    authority (zoneOf l nA nB s) (selfOf nA nB s) (fun e => sees && e == otherOf nA nB s) start now name
      = absVerdict l sees start now (own nA nB name s) := by
  cases l with
  | noZone => rfl
  | single => cases s <;> exact authority_single _ _ start now name
  | pair =>
    cases sees with
    | true => exact authority_pair_sees nA nB s start now name
    | false =>
      have hself : selfOf nA nB s ∈ [nA, nB] := by cases s <;> simp [selfOf]
      -- `absVerdict .pair false` is the right side of `authority_alone` with `decide (1 < [nA, nB].length)` evaluated
      exact authority_alone (List.nodup_cons.2 ⟨by simpa using hne, List.pairwise_singleton _ nB⟩) hself (fun _ _ _ => rfl)
        start now name

theorem stepHalf_upd (l : Layout) {nA nB : Name} (hne : nA ≠ nB) (c : ObjCfg) (s s' : Side) (h : Half) (now : Int) :
    stepHalf l nA nB c s h (.upd s' now) =
      { h with obj := applyVerdict c h.obj (absVerdict l h.sees h.start now (own nA nB c.name s)),
               updated := h.updated || absVerdict l h.sees h.start now (own nA nB c.name s) != .keep } := by
  simp only [stepHalf, authority_abs l nA nB hne]

end Icinga.C10
