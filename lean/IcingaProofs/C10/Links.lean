/-
  C10 — the set of connections an `Endpoint` object holds (`setInsert`, `setErase`, `Half.sees`, `connectedTo`): membership
  after one event and after any sequence of events.
-/
import IcingaModel.C10.Model

namespace Icinga.C10

/-- `setInsert l x` unfolds to core's `l.insert x`. -/
theorem mem_setInsert {α : Type} [BEq α] [LawfulBEq α] (l : List α) (x y : α) : y ∈ setInsert l x ↔ y = x ∨ y ∈ l :=
  List.mem_insert_iff (l := l)

theorem mem_setErase {α : Type} [BEq α] [LawfulBEq α] (l : List α) (x y : α) : y ∈ setErase l x ↔ y ∈ l ∧ y ≠ x := by
  simp [setErase, List.mem_filter]

theorem sees_iff (h : Half) : h.sees = true ↔ ∃ id, id ∈ h.conns := by
  cases hc : h.conns <;> simp [Half.sees, hc]

theorem mem_link (cs : List Nat) (i : Nat) (up : Bool) (id : Nat) :
    decide (id ∈ (if up then setInsert cs i else setErase cs i)) = (if i == id then up else decide (id ∈ cs)) := by
  by_cases hid : i = id
  · cases up <;> simp [mem_setInsert, mem_setErase, hid]
  · have hid' : id ≠ i := fun h => hid h.symm
    cases up <;> simp [mem_setInsert, mem_setErase, hid, hid']

theorem link_keeps_sees (l : Layout) (nA nB : Name) (c : ObjCfg) (s s' : Side) {h : Half} {other : Nat}
    (hother : other ∈ h.conns) {id : Nat} (hne : other ≠ id) (up : Bool) :
    (stepHalf l nA nB c s h (.link s' id up)).sees = true := by
  refine (sees_iff _).2 ⟨other, ?_⟩
  cases up
  · exact (mem_setErase _ _ _).2 ⟨hother, hne⟩
  · exact (mem_setInsert _ _ _).2 (Or.inr hother)

/-- Whether connection `id` is attached after the events `evs` (connection number, attach / remove), `init` saying
    whether it was attached before: the last event that names it decides. -/
def openAfter (init : Bool) (id : Nat) (evs : List (Nat × Bool)) : Bool :=
  evs.foldl (fun b e => if e.1 == id then e.2 else b) init

theorem links_fold (l : Layout) (nA nB : Name) (c : ObjCfg) (s : Side) (evs : List (Nat × Bool)) : ∀ h : Half,
    let h' := evs.foldl (fun h e => stepHalf l nA nB c s h (.link s e.1 e.2)) h
    (∀ id, id ∈ h'.conns ↔ openAfter (decide (id ∈ h.conns)) id evs = true) ∧ h'.obj = h.obj ∧ h'.start = h.start := by
  induction evs with
  | nil => exact fun h => ⟨fun id => by simp [openAfter], rfl, rfl⟩
  | cons e evs ih =>
    intro h
    obtain ⟨ih, iho, ihs⟩ := ih (stepHalf l nA nB c s h (.link s e.1 e.2))
    refine ⟨fun id => (ih id).trans ?_, iho, ihs⟩
    show openAfter (decide (id ∈ (if e.2 then setInsert h.conns e.1 else setErase h.conns e.1))) id evs = true ↔ _
    rw [mem_link]
    exact Iff.rfl

theorem connectedTo_map (other : Name) (conns : List Nat) (e : Name) :
    connectedTo (conns.map (fun i => (other, i))) e = (!conns.isEmpty && e == other) := by
  cases conns <;> simp [connectedTo, Bool.beq_comm (a := other)]

end Icinga.C10
