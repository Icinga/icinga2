/-
  C10 — one authority run of a member in closed form; then the step invariant of the two-member system: how the bookkeeping
  of the specification relates to the model.  Every event keeps it and passes the checks of the specification.
-/
import IcingaProofs.C10.Authority
import IcingaProofs.C10.Objects

namespace Icinga.C10

theorem upd_paired {nA nB : Name} {c : ObjCfg} (ht : touched c = true) (s : Side) (h : Half) (hs : h.sees = true) (now : Int) :
    (stepHalf .pair nA nB c s h (.upd s now)).obj = setAuthority h.obj (own nA nB c.name s) := by
  show applyVerdict c h.obj (authority (some [nA, nB]) _ _ h.start now c.name) = _
  rw [hs, authority_pair_sees, applyVerdict_set ht]

theorem upd_alone {nA nB : Name} (hne : nA ≠ nB) {c : ObjCfg} (ht : touched c = true) (s : Side) (h : Half)
    (hs : h.sees = false) {now : Int} (hg : inGrace h.start now = false) :
    (stepHalf .pair nA nB c s h (.upd s now)).obj = setAuthority h.obj true := by
  rw [stepHalf_upd .pair hne, hs, absVerdict_alone hg]
  exact applyVerdict_set ht _ _

theorem upd_paired_paused {nA nB : Name} {c : ObjCfg} (ht : touched c = true) (s : Side) (h : Half) (hs : h.sees = true)
    (now : Int) : (stepHalf .pair nA nB c s h (.upd s now)).obj.paused = !own nA nB c.name s := by
  rw [upd_paired ht s h hs, setAuthority_paused]

/-- The bookkeeping `sh` of the specification next to the member `h` of the model; `ow`: this member is the owner of the
    object's name among the two (`own`).  Nothing is said of `h.updated`: no check of the specification reads it, and what the
    work events do is bounded by `Work` whatever its value. -/
structure RelHalf (c : ObjCfg) (ow : Bool) (sh : SpecHalf) (h : Half) : Prop where
  conns : sh.conns = h.conns
  start : sh.start = h.start
  prev : sh.prev = h.obj
  -- what the mode recorded at the last authority run claims is still true of the object
  paired : touched c = true → sh.mode = .paired → h.obj.paused = !ow
  alone : touched c = true → sh.mode = .alone → h.obj.paused = false
  -- `fresh` has resumed it and no authority run touches it
  everywhere : c.active = true → c.runOnce = false → h.obj.paused = false
  -- more than the `execs ≤ asked` the specification checks: a stashed request becomes an execution at a later `.ntimer`,
  -- and after a restart through the state file `asked - prev.execs` is what is left for the stash that survives
  bound : h.obj.execs + h.obj.stash ≤ sh.asked

structure Rel (nA nB : Name) (c : ObjCfg) (sp : SpecSt) (p : Pair) : Prop where
  a : RelHalf c (own nA nB c.name .A) sp.a p.a
  b : RelHalf c (own nA nB c.name .B) sp.b p.b
  split : ∀ x, sp.split = some x → x = own nA nB c.name .A

namespace RelHalf
variable {c : ObjCfg} {ow : Bool} {sh sh' : SpecHalf} {h h' : Half}

theorem sees (hr : RelHalf c ow sh h) : h.sees = sh.sees :=
  congrArg (fun cs : List Nat => !cs.isEmpty) hr.conns.symm

theorem of_fresh {n : Nat} (hc : sh.conns = h.conns) (hs : sh.start = h.start) (hp : sh.prev = h.obj)
    (hm : sh.mode = .unknown) (ho : h.obj = { fresh c with stash := n }) (hb : n ≤ sh.asked) : RelHalf c ow sh h := by
  refine ⟨hc, hs, hp, fun _ h => ?_, fun _ h => ?_, fun ha hr => ?_, ?_⟩
  · rw [hm] at h; cases h
  · rw [hm] at h; cases h
  · rw [ho, fresh_everywhere ha hr]
  · rw [ho]
    show (fresh c).execs + n ≤ sh.asked
    rw [fresh_execs, Nat.zero_add]
    exact hb

/-- `hm`: the event keeps the mode or forgets it. -/
theorem of_same (hr : RelHalf c ow sh h) (hc : sh'.conns = h'.conns) (hs : sh'.start = h'.start)
    (hp : sh'.prev = h'.obj) (ho : h'.obj.paused = h.obj.paused)
    (hm : ∀ m, m ≠ .unknown → sh'.mode = m → sh.mode = m) (hb : h'.obj.execs + h'.obj.stash ≤ sh'.asked) :
    RelHalf c ow sh' h' :=
  ⟨hc, hs, hp, fun ht h => ho.trans (hr.paired ht (hm _ (by decide) h)),
    fun ht h => ho.trans (hr.alone ht (hm _ (by decide) h)), fun ha hro => ho.trans (hr.everywhere ha hro), hb⟩

end RelHalf

theorem rel_init (nA nB : Name) (c : ObjCfg) : Rel nA nB c (specInit c) (initPair c) :=
  have hb : (fresh c).stash ≤ 0 := Nat.le_of_eq (fresh_stash c)
  ⟨.of_fresh rfl rfl rfl rfl rfl hb, .of_fresh rfl rfl rfl rfl rfl hb, nofun⟩

section half
variable {c : ObjCfg} {ow : Bool} {sh : SpecHalf} {h : Half}

theorem work_step {silent : Bool} {k : Nat} {o' : Obj}
    (hr : RelHalf c ow sh h) (hw : Work silent k c h.obj o') :
    checkWork c sh { sh with prev := o', asked := sh.asked + k } silent o' = none ∧
    RelHalf c ow { sh with prev := o', asked := sh.asked + k } { h with obj := o' } := by
  have hb : o'.execs + o'.stash ≤ sh.asked + k := by
    have := hw.bound
    have := hr.bound
    omega
  exact ⟨checkWork_ok hw sh _ hr.prev (Nat.le_trans (Nat.le_add_right _ _) hb),
    hr.of_same hr.conns hr.start rfl ((sameAuth_iff _ _).1 hw.auth).1 (fun _ _ h => h) hb⟩

/-- The fields `paired` and `alone` of the relation after an authority run; the second is also what the check
    `aloneAllActive` asks. -/
theorem upd_mode (l : Layout) (hr : RelHalf c ow sh h) (s : Side) (now : Int) :
    let o' := applyVerdict c sh.prev (absVerdict l sh.sees sh.start now ow)
    let sh' := specHalfNext l sh (.upd s now) o'
    (touched c = true → sh'.mode = .paired → o'.paused = !ow) ∧
    (touched c = true → sh'.mode = .alone → o'.paused = false) := by
  cases ht : touched c with
  | false => exact ⟨nofun, nofun⟩
  | true =>
    have hset := applyVerdict_set_paused ht sh.prev
    simp only [specHalfNext]
    cases l with
    | pair =>
      cases hs : sh.sees with
      | true =>
        -- sees the other member: mode `paired`, verdict `.set ow`
        rw [absVerdict_sees]
        exact ⟨fun _ _ => hset ow, fun _ => nofun⟩
      | false =>
        cases hg : inGrace sh.start now with
        | true =>
          -- the mode stays, and so does the object
          rw [absVerdict_cold hg, applyVerdict_keep]
          exact ⟨fun _ => hr.prev ▸ hr.paired ht, fun _ => hr.prev ▸ hr.alone ht⟩
        | false =>
          -- alone after the grace period: mode `alone`, verdict `.set true`
          rw [absVerdict_alone hg]
          exact ⟨fun _ => nofun, fun _ _ => hset true⟩
    | noZone => exact ⟨fun _ => nofun, fun _ _ => hset true⟩
    | single => exact ⟨fun _ => nofun, fun _ _ => hset true⟩

/-- The checks of an authority run: `SetAuthority` and the guard of the loop body take care of all but two. -/
theorem checkUpd_ok (l : Layout) (c : ObjCfg) (sh sh' : SpecHalf) (s : Side) (now : Int) (v : Verdict)
    (h1 : l = .pair → sh.sees = false → inGrace sh.start now = true → applyVerdict c sh.prev v = sh.prev)
    (h2 : touched c = true → sh'.mode = .alone → (applyVerdict c sh.prev v).paused = false) :
    checkOwn l c sh sh' (.upd s now) (applyVerdict c sh.prev v) = none := by
  have e1 : (l == .pair && !sh.sees && inGrace sh.start now && applyVerdict c sh.prev v != sh.prev) = false := by
    cases hl : l == .pair <;> cases hs : sh.sees <;> cases hg : inGrace sh.start now <;> simp
    exact h1 (eq_of_beq hl) hs hg
  have e4 : (!touched c && applyVerdict c sh.prev v != sh.prev) = false := by
    cases ht : touched c <;> simp
    exact applyVerdict_untouched ht _ _
  have e5 : (touched c && sh'.mode == .alone && (applyVerdict c sh.prev v).paused) = false := by
    cases ht : touched c <;> cases hm : sh'.mode == .alone <;> simp
    exact h2 ht (eq_of_beq hm)
  simp [checkOwn, e1, e4, e5, deltaOk_applyVerdict]

/-- `u`: any value of `updated`, of which `RelHalf` says nothing. -/
theorem upd_step (l : Layout) (hr : RelHalf c ow sh h) (s : Side) (now : Int) (u : Bool) :
    let o' := applyVerdict c h.obj (absVerdict l h.sees h.start now ow)
    let sh' := specHalfNext l sh (.upd s now) o'
    checkOwn l c sh sh' (.upd s now) o' = none ∧ RelHalf c ow sh' { h with obj := o', updated := u } := by
  -- the verdict in the quantities of the specification, from which it computes the mode and which its checks look at;
  -- the `h.start` inside `{ h with … }` is rewritten too, so the field `start` below is `rfl` while `conns` needs `hr.conns`
  rw [hr.sees, ← hr.start, ← hr.prev]
  intro o' sh'
  obtain ⟨k2, k3⟩ := upd_mode l hr s now
  have k1 : l = .pair → sh.sees = false → inGrace sh.start now = true → o' = sh.prev := fun hl hs hg => by
    show applyVerdict c sh.prev (absVerdict l sh.sees sh.start now ow) = sh.prev
    rw [hl, hs, absVerdict_cold hg, applyVerdict_keep]
  refine ⟨checkUpd_ok l c sh sh' s now _ k1 k3, hr.conns, rfl, rfl, k2, k3, fun ha hro => ?_, ?_⟩
  · show (applyVerdict c sh.prev _).paused = false
    rw [applyVerdict_untouched (by simp [touched, ha, hro]), hr.prev]
    exact hr.everywhere ha hro
  · show (applyVerdict c sh.prev _).execs + (applyVerdict c sh.prev _).stash ≤ sh.asked
    rw [applyVerdict_execs, applyVerdict_stash, hr.prev]
    exact hr.bound

end half

/-- The mode after `.link` is the old one or forgotten. -/
theorem mode_kept {p : Prop} [Decidable p] {m x : Mode} (hx : x ≠ .unknown) (h : (if p then m else Mode.unknown) = x) :
    m = x := by
  split at h
  · exact h
  · exact absurd h.symm hx

/-- What `checkOwn` asks of `.link` and `.idle`. -/
theorem unchanged_ok {sh : SpecHalf} {o : Obj} (h : sh.prev = o) :
    (if o != sh.prev then some Clause.noSpontaneousChange else none) = none := by
  rw [h, bne_self_eq_false]
  rfl

/-- What `checkOwn` asks of `.boot` and `.create`. -/
theorem fresh_ok (c : ObjCfg) (n : Nat) :
    (if !freshLike c { fresh c with stash := n } then some Clause.freshAfterBoot else none) = none := by
  rw [freshLike_fresh]
  rfl

theorem half_step (l : Layout) (nA nB : Name) (hne : nA ≠ nB) (c : ObjCfg) (s : Side) (e : Ev)
    (sh : SpecHalf) (h : Half) (hr : RelHalf c (own nA nB c.name s) sh h) :
    let h' := stepHalf l nA nB c s h e
    let sh' := specHalfNext l sh e h'.obj
    checkOwn l c sh sh' e h'.obj = none ∧ RelHalf c (own nA nB c.name s) sh' h' := by
  cases e with
  | request _ => exact work_step hr (requestObj_work h.updated c h.obj)
  -- elaborated on its own: against the goal, `asked + 0` is unified with `asked` only after a long search
  | ntimer _ => exact (work_step hr (ntimerObj_work h.updated (l != .noZone) c h.obj) :)
  | due _ =>
    obtain ⟨hc, hr'⟩ := work_step hr (dueObj_work c h.obj)
    refine ⟨?_, hr'⟩
    -- `checkWork` has passed (`hc`); left is `dueCheckRuns`: an active checkable that is not paused runs the due check
    simp only [stepHalf, specHalfNext, checkOwn, hc, hr.prev]
    refine if_neg fun hq => ?_
    simp only [Bool.and_eq_true, beq_iff_eq, Bool.not_eq_true', bne_iff_ne] at hq
    obtain ⟨⟨⟨hk, ha⟩, hp⟩, hexecs⟩ := hq
    exact hexecs (dueObj_runs hk ha hp)
  | fire _ =>
    obtain ⟨f1, f2, f3⟩ := fireObj_keeps c h.obj
    exact ⟨checkFire_ok c sh h.obj hr.prev,
      hr.of_same hr.conns hr.start rfl f1 (fun _ _ h => h) (by
        show (fireObj c h.obj).execs + (fireObj c h.obj).stash ≤ sh.asked
        rw [f2, f3]
        exact hr.bound)⟩
  | create _ =>
    -- `created c` is `fresh c`, that is `{ fresh c with stash := (fresh c).stash }` (structure eta)
    exact ⟨fresh_ok c (fresh c).stash, .of_fresh hr.conns hr.start rfl rfl rfl (Nat.le_of_eq (fresh_stash c))⟩
  | boot _ start keep =>
    refine ⟨fresh_ok c _, .of_fresh rfl rfl rfl rfl rfl ?_⟩
    have := hr.bound
    cases keep
    · exact Nat.le_refl 0
    · show h.obj.stash ≤ sh.asked - sh.prev.execs
      rw [hr.prev]
      omega
  | link _ id up =>
    exact ⟨unchanged_ok hr.prev,
      hr.of_same (by simp only [stepHalf, specHalfNext, hr.conns]) hr.start rfl rfl (fun _ hx h => mode_kept hx h) hr.bound⟩
  | idle _ =>
    exact ⟨unchanged_ok hr.prev, hr.of_same hr.conns hr.start rfl rfl (fun _ _ h => h) hr.bound⟩
  | upd s' now =>
    rw [stepHalf_upd l hne]
    exact upd_step l hr s' now _

/-- The checks of `specStep` that look at both sides, and the `split` it records. -/
theorem joint_ok (nA nB : Name) (hne : nA ≠ nB) (c : ObjCfg) (split : Option Bool)
    (a' b' : SpecHalf) (pa pb : Half)
    (ha : RelHalf c (own nA nB c.name .A) a' pa) (hb : RelHalf c (own nA nB c.name .B) b' pb)
    (hsplit : ∀ x, split = some x → x = own nA nB c.name .A) :
    (if c.active && !c.runOnce && (pa.obj.paused || pb.obj.paused) then some Clause.runEverywhereActive
      else if touched c && a'.mode == .paired && b'.mode == .paired && pa.obj.paused == pb.obj.paused then some Clause.exactlyOne
      else if touched c && a'.mode == .paired && b'.mode == .paired && split.isSome && split != some (!pa.obj.paused) then
        some Clause.sameSplit
      else none) = none ∧
    (∀ x, (if touched c && a'.mode == .paired && b'.mode == .paired && split.isNone then some (!pa.obj.paused) else split) = some x →
      x = own nA nB c.name .A) := by
  have h1 : (c.active && !c.runOnce && (pa.obj.paused || pb.obj.paused)) = false := by
    cases hact : c.active <;> cases hro : c.runOnce <;> simp
    -- left: active and not run-once
    exact ⟨ha.everywhere hact hro, hb.everywhere hact hro⟩
  simp only [h1, Bool.false_eq_true, if_false]
  cases hs : touched c && a'.mode == .paired && b'.mode == .paired with
  | false => exact ⟨by simp, fun x hx => hsplit x (by simpa using hx)⟩
  | true =>
    -- settled: each side is paused iff it is not the owner, and the owner is one of the two
    simp only [Bool.and_eq_true, beq_iff_eq] at hs
    obtain ⟨⟨ht, hma⟩, hmb⟩ := hs
    have hpa : pa.obj.paused = !own nA nB c.name .A := ha.paired ht hma
    have hpb : pb.obj.paused = own nA nB c.name .A := by rw [hb.paired ht hmb, own_xor nA nB c.name hne]
    cases hsp : split with
    | none => simp [hpa, hpb]
    | some y => simp [hpa, hpb, hsplit y hsp]

theorem step_rel (l : Layout) (nA nB : Name) (hne : nA ≠ nB) (c : ObjCfg) (sp : SpecSt) (p : Pair) (e : Ev)
    (hr : Rel nA nB c sp p) :
    (specStep l c sp e (step l nA nB c p e).a.obj (step l nA nB c p e).b.obj).1 = none ∧
    Rel nA nB c (specStep l c sp e (step l nA nB c p e).a.obj (step l nA nB c p e).b.obj).2 (step l nA nB c p e) := by
  cases hs : e.side with
  | A =>
    obtain ⟨hown, hrel⟩ := half_step l nA nB hne c .A e sp.a p.a hr.a
    have hj := joint_ok nA nB hne c sp.split _ sp.b _ p.b hrel hr.b hr.split
    have hob : (p.b.obj != sp.b.prev) = false := by simp [hr.b.prev]
    simp only [specStep, step, hs, hown, hob, Bool.false_eq_true, if_false]
    exact ⟨hj.1, hrel, hr.b, hj.2⟩
  | B =>
    obtain ⟨hown, hrel⟩ := half_step l nA nB hne c .B e sp.b p.b hr.b
    have hj := joint_ok nA nB hne c sp.split sp.a _ p.a _ hr.a hrel hr.split
    have hoa : (p.a.obj != sp.a.prev) = false := by simp [hr.a.prev]
    simp only [specStep, step, hs, hown, hoa, Bool.false_eq_true, if_false]
    exact ⟨hj.1, hr.a, hrel, hj.2⟩

theorem trace_ok (l : Layout) (nA nB : Name) (hne : nA ≠ nB) (c : ObjCfg) (es : List Ev) :
    ∀ (sp : SpecSt) (p : Pair), Rel nA nB c sp p → specTrace l c sp (trace l nA nB c p es) = none := by
  induction es with
  | nil => exact fun _ _ _ => rfl
  | cons e es ih =>
    intro sp p hr
    obtain ⟨h1, h2⟩ := step_rel l nA nB hne c sp p e hr
    simp only [trace, specTrace]
    generalize specStep l c sp e (step l nA nB c p e).a.obj (step l nA nB c p e).b.obj = q at h1 h2
    obtain ⟨r, sp'⟩ := q
    subst h1
    exact ih sp' _ h2

end Icinga.C10
