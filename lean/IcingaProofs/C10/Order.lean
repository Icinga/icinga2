/-
  C10 — the order `std::sort` uses (`nameLt`) is the lexicographic order of `List UInt8`, a linear order, and
  insertion sort is a permutation-invariant normal form for it.
-/
import IcingaModel.C10.Model

namespace Icinga.C10

theorem nameLt_iff (a : Name) : ∀ b : Name, nameLt a b = true ↔ a < b := by
  induction a with
  | nil => intro b; cases b <;> simp [nameLt]
  | cons x xs ih =>
    intro b
    cases b with
    | nil => simp [nameLt]
    | cons y ys =>
      simp only [nameLt, Bool.or_eq_true, Bool.and_eq_true, decide_eq_true_eq, List.cons_lt_cons_iff, ih ys,
        UInt8.lt_iff_toNat_lt, UInt8.toNat_inj]

theorem insertName_perm (x : Name) : ∀ ys : List Name, (insertName x ys).Perm (x :: ys)
  | [] => List.Perm.refl _
  | y :: ys => by
    simp only [insertName]
    split
    · exact ((List.perm_cons y).2 (insertName_perm x ys)).trans (List.Perm.swap x y ys)
    · exact List.Perm.refl _

theorem sortNames_perm : ∀ l : List Name, (sortNames l).Perm l
  | [] => List.Perm.refl _
  | x :: xs => (insertName_perm x (sortNames xs)).trans ((List.perm_cons x).2 (sortNames_perm xs))

theorem insertName_sorted (x : Name) (ys : List Name) (h : ys.Pairwise (· ≤ ·)) : (insertName x ys).Pairwise (· ≤ ·) := by
  induction ys with
  | nil => exact List.pairwise_singleton _ _
  | cons y ys ih =>
    have hy := List.pairwise_cons.1 h
    simp only [insertName]
    split
    · rename_i hlt
      refine List.pairwise_cons.2 ⟨fun z hz => ?_, ih hy.2⟩
      rcases List.mem_cons.1 ((insertName_perm x ys).mem_iff.1 hz) with rfl | hz
      · exact List.le_of_lt ((nameLt_iff y z).1 hlt)
      · exact hy.1 z hz
    · rename_i hnlt
      have hxy : x ≤ y := List.not_lt.1 fun hlt => hnlt ((nameLt_iff y x).2 hlt)
      refine List.pairwise_cons.2 ⟨fun z hz => ?_, h⟩
      rcases List.mem_cons.1 hz with rfl | hz
      · exact hxy
      · exact List.le_trans hxy (hy.1 z hz)

theorem sortNames_sorted : ∀ l : List Name, (sortNames l).Pairwise (· ≤ ·)
  | [] => List.Pairwise.nil
  | x :: xs => insertName_sorted x _ (sortNames_sorted xs)

theorem sortNames_congr {l₁ l₂ : List Name} (h : l₁.Perm l₂) : sortNames l₁ = sortNames l₂ :=
  List.Perm.eq_of_pairwise (fun _ _ _ _ => List.le_antisymm) (sortNames_sorted l₁) (sortNames_sorted l₂)
    ((sortNames_perm l₁).trans (h.trans (sortNames_perm l₂).symm))

end Icinga.C10
