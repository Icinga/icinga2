/-
  C10 — what each event does to one object: `SetAuthority`, a verdict applied to it, a fresh object, and the work events
  with `Work`, what the specification allows them to do; two settled members doing a piece of work once (`one_of_two`); the
  node-level events as these functions applied position by position.
-/
import IcingaModel.C10.Spec

namespace Icinga.C10

theorem setAuthority_eq (o : Obj) (b : Bool) :
    setAuthority o b = { o with paused := !b, resumes := o.resumes + (if b && o.paused then 1 else 0),
                                pauses := o.pauses + (if !b && !o.paused then 1 else 0) } := by
  rcases o with ⟨_ | _, _, _, _, _, _⟩ <;> cases b <;> rfl

theorem setAuthority_paused (o : Obj) (b : Bool) : (setAuthority o b).paused = !b := by
  rw [setAuthority_eq]

theorem deltaOk_refl (o : Obj) : deltaOk o o = true := by simp [deltaOk]

theorem deltaOk_setAuthority (o : Obj) (b : Bool) : deltaOk o (setAuthority o b) = true := by
  rcases o with ⟨_ | _, _, _, _, _, _⟩ <;> cases b <;> simp [setAuthority, deltaOk]

theorem applyVerdict_set {c : ObjCfg} (ht : touched c = true) (o : Obj) (b : Bool) :
    applyVerdict c o (.set b) = setAuthority o b := by
  simp [applyVerdict, ht]

theorem applyVerdict_set_paused {c : ObjCfg} (ht : touched c = true) (o : Obj) (b : Bool) :
    (applyVerdict c o (.set b)).paused = !b := by
  rw [applyVerdict_set ht, setAuthority_paused]

theorem applyVerdict_keep (c : ObjCfg) (o : Obj) : applyVerdict c o .keep = o := by
  simp [applyVerdict]

theorem applyVerdict_untouched {c : ObjCfg} (ht : touched c = false) (o : Obj) (v : Verdict) : applyVerdict c o v = o := by
  simp [applyVerdict, ht]

theorem applyVerdict_cases (c : ObjCfg) (o : Obj) (v : Verdict) :
    applyVerdict c o v = o ∨ ∃ b, applyVerdict c o v = setAuthority o b := by
  unfold applyVerdict
  split
  · split
    · exact .inr ⟨_, rfl⟩
    · exact .inl rfl
  · exact .inl rfl

@[simp] theorem applyVerdict_reqs (c : ObjCfg) (o : Obj) (v : Verdict) : (applyVerdict c o v).reqs = o.reqs := by
  rcases applyVerdict_cases c o v with h | ⟨b, h⟩ <;> rw [h]
  rw [setAuthority_eq]

@[simp] theorem applyVerdict_execs (c : ObjCfg) (o : Obj) (v : Verdict) : (applyVerdict c o v).execs = o.execs := by
  rcases applyVerdict_cases c o v with h | ⟨b, h⟩ <;> rw [h]
  rw [setAuthority_eq]

@[simp] theorem applyVerdict_stash (c : ObjCfg) (o : Obj) (v : Verdict) : (applyVerdict c o v).stash = o.stash := by
  rcases applyVerdict_cases c o v with h | ⟨b, h⟩ <;> rw [h]
  rw [setAuthority_eq]

theorem deltaOk_applyVerdict (c : ObjCfg) (o : Obj) (v : Verdict) : deltaOk o (applyVerdict c o v) = true := by
  rcases applyVerdict_cases c o v with h | ⟨b, h⟩ <;> rw [h]
  · exact deltaOk_refl o
  · exact deltaOk_setAuthority o b

theorem fresh_touched {c : ObjCfg} (ht : touched c = true) : fresh c = { paused := true, pauses := 0, resumes := 0 } := by
  simp only [touched, Bool.and_eq_true] at ht
  simp [fresh, ht.2]

theorem fresh_everywhere {c : ObjCfg} (ha : c.active = true) (hr : c.runOnce = false) :
    fresh c = { paused := false, pauses := 0, resumes := 1 } := by
  simp [fresh, ha, hr, setAuthority]

@[simp] theorem fresh_execs (c : ObjCfg) : (fresh c).execs = 0 := by
  unfold fresh
  split <;> rfl

@[simp] theorem fresh_stash (c : ObjCfg) : (fresh c).stash = 0 := by
  unfold fresh
  split <;> rfl

@[simp] theorem fresh_reqs (c : ObjCfg) : (fresh c).reqs = 0 := by
  unfold fresh
  split <;> rfl

/-- A restarted object is a fresh one up to the stash, which `freshLike` does not look at (a runtime-created one is `fresh c`
    itself). -/
theorem freshLike_fresh (c : ObjCfg) (n : Nat) : freshLike c { fresh c with stash := n } = true := by
  simp [freshLike]

theorem sameAuth_iff (prev o : Obj) :
    sameAuth prev o = true ↔ o.paused = prev.paused ∧ o.pauses = prev.pauses ∧ o.resumes = prev.resumes := by
  simp [sameAuth, and_assoc]

/-- What the specification allows a work event to do to an object, `k` more being asked of it; `silent`: the event is one
    that a paused node must not execute. -/
structure Work (silent : Bool) (k : Nat) (c : ObjCfg) (o o' : Obj) : Prop where
  auth : sameAuth o o' = true
  mono : o.execs ≤ o'.execs
  bound : o'.execs + o'.stash ≤ o.execs + o.stash + k
  quiet : silent = true → o.paused = true → o'.execs = o.execs
  other : c.kind = .other → o' = o
  reqs : o'.reqs = o.reqs

namespace Work

theorem refl (silent : Bool) (k : Nat) (c : ObjCfg) (o : Obj) : Work silent k c o o :=
  ⟨(sameAuth_iff o o).2 ⟨rfl, rfl, rfl⟩, Nat.le_refl _, Nat.le_add_right _ _, fun _ _ => rfl, fun _ => rfl, rfl⟩

theorem counters {silent : Bool} {k : Nat} {c : ObjCfg} {o : Obj} {e n : Nat} (hk : c.kind ≠ .other) (he : o.execs ≤ e)
    (hb : e + n ≤ o.execs + o.stash + k) (hs : silent = true → o.paused = true → e = o.execs) :
    Work silent k c o { o with execs := e, stash := n } :=
  ⟨(sameAuth_iff _ _).2 ⟨rfl, rfl, rfl⟩, he, hb, hs, fun h => absurd h hk, rfl⟩

theorem ite {silent : Bool} {k : Nat} {c : ObjCfg} {o a b : Obj} {p : Prop} [Decidable p]
    (ha : p → Work silent k c o a) (hb : ¬p → Work silent k c o b) : Work silent k c o (if p then a else b) := by
  split
  · exact ha ‹_›
  · exact hb ‹_›

end Work

theorem checkWork_ok {silent : Bool} {k : Nat} {c : ObjCfg} {o o' : Obj} (hw : Work silent k c o o') (sh sh' : SpecHalf)
    (hprev : sh.prev = o) (hb : o'.execs ≤ sh'.asked) : checkWork c sh sh' silent o' = none := by
  have e1 : ¬(!sameAuth o o') = true := by rw [hw.auth]; decide
  have e2 : ¬(silent && o.paused && (o'.execs != o.execs)) = true := fun h => by
    simp only [Bool.and_eq_true, bne_iff_ne] at h
    exact h.2 (hw.quiet h.1.1 h.1.2)
  have e3 : ¬(decide (o'.execs < o.execs) || decide (o'.execs > sh'.asked)) = true := by
    have := hw.mono
    simp only [Bool.or_eq_true, decide_eq_true_eq]
    omega
  have e4 : ¬(c.kind == .other && (o'.execs != o.execs)) = true := fun h => by
    simp only [Bool.and_eq_true, beq_iff_eq, bne_iff_ne] at h
    exact h.2 (congrArg Obj.execs (hw.other h.1))
  have e5 : ¬(o'.reqs != o.reqs) = true := by rw [hw.reqs, bne_self_eq_false]; decide
  rw [checkWork, hprev, if_neg e1, if_neg e2, if_neg e3, if_neg e4, if_neg e5]

theorem requestObj_work (u : Bool) (c : ObjCfg) (o : Obj) : Work true 1 c o (requestObj u c o) :=
  .ite (fun _ => .refl ..) fun hk =>
    have hk : c.kind ≠ .other := fun h => by simp [h] at hk
    .ite (fun _ => .counters hk (Nat.le_refl _) (Nat.le_refl _) fun _ _ => rfl) fun _ =>
    .ite (fun _ => .refl ..) fun hp =>
    .ite (fun _ => .counters hk (Nat.le_refl _) (Nat.le_refl _) fun _ _ => rfl) fun _ =>
    .counters hk (Nat.le_succ _) (Nat.le_of_eq (Nat.add_right_comm ..)) fun _ h => absurd h hp

theorem requestObj_sends {c : ObjCfg} {o : Obj} (hk : c.kind = .notification) (hs : o.stash = 0) (hp : o.paused = false) :
    (requestObj true c o).execs = o.execs + 1 := by
  simp [requestObj, hk, hp, hs]

theorem ntimerObj_work (u ep : Bool) (c : ObjCfg) (o : Obj) : Work ep 0 c o (ntimerObj u ep c o) := by
  refine .ite (fun _ => .refl ..) fun hk => ?_
  have hk : c.kind ≠ .other := fun h => by simp [h] at hk
  -- in the branches that send, `¬(o.paused && ep)`, the premises of `quiet` cannot both hold
  have hs : ∀ e : Nat, ¬(o.paused && ep) = true → ep = true → o.paused = true → e = o.execs :=
    fun _ h hs hp => absurd (by rw [hp, hs]; rfl) h
  by_cases hu : (o.paused && u) = true
  · rw [if_pos hu]
    exact .ite (fun _ => .counters hk (Nat.le_refl _) (Nat.le_add_right o.execs o.stash) fun _ _ => rfl) fun h =>
      .counters hk (Nat.le_add_right _ _) (Nat.le_add_right o.execs o.stash) (hs _ h)
  · rw [if_neg hu]
    exact .ite (fun _ => .refl ..) fun h => .counters hk (Nat.le_add_right _ _) (Nat.le_refl _) (hs _ h)

theorem dueObj_work (c : ObjCfg) (o : Obj) : Work true 1 c o (dueObj c o) :=
  .ite (fun h => by
      simp only [Bool.and_eq_true, beq_iff_eq, Bool.not_eq_true'] at h
      exact .counters (fun hk => by simp [hk] at h) (Nat.le_succ _) (Nat.le_of_eq (Nat.add_right_comm ..))
        (fun _ hp => by simp [hp] at h))
    fun _ => .refl ..

theorem dueObj_runs {c : ObjCfg} {o : Obj} (hk : c.kind = .checkable) (ha : c.active = true) (hp : o.paused = false) :
    (dueObj c o).execs = o.execs + 1 := by
  simp [dueObj, hk, ha, hp]

theorem fireObj_keeps (c : ObjCfg) (o : Obj) :
    (fireObj c o).paused = o.paused ∧ (fireObj c o).execs = o.execs ∧ (fireObj c o).stash = o.stash := by
  unfold fireObj
  split <;> exact ⟨rfl, rfl, rfl⟩

theorem fireObj_paused (c : ObjCfg) {o : Obj} (hp : o.paused = true) : fireObj c o = o := by
  simp [fireObj, hp]

theorem fireObj_fires {c : ObjCfg} {o : Obj} (hk : c.kind = .checkable) (ha : c.active = true) (hp : o.paused = false) :
    (fireObj c o).reqs = o.reqs + 1 := by
  simp [fireObj, hk, ha, hp]

theorem checkFire_ok (c : ObjCfg) (sh : SpecHalf) (o : Obj) (hprev : sh.prev = o) : checkFire c sh (fireObj c o) = none := by
  unfold checkFire fireObj
  rw [hprev]
  cases hp : o.paused <;> cases hka : (c.kind == .checkable && c.active) <;> simp [sameAuth, hp]

/-- `g` is a piece of work, `f` the counter that records it. -/
theorem one_of_two {f : Obj → Nat} {g : Obj → Obj} {a b : Obj} (hab : a.paused = !b.paused)
    (hsa : a.paused = true → f (g a) = f a) (hsb : b.paused = true → f (g b) = f b)
    (hda : a.paused = false → f (g a) = f a + 1) (hdb : b.paused = false → f (g b) = f b + 1) :
    f (g a) + f (g b) = f a + f b + 1 := by
  cases hb : b.paused with
  | true => rw [hsb hb, hda (by rw [hab, hb]; rfl), Nat.add_right_comm]
  | false => rw [hsa (by rw [hab, hb]; rfl), hdb hb, Nat.add_assoc]

theorem atList_getElem (f : ObjCfg → Obj → Obj) (i : Nat) (cfgs : List ObjCfg) :
    ∀ (k : Nat) {objs : List Obj} {j : Nat} {c : ObjCfg} {o : Obj}, cfgs[j]? = some c → objs[j]? = some o →
      (atList f i k cfgs objs)[j]? = some (if j + k == i then f c o else o) := by
  induction cfgs with
  | nil => exact fun _ _ _ _ _ hc => nomatch hc
  | cons c0 cs ih =>
    intro k objs j c o hc ho
    cases objs with
    | nil => nomatch ho
    | cons o0 os =>
      cases j with
      | zero =>
        cases hc
        cases ho
        rw [Nat.zero_add]
        rfl
      | succ j =>
        rw [Nat.add_right_comm j 1 k]
        exact ih (k + 1) hc ho

theorem Node.update_getElem? (cfgs : List ObjCfg) (n : Node) (now : Int) (i : Nat) :
    (n.update cfgs now).objs[i]? = cfgs[i]?.bind fun c => n.objs[i]?.map fun o =>
      applyVerdict c o (authority n.zone n.self (connectedTo n.clients) n.start now c.name) := by
  simp only [Node.update, List.getElem?_zipWith]
  cases cfgs[i]? <;> cases n.objs[i]? <;> rfl

end Icinga.C10
