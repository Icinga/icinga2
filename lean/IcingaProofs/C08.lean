/-
  C08 — property theorems: the interval algebra of lib/icinga/timeperiod.cpp, the calendar of
  lib/icinga/legacytimeperiod.cpp and the name tables.  Every `theorem` in this file is a proof obligation of the
  check (`./check C08` lists them and runs `#print axioms` on each).
-/
import IcingaProofs.C08.Update
import IcingaProofs.C08.CalArith
import IcingaProofs.C08.Nested
import IcingaProofs.C08.CalCore
import IcingaProofs.C08.Tick
import IcingaProofs.C08.World
import IcingaProofs.Gen.C08Tables
import IcingaModel.C08.CalSpec

namespace Icinga.C08

/-- "Overlapping or adjacent ranges behave as their union", for *every* stored list (overlapping, unsorted,
    degenerate) and every `b`, `e`. -/
theorem addSeg_union (S : List Seg) (b e t : Int) :
    inside (addSeg S b e) t = true ↔ inside S t = true ∨ (b ≤ t ∧ t < e) := by
  rw [inside_addSeg]
  simp only [Bool.or_eq_true, Bool.and_eq_true, decide_eq_true_eq]

example : inside (addSeg [(0, 2), (5, 9), (1, 6)] 2 5) 3 = true := by decide +kernel
example : (addSeg [(0, 2), (5, 9)] 2 5) = [(0, 5), (5, 9)] := by decide +kernel   -- first match only: two touching segments stay

/-- The covered set does not depend on the insertion order. -/
theorem addSeg_comm (S : List Seg) (a b c d t : Int) :
    inside (addSeg (addSeg S a b) c d) t = inside (addSeg (addSeg S c d) a b) t := by
  rw [inside_addSeg, inside_addSeg, inside_addSeg, inside_addSeg, Bool.or_right_comm]

/-- The driver compares `canon` of the implementation's and of the model's segment list; hence whenever it reports
    no difference the two lists cover the same instants (`canon_eq_same_denotation`), while a merely differently
    split list is not a difference. -/
theorem canon_preserves_inside (S : List Seg) (t : Int) : inside (canon S) t = inside S t := by
  unfold canon
  have hs := inside_sortSegs (S.filter (fun s => decide (s.1 < s.2))) t
  rw [inside_filter _ S t fun _ h1 h2 => decide_eq_true (Int.lt_of_le_of_lt h1 h2)] at hs
  split
  · next h => rwa [h] at hs
  · next s rest h =>
    rw [h] at hs
    rw [← hs, Bool.eq_iff_iff, inside_mergeRun, inside_cons]

theorem canon_eq_same_denotation (A B : List Seg) (h : canon A = canon B) (t : Int) :
    inside A t = inside B t := by
  rw [← canon_preserves_inside A, ← canon_preserves_inside B, h]

example : canon [(5, 9), (3, 3), (0, 5), (20, 22), (8, 12), (7, 4)] = [(0, 12), (20, 22)] := by decide +kernel
/-- touching segments kept apart (what a non-merging AddSegment would store) have the same canonical form -/
example : canon [(0, 5), (5, 9)] = canon [(0, 9)] := by decide +kernel
/-- a list whose union differs is told apart -/
example : canon [(0, 5), (6, 9)] ≠ canon [(0, 9)] := by decide +kernel

/-- "An exclusion removes exactly the excluded interval even when it shares its begin or end with a range."
    `hbe` and `hwf` are not used: the equation is `inside_removeSeg`, for every list and every `b`, `e`.
    The model follows the comparisons as repaired for F-C08a (commit 9b846ed): the strict comparisons at
    timeperiod.cpp:153/156 had left 09:00–17:00 minus 09:00–10:00 untouched. -/
theorem removeSeg_diff (S : List Seg) (b e t : Int) (hbe : b ≤ e) (hwf : ∀ s ∈ S, s.1 < s.2) :
    inside (removeSeg S b e) t = true ↔ inside S t = true ∧ ¬ (b ≤ t ∧ t < e) := by
  rw [inside_removeSeg, Bool.and_eq_true, decide_not_in]

example : removeSeg [(900, 1700), (100, 200)] 1000 1100 = [(900, 1000), (1100, 1700), (100, 200)] := by decide +kernel
/-- the former F-C08a witnesses: shared begin, shared end -/
example : removeSeg [(900, 1700)] 900 1000 = [(1000, 1700)] ∧ removeSeg [(900, 1700)] 1600 1700 = [(900, 1600)] := by decide +kernel

/-- The two halves of `removeSeg_diff` that also held before the repair of F-C08a. -/
theorem removeSeg_sound (S : List Seg) (b e t : Int) (hbe : b ≤ e) (hwf : ∀ s ∈ S, s.1 < s.2) :
    (inside (removeSeg S b e) t = true → inside S t = true) ∧
    (inside S t = true → ¬ (b ≤ t ∧ t < e) → inside (removeSeg S b e) t = true) :=
  have h := removeSeg_diff S b e t hbe hwf
  ⟨fun x => (h.mp x).1, fun x y => h.mpr ⟨x, y⟩⟩

/-- The model's observation of one `UpdateRegion` call satisfies the executable specification: the reported
    window contains the refreshed region; outside the window every instant is "inside"; inside the window an
    instant is inside iff `(own ∪ includes) \ excludes` (`prefer_includes = false`) resp.
    `(own \ excludes) ∪ includes` (`prefer_includes = true`), where for a non-clearing update the previously stored
    segments outside the refreshed region count as own.  None of the hypotheses is used: the conclusion is
    `specUpdate_observe`, which has none (RemoveSegment is exact on every list, `inside_removeSeg`). -/
theorem updateRegion_spec (p : Period) (u : UpdIn) (b e : Int) (clear : Bool) (ts : List Int)
    (hbe : b ≤ e)
    (hS : clear = false → ∀ s ∈ p.segs, s.1 < s.2) (hown : ∀ s ∈ u.own, s.1 < s.2)
    (hinc : ∀ L ∈ u.incs, ∀ s ∈ L, s.1 < s.2) (hexc : ∀ L ∈ u.excs, ∀ s ∈ L, s.1 < s.2) :
    specUpdate (observe p u b e clear ts) = none :=
  specUpdate_observe p u b e clear ts

/-- Non-vacuity: a clearing update with an include, `prefer_includes = false` and excludes that share
    boundaries with the ranges (10–14 its begin with 10–20, 35–40 its end with 30–40). -/
example :
    let u : UpdIn := { prefer := false, own := [(10, 20), (30, 40)], incs := [[(18, 32)]], excs := [[(10, 14), (35, 40)]] }
    (observe {} u 0 100 true [9, 10, 13, 14, 25, 34, 36, 40, 101]).queries =
      [(9, false), (10, false), (13, false), (14, true), (25, true), (34, true), (36, false), (40, false), (101, true)] := by decide +kernel

/-- The former F-C08a witness at the level of the whole property now meets the specification. -/
example :
    specUpdate (observe {} { prefer := false, own := [(900, 1700)], incs := [], excs := [[(900, 1000)]] }
      0 2400 true [899, 900, 950, 1000]) = none := by decide +kernel

/-- The spec rejects a wrong trace (an instant reported outside although it lies in an included
    period). -/
example :
    specUpdate { prefer := true, clear := true, b := 0, e := 100, own := [(10, 20)], incs := [[(30, 40)]], excs := [],
                 preSegs := [], preVe := none, vb := some 0, ve := some 100, postSegs := [(10, 20), (30, 40)],
                 queries := [(35, false)] } = some .insideFormula := by decide +kernel

/-- The documented default: without a computed window, or outside it
    (both bounds inclusive), `IsInside` answers `true` whatever the segments are. -/
theorem outside_window_inside (p : Period) (t : Int)
    (h : p.vb = none ∨ p.ve = none ∨ (∃ vb, p.vb = some vb ∧ t < vb) ∨ (∃ ve, p.ve = some ve ∧ ve < t)) :
    p.isInside t = true := by
  refine (isInside_iff p t).mpr (Or.inl ?_)
  rintro ⟨vb, ve, h1, h2, h3, h4⟩
  rcases h with h | h | ⟨x, h, hl⟩ | ⟨x, h, hl⟩
  · cases h.symm.trans h1
  · cases h.symm.trans h2
  · cases h.symm.trans h1; omega
  · cases h.symm.trans h2; omega

example : ({ segs := [], vb := some 10, ve := some 20 } : Period).isInside 21 = true ∧
          ({ segs := [], vb := some 10, ve := some 20 } : Period).isInside 20 = false := by decide +kernel

/-- A clearing `UpdateRegion` is always effective, so the formula applies to every instant of the requested
    region.  (Non-clearing, from the effective begin on: `updateRegion_covers`.) -/
theorem updateRegion_window (p : Period) (u : UpdIn) (b e : Int) :
    ∃ vb ve, (p.updateRegion u b e true).vb = some vb ∧ (p.updateRegion u b e true).ve = some ve ∧
      vb ≤ b ∧ e ≤ ve :=
  updateRegion_covers p u b e true rfl

/-- The content of `updateRegion_spec` at one instant of the window, as an equation.  Of the hypotheses only
    `hnoop` and the window are used (`updateRegion_inside`, `isInside_in_window`). -/
theorem inside_window_formula (p : Period) (u : UpdIn) (b e : Int) (clear : Bool) (t : Int)
    (hbe : b ≤ e)
    (hS : clear = false → ∀ s ∈ p.segs, s.1 < s.2) (hown : ∀ s ∈ u.own, s.1 < s.2)
    (hinc : ∀ L ∈ u.incs, ∀ s ∈ L, s.1 < s.2) (hexc : ∀ L ∈ u.excs, ∀ s ∈ L, s.1 < s.2)
    (hnoop : (observe p u b e clear [t]).noop = false)
    (vb ve : Int) (hvb : (p.updateRegion u b e clear).vb = some vb) (hve : (p.updateRegion u b e clear).ve = some ve)
    (h1 : vb ≤ t) (h2 : t ≤ ve) :
    (p.updateRegion u b e clear).isInside t = expectInside (observe p u b e clear [t]) t := by
  rw [isInside_in_window hvb hve h1 h2]
  exact (updateRegion_inside p u b e clear t ((observe_noop p u b e clear [t]).symm.trans hnoop)).trans
    (expectInside_eq (observe p u b e clear [t]) t).symm

/-- `TimePeriod::Start` (clearing pre-fill of `[now, now + 24 h]`): the observation
    satisfies the update specification, for every previous state, inputs and clock value. -/
theorem start_spec (p : Period) (u : UpdIn) (now : Int) (ts : List Int)
    (hown : ∀ s ∈ u.own, s.1 < s.2)
    (hinc : ∀ L ∈ u.incs, ∀ s ∈ L, s.1 < s.2) (hexc : ∀ L ∈ u.excs, ∀ s ∈ L, s.1 < s.2) :
    (p.start u now) = p.updateRegion u now (now + 86400) true ∧
    specUpdate (observe p u now (now + 86400) true ts) = none :=
  ⟨start_eq p u now, updateRegion_spec p u now (now + 86400) true ts (by omega) (by intro h; cases h) hown hinc hexc⟩

/-- `PurgeSegments(c)` changes no answer from the cut-off on, although the window's begin moves forward and whole
    segments are dropped.  (Before the cut-off the answers become "inside": outside the window.) -/
theorem purge_keeps_future (p : Period) (c t : Int) (ht : c ≤ t) :
    (p.purge c).isInside t = p.isInside t := by
  rw [Bool.eq_iff_iff, isInside_iff, isInside_iff, covers_purge_iff p c t t ht, purge_inside p c t ht]

/-- the purged period differs before the cut-off: 8 was outside; purging at 18 drops 09–17 and moves
    the window's begin to 18, so 8 lies outside the window (hence "inside"); 19 keeps its answer -/
example :
    let p : Period := { segs := [(9, 17), (20, 30)], vb := some 0, ve := some 40 }
    (p.purge 18).segs = [(20, 30)] ∧ (p.purge 18).vb = some 18 ∧ p.isInside 8 = false ∧
      (p.purge 18).isInside 8 = true ∧ (p.purge 18).isInside 19 = false := by decide +kernel

/-- One run of `UpdateTimerHandler` on one period — `PurgeSegments(now − 1 h)` followed by the non-clearing
    `UpdateRegion(valid_end, now + 24 h)`: the window afterwards reaches from at most `now` (or the old begin, if
    later) to at least `now + 24 h`; every instant from the cut-off on is "inside" outside the window and follows
    the property's formula inside it, where the segments stored BEFORE the run count as own outside the refreshed
    region `[old valid_end, now + 24 h)`; and a run that has nothing to refresh changes no answer.
    None of the hypotheses is used: the conclusion is `specTick_observeTick`, which has none. -/
theorem timerTick_spec (p : Period) (u : UpdIn) (now : Int) (ts : List Int)
    (hS : ∀ s ∈ p.segs, s.1 < s.2) (hown : ∀ s ∈ u.own, s.1 < s.2)
    (hinc : ∀ L ∈ u.incs, ∀ s ∈ L, s.1 < s.2) (hexc : ∀ L ∈ u.excs, ∀ s ∈ L, s.1 < s.2) :
    specTick (observeTick p u now ts) = none :=
  specTick_observeTick p u now ts

/-- Non-vacuity: the period was filled for [100000, 186400] with 09–17-like ranges; the timer runs at
    105000 (cut-off 101400): the segment that ended at 101000 is dropped, the window is extended to
    191400 with a new own segment, an excluded period cuts it. -/
example :
    let p : Period := { segs := [(100500, 101000), (120000, 150000)], vb := some 100000, ve := some 186400 }
    let u : UpdIn := { prefer := true, own := [(186400, 190000)], incs := [], excs := [[(188000, 189000)]] }
    (p.tick u 105000).segs = [(120000, 150000), (186400, 188000), (189000, 190000)] ∧
    (p.tick u 105000).vb = some 101400 ∧ (p.tick u 105000).ve = some 191400 ∧
    (observeTick p u 105000 [100600, 101400, 130000, 187000, 188500, 191401]).upd.queries =
      [(100600, true), (101400, false), (130000, true), (187000, true), (188500, false), (191401, true)] := by decide +kernel

/-- The tick spec rejects a wrong trace: the running segment 120000–150000 was dropped by the purge
    (what `end >= cutoff` ⇒ `begin >= cutoff` would do) and the period flipped to "outside". -/
example :
    specTick { upd := { prefer := true, clear := false, b := 186400, e := 191400, own := [], incs := [], excs := [],
                        preSegs := [(120000, 150000)], preVe := some 186400, vb := some 130000, ve := some 191400,
                        postSegs := [], queries := [(140000, false)] },
               cutoff := 130000, now := 133600, preVb := some 100000 } = some .tickInside := by decide +kernel

/-- Whenever `UpdateRegion` refreshes a region, the update function (the calendar layer) is invoked with a region
    that covers it (`specAsk`), so no instant of the refreshed region is answered without its ranges having been
    evaluated. -/
theorem update_asks_refreshed_region (p : Period) (u : UpdIn) (b e : Int) (clear : Bool) (ts : List Int) :
    specAsk (observe p u b e clear ts) (p.asked b e clear) = none :=
  specAsk_asked (observe p u b e clear ts) p rfl

/-- The same for the non-clearing update of a timer run (after the purge). -/
theorem tick_asks_refreshed_region (p : Period) (u : UpdIn) (now : Int) (ts : List Int) :
    specAsk (observeTick p u now ts).upd ((p.purge (now - 3600)).asked (numOf (p.purge (now - 3600)).ve) (now + 86400) false) = none := by
  rw [purge_ve]
  exact specAsk_asked (observeTick p u now ts).upd _ (purge_ve p _).symm

/-- The clause rejects a call that refreshed [50, 100] (old valid_end 50) but had the ranges computed for [60, 100] only. -/
example : specAsk (observe { segs := [], vb := some 0, ve := some 50 } { prefer := true, own := [], incs := [], excs := [] } 10 100 false [])
    (some (60, 100)) = some .ownComputed := by decide +kernel

/-! ## Agreement with the referenced periods themselves (F-C08c)

  Full statement the property asks for (NOT true of the code, see `start_order_counterexample`):

      at every instant in the window of a period and of the periods it refers to, its answer
      follows the formula with the referenced periods' own current answers
      (`specRefs … = none` with `incNow`/`excNow` = `IsInside(t)` of the referenced periods now).

  `Merge` works on the segments the referenced period has materialised at that moment.  A
  period that is started (or extended by the timer) BEFORE a period it refers to merges
  nothing for the region concerned and keeps ignoring the include / exclude there until its own
  next effective update — which, when its own segments reach further than a day ahead
  (ScriptFunc returns whole days), is up to a day away. -/

/-- Sufficient extra hypothesis: the referenced periods answer now, at `t`, what
    their merged segment lists said (`hi`, `hx`) — i.e. they had been computed for `t` before this
    period merged them and have not changed since.  Then, for every effective update, the answer
    agrees with the referenced periods themselves. -/
theorem refs_agree_partial (p : Period) (u : UpdIn) (b e : Int) (clear : Bool) (t : Int)
    (incNow excNow : List Bool)
    (hbe : b ≤ e)
    (hS : clear = false → ∀ s ∈ p.segs, s.1 < s.2) (hown : ∀ s ∈ u.own, s.1 < s.2)
    (hinc : ∀ L ∈ u.incs, ∀ s ∈ L, s.1 < s.2) (hexc : ∀ L ∈ u.excs, ∀ s ∈ L, s.1 < s.2)
    (hnoop : (observe p u b e clear [t]).noop = false)
    (hi : incNow.any id = u.incs.any (fun L => inside L t))
    (hx : excNow.any id = u.excs.any (fun L => inside L t)) :
    specRefs (observe p u b e clear [t]) incNow excNow (t, (p.updateRegion u b e clear).isInside t) = none := by
  unfold specRefs
  split
  · next vb ve hvb hve =>   -- the observation's window is that of `updateRegion`
    split
    · rfl   -- `t` outside the window
    · next hout =>
      -- remains: the answer is the formula with references
      rw [hi, hx, if_pos]
      exact (inside_window_formula p u b e clear t hbe hS hown hinc hexc hnoop vb ve hvb hve (by omega) (by omega)).trans
        (expectWithRefs_eq (observe p u b e clear [t]) t hnoop).symm
  · rfl   -- no window set

/-- The period P (own 0–200000, excludes B, B = 100–200) is started
    before B: B has no segments yet, P merges nothing.  Afterwards both windows contain 150, B
    answers "inside", P answers "inside" as well although 150 lies in its excluded period — and the
    next timer run has nothing to refresh (P's own segment reaches beyond now + 24 h), so it stays. -/
theorem start_order_counterexample :
    let uB : UpdIn := { prefer := true, own := [(100, 200)], incs := [], excs := [] }
    let uP0 : UpdIn := { prefer := true, own := [(0, 200000)], incs := [], excs := [[]] }       -- B not started yet: nothing to merge
    let P1 := ({} : Period).start uP0 0
    let B1 := ({} : Period).start uB 0
    let uP1 : UpdIn := { prefer := true, own := [], incs := [], excs := [B1.segs] }
    P1.isInside 150 = true ∧ B1.isInside 150 = true ∧
    specRefs (observe {} uP0 0 86400 true []) [] [B1.isInside 150] (150, P1.isInside 150) = some .refsAgree ∧
    -- and the timer does not repair it while the period's own segments reach further than a day ahead
    (P1.tick uP1 300).isInside 150 = true := by decide +kernel

/-- For every include/exclude forest of any depth, evaluated leaves first (`PTree.evalP`), `IsInside` at every
    instant of the region is the property's recursive meaning `PTree.sem`.  The order is part of the statement:
    `UpdateRegion` itself updates no referenced period, and in another order the answer differs
    (`start_order_counterexample`).
    `hbe` and `hwf` are not used: inside the window the equation is `evalP_sem`, for every forest and region. -/
theorem nested_forest_spec (T : PTree) (b e t : Int) (hbe : b ≤ e) (hwf : T.WF) (hb : b ≤ t) (he : t ≤ e) :
    (T.evalP b e).isInside t = T.sem t := by
  rw [isInside_of_covers (evalP_covers b e T) hb he]
  exact evalP_sem b e t T

/-- depth 3: 0–10 minus (2–8 minus 4–6) -/
example :
    let T := PTree.node false [(0, 10)] [] [PTree.node true [(2, 8)] [] [PTree.node true [(4, 6)] [] []]]
    (T.evalP 0 20).segs = [(0, 2), (4, 6), (8, 10)] ∧ T.sem 5 = true ∧ T.sem 3 = false := by decide +kernel

/-- The second half is `update_obs_ok`, which uses neither the invariant nor `hbe`; the first half does not use
    `hbe` either. -/
theorem update_step_ok (ts : List Int) (W : World) (hW : W.WF) (id : Nat) (b e : Int) (clear : Bool) (own : List Seg)
    (hbe : b ≤ e) (hown : SegsWF own) :
    (W.update ts id b e clear own).1.WF ∧ ∀ o ∈ (W.update ts id b e clear own).2, specStep o = none := by
  refine ⟨?_, update_obs_ok ts W id b e clear own⟩
  fun_cases World.update ts W id b e clear own
  · exact hW
  · next en hf u =>
    exact World.set_st_wf W hW id _ fun q hq => updateRegion_wf q u b e clear hq hown (W.segsOf_wf hW en.cfg.incs)

theorem set_active_wf (W : World) (hW : W.WF) (id : Nat) :
    (W.set id fun x => { x with active := true }).WF :=
  World.set_wf W hW id _ (fun en hen => hW en hen)

/-- The loop of `UpdateTimerHandler`, for every iteration order (duplicates, unknown and inactive
    ids included): every period's turn meets the tick specification against the world as it is at that turn. -/
theorem tickLoop_ok (ts : List Int) (now : Int) (owns : List (Nat × List Seg)) (ho : ∀ kv ∈ owns, SegsWF kv.2) :
    ∀ (order : List Nat) (W : World), W.WF →
      (World.tickLoop ts now owns W order).1.WF ∧ ∀ o ∈ (World.tickLoop ts now owns W order).2, specStep o = none := by
  intro order W hW
  refine ⟨?_, tickLoop_obs_ok ts now owns order W⟩
  fun_induction World.tickLoop ts now owns W order with
  | case1 => exact hW
  | case2 W id rest hf ih => exact ih hW
  | case3 W id rest en hf ha u W' r ih =>
    exact ih (World.set_st_wf W hW id _ fun q hq =>
      tick_wf q u now hq (ownOf_wf owns ho id) (W.segsOf_wf hW en.cfg.incs))
  | case4 W id rest en hf ha ih => exact ih hW

/-- The second half is `step_obs_ok` and uses neither hypothesis. -/
theorem step_ok (ts : List Int) (W : World) (hW : W.WF) (op : Op) (hop : op.WF) :
    (W.step ts op).1.WF ∧ ∀ o ∈ (W.step ts op).2, specStep o = none := by
  refine ⟨?_, step_obs_ok ts W op⟩
  cases op with
  | update id b e clear own => exact (update_step_ok ts W hW id b e clear own hop.1 hop.2).1
  | start id now own =>
    exact set_active_wf _ (update_step_ok ts W hW id now (now + 86400) true own (by omega) hop).1 id
  | tick now order owns => exact (tickLoop_ok ts now owns hop order W hW).1

/-- For every set of configured periods (any `includes` / `excludes` names — cyclic, dangling —, any
    `prefer_includes`), every state `W` and EVERY sequence of operations — `UpdateRegion` with any region and flag,
    activations in any order, timer runs at any clock values in any iteration order, with whatever segments the
    update functions return — every observation of the run satisfies the specification predicate: window, default
    outside it, and the inside-formula with the lists looked up by name at that moment.  Neither hypothesis is
    used: every observation is the model's observation of some call (`run_obs_ok`); that the invariant is kept is
    `step_ok`.  A period that names ITSELF is within the statement, but there the model is not the code:
    `World.update` merges the list the period had before the call, `UpdateRegion` the list as it stands when
    `Merge` runs (timeperiod.cpp:256-259 after :238-245). -/
theorem world_trace_spec (ts : List Int) (ops : List Op) : ∀ (W : World), W.WF → (∀ op ∈ ops, op.WF) →
    ∀ o ∈ (World.run ts W ops).2, specStep o = none :=
  fun W _ _ => run_obs_ok ts W ops

/-- The same from the initial state of a configuration (nothing computed yet, nothing active). -/
theorem world_trace_spec_from_config (ts : List Int) (cfg : List (Nat × PCfg)) (ops : List Op)
    (hops : ∀ op ∈ ops, op.WF) :
    ∀ o ∈ (World.run ts (cfg.map fun c => ({ id := c.1, cfg := c.2 } : PEntry)) ops).2, specStep o = none :=
  run_obs_ok ts _ ops

/-- Non-vacuity: P (id 0, own 0–200000 from its update function) excludes B (id 1, 100–200) and includes the
    dangling name 7.  B is started, then P, then the timer runs once (order P, B) a day later: the trace has four
    observations, P answers "outside" at 150 and "inside" at 50; the timer run purges both periods (windows begin at
    82800 afterwards) and extends B with its new own segment, while P, whose own segment reaches beyond
    now + 24 h, has nothing to refresh. -/
example :
    let cfg : List (Nat × PCfg) := [(0, { prefer := true, incs := [7], excs := [1] }), (1, { prefer := true, incs := [], excs := [] })]
    let W0 : World := cfg.map fun c => ({ id := c.1, cfg := c.2 } : PEntry)
    let r := World.run [50, 150] W0 [.start 1 0 [(100, 200)], .start 0 0 [(0, 200000)],
                                     .tick 86400 [0, 1] [(0, []), (1, [(90000, 90100)])]]
    r.2.length = 4 ∧
    (r.2.map fun o => match o with | .upd i o => (i, o.queries) | .tick i k => (i, k.upd.queries)) =
      [(1, [(50, false), (150, true)]), (0, [(50, true), (150, false)]),
       (0, [(50, true), (150, true)]), (1, [(50, true), (150, true)])] ∧
    ((r.1.find 0).map fun en => (en.st.vb, en.st.ve)) = some (some 82800, some 200000) ∧
    ((r.1.find 1).map fun en => en.st.segs) = some [(90000, 90100)] := by decide +kernel

/-- The step specification rejects a wrong trace (window does not cover the region). -/
example :
    specStep (.upd 0 { prefer := true, clear := true, b := 0, e := 100, own := [], incs := [], excs := [],
                       preSegs := [], preVe := none, vb := some 0, ve := some 50, postSegs := [], queries := [] })
      = some .windowCovers := by decide +kernel

/-- F-C08c at the level of whole runs: the same configuration (P = id 0 with own
    0–200000 excludes B = id 1 with own 100–200), the same two activations at the same instant — only their order
    differs.  B first: P answers "outside" at 150.  P first: the name resolves, but B has no segments yet; afterwards
    both windows contain 150, B answers "inside" and P answers "inside" too, although every observation of the run
    satisfies `specStep` (`world_trace_spec`): the per-call specification speaks about the lists that were merged, the
    property about the excluded period.  A timer run 5 minutes later changes nothing. -/
theorem world_start_order_counterexample :
    let cfg : List (Nat × PCfg) := [(0, { prefer := true, incs := [], excs := [1] }), (1, { prefer := true, incs := [], excs := [] })]
    let W0 : World := cfg.map fun c => ({ id := c.1, cfg := c.2 } : PEntry)
    let good := (World.run [] W0 [.start 1 0 [(100, 200)], .start 0 0 [(0, 200000)]]).1
    let bad := (World.run [] W0 [.start 0 0 [(0, 200000)], .start 1 0 [(100, 200)], .tick 300 [0, 1] []]).1
    ((good.find 0).map fun en => en.st.isInside 150) = some false ∧
    ((bad.find 0).map fun en => en.st.isInside 150) = some true ∧
    ((bad.find 1).map fun en => en.st.isInside 150) = some true := by decide +kernel

/-! ## The calendar (lib/icinga/legacytimeperiod.cpp)

  The calendar model has a string reader and a token-level core (IcingaModel/C08/Calendar.lean).
  The theorems below are about the core, for every token list, window and time-zone parameter
  satisfying `TzOk` (every local day lasts 23–46 h, `localDay` is consistent with the midnights)
  and, where a stride is counted, `TzDrift` (offsets at two midnights differ by < 12 h).  The reader
  is tied to the code by the correspondence runs.
-/

/-- `FindNthWeekday` terminates for every `n ≠ 0` and returns a day with the
    requested weekday lying in the n-th block of seven days counted from the first day of the month
    (`n > 0`) resp. from its last day backwards (`n < 0`) — i.e. the n-th / n-th last such weekday. -/
theorem nth_weekday_correct (w n y mon : Int) (hw0 : 0 ≤ w) (hw7 : w < 7) (hn : n ≠ 0) :
    ∃ day, findNthWeekday w n y mon = some day ∧ weekdayOf day = w ∧
      (0 < n → daysFromCivil y (mon + 1) 1 + 7 * (n - 1) ≤ day ∧ day < daysFromCivil y (mon + 1) 1 + 7 * n) ∧
      (n < 0 → daysFromCivil y (mon + 2) 0 - 7 * (-n) < day ∧ day ≤ daysFromCivil y (mon + 2) 0 - 7 * (-n - 1)) := by
  unfold findNthWeekday
  by_cases hp : n > 0
  · obtain ⟨hk, hwd⟩ := findNthLoop_week w 1 (Or.inl rfl) hw0 hw7 n.toNat (by omega) (daysFromCivil y (mon + 1) 1)
    have := ahead_lt 1 w (daysFromCivil y (mon + 1) 1)
    rw [if_pos hp]
    exact ⟨_, hk, hwd, fun _ => by omega, fun h => absurd (Int.lt_trans hp h) (Int.lt_irrefl _)⟩
  · have hneg : n < 0 := by omega
    obtain ⟨hk, hwd⟩ := findNthLoop_week w (-1) (Or.inr rfl) hw0 hw7 (-n).toNat (by omega) (daysFromCivil y (mon + 2) 0)
    have := ahead_lt (-1) w (daysFromCivil y (mon + 2) 0)
    rw [if_neg hp, if_pos hneg]
    exact ⟨_, hk, hwd, fun h => absurd (Int.lt_trans h hneg) (Int.lt_irrefl _), fun _ => by omega⟩

example : findNthWeekday 1 (-1) 2024 1 = some (daysFromCivil 2024 2 26) := by decide +kernel   -- last Monday of Feb 2024

/-- Whenever the specification's closed form names an n-th weekday
    of a month (`n > 0`), the transcribed search loop returns exactly that day: the loop's closed form
    (`findNthLoop_week`: `ahead` steps to the first such weekday, then `n - 1` weeks) is the specification's once
    `ahead 1` is written with `weekdayOf` (`ahead_one`). -/
theorem nth_weekday_agrees_with_spec (w n y m day : Int) (hw0 : 0 ≤ w) (hw7 : w < 7) (hn : 0 < n)
    (h : nthWeekdayOfMonth w n y m = some day) : findNthWeekday w n y (m - 1) = some day := by
  unfold nthWeekdayOfMonth at h
  dsimp only at h
  rw [if_pos hn] at h
  obtain ⟨_, ⟨⟩⟩ := Option.ite_none_right_eq_some.mp h
  unfold findNthWeekday
  rw [if_pos hn, Int.sub_add_cancel, (findNthLoop_week w 1 (Or.inl rfl) hw0 hw7 n.toNat (by omega) _).1, ahead_one]
  congr 1
  omega

/-- The plain-weekday form (`tm_mday += (7 - tm_wday + wday) % 7`) yields the
    first day on or after the reference with that weekday. -/
theorem weekday_next_correct (D w : Int) (hw0 : 0 ≤ w) (hw7 : w < 7) :
    weekdayOf (D + (7 - weekdayOf D + w) % 7) = w ∧ D ≤ D + (7 - weekdayOf D + w) % 7 ∧
      D + (7 - weekdayOf D + w) % 7 < D + 7 := by
  unfold weekdayOf; omega

/-- `IsInTimeRange` compares instants and derives the stride's day
    index from the rounded distance of two local midnights; for every time zone satisfying `TzOk`
    and `TzDrift` this is "first ≤ D < end, every stride-th *calendar* day counted from the first".
    (The code as repaired for F-C08b, commit 3f58d09; before, the index was truncated and March 30 matched
    `2026-03-27 - 2026-04-03 / 2` under Europe/Berlin.) -/
theorem isInTimeRange_calendar_days (tz : Tz) (h : TzOk tz) (hd : TzDrift tz) (b e stride D : Int) :
    isInTimeRange tz b e stride D =
      (decide (b ≤ D) && decide (D < e) && (decide (stride ≤ 1) || (D - b) % stride == 0)) := by
  rw [isInTimeRange_eq tz h]
  by_cases hb : b ≤ D
  · -- the rounded distance of the two midnights is the distance in days
    have := hd b D hb
    rw [show (mkDay tz D 0 - mkDay tz b 0 + 43200) / 86400 = D - b by omega]
    by_cases h3 : 1 < stride
    · have := Int.emod_nonneg (D - b) (show stride ≠ 0 by omega)
      rw [decide_eq_true h3, decide_eq_false (Int.not_le.mpr h3), Bool.true_and, Bool.false_or, Bool.eq_iff_iff]
      simp
      omega
    · simp [h3, Int.not_lt.mp h3]
  · simp [hb]

/-- Europe/Berlin around the change to summer time on 2026-03-29 01:00 UTC. -/
def berlin2026 : Tz := [(0, 3600), (1774746000, 7200)]

/-- Regression for F-C08b: `2026-03-27 - 2026-04-03 / 2` under Europe/Berlin no longer matches March 30
    (index 3) and matches March 29 and 31 (indices 2, 4). -/
example :
    isInTimeRange berlin2026 (daysFromCivil 2026 3 27) (daysFromCivil 2026 4 4) 2 (daysFromCivil 2026 3 30) = false ∧
    isInTimeRange berlin2026 (daysFromCivil 2026 3 27) (daysFromCivil 2026 4 4) 2 (daysFromCivil 2026 3 29) = true ∧
    isInTimeRange berlin2026 (daysFromCivil 2026 3 27) (daysFromCivil 2026 4 4) 2 (daysFromCivil 2026 3 31) = true := by decide +kernel

/-- UTC = the empty offset list. -/
theorem tz_hypotheses_satisfiable : TzOk [] ∧ TzDrift [] := by
  have hm : ∀ D s, mkDay [] D s = D * 86400 + s := fun D s => Int.sub_zero _
  have hl : ∀ t, localDay [] t = t / 86400 := by
    intro t; simp [localDay, offAt]
  refine ⟨⟨?_, ?_⟩, ?_⟩
  · intro D; rw [hm, hm]; omega
  · intro t; rw [hl, hm, hm]; omega
  · intro D D' _; rw [hm, hm]; omega

/-- The days the loop of `ScriptFunc` visits (`loopDays`, with the model's fuel) are exactly the local calendar days
    from the day of `begin` up to the last day whose midnight is not after `end`, each of them once and in order;
    the fuel bound of the model is never what ends the list.  That the loop returns the segments of these days is
    `mem_dayLoop`; the statement itself does not mention `dayLoopTok`. -/
theorem day_loop_covers (tz : Tz) (h : TzOk tz) (b e : Int) :
    (∀ D, D ∈ loopDays tz e (loopFuel b e) (localDay tz b) ↔ localDay tz b ≤ D ∧ mkDay tz D 0 ≤ e) ∧
    (loopDays tz e (loopFuel b e) (localDay tz b)).Pairwise (· < ·) :=
  loopDays_spec tz h e _ _ (loopFuel_enough tz h b e)

/-- Whenever `ScriptFunc` (token-level core) returns, an instant lies in a returned
    segment iff there are a local calendar day `D` of the window (from the day of `begin` to the
    last day whose midnight is ≤ `end`), an entry whose day definition matches `D`, and one of its
    ranges with `mk(D, b) ≤ t < mk(D, e')` (`e'` on the next day for ranges that wrap or end at 24:00). -/
theorem scriptFunc_spec (tz : Tz) (h : TzOk tz) (entries : List EntryTok) (b e : Int) (segs : List Seg)
    (hr : scriptFuncTok tz entries b e = some segs) (t : Int) :
    inside segs t = true ↔
      ∃ D, localDay tz b ≤ D ∧ mkDay tz D 0 ≤ e ∧ ∃ en ∈ entries, EntryCovers tz en D t := by
  unfold scriptFuncTok at hr
  rw [dayLoop_spec hr t]
  refine exists_congr fun D => ?_
  rw [(day_loop_covers tz h b e).1 D, and_assoc]

/-- Non-vacuity: Mondays 09:00–17:00 and 2026-03-28 22:00–02:00 (wrapping into the night of the Berlin
    change to summer time; Sunday 2026-03-29 has 23 hours). -/
example :
    scriptFuncTok berlin2026
      [{ dayDef := some { first := .weekday 1, second := none, stride := 1 }, ranges := some [(32400, 61200)] },
       { dayDef := some { first := .date 2026 3 28, second := none, stride := 1 }, ranges := some [(79200, 7200)] }]
      1774652400 1774911600
      = some [(1774731600, 1774746000), (1774854000, 1774882800)] := by decide +kernel

theorem dayMatches_single (tz : Tz) (h : TzOk tz) (s : SpecTok) (stride D : Int) :
    dayMatchesTok tz { first := s, second := none, stride := stride } D =
      (resolveDay s D).map (fun d => decide (D = d)) := by
  unfold dayMatchesTok dayDefSpan
  cases hres : resolveDay s D with
  | none => simp
  | some d => simp [isInTimeRange_single tz h d stride D]

/-- "monday" matches exactly the Mondays. -/
theorem dayMatches_weekday (tz : Tz) (h : TzOk tz) (w stride D : Int) (hw0 : 0 ≤ w) (hw7 : w < 7) :
    dayMatchesTok tz { first := .weekday w, second := none, stride := stride } D =
      some (decide (weekdayOf D = w)) := by
  rw [dayMatches_single tz h]
  simp only [resolveDay, Option.map_some, Option.some.injEq, decide_eq_decide]
  obtain ⟨h1, _, _⟩ := weekday_next_correct D w hw0 hw7
  constructor
  · intro hD
    rwa [← hD] at h1
  · intro hw
    rw [hw]
    omega

/-- "YYYY-MM-DD" matches exactly that calendar day. -/
theorem dayMatches_date (tz : Tz) (h : TzOk tz) (y m d stride D : Int) :
    dayMatchesTok tz { first := .date y m d, second := none, stride := stride } D =
      some (decide (D = daysFromCivil y m d)) := by
  rw [dayMatches_single tz h]; rfl

/-- "monday 2 [month]" (n > 0) matches exactly the day that has that weekday
    and lies in the n-th block of seven days of the month (of the reference year; the month of the
    reference unless one is named). -/
theorem dayMatches_nthWeekday (tz : Tz) (h : TzOk tz) (w n stride D : Int) (mon : Option Int)
    (hw0 : 0 ≤ w) (hw7 : w < 7) (hn : 0 < n) :
    let first := daysFromCivil (civilFromDays D).1 ((match mon with | some m => m | none => (civilFromDays D).2.1 - 1) + 1) 1
    dayMatchesTok tz { first := .nthWeekday w n mon, second := none, stride := stride } D =
      some (decide (weekdayOf D = w ∧ first + 7 * (n - 1) ≤ D ∧ D < first + 7 * n)) := by
  dsimp only
  obtain ⟨day, hday, hwd, hpos, _⟩ := nth_weekday_correct w n (civilFromDays D).1
    (match mon with | some m => m | none => (civilFromDays D).2.1 - 1) hw0 hw7 (by omega)
  obtain ⟨hp1, hp2⟩ := hpos hn
  rw [dayMatches_single tz h, show resolveDay (.nthWeekday w n mon) D = some day from hday, Option.map_some,
    Option.some.injEq, decide_eq_decide, weekday_unique _ _ D day (by omega) ⟨hp1, hp2⟩, hwd]

/-- A day range `A - B / stride` matches the days from the day `A` resolves to up to
    the day `B` resolves to, every stride-th calendar day counted from the first. -/
theorem dayMatches_range (tz : Tz) (h : TzOk tz) (hd : TzDrift tz) (s1 s2 : SpecTok) (stride D d1 d2 : Int)
    (h1 : resolveDay s1 D = some d1) (h2 : resolveDay s2 D = some d2) :
    dayMatchesTok tz { first := s1, second := some s2, stride := stride } D =
      some (decide (d1 ≤ D) && decide (D ≤ d2) && (decide (stride ≤ 1) || (D - d1) % stride == 0)) := by
  unfold dayMatchesTok dayDefSpan
  simp only [h1, h2, isInTimeRange_calendar_days tz h hd, Option.some.injEq]
  have : decide (D < d2 + 1) = decide (D ≤ d2) := by
    rw [decide_eq_decide]; omega
  rw [this]

/-- "day N" / "<month> N": for `N ≥ 0` exactly the N-th day counted from the first of
    the month (of the reference year; the month of the reference unless one is named), for `N < 0`
    exactly the |N|-th day counted backwards from the last day of that month (the day before the first
    of the next month): "day -1" is the last day. -/
theorem dayMatches_monthDay (tz : Tz) (h : TzOk tz) (mon : Option Int) (mday stride D : Int) :
    let y := (civilFromDays D).1
    let m := match mon with | some m => m | none => (civilFromDays D).2.1 - 1
    dayMatchesTok tz { first := .monthDay mon mday, second := none, stride := stride } D =
      some (decide (D = if mday < 0 then daysFromCivil y (m + 2) 1 - 1 + (mday + 1)
                        else daysFromCivil y (m + 1) 1 + (mday - 1))) := by
  intro y m
  rw [dayMatches_single tz h]
  simp only [resolveDay]
  split
  · rename_i hneg
    simp only [Option.map_some, Option.some.injEq, decide_eq_decide]
    have := daysFromCivil_zero y (m + 2)
    show D = daysFromCivil y (m + 2) 0 - (-mday - 1) ↔ _
    rw [this]; omega
  · simp only [Option.map_some, Option.some.injEq, decide_eq_decide]
    show D = daysFromCivil y (m + 1) mday ↔ _
    rw [daysFromCivil_day y (m + 1) mday]

example : resolveDay (.monthDay (some 1) (-1)) (daysFromCivil 2024 6 15) = some (daysFromCivil 2024 2 29) ∧
          resolveDay (.monthDay none (-2)) (daysFromCivil 2025 4 3) = some (daysFromCivil 2025 4 29) := by decide +kernel

/-- "monday -1 [month]" (n < 0) matches exactly the day that has that weekday
    and lies in the |n|-th block of seven days counted backwards from the last day of the month. -/
theorem dayMatches_nthWeekday_last (tz : Tz) (h : TzOk tz) (w n stride D : Int) (mon : Option Int)
    (hw0 : 0 ≤ w) (hw7 : w < 7) (hn : n < 0) :
    let last := daysFromCivil (civilFromDays D).1 ((match mon with | some m => m | none => (civilFromDays D).2.1 - 1) + 2) 1 - 1
    dayMatchesTok tz { first := .nthWeekday w n mon, second := none, stride := stride } D =
      some (decide (weekdayOf D = w ∧ last - 7 * (-n) < D ∧ D ≤ last - 7 * (-n - 1))) := by
  dsimp only
  obtain ⟨day, hday, hwd, _, hneg⟩ := nth_weekday_correct w n (civilFromDays D).1
    (match mon with | some m => m | none => (civilFromDays D).2.1 - 1) hw0 hw7 (by omega)
  obtain ⟨hp1, hp2⟩ := hneg hn
  rw [daysFromCivil_zero] at hp1 hp2
  rw [dayMatches_single tz h, show resolveDay (.nthWeekday w n mon) D = some day from hday, Option.map_some,
    Option.some.injEq, decide_eq_decide,
    weekday_unique _ _ D day (by omega) ⟨Int.add_one_le_of_lt hp1, Int.lt_add_one_of_le hp2⟩, hwd, Int.add_one_le_iff,
    Int.lt_add_one_iff]

/-- "… for ranges ending at 24:00 or wrapping past midnight": a range `b-e` on day `D`
    runs from `b` o'clock local time of `D` to `e` o'clock of `D` when `b < e`, and to `e` o'clock local
    time of the NEXT calendar day otherwise (`22:00-02:00`, and `b-b` = 24 hours); 24:00 of `D` is the
    local midnight of `D + 1` — also when `D` has 23 or 25 hours (no `+ 86400` on instants). -/
theorem rangeSeg_wrap_and_24h (tz : Tz) (r : Int × Int) (D : Int) :
    rangeSeg tz r D = (mkDay tz D r.1, if r.1 < r.2 then mkDay tz D r.2 else mkDay tz (D + 1) r.2) ∧
    mkDay tz D 86400 = mkDay tz (D + 1) 0 := by
  refine ⟨?_, ?_⟩
  · unfold rangeSeg
    by_cases hlt : r.1 < r.2
    · have : ¬ r.1 ≥ r.2 := by omega
      simp [hlt, this]
    · have : r.1 ≥ r.2 := by omega
      simp only [this, if_true, hlt, if_false]
      rw [mkDay_next_day]
  · have := mkDay_next_day tz D 0
    simpa using this

example : rangeSeg berlin2026 (79200, 7200) (daysFromCivil 2026 3 28) = (1774731600, 1774746000) ∧          -- 22:00-02:00 into the 23-hour day: ends at the change (02:00 CET = 03:00 CEST)
          rangeSeg berlin2026 (64800, 86400) (daysFromCivil 2026 3 29) = (1774800000, 1774821600) := by decide +kernel  -- 18:00-24:00 on it

/-- Definition → answer, for one `UpdateRegion(b, e, clear)` of a period whose update function is
    `LegacyTimePeriod::ScriptFunc` (token-level core): the two layers composed, the update function being fed the
    region the interval layer really passes (`Period.asked`: `begin` moved up to `valid_end`).  In `Own`, the first
    disjunct is what a non-clearing update keeps (stored before, outside the refreshed region `[fb, e)`), the second
    is `scriptFunc_spec` for the region asked (wrapping / 24:00 ranges included).
    No hypothesis on the returned segments; `hbe`, `hS`, `hinc`, `hexc` are not used. -/
theorem legacy_update_end_to_end (tz : Tz) (htz : TzOk tz) (entries : List EntryTok)
    (p : Period) (prefer : Bool) (incs excs : List (List Seg)) (b e : Int) (clear : Bool)
    (fb fe : Int) (own : List Seg) (t : Int)
    (hbe : b ≤ e) (hS : clear = false → ∀ s ∈ p.segs, s.1 < s.2)
    (hinc : ∀ L ∈ incs, ∀ s ∈ L, s.1 < s.2) (hexc : ∀ L ∈ excs, ∀ s ∈ L, s.1 < s.2)
    (hask : p.asked b e clear = some (fb, fe))
    (hr : scriptFuncTok tz entries fb fe = some own)
    (vb ve : Int)
    (hvb : (p.updateRegion { prefer := prefer, own := own, incs := incs, excs := excs } b e clear).vb = some vb)
    (hve : (p.updateRegion { prefer := prefer, own := own, incs := incs, excs := excs } b e clear).ve = some ve)
    (h1 : vb ≤ t) (h2 : t ≤ ve) :
    ((p.updateRegion { prefer := prefer, own := own, incs := incs, excs := excs } b e clear).isInside t = true ↔
      let Own := (clear = false ∧ inside p.segs t = true ∧ ¬ (fb ≤ t ∧ t < e)) ∨
                 ∃ D, localDay tz fb ≤ D ∧ mkDay tz D 0 ≤ e ∧ ∃ en ∈ entries, EntryCovers tz en D t
      let Inc := ∃ L ∈ incs, inside L t = true
      let Exc := ∃ L ∈ excs, inside L t = true
      if prefer = true then (Own ∧ ¬ Exc) ∨ Inc else (Own ∨ Inc) ∧ ¬ Exc) := by
  -- what was asked: the call is effective and `(fb, fe)` is the refreshed region; from the second `cases hask` on,
  -- `fb` is `p.effBegin b clear` and `fe` is `e`
  rw [asked_eq] at hask
  cases hs : p.skips e clear <;> rw [hs] at hask
  case true => cases hask
  cases hask
  -- the kept part (first disjunct of `Own`) as a Prop
  have hkept : (if clear = true then false
        else inside p.segs t && !(decide (p.effBegin b clear ≤ t) && decide (t < e))) = true ↔
      clear = false ∧ inside p.segs t = true ∧ ¬ (p.effBegin b clear ≤ t ∧ t < e) := by
    cases clear
    · rw [if_neg Bool.false_ne_true, Bool.and_eq_true, decide_not_in, eq_self, true_and]
    · simp
  -- the left side is rewritten into the right: the window, the formula, then each Bool argument into its Prop
  rw [isInside_in_window hvb hve h1 h2, updateRegion_inside p _ b e clear t hs, formula_iff]
  dsimp only
  rw [hkept, scriptFunc_spec tz htz entries _ e own hr t, List.any_eq_true, List.any_eq_true]

/-- Non-vacuity: the hypotheses are satisfiable — a clearing update over the Berlin change to summer time asks the calendar for
    exactly that region, the calendar returns two segments, and the window is set. -/
example :
    let en : List EntryTok :=
      [{ dayDef := some { first := .weekday 1, second := none, stride := 1 }, ranges := some [(32400, 61200)] },
       { dayDef := some { first := .date 2026 3 28, second := none, stride := 1 }, ranges := some [(79200, 7200)] }]
    ({} : Period).asked 1774652400 1774911600 true = some (1774652400, 1774911600) ∧
    (scriptFuncTok berlin2026 en 1774652400 1774911600).map (fun own =>
      let p' := ({} : Period).updateRegion { prefer := false, own := own, incs := [], excs := [[(1774740000, 1774860000)]] } 1774652400 1774911600 true
      (p'.vb, p'.ve, p'.isInside 1774735000, p'.isInside 1774741000, p'.isInside 1774870000)) =
      some (some 1774652400, some 1774911600, true, false, true) := by decide +kernel

/-- For EVERY string, the model's `weekdayFromString` (used by the calendar model and by the declarative predicate
    `calSpec`) is the lookup in the table that gen/c08_tables.py reads from `LegacyTimePeriod::WeekdayFromString` of
    the checked source tree (IcingaProofs/Gen/C08Tables.lean). -/
theorem weekday_table_matches_source (s : String) :
    weekdayFromString s = lookupName Icinga.Gen.C08Tables.weekdaySrc s := by
  unfold weekdayFromString
  split
  -- a listed name: the lookup is evaluated
  iterate 7 decide +kernel
  -- any other string: every comparison of the lookup fails
  next h1 h2 h3 h4 h5 h6 h7 =>
    refine (lookupName_none _ s ?_).symm
    simp only [Icinga.Gen.C08Tables.weekdaySrc, List.forall_mem_cons]
    exact ⟨h1, h2, h3, h4, h5, h6, h7, nofun⟩

/-- The same for `LegacyTimePeriod::MonthFromString` (0-based like `tm_mon`). -/
theorem month_table_matches_source (s : String) :
    monthFromString s = lookupName Icinga.Gen.C08Tables.monthSrc s := by
  unfold monthFromString
  split
  iterate 12 decide +kernel
  next h1 h2 h3 h4 h5 h6 h7 h8 h9 h10 h11 h12 =>
    refine (lookupName_none _ s ?_).symm
    simp only [Icinga.Gen.C08Tables.monthSrc, List.forall_mem_cons]
    exact ⟨h1, h2, h3, h4, h5, h6, h7, h8, h9, h10, h11, h12, nofun⟩

/-- The numbers of the source's table are the calendar's: each English weekday
    name maps to `weekdayOf` (= `tm_wday`) of a day that has that weekday (2023-01-01 was a Sunday), and the month
    names count from january = 0 in calendar order. -/
theorem weekday_numbers_are_tm_wday :
    Icinga.Gen.C08Tables.weekdaySrc =
      ["sunday", "monday", "tuesday", "wednesday", "thursday", "friday", "saturday"].zipIdx.map
        (fun p => (p.1, weekdayOf (daysFromCivil 2023 1 (1 + p.2)))) ∧
    Icinga.Gen.C08Tables.monthSrc =
      ["january", "february", "march", "april", "may", "june", "july", "august", "september", "october",
       "november", "december"].zipIdx.map (fun p => (p.1, (p.2 : Int))) :=
  ⟨rfl, rfl⟩

example : weekdayFromString "funday" = none ∧ lookupName Icinga.Gen.C08Tables.weekdaySrc "friday" = some 5 := by decide +kernel

end Icinga.C08
