/-
  C16 — the declarative reading does not depend on the order in which rules, statements inside a rule and objects are
  written (`expectedCreated_congr`); with `expectedCreated_equiv_plainFull` this gives `statement_order_independent`.
-/
import IcingaProofs.C16.Reading

namespace Icinga.C16

theorem any_congr_mem {α : Type} {l l' : List α} (h : ∀ x, x ∈ l' ↔ x ∈ l) (p : α → Bool) : l'.any p = l.any p := by
  rw [Bool.eq_iff_iff]
  simp only [List.any_eq_true, h]

theorem all_congr_mem {α : Type} {l l' : List α} (h : ∀ x, x ∈ l' ↔ x ∈ l) (p : α → Bool) : l'.all p = l.all p := by
  rw [Bool.eq_iff_iff]
  simp only [List.all_eq_true, h]

theorem isEmpty_congr_mem {α : Type} {l l' : List α} (h : ∀ x, x ∈ l' ↔ x ∈ l) : l'.isEmpty = l.isEmpty := by
  rw [Bool.eq_iff_iff]
  simp only [List.isEmpty_iff, List.eq_nil_iff_forall_not_mem, h]

/-- `r'` is `r` with its `assign where` / `ignore where` statements written in another order (or repeated) -/
def RuleStmtEquiv (r r' : Rule) : Prop :=
  r'.src = r.src ∧ r'.tgt = r.tgt ∧ r'.name = r.name ∧ r'.loop = r.loop ∧ r'.scope = r.scope ∧
  (∀ e, e ∈ r'.assign ↔ e ∈ r.assign) ∧ (∀ e, e ∈ r'.ignore ↔ e ∈ r.ignore)

theorem RuleStmtEquiv.tgt_eq {r r' : Rule} (h : RuleStmtEquiv r r') : r'.tgt = r.tgt := h.2.1

theorem RuleStmtEquiv.mem_assign {r r' : Rule} (h : RuleStmtEquiv r r') (e : Expr) : e ∈ r'.assign ↔ e ∈ r.assign :=
  h.2.2.2.2.2.1 e

theorem RuleStmtEquiv.mem_ignore {r r' : Rule} (h : RuleStmtEquiv r r') (e : Expr) : e ∈ r'.ignore ↔ e ∈ r.ignore :=
  h.2.2.2.2.2.2 e

theorem RuleStmtEquiv.refl (r : Rule) : RuleStmtEquiv r r :=
  ⟨rfl, rfl, rfl, rfl, rfl, fun _ => Iff.rfl, fun _ => Iff.rfl⟩

theorem RuleStmtEquiv.symm {r r' : Rule} (h : RuleStmtEquiv r r') : RuleStmtEquiv r' r :=
  ⟨h.1.symm, h.2.1.symm, h.2.2.1.symm, h.2.2.2.1.symm, h.2.2.2.2.1.symm, fun e => (h.mem_assign e).symm,
   fun e => (h.mem_ignore e).symm⟩

theorem ruleStmtEquiv_revStmts (r : Rule) : RuleStmtEquiv r r.revStmts :=
  ⟨rfl, rfl, rfl, rfl, rfl, fun _ => List.mem_reverse, fun _ => List.mem_reverse⟩

theorem matchDecl_congr {r r' : Rule} (h : RuleStmtEquiv r r') (env : Env) : matchDecl env r' = matchDecl env r := by
  unfold matchDecl
  simp only [List.any_map]
  rw [any_congr_mem h.mem_assign, any_congr_mem h.mem_ignore, any_congr_mem h.mem_assign, any_congr_mem h.mem_ignore,
    isEmpty_congr_mem h.mem_assign]

theorem RuleStmtEquiv.eq_with {r r' : Rule} (h : RuleStmtEquiv r r') :
    r' = { r with assign := r'.assign, ignore := r'.ignore } := by
  obtain ⟨h1, h2, h3, h4, h5, _, _⟩ := h
  cases r; cases r'
  simp only at h1 h2 h3 h4 h5
  subst h1 h2 h3 h4 h5
  rfl

theorem declRule_congr {r r' : Rule} (h : RuleStmtEquiv r r') (w : World) (id : Nat) (t : Val) :
    declRule w id r' t = declRule w id r t := by
  unfold declRule declInst
  simp only [matchDecl_congr h]
  -- the `for` instances, the frame and the created object do not look at the statements
  rw [h.eq_with]
  rfl

/-- the same labelled rules up to the order (and repetition) of the rules and of the statements inside each -/
def RulesStmtEquiv (rs rs' : Rules) : Prop :=
  (∀ p ∈ rs, ∃ p' ∈ rs', p'.1 = p.1 ∧ RuleStmtEquiv p.2 p'.2) ∧
  (∀ p' ∈ rs', ∃ p ∈ rs, p'.1 = p.1 ∧ RuleStmtEquiv p.2 p'.2)

theorem rulesStmtEquiv_permRules (rules : Rules) : RulesStmtEquiv rules (permRules rules) := by
  constructor
  · intro p hp
    refine ⟨(p.1, p.2.revStmts), ?_, rfl, ruleStmtEquiv_revStmts p.2⟩
    simp only [permRules, List.mem_reverse, List.mem_map]
    exact ⟨p, hp, rfl⟩
  · intro p' hp'
    simp only [permRules, List.mem_reverse, List.mem_map] at hp'
    obtain ⟨p, hp, rfl⟩ := hp'
    exact ⟨p, hp, rfl, ruleStmtEquiv_revStmts p.2⟩

theorem rulesStmtEquiv_of_perm {rs rs' : Rules} (h : rs.Perm rs') : RulesStmtEquiv rs rs' :=
  ⟨fun p hp => ⟨p, h.mem_iff.mp hp, rfl, RuleStmtEquiv.refl _⟩, fun p hp => ⟨p, h.mem_iff.mpr hp, rfl, RuleStmtEquiv.refl _⟩⟩

theorem invEquiv_permInv (inv : Inventory) : InvEquiv inv (permInv inv) :=
  ⟨fun _ => List.mem_reverse.symm, fun _ => List.mem_reverse.symm⟩

theorem mem_declAll_congr {w : World} {rs rs' : Rules} {inv inv' : Inventory} (hr : RulesStmtEquiv rs rs')
    (hi : InvEquiv inv inv') (x : Option Outcome) : x ∈ declAll w rs inv ↔ x ∈ declAll w rs' inv' := by
  rw [mem_declAll, mem_declAll]
  constructor
  · rintro ⟨p, hp, t, ht, hx⟩
    obtain ⟨p', hp', hid, he⟩ := hr.1 p hp
    refine ⟨p', hp', t, ?_, ?_⟩
    · rw [he.tgt_eq]; exact (mem_targets_congr hi _ t).mp ht
    · rw [hid, declRule_congr he]; exact hx
  · rintro ⟨p', hp', t, ht, hx⟩
    obtain ⟨p, hp, hid, he⟩ := hr.2 p' hp'
    refine ⟨p, hp, t, ?_, ?_⟩
    · rw [he.tgt_eq] at ht; exact (mem_targets_congr hi _ t).mpr ht
    · rw [hid, declRule_congr he] at hx; exact hx

theorem declAll_defined_congr {w : World} {rs rs' : Rules} {inv inv' : Inventory} (hr : RulesStmtEquiv rs rs')
    (hi : InvEquiv inv inv') : (declAll w rs inv).all Option.isSome = (declAll w rs' inv').all Option.isSome :=
  all_congr_mem (mem_declAll_congr hr hi) Option.isSome

theorem unwrap_declAll_congr {w : World} {rs rs' : Rules} {inv inv' : Inventory} (hr : RulesStmtEquiv rs rs')
    (hi : InvEquiv inv inv') (o : Outcome) : o ∈ unwrap (declAll w rs inv) ↔ o ∈ unwrap (declAll w rs' inv') :=
  mem_unwrap.trans ((mem_declAll_congr hr hi _).trans mem_unwrap.symm)

theorem expectedCreated_congr {w : World} {rs rs' : Rules} {inv inv' : Inventory} (hr : RulesStmtEquiv rs rs')
    (hi : InvEquiv inv inv') {exp : List Created} (h : expectedCreated w rs inv = some exp) :
    ∃ exp', expectedCreated w rs' inv' = some exp' ∧ (LoadResult.accepted exp).Equiv (.accepted exp') := by
  obtain ⟨h1, h2, rfl⟩ := expectedCreated_eq_some.mp h
  -- the first rounds yield the same services, so the second rounds run on equivalent inventories
  have hi₂ := extend_congr hi (.of_mem_iff (unwrap_declAll_congr (w := w) hr hi))
  refine ⟨_, expectedCreated_eq_some.mpr ⟨declAll_defined_congr hr hi ▸ h1,
    declAll_defined_congr hr hi₂ ▸ h2, rfl⟩, fun c => ?_⟩
  rw [mem_created, mem_created]
  exact unwrap_declAll_congr hr hi₂ _

end Icinga.C16
