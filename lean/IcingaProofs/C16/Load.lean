/-
  C16 — configuration loads as sets of outcomes.  Whether a load is accepted and what it creates depends only on which
  outcomes other than `skip` occur (`loadResult_congr`), and evaluation with and without the name index differ in
  `skip`s only (`evalRule_targeted`).  The cascade follows by congruence (`extend_congr`), a commit in two stages because
  the outcomes on a union of inventories are the union of the outcomes (`indexedFullOutcomes_union`).
-/
import IcingaProofs.C16.Filter

namespace Icinga.C16

def LoadResult.Equiv : LoadResult → LoadResult → Prop
  | .rejected, .rejected => True
  | .accepted a, .accepted b => ∀ c, c ∈ a ↔ c ∈ b
  | _, _ => False

theorem any_isError {os : List Outcome} : os.any Outcome.isError = true ↔ Outcome.error ∈ os := by
  simp only [List.any_eq_true]
  constructor
  · rintro ⟨o, ho, he⟩
    cases o <;> first | exact ho | cases he
  · intro h; exact ⟨_, h, rfl⟩

theorem mem_created {os : List Outcome} {c : Created} :
    c ∈ os.filterMap Outcome.created? ↔ Outcome.create c ∈ os := by
  simp only [List.mem_filterMap]
  constructor
  · rintro ⟨o, ho, hc⟩
    cases o <;> cases hc
    exact ho
  · intro h; exact ⟨_, h, rfl⟩

/-- A `skip` neither rejects the load nor creates an object, and it is the one outcome in which evaluation with and
    without the index differ (`evalRule_targeted`). -/
def OutcomesEquiv (os₁ os₂ : List Outcome) : Prop := ∀ o, o ≠ Outcome.skip → (o ∈ os₁ ↔ o ∈ os₂)

theorem OutcomesEquiv.of_mem_iff {os₁ os₂ : List Outcome} (h : ∀ o, o ∈ os₁ ↔ o ∈ os₂) : OutcomesEquiv os₁ os₂ :=
  fun o _ => h o

theorem OutcomesEquiv.trans {os₁ os₂ os₃ : List Outcome} (h₁ : OutcomesEquiv os₁ os₂) (h₂ : OutcomesEquiv os₂ os₃) :
    OutcomesEquiv os₁ os₃ := fun o ho => (h₁ o ho).trans (h₂ o ho)

theorem loadResult_congr {os₁ os₂ : List Outcome} (h : OutcomesEquiv os₁ os₂) :
    (loadResult os₁).Equiv (loadResult os₂) := by
  have he : os₁.any Outcome.isError = os₂.any Outcome.isError :=
    Bool.eq_iff_iff.mpr (any_isError.trans ((h .error nofun).trans any_isError.symm))
  unfold loadResult
  rw [he]
  cases os₂.any Outcome.isError with
  | true => trivial
  | false => exact fun c => mem_created.trans ((h (.create c) nofun).trans mem_created.symm)

theorem loadResult_eq_accepted {os : List Outcome} {l : List Created} :
    loadResult os = .accepted l ↔ (Outcome.error ∉ os ∧ os.filterMap Outcome.created? = l) := by
  unfold loadResult
  rw [← any_isError]
  cases os.any Outcome.isError with
  | true => exact ⟨nofun, fun h => absurd rfl h.1⟩
  | false => exact ⟨fun h => ⟨nofun, LoadResult.accepted.inj h⟩, fun h => congrArg LoadResult.accepted h.2⟩

theorem LoadResult.Equiv.refl (a : LoadResult) : a.Equiv a := by
  cases a <;> simp [LoadResult.Equiv]

theorem LoadResult.Equiv.symm {a b : LoadResult} (h : a.Equiv b) : b.Equiv a := by
  cases a <;> cases b <;> simp_all [LoadResult.Equiv]

theorem LoadResult.Equiv.trans {a b c : LoadResult} (h₁ : a.Equiv b) (h₂ : b.Equiv c) : a.Equiv c := by
  cases a <;> cases b <;> cases c <;> simp_all [LoadResult.Equiv]

theorem mem_targets_iff {inv : Inventory} {t : Val} {ty : TgtType} :
    t ∈ targets inv ty ↔ (t ∈ allTargets inv ∧ tgtOf t = some ty) := by
  cases ty <;> simp only [allTargets, targets, List.mem_append, List.mem_map]
  · constructor
    · rintro ⟨n, hn, rfl⟩; exact ⟨Or.inl ⟨n, hn, rfl⟩, rfl⟩
    · rintro ⟨h | ⟨p, _, rfl⟩, hty⟩
      · exact h
      · cases hty
  · constructor
    · rintro ⟨p, hp, rfl⟩; exact ⟨Or.inr ⟨p, hp, rfl⟩, rfl⟩
    · rintro ⟨⟨n, _, rfl⟩ | h, hty⟩
      · cases hty
      · exact h

theorem mem_plainOutcomes {w : World} {rules : Rules} {inv : Inventory} {o : Outcome} :
    o ∈ plainOutcomes w rules inv ↔ ∃ p ∈ rules, ∃ t ∈ targets inv p.2.tgt, o ∈ evalRule w false p.1 p.2 t := by
  simp only [plainOutcomes, plainOn, List.mem_flatMap, List.mem_filter, beq_iff_eq, mem_targets_iff]
  constructor
  · rintro ⟨t, ht, p, ⟨hp, hty⟩, ho⟩; exact ⟨p, hp, t, ⟨ht, hty⟩, ho⟩
  · rintro ⟨p, hp, t, ⟨ht, hty⟩, ho⟩; exact ⟨t, ht, p, ⟨hp, hty⟩, ho⟩

/-- What one rule contributes to `indexedOn` on one target of its type. -/
def viaIndex (w : World) (id : Nat) (r : Rule) (t : Val) : List Outcome :=
  match targetedNames r with
  | none => evalRule w false id r t
  | some ns => if ns.contains t then evalRule w true id r t else []

theorem mem_indexedOn {w : World} {rules : Rules} {t : Val} {o : Outcome} :
    o ∈ indexedOn w rules t ↔ ∃ p ∈ rules, tgtOf t = some p.2.tgt ∧ o ∈ viaIndex w p.1 p.2 t := by
  simp only [indexedOn, List.mem_append, List.mem_flatMap, List.mem_filter, Bool.and_eq_true, beq_iff_eq, ← exists_or,
    ← and_or_left, and_assoc]
  refine exists_congr fun p => and_congr_right fun _ => and_congr_right fun _ => ?_
  -- of the regular and the indexed list, the one the rule is in
  unfold viaIndex
  cases targetedNames p.2 with
  | none => simp
  | some ns => cases ns.contains t <;> simp

theorem mem_indexedOutcomes {w : World} {rules : Rules} {inv : Inventory} {o : Outcome} :
    o ∈ indexedOutcomes w rules inv ↔ ∃ p ∈ rules, ∃ t ∈ targets inv p.2.tgt, o ∈ viaIndex w p.1 p.2 t := by
  simp only [indexedOutcomes, List.mem_flatMap, mem_indexedOn, mem_targets_iff]
  constructor
  · rintro ⟨t, ht, p, hp, hty, ho⟩; exact ⟨p, hp, t, ⟨ht, hty⟩, ho⟩
  · rintro ⟨p, hp, t, ⟨ht, hty⟩, ho⟩; exact ⟨t, ht, p, hp, hty, ho⟩

theorem targetedNames_noLoop {r : Rule} {ns : List Val} (h : targetedNames r = some ns) : r.loop = none := by
  unfold targetedNames at h
  split at h
  · cases h
  · next hf =>
    cases hl : r.loop with
    | none => rfl
    | some l => simp [Rule.fterm, hl] at hf

abbrev Inst.noLoop : Inst := ⟨"", []⟩

theorem instances_noLoop {r : Rule} (hl : r.loop = none) (t : Val) : instances r t = some [Inst.noLoop] := by
  simp [instances, forVal, Rule.fterm, Rule.fvvar, Rule.fkvar, hl, instancesOf]

theorem mem_evalRule {w : World} {b : Bool} {id : Nat} {r : Rule} {t : Val} {o : Outcome} :
    o ∈ evalRule w b id r t ↔
      (instances r t = none ∧ o = .error) ∨ ∃ is, instances r t = some is ∧ ∃ i ∈ is, evalInstance w b id r t i = o := by
  unfold evalRule
  cases instances r t <;> simp

theorem evalInstance_false_eq (w : World) (id : Nat) (r : Rule) (t : Val) (i : Inst) :
    evalInstance w false id r t i =
      match evalFilter (instEnv w r t i) r.filter with
      | none => .error
      | some true => .create (mkCreated id r t i)
      | some false => .skip := rfl

theorem evalInstance_create_iff {w : World} {id : Nat} {r : Rule} {t : Val} {i : Inst}
    (h : evalInstance w false id r t i ≠ .error) {c : Created} :
    evalInstance w false id r t i = .create c ↔ c = mkCreated id r t i ∧ Matches (instEnv w r t i) r := by
  rw [evalInstance_false_eq] at h ⊢
  cases hf : evalFilter (instEnv w r t i) r.filter with
  | none => rw [hf] at h; exact absurd rfl h
  | some b =>
    have hm := filter_truth hf
    cases b with
    | false => exact ⟨nofun, fun h => nomatch hm.mpr h.2⟩
    | true => exact ⟨fun h => ⟨(Outcome.create.inj h).symm, hm.mp rfl⟩, fun h => h.1 ▸ rfl⟩

theorem evalRule_noLoop (w : World) (b : Bool) (id : Nat) {r : Rule} (hl : r.loop = none) (t : Val) :
    evalRule w b id r t = [evalInstance w b id r t Inst.noLoop] := by
  simp only [evalRule, instances_noLoop hl, List.map_cons, List.map_nil]

theorem instEnv_vars_of_not_mem (w : World) (r : Rule) (t : Val) {i : Inst} {x : String}
    (h : ∀ p ∈ i.binds, p.1 ≠ x) : (instEnv w r t i).vars x = baseVars w r t x :=
  bindAll_of_not_mem h

/-- The loop variables are bound after `host`/`service` and would shadow them (F-C16a), hence `hh` and `hs`. -/
theorem instEnv_inScope (w : World) (r : Rule) (t : Val) (i : Inst) (hh : ∀ p ∈ i.binds, p.1 ≠ "host")
    (hs : ∀ h s, t = .service h s → ∀ p ∈ i.binds, p.1 ≠ "service") : InScope (instEnv w r t i) t := by
  refine ⟨?_, fun h s ht => ?_⟩
  · rw [instEnv_vars_of_not_mem w r t hh]
    unfold baseVars
    split <;> simp [bind]
  · rw [instEnv_vars_of_not_mem w r t (hs h s ht), ht]
    simp [baseVars, bind]

theorem targetedNames_eq_recognise (r : Rule) :
    targetedNames r = if r.fterm.isSome then none else recognise none r.tgt r.filter := by
  unfold targetedNames
  cases r.tgt <;> rfl

theorem evalFilter_of_targetedNames (w : World) {r : Rule} {ns : List Val} {t : Val} (hns : targetedNames r = some ns)
    (hty : tgtOf t = some r.tgt) : evalFilter (instEnv w r t Inst.noLoop) r.filter = some (ns.contains t) := by
  rw [targetedNames_eq_recognise] at hns
  split at hns
  · cases hns
  · exact recognise_sound_complete (constsAgree_none _) hty
      (instEnv_inScope w r t Inst.noLoop (fun _ h => nomatch h) fun _ _ _ _ h => nomatch h) hns

/-- Why the index is right.  An indexed rule has no `for`, and its filter evaluates - without raising - to "the target
    is one of the indexed names" (`recognise_sound_complete`).  On those targets the index evaluates the rule without
    its filter, and plain evaluation finds the filter true and does the same; on the others the index does not look at
    the rule at all, and plain evaluation finds the filter false: one `skip`, the only trace of the difference. -/
theorem evalRule_targeted (w : World) (id : Nat) {r : Rule} {ns : List Val} {t : Val}
    (hns : targetedNames r = some ns) (hty : tgtOf t = some r.tgt) :
    evalRule w false id r t = if ns.contains t then evalRule w true id r t else [.skip] := by
  have hl := targetedNames_noLoop hns
  rw [evalRule_noLoop w false id hl, evalRule_noLoop w true id hl]
  simp only [evalInstance_false_eq, evalFilter_of_targetedNames w hns hty]
  cases ns.contains t <;> rfl

theorem viaIndex_equiv_evalRule (w : World) (id : Nat) {r : Rule} {t : Val} (hty : tgtOf t = some r.tgt) :
    OutcomesEquiv (viaIndex w id r t) (evalRule w false id r t) := by
  intro o ho
  unfold viaIndex
  cases hns : targetedNames r with
  | none => exact Iff.rfl
  | some ns =>
    rw [evalRule_targeted w id hns hty]
    dsimp only
    cases ns.contains t with
    | true => exact Iff.rfl
    | false => simp [ho]

theorem indexedOutcomes_equiv_plainOutcomes (w : World) {rules : Rules} {inv : Inventory} :
    OutcomesEquiv (indexedOutcomes w rules inv) (plainOutcomes w rules inv) := by
  intro o ho
  rw [mem_indexedOutcomes, mem_plainOutcomes]
  exact exists_congr fun p => and_congr_right fun _ => exists_congr fun t => and_congr_right fun ht =>
    viaIndex_equiv_evalRule w p.1 (mem_targets_iff.mp ht).2 o ho

def InvEquiv (i₁ i₂ : Inventory) : Prop :=
  (∀ h, h ∈ i₁.hosts ↔ h ∈ i₂.hosts) ∧ (∀ s, s ∈ i₁.services ↔ s ∈ i₂.services)

theorem InvEquiv.refl (i : Inventory) : InvEquiv i i := ⟨fun _ => Iff.rfl, fun _ => Iff.rfl⟩

theorem invEquiv_of_perm {i₁ i₂ : Inventory} (hh : i₁.hosts.Perm i₂.hosts) (hs : i₁.services.Perm i₂.services) :
    InvEquiv i₁ i₂ := ⟨fun _ => hh.mem_iff, fun _ => hs.mem_iff⟩

theorem mem_targets_congr {i₁ i₂ : Inventory} (h : InvEquiv i₁ i₂) (ty : TgtType) (t : Val) :
    t ∈ targets i₁ ty ↔ t ∈ targets i₂ ty := by
  cases ty <;> simp only [targets, List.mem_map, h.1, h.2]

theorem plainOutcomes_congr (w : World) {r₁ r₂ : Rules} {i₁ i₂ : Inventory} (hr : ∀ p, p ∈ r₁ ↔ p ∈ r₂)
    (hi : InvEquiv i₁ i₂) : OutcomesEquiv (plainOutcomes w r₁ i₁) (plainOutcomes w r₂ i₂) :=
  .of_mem_iff fun o => by simp only [mem_plainOutcomes, mem_targets_congr hi, hr]

theorem indexedOutcomes_congr (w : World) {r₁ r₂ : Rules} {i₁ i₂ : Inventory} (hr : ∀ p, p ∈ r₁ ↔ p ∈ r₂)
    (hi : InvEquiv i₁ i₂) : OutcomesEquiv (indexedOutcomes w r₁ i₁) (indexedOutcomes w r₂ i₂) :=
  .of_mem_iff fun o => by simp only [mem_indexedOutcomes, mem_targets_congr hi, hr]

def boundNames : TgtType → List String
  | .host => ["host"]
  | .service => ["host", "service"]

def NoShadow (r : Rule) : Prop := r.fkvar ∉ boundNames r.tgt ∧ r.fvvar ∉ boundNames r.tgt

/-- What indexing a rule with `for` would need (F-C16a, F-C16b).  Since commit b11cb6d no rule with `for` is indexed
    (applyrule-targeted.cpp:65-70) and it holds of every rule (`indexSafe_all`). -/
def IndexSafe (inv : Inventory) (r : Rule) : Prop :=
  (targetedNames r).isSome → NoShadow r ∧ ∀ t ∈ targets inv r.tgt, (instances r t).isSome

theorem indexSafe_all (inv : Inventory) (r : Rule) : IndexSafe inv r := by
  intro ht
  obtain ⟨ns, hns⟩ := Option.isSome_iff_exists.mp ht
  have hl := targetedNames_noLoop hns
  refine ⟨?_, fun t _ => by rw [instances_noLoop hl]; rfl⟩
  cases htg : r.tgt <;> simp [NoShadow, boundNames, Rule.fkvar, Rule.fvvar, hl, htg]

theorem IndexSafe.of_equiv {i₁ i₂ : Inventory} (hi : InvEquiv i₁ i₂) {r : Rule} (h : IndexSafe i₁ r) :
    IndexSafe i₂ r := fun ht => ⟨(h ht).1, fun t hm => (h ht).2 t ((mem_targets_congr hi _ t).mpr hm)⟩

theorem mem_createdServices {os : List Outcome} {p : String × String} :
    p ∈ createdServices os ↔ ∃ c, Outcome.create c ∈ os ∧ c.src = .service ∧ p = (targetHostName c.target, c.name) := by
  simp only [createdServices, List.mem_filterMap]
  constructor
  · rintro ⟨o, ho, hm⟩
    cases o with
    | create c =>
      simp only at hm
      split at hm
      · next hs => cases hm; exact ⟨c, ho, hs, rfl⟩
      · cases hm
    | error => cases hm
    | skip => cases hm
  · rintro ⟨c, hc, hs, rfl⟩
    exact ⟨_, hc, if_pos hs⟩

theorem mem_extend_services {inv : Inventory} {os : List Outcome} {p : String × String} :
    p ∈ (extend inv os).services ↔
      (p ∈ inv.services ∨ ∃ c, Outcome.create c ∈ os ∧ c.src = .service ∧ p = (targetHostName c.target, c.name)) := by
  simp only [extend, List.mem_append, mem_createdServices]

theorem extend_congr {i₁ i₂ : Inventory} {os₁ os₂ : List Outcome} (hi : InvEquiv i₁ i₂)
    (h : OutcomesEquiv os₁ os₂) : InvEquiv (extend i₁ os₁) (extend i₂ os₂) := by
  refine ⟨hi.1, fun s => ?_⟩
  simp only [mem_extend_services, hi.2 s]
  exact or_congr_right (exists_congr fun c => and_congr_left fun _ => h _ nofun)

theorem plainFull_congr (w : World) {r₁ r₂ : Rules} {i₁ i₂ : Inventory} (hr : ∀ p, p ∈ r₁ ↔ p ∈ r₂)
    (hi : InvEquiv i₁ i₂) : (plainFull w r₁ i₁).Equiv (plainFull w r₂ i₂) :=
  loadResult_congr (plainOutcomes_congr w hr (extend_congr hi (plainOutcomes_congr w hr hi)))

theorem indexedFull_congr (w : World) {r₁ r₂ : Rules} {i₁ i₂ : Inventory} (hr : ∀ p, p ∈ r₁ ↔ p ∈ r₂)
    (hi : InvEquiv i₁ i₂) : (indexedFull w r₁ i₁).Equiv (indexedFull w r₂ i₂) :=
  loadResult_congr (indexedOutcomes_congr w hr (extend_congr hi (indexedOutcomes_congr w hr hi)))

/-- The two first rounds create the same services, so the second rounds run on the same targets. -/
theorem indexedFullOutcomes_equiv_plainOutcomes_extend (w : World) (rules : Rules) (inv : Inventory) :
    OutcomesEquiv (indexedFullOutcomes w rules inv) (plainOutcomes w rules (extend inv (plainOutcomes w rules inv))) :=
  (indexedOutcomes_congr w (fun _ => Iff.rfl)
    (extend_congr (InvEquiv.refl inv) (indexedOutcomes_equiv_plainOutcomes w))).trans
    (indexedOutcomes_equiv_plainOutcomes w)

def InvUnion (inv i₁ i₂ : Inventory) : Prop :=
  (∀ h, h ∈ inv.hosts ↔ (h ∈ i₁.hosts ∨ h ∈ i₂.hosts)) ∧ (∀ s, s ∈ inv.services ↔ (s ∈ i₁.services ∨ s ∈ i₂.services))

theorem invUnion_stages (inv : Inventory) (l : Late) : InvUnion inv (earlyInv inv l) (lateInv inv l) := by
  constructor <;> intro x <;> simp only [earlyInv, lateInv, List.mem_filter, ← and_or_left, Bool.not_eq_true']
  · cases l.host x <;> simp
  · cases l.service x <;> simp

theorem mem_targets_union {inv i₁ i₂ : Inventory} (h : InvUnion inv i₁ i₂) (ty : TgtType) (t : Val) :
    t ∈ targets inv ty ↔ (t ∈ targets i₁ ty ∨ t ∈ targets i₂ ty) := by
  cases ty <;> simp only [targets, List.mem_map, h.1, h.2, or_and_right, exists_or]

theorem indexedOutcomes_union (w : World) (rules : Rules) {inv i₁ i₂ : Inventory} (h : InvUnion inv i₁ i₂)
    (o : Outcome) :
    o ∈ indexedOutcomes w rules inv ↔ (o ∈ indexedOutcomes w rules i₁ ∨ o ∈ indexedOutcomes w rules i₂) := by
  simp only [mem_indexedOutcomes, mem_targets_union h, or_and_right, exists_or, and_or_left]

theorem extend_union {inv i₁ i₂ : Inventory} {os os₁ os₂ : List Outcome} (h : InvUnion inv i₁ i₂)
    (ho : ∀ o, o ∈ os ↔ (o ∈ os₁ ∨ o ∈ os₂)) : InvUnion (extend inv os) (extend i₁ os₁) (extend i₂ os₂) := by
  refine ⟨h.1, fun s => ?_⟩
  simp only [mem_extend_services, h.2 s, ho, or_and_right, exists_or]
  exact or_or_or_comm

theorem indexedFullOutcomes_union (w : World) (rules : Rules) {inv i₁ i₂ : Inventory} (h : InvUnion inv i₁ i₂)
    (o : Outcome) :
    o ∈ indexedFullOutcomes w rules inv ↔ (o ∈ indexedFullOutcomes w rules i₁ ∨ o ∈ indexedFullOutcomes w rules i₂) :=
  indexedOutcomes_union w rules (extend_union h (indexedOutcomes_union w rules h)) o

theorem twoCommits_equiv_indexedFull (w : World) (rules : Rules) {inv i₁ i₂ : Inventory} (h : InvUnion inv i₁ i₂) :
    (loadResult (indexedFullOutcomes w rules i₁ ++ indexedFullOutcomes w rules i₂)).Equiv (indexedFull w rules inv) :=
  loadResult_congr (.of_mem_iff fun o => List.mem_append.trans (indexedFullOutcomes_union w rules h o).symm)

end Icinga.C16
