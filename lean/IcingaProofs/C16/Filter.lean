/-
  C16 — the filter language.  What the shape recogniser accepts evaluates, without raising, to "the target is one of the
  names" in every frame that has the target in scope (`InScope`) and agrees with the recogniser's constants
  (`ConstsAgree`); a rule's combined filter is two scans from the left (`evalFilter_filter`).
-/
import IcingaModel.C16.Spec

namespace Icinga.C16

theorem evalFilter_or (env : Env) (a b : Expr) :
    evalFilter env (.or a b) = (evalFilter env a).bind fun p => if p then some true else evalFilter env b := by
  simp only [evalFilter, eval]
  cases eval env a with
  | none => rfl
  | some va => cases h : va.truthy <;> simp [h]

theorem evalFilter_and (env : Env) (a b : Expr) :
    evalFilter env (.and a b) = (evalFilter env a).bind fun p => if p then evalFilter env b else some false := by
  simp only [evalFilter, eval]
  cases eval env a with
  | none => rfl
  | some va => cases h : va.truthy <;> simp [h]

theorem evalFilter_not (env : Env) (a : Expr) : evalFilter env (.not a) = (evalFilter env a).map (!·) := by
  simp only [evalFilter, eval]
  cases eval env a <;> rfl

theorem getField_host_name (env : Env) (h : String) : getField env (.host h) (.str "name") = some (.str h) := rfl

theorem getField_service_name (env : Env) (h s : String) :
    getField env (.service h s) (.str "name") = some (.str s) := rfl

/-- What the recogniser takes for a constant is what evaluation sees under that name: vacuous for apply rules (no
    dictionary), for API queries the `filter_vars` that no binding of the evaluator overwrites (`apiConsts_agree`). -/
def ConstsAgree (consts : Consts) (env : Env) : Prop :=
  ∀ c, consts = some c → ∀ x v, c x = some v → env.vars x = some v

theorem constsAgree_none (env : Env) : ConstsAgree none env := by
  intro c h; cases h

/-- The property's "with the target object in scope".  The API namespace provides it (filterutility.cpp:84-118,
    `apiEnv_inScope`), the rule frame unless a loop variable is called `host`/`service` (service-apply.cpp:64-67,
    `instEnv_inScope`). -/
def InScope (env : Env) (t : Val) : Prop :=
  env.vars "host" = some (hostOf t) ∧ ∀ h s, t = .service h s → env.vars "service" = some t

theorem bindAll_of_not_mem {l : List (String × Val)} {f : String → Option Val} {x : String}
    (h : ∀ p ∈ l, p.1 ≠ x) : bindAll l f x = f x := by
  unfold bindAll
  induction l generalizing f with
  | nil => rfl
  | cons p l ih =>
    rw [List.foldl_cons, ih fun q hq => h q (List.mem_cons_of_mem _ hq)]
    exact if_neg fun h' => h p List.mem_cons_self h'.symm

theorem bindAll_mono {l : List (String × Val)} {f g : String → Option Val}
    (h : ∀ x v, f x = some v → g x = some v) : ∀ x v, bindAll l f x = some v → bindAll l g x = some v := by
  unfold bindAll
  induction l generalizing f g with
  | nil => exact h
  | cons p l ih =>
    simp only [List.foldl_cons]
    apply ih
    intro x v
    simp only [bind]
    split
    · exact id
    · exact h x v

theorem bindAll_some_mem {l : List (String × Val)} {x : String} {v : Val}
    (h : bindAll l (fun _ => none) x = some v) : ∃ p ∈ l, p.1 = x := by
  apply Classical.byContradiction
  intro hne
  rw [bindAll_of_not_mem fun p hp he => hne ⟨p, hp, he⟩] at h
  cases h

theorem bindAll_map {g : String → Val} {x : String} : ∀ (l : List String) (f : String → Option Val),
    bindAll (l.map fun n => (n, g n)) f x = if x ∈ l then some (g x) else f x := by
  intro l
  unfold bindAll
  induction l with
  | nil => intro f; simp
  | cons n l ih =>
    intro f
    simp only [List.map_cons, List.foldl_cons, ih, List.mem_cons]
    by_cases hl : x ∈ l
    · simp [hl]
    · by_cases hn : x = n
      · subst hn; simp [bind]
      · simp [hl, hn, bind]

/-- The common form of `targetedNames` (a rule's filter, no constants) and `fastPathNames` (an API filter, constants from
    `filter_vars`), which each spell this case split out: `targetedNames_eq_recognise`, `fastPathNames_eq_recognise`. -/
def recognise (consts : Consts) : TgtType → Expr → Option (List Val)
  | .host, e => (getTargetHosts consts e).map fun l => l.map Val.host
  | .service, e => (getTargetServices consts e).map fun l => l.map fun p => Val.service p.1 p.2

section recogniser
variable {consts : Consts} {env : Env} (hc : ConstsAgree consts env)
include hc

theorem getConst_sound {e : Expr} {v : Val} (h : getConst consts e = some v) : eval env e = some v := by
  cases e with
  | lit => exact h
  | var x =>
    cases consts with
    | none => cases h
    | some c => exact hc c rfl x v h
  | _ => cases h

theorem getConstString_sound {e : Expr} {s : String} (h : getConstString consts e = some s) :
    eval env e = some (.str s) := by
  unfold getConstString at h
  split at h
  · next hs => cases h; exact getConst_sound hc hs
  · cases h

theorem isNameIndexer_sound {lc : String} {e : Expr} {o : Val} {n : String} (hv : env.vars lc = some o)
    (ho : getField env o (.str "name") = some (.str n)) (h : isNameIndexer consts lc e = true) :
    eval env e = some (.str n) := by
  unfold isNameIndexer at h
  split at h
  · next x f =>
    simp only [Bool.and_eq_true, beq_iff_eq] at h
    simp only [eval, h.1, hv, getConstString_sound hc h.2, Option.bind_some, ho]
  · cases h

theorem getComparedName_sound_complete {lc : String} {e : Expr} {o : Val} {n s : String} (hv : env.vars lc = some o)
    (ho : getField env o (.str "name") = some (.str n)) (h : getComparedName consts lc e = some s) :
    evalFilter env e = some (decide (n = s)) := by
  unfold getComparedName at h
  split at h
  · next a b =>
    split at h
    · next ha =>
      simp only [evalFilter, eval, isNameIndexer_sound hc hv ho ha, getConstString_sound hc h, Option.bind_some]
      rfl
    · split at h
      · next hb =>
        simp only [evalFilter, eval, isNameIndexer_sound hc hv ho hb, getConstString_sound hc h, Option.bind_some]
        exact congrArg some (decide_eq_decide.mpr eq_comm)
      · cases h
  · cases h

theorem getTargetHosts_sound_complete {h : String} (hv : env.vars "host" = some (.host h)) {e : Expr} {names : List String}
    (hn : getTargetHosts consts e = some names) : evalFilter env e = some (decide (h ∈ names)) := by
  fun_induction getTargetHosts consts e generalizing names with
  | case1 a b l₁ l₂ h₂ h₁ iha ihb =>
    cases hn
    simp only [evalFilter_or, iha h₁, ihb h₂, List.mem_append, Bool.decide_or]
    cases decide (h ∈ l₁) <;> rfl
  | case2 => cases hn
  | case3 e =>
    obtain ⟨n, hcn, rfl⟩ := Option.map_eq_some_iff.mp hn
    simp only [getComparedName_sound_complete hc hv (getField_host_name env h) hcn, List.mem_singleton]

theorem getTargetService_sound_complete {h s : String} (hvh : env.vars "host" = some (.host h))
    (hvs : env.vars "service" = some (.service h s)) {e : Expr} {p : String × String}
    (hp : getTargetService consts e = some p) : evalFilter env e = some (decide ((h, s) = p)) := by
  unfold getTargetService at hp
  split at hp
  · next a b =>
    split at hp
    -- `host.name == h' && service.name == s'`
    · next h' hh =>
      obtain ⟨s', hs, rfl⟩ := Option.map_eq_some_iff.mp hp
      simp only [evalFilter_and, getComparedName_sound_complete hc hvh (getField_host_name env h) hh,
        getComparedName_sound_complete hc hvs (getField_service_name env h s) hs, Prod.mk.injEq, Bool.decide_and]
      cases decide (h = h') <;> rfl
    · split at hp
      -- the operands the other way round: the service comparison is evaluated first
      · next h' hh =>
        obtain ⟨s', hs, rfl⟩ := Option.map_eq_some_iff.mp hp
        simp only [evalFilter_and, getComparedName_sound_complete hc hvh (getField_host_name env h) hh,
          getComparedName_sound_complete hc hvs (getField_service_name env h s) hs, Prod.mk.injEq, Bool.decide_and]
        cases decide (s = s') <;> cases decide (h = h') <;> rfl
      · cases hp
  · cases hp

theorem getTargetServices_sound_complete {h s : String} (hvh : env.vars "host" = some (.host h))
    (hvs : env.vars "service" = some (.service h s)) {e : Expr} {names : List (String × String)}
    (hn : getTargetServices consts e = some names) : evalFilter env e = some (decide ((h, s) ∈ names)) := by
  fun_induction getTargetServices consts e generalizing names with
  | case1 a b l₁ l₂ h₂ h₁ iha ihb =>
    cases hn
    simp only [evalFilter_or, iha h₁, ihb h₂, List.mem_append, Bool.decide_or]
    cases decide ((h, s) ∈ l₁) <;> rfl
  | case2 => cases hn
  | case3 e =>
    obtain ⟨n, hcn, rfl⟩ := Option.map_eq_some_iff.mp hn
    simp only [getTargetService_sound_complete hc hvh hvs hcn, List.mem_singleton]

theorem recognise_sound_complete {ty : TgtType} {t : Val} (hty : tgtOf t = some ty) (ht : InScope env t) {e : Expr}
    {names : List Val} (hn : recognise consts ty e = some names) : evalFilter env e = some (names.contains t) := by
  cases t with
  | host h =>
    cases Option.some.inj hty
    obtain ⟨ns, hns, rfl⟩ := Option.map_eq_some_iff.mp hn
    rw [getTargetHosts_sound_complete hc ht.1 hns]
    exact congrArg some (Bool.eq_iff_iff.mpr (by simp))
  | service h s =>
    cases Option.some.inj hty
    obtain ⟨ns, hns, rfl⟩ := Option.map_eq_some_iff.mp hn
    rw [getTargetServices_sound_complete hc ht.1 (ht.2 h s rfl) hns]
    exact congrArg some (Bool.eq_iff_iff.mpr (by simp))
  | _ => cases hty

end recogniser

def Truthy (env : Env) (e : Expr) : Prop := ∃ v, eval env e = some v ∧ v.truthy = true

theorem evalFilter_some_true_iff {env : Env} {e : Expr} : evalFilter env e = some true ↔ Truthy env e := by
  unfold evalFilter Truthy
  cases eval env e <;> simp

/-- the property's "the assign expression is true and the ignore expression is not" -/
def Matches (env : Env) (r : Rule) : Prop :=
  (r.assign = [] ∨ ∃ a ∈ r.assign, Truthy env a) ∧ ∀ g ∈ r.ignore, ¬ Truthy env g

/-- The value of `x₁ || … || xₙ` from the values of its operands. -/
def orScan : List (Option Bool) → Option Bool
  | [] => some false
  | none :: _ => none
  | some true :: _ => some true
  | some false :: l => orScan l

theorem orScan_cons (x : Option Bool) (l : List (Option Bool)) :
    orScan (x :: l) = x.bind fun p => if p then some true else orScan l := by
  rcases x with _ | _ | _ <;> rfl

theorem orScan_true_iff {l : List (Option Bool)} {b : Bool} (h : orScan l = some b) : b = true ↔ some true ∈ l := by
  induction l with
  | nil => cases h; exact ⟨nofun, nofun⟩
  | cons x l ih =>
    rcases x with _ | _ | _
    · cases h
    · exact (ih h).trans ⟨List.mem_cons_of_mem _, fun hm => (List.mem_cons.mp hm).resolve_left nofun⟩
    · cases h; exact ⟨fun _ => List.mem_cons_self, fun _ => rfl⟩

theorem orScan_of_defined {l : List (Option Bool)} (h : l.any (· == none) = false) :
    orScan l = some (l.any (· == some true)) := by
  induction l with
  | nil => rfl
  | cons x l ih =>
    rcases x with _ | _ | _
    · cases h
    · exact ih h
    · rfl

theorem evalFilter_foldl_or (env : Env) (es : List Expr) (e : Expr) :
    evalFilter env (es.foldl Expr.or e) = orScan ((e :: es).map (evalFilter env)) := by
  induction es generalizing e with
  | nil =>
    rw [List.foldl_nil, List.map_cons, orScan_cons]
    rcases evalFilter env e with _ | _ | _ <;> rfl
  | cons x es ih =>
    rw [List.foldl_cons, ih, List.map_cons, List.map_cons, List.map_cons, orScan_cons, orScan_cons, orScan_cons,
      evalFilter_or]
    rcases evalFilter env e with _ | _ | _ <;> rfl

/-- An operand behind the deciding one is not evaluated, so it cannot raise: this is what separates the filter from the
    spec's order-free `matchDecl`, and why `filter_truth` needs the filter to have a value. -/
theorem evalFilter_filter (env : Env) (r : Rule) :
    evalFilter env r.filter =
      (if r.assign.isEmpty then some true else orScan (r.assign.map (evalFilter env))).bind fun p =>
        if p then (orScan (r.ignore.map (evalFilter env))).map (!·) else some false := by
  have hA : evalFilter env ((orAll r.assign).getD (.lit (.bool true))) =
      if r.assign.isEmpty then some true else orScan (r.assign.map (evalFilter env)) := by
    cases r.assign with
    | nil => rfl
    | cons x xs => exact evalFilter_foldl_or env xs x
  unfold Rule.filter
  cases r.ignore with
  | nil =>
    show evalFilter env ((orAll r.assign).getD (.lit (.bool true))) = _
    rw [hA]
    rcases (if r.assign.isEmpty then some true else orScan (r.assign.map (evalFilter env))) with _ | _ | _ <;> rfl
  | cons g gs =>
    show evalFilter env (.and ((orAll r.assign).getD (.lit (.bool true))) (.not (gs.foldl Expr.or g))) = _
    rw [evalFilter_and, evalFilter_not, evalFilter_foldl_or, hA]

theorem mem_map_evalFilter_true {env : Env} {es : List Expr} :
    some true ∈ es.map (evalFilter env) ↔ ∃ a ∈ es, Truthy env a := by
  simp only [List.mem_map, evalFilter_some_true_iff]

theorem filter_truth {env : Env} {r : Rule} {b : Bool} (h : evalFilter env r.filter = some b) :
    b = true ↔ Matches env r := by
  rw [evalFilter_filter, Option.bind_eq_some_iff] at h
  -- `p`: the value of the assign scan; a scan that has a value is true exactly when some operand is
  obtain ⟨p, hp, hb⟩ := h
  have hA : p = true ↔ (r.assign = [] ∨ ∃ a ∈ r.assign, Truthy env a) := by
    cases hr : r.assign with
    | nil => rw [hr] at hp; cases hp; simp
    | cons x xs =>
      rw [hr] at hp
      have hp : orScan ((x :: xs).map (evalFilter env)) = some p := hp
      rw [orScan_true_iff hp, mem_map_evalFilter_true]
      simp
  cases p with
  | false =>
    cases hb
    exact ⟨nofun, fun hm => hA.mpr hm.1⟩
  | true =>
    obtain ⟨c, hc, rfl⟩ := Option.map_eq_some_iff.mp hb
    -- `c`: the value of the ignore scan
    have hI : c = true ↔ ∃ g ∈ r.ignore, Truthy env g := (orScan_true_iff hc).trans mem_map_evalFilter_true
    simp only [Matches, hA.mp rfl, true_and, Bool.not_eq_true', ← Bool.not_eq_true, hI, not_exists, not_and]

end Icinga.C16
