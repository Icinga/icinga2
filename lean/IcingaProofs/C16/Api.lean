/-
  C16 — API queries.  The loops that evaluate a filter on every object (`apiSlow`, `apiSlowP`) are `permFilter` - in the
  model the loop over the objects the fast path looked up - with another test per element; where the fast path is taken
  both answers are a `List.filter` (`apiTargets_eq_match`, `apiSlow_of_names`); a permission filter that raises on no
  object is a restriction of the inventory (`apiTargetsP_total`).
-/
import IcingaProofs.C16.Load

namespace Icinga.C16

/-- What the property relies on about the type system (host.ti, service.ti:44): `host`/`service` are the
    target variables — no navigation field of Host is called `host`, a Service has the navigation field `host`
    and none called `service`.  The driver checks it on the implementation's reflection. -/
def NavOk (w : World) : TgtType → Prop
  | .host => "host" ∉ w.navNames .host
  | .service => "host" ∈ w.navNames .service ∧ "service" ∉ w.navNames .service

theorem apiEnv_inScope {w : World} {ty : TgtType} {t : Val} (hn : NavOk w ty) (hty : tgtOf t = some ty)
    (l : List (String × Val)) : InScope (apiEnv w l t) t := by
  cases t <;> cases hty
  · have : "host" ∉ w.navNames .host := hn
    exact ⟨by simp [apiEnv, apiVars, tgtOfD, bindAll_map, this, lcName, bind, hostOf], nofun⟩
  · have h1 : "host" ∈ w.navNames .service := hn.1
    have h2 : "service" ∉ w.navNames .service := hn.2
    exact ⟨by simp [apiEnv, apiVars, tgtOfD, bindAll_map, h1, navVal],
      fun _ _ _ => by simp [apiEnv, apiVars, tgtOfD, bindAll_map, h2, lcName, bind]⟩

theorem tgtOfD_of_tgtOf {t : Val} {ty : TgtType} (h : tgtOf t = some ty) : tgtOfD t = ty := by
  cases t <;> cases h <;> rfl

theorem apiVars_unbound (w : World) (l : List (String × Val)) (t : Val) {x : String}
    (hx : x ∉ apiBound w (tgtOfD t)) : apiVars w l t x = bindAll l w.globals x := by
  simp only [apiBound, List.cons_append, List.nil_append, List.mem_cons, not_or] at hx
  obtain ⟨h1, h2, h3⟩ := hx
  simp only [apiVars, bindAll_map, h3, if_false, bind, h1, h2]

theorem apiConsts_agree (w : World) {fvars : Option (List (String × Val))} {ty : TgtType} {t : Val}
    (hty : tgtOf t = some ty) (hcol : fvarsCollide w ty fvars = false) :
    ConstsAgree (apiConsts fvars) (apiEnv w (fvars.getD []) t) := by
  intro c hc x v hcx
  cases fvars with
  | none => cases hc
  | some l =>
    cases hc
    obtain ⟨p, hp, rfl⟩ := bindAll_some_mem hcx
    simp only [fvarsCollide, List.any_eq_false, List.contains_iff_mem, ← tgtOfD_of_tgtOf hty] at hcol
    simp only [apiEnv, Option.getD_some]
    rw [apiVars_unbound w l t (hcol p hp)]
    exact bindAll_mono (fun _ _ h => by cases h) _ _ hcx

theorem foldr_eq_permFilter {ev : Val → Option Bool} {step : Val → Option (List Val) → Option (List Val)}
    (h : ∀ t ts, step t (permFilter ev ts) = permFilter ev (t :: ts)) (ts : List Val) :
    ts.foldr step (some []) = permFilter ev ts := by
  induction ts with
  | nil => rfl
  | cons t ts ih => rw [List.foldr_cons, ih, h]

theorem apiSlow_eq_permFilter (w : World) (fvars : Option (List (String × Val))) (ty : TgtType) (e : Expr) (inv : Inventory) :
    apiSlow w fvars ty e inv = permFilter (fun t => evalFilter (apiEnv w (fvars.getD []) t) e) (targets inv ty) :=
  foldr_eq_permFilter (fun _ _ => rfl) _

theorem apiSlowP_eq_permFilter (w : World) (fvars : Option (List (String × Val))) (ty : TgtType) (e : Expr)
    (inv : Inventory) (perm : Val → Option Bool) :
    apiSlowP w fvars ty e inv perm =
      permFilter (fun t => (perm t).bind fun b => if b then evalFilter (apiEnv w (fvars.getD []) t) e else some false)
        (targets inv ty) := by
  refine foldr_eq_permFilter (fun t ts => ?_) _
  rw [permFilter]
  rcases perm t with _ | _ | _
  · rfl
  · cases permFilter _ ts <;> rfl
  · rfl

theorem permFilter_of_defined {ev : Val → Option Bool} {f : Val → Bool} {ts : List Val}
    (h : ∀ t ∈ ts, ev t = some (f t)) : permFilter ev ts = some (ts.filter f) := by
  induction ts with
  | nil => rfl
  | cons t ts ih =>
    rw [permFilter, h t List.mem_cons_self, ih fun t' ht' => h t' (List.mem_cons_of_mem _ ht'), List.filter_cons]
    cases f t <;> rfl

theorem permFilter_total (perm : Val → Bool) (l : List Val) : permFilter (totalPerm perm) l = some (l.filter perm) :=
  permFilter_of_defined fun _ _ => rfl

theorem eq_filter_of_permFilter {ev : Val → Option Bool} {ts l : List Val} (h : permFilter ev ts = some l) :
    l = ts.filter fun t => ev t == some true := by
  induction ts generalizing l with
  | nil => cases h; rfl
  | cons t ts ih =>
    rw [permFilter] at h
    split at h
    · next l' ht hl => cases h; rw [List.filter_cons, ht, ih hl]; rfl
    · next l' ht hl => cases h; rw [List.filter_cons, ht, ih hl]; rfl
    · cases h

theorem mem_permFilter {ev : Val → Option Bool} {ts l : List Val} (h : permFilter ev ts = some l) {t : Val} :
    t ∈ l ↔ t ∈ ts ∧ ev t = some true := by
  rw [eq_filter_of_permFilter h, List.mem_filter, beq_iff_eq]

theorem permFilter_guard (p : Val → Bool) (ev : Val → Option Bool) (ts : List Val) :
    permFilter (fun t => if p t then ev t else some false) ts = permFilter ev (ts.filter p) := by
  induction ts with
  | nil => rfl
  | cons t ts ih =>
    rw [permFilter, ih, List.filter_cons]
    cases p t with
    | false => rw [if_neg Bool.false_ne_true, if_neg Bool.false_ne_true]; cases permFilter ev (ts.filter p) <;> rfl
    | true => rw [if_pos rfl, if_pos rfl, permFilter]

/-- the names the fast path would look up, if it is taken: `none` when the filter is evaluated instead -/
def fastPathNames (w : World) (fvars : Option (List (String × Val))) (ty : TgtType) (e : Expr) : Option (List Val) :=
  if fvarsCollide w ty fvars then none else
  match ty with
  | .host => (getTargetHosts (apiConsts fvars) e).map fun l => l.map Val.host
  | .service => (getTargetServices (apiConsts fvars) e).map fun l => l.map fun p => Val.service p.1 p.2

theorem apiTargetsP_eq_match (w : World) (fvars : Option (List (String × Val))) (ty : TgtType) (e : Expr) (inv : Inventory)
    (perm : Val → Option Bool) :
    apiTargetsP w fvars ty e inv perm =
      match fastPathNames w fvars ty e with
      | some names => permFilter perm (names.filter fun t => (targets inv ty).contains t)
      | none => apiSlowP w fvars ty e inv perm := by
  unfold apiTargetsP fastPathNames
  cases fvarsCollide w ty fvars with
  | true => rfl
  | false =>
    cases ty with
    | host => cases getTargetHosts (apiConsts fvars) e <;> rfl
    | service => cases getTargetServices (apiConsts fvars) e <;> rfl

theorem apiTargets_eq_match (w : World) (fvars : Option (List (String × Val))) (ty : TgtType) (e : Expr) (inv : Inventory) :
    apiTargets w fvars ty e inv =
      match fastPathNames w fvars ty e with
      | some names => some (names.filter fun t => (targets inv ty).contains t)
      | none => apiSlow w fvars ty e inv := by
  unfold apiTargets fastPathNames
  cases fvarsCollide w ty fvars with
  | true => rfl
  | false =>
    cases ty with
    | host => cases getTargetHosts (apiConsts fvars) e <;> rfl
    | service => cases getTargetServices (apiConsts fvars) e <;> rfl

theorem fastPathNames_eq_recognise (w : World) (fvars : Option (List (String × Val))) (ty : TgtType) (e : Expr) :
    fastPathNames w fvars ty e = if fvarsCollide w ty fvars then none else recognise (apiConsts fvars) ty e := by
  unfold fastPathNames
  cases ty <;> rfl

theorem evalFilter_of_fastPathNames {w : World} {fvars : Option (List (String × Val))} {ty : TgtType} {e : Expr}
    {names : List Val} (hnav : NavOk w ty) (hn : fastPathNames w fvars ty e = some names) {t : Val}
    (hty : tgtOf t = some ty) : evalFilter (apiEnv w (fvars.getD []) t) e = some (names.contains t) := by
  rw [fastPathNames_eq_recognise] at hn
  split at hn
  · cases hn
  next hcol =>
  exact recognise_sound_complete (apiConsts_agree w hty (Bool.not_eq_true _ ▸ hcol)) hty (apiEnv_inScope hnav hty _) hn

theorem apiSlow_of_names {w : World} {fvars : Option (List (String × Val))} {ty : TgtType} {e : Expr}
    {names : List Val} (hnav : NavOk w ty) (hn : fastPathNames w fvars ty e = some names) (inv : Inventory) :
    apiSlow w fvars ty e inv = some ((targets inv ty).filter names.contains) := by
  rw [apiSlow_eq_permFilter]
  exact permFilter_of_defined fun t ht => evalFilter_of_fastPathNames hnav hn (mem_targets_iff.mp ht).2

/-- The two explicit answers have the same members: the fast path returns the looked-up names that exist
    (`apiTargets_eq_match`), evaluation the existing objects that are named (`apiSlow_of_names`). -/
theorem mem_filter_contains_swap {names ts : List Val} {t : Val} :
    t ∈ names.filter (fun t => ts.contains t) ↔ t ∈ ts.filter names.contains := by
  simp only [List.mem_filter, List.contains_iff_mem, and_comm]

/-- as lists the two answers differ in order and multiplicity (F-C16d) -/
def ApiEquiv : Option (List Val) → Option (List Val) → Prop
  | none, none => True
  | some a, some b => ∀ t, t ∈ a ↔ t ∈ b
  | _, _ => False

theorem ApiEquiv.refl (a : Option (List Val)) : ApiEquiv a a := by
  cases a <;> simp [ApiEquiv]

theorem targets_restrict (inv : Inventory) (perm : Val → Bool) (ty : TgtType) :
    targets (restrictInv inv perm) ty = (targets inv ty).filter perm := by
  cases ty <;> simp only [targets, restrictInv, List.filter_map] <;> rfl

theorem apiSlowP_total (w : World) (fvars : Option (List (String × Val))) (ty : TgtType) (e : Expr) (inv : Inventory)
    (perm : Val → Bool) : apiSlowP w fvars ty e inv (totalPerm perm) = apiSlow w fvars ty e (restrictInv inv perm) := by
  rw [apiSlowP_eq_permFilter, apiSlow_eq_permFilter, targets_restrict]
  exact permFilter_guard perm _ _

theorem apiTargetsP_total (w : World) (fvars : Option (List (String × Val))) (ty : TgtType) (e : Expr) (inv : Inventory)
    (perm : Val → Bool) : apiTargetsP w fvars ty e inv (totalPerm perm) = apiTargets w fvars ty e (restrictInv inv perm) := by
  rw [apiTargetsP_eq_match, apiTargets_eq_match]
  cases fastPathNames w fvars ty e with
  | none => exact apiSlowP_total w fvars ty e inv perm
  | some names =>
    -- the looked-up names filtered by existence and then by `perm` are those that exist in the restricted inventory
    simp only [permFilter_total, targets_restrict, List.filter_filter, List.contains_eq_mem, List.mem_filter,
      Bool.decide_and, Bool.decide_eq_true, Bool.and_comm]

theorem of_mem_apiSlowP {w : World} {fvars : Option (List (String × Val))} {ty : TgtType} {e : Expr} {inv : Inventory}
    {perm : Val → Option Bool} {l : List Val} (h : apiSlowP w fvars ty e inv perm = some l) :
    ∀ t ∈ l, perm t = some true := by
  intro t ht
  rw [apiSlowP_eq_permFilter] at h
  have := ((mem_permFilter h).mp ht).2
  cases hp : perm t with
  | none => rw [hp] at this; cases this
  | some b => cases b with
    | true => rfl
    | false => rw [hp] at this; cases this

end Icinga.C16
