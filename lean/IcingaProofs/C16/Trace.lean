/-
  C16 — what the model says the harness observes of a configuration load and of an API query, and the lemmas that
  carry set equalities of the model over to the executable specification's comparisons.
-/
import IcingaProofs.C16.Api

namespace Icinga.C16

def obsOf : LoadResult → Obs
  | .rejected => none
  | .accepted l => some (l.map render)

/-- As written is the load with the index, every filter wrapped the load without it; the model has no threads, so the
    runs with 16 threads repeat the two terms and the spec's clause for parallel independence compares each with itself. -/
def modelObs (w : World) (rules : Rules) (inv : Inventory) (l : Late := ⟨[], []⟩) : LoadObs :=
  { late1 := some (obsOf (indexedStaged w rules inv l))
    plain1 := obsOf (indexedFull w rules inv), wrap1 := obsOf (plainFull w rules inv)
    plain16 := some (obsOf (indexedFull w rules inv)), wrap16 := some (obsOf (plainFull w rules inv))
    perm1 := some (obsOf (indexedFull w (permRules rules) (permInv inv)))
    permWrap1 := some (obsOf (plainFull w (permRules rules) (permInv inv))) }

def modelApiObs (w : World) (fvars : Option (List (String × Val))) (ty : TgtType) (e : Expr) (inv : Inventory) : ApiObs :=
  { fast := apiTargets w fvars ty e inv, slow := apiSlow w fvars ty e inv
    counts := some
      { nf := (apiTargets w fvars ty e inv).map List.length, ns := (apiSlow w fvars ty e inv).map List.length
        qf := queryResults (apiTargets w fvars ty e inv), qs := queryResults (apiSlow w fvars ty e inv)
        af := actionResults (apiTargets w fvars ty e inv), asl := actionResults (apiSlow w fvars ty e inv) } }

/-- `counts` is left unset, so the spec's multiplicity clause is not examined on this trace. -/
def modelApiObsP (w : World) (fvars : Option (List (String × Val))) (ty : TgtType) (e : Expr) (inv : Inventory)
    (perm : Val → Option Bool) : ApiObs :=
  { fast := apiTargetsP w fvars ty e inv perm, slow := apiSlowP w fvars ty e inv perm }

theorem sameSet_of_mem_iff {α : Type} [BEq α] [LawfulBEq α] {a b : List α} (h : ∀ x, x ∈ a ↔ x ∈ b) :
    sameSet a b = true := by
  simp only [sameSet, Bool.and_eq_true, List.all_eq_true, List.contains_iff_mem]
  exact ⟨fun x => (h x).mp, fun x => (h x).mpr⟩

theorem sameObs_refl {α : Type} [BEq α] [LawfulBEq α] (o : Option (List α)) : sameObs o o = true := by
  cases o with
  | none => rfl
  | some l => exact sameSet_of_mem_iff fun _ => Iff.rfl

theorem mem_map_render_congr {a b : List Created} (h : ∀ c, c ∈ a ↔ c ∈ b) (x : ObjObs) :
    x ∈ a.map render ↔ x ∈ b.map render := by
  simp only [List.mem_map, h]

theorem sameObs_of_equiv : ∀ {a b : LoadResult}, a.Equiv b → sameObs (obsOf a) (obsOf b) = true
  | .rejected, .rejected, _ => rfl
  | .accepted _, .accepted _, h => sameSet_of_mem_iff (mem_map_render_congr h)
  | .rejected, .accepted _, h => h.elim
  | .accepted _, .rejected, h => h.elim

theorem sameObs_of_apiEquiv : ∀ {a b : Option (List Val)}, ApiEquiv a b → sameObs a b = true
  | none, none, _ => rfl
  | some _, some _, h => sameSet_of_mem_iff h
  | none, some _, h => h.elim
  | some _, none, h => h.elim

theorem checkExact_of_mem_iff {exp obs : List ObjObs} (h : ∀ x, x ∈ exp ↔ x ∈ obs) :
    checkExact exp (some obs) = none := by
  have hc : ∀ o, coreEq o o = true := fun o => by simp only [coreEq, beq_self_eq_true, Bool.and_self]
  have hs : ∀ o, scopeEq o o = true := fun o => by simp only [scopeEq, beq_self_eq_true, Bool.or_true, Bool.and_self]
  have h1 : (exp.all fun e => obs.any (coreEq e)) = true :=
    List.all_eq_true.mpr fun e he => List.any_eq_true.mpr ⟨e, (h e).mp he, hc e⟩
  have h2 : (obs.all fun o => exp.any fun e => coreEq e o) = true :=
    List.all_eq_true.mpr fun o ho => List.any_eq_true.mpr ⟨o, (h o).mpr ho, hc o⟩
  have h3 : (obs.all fun o => exp.any fun e => coreEq e o && scopeEq e o) = true :=
    List.all_eq_true.mpr fun o ho => List.any_eq_true.mpr ⟨o, (h o).mpr ho, by rw [hc, hs]; rfl⟩
  simp only [checkExact, h1, h2, h3, Bool.not_true, Bool.false_eq_true, if_false]

theorem checkExact_of_equiv : ∀ {a : LoadResult} {exp : List Created},
    (LoadResult.accepted exp).Equiv a → checkExact (exp.map render) (obsOf a) = none
  | .accepted _, _, h => checkExact_of_mem_iff (mem_map_render_congr h)
  | .rejected, _, h => h.elim

theorem apiExpected_eq_apiSlow (w : World) (fvars : Option (List (String × Val))) (ty : TgtType) (e : Expr)
    (inv : Inventory) : apiExpected w fvars ty e inv = apiSlow w fvars ty e inv := by
  rw [apiSlow_eq_permFilter]
  unfold apiExpected
  induction targets inv ty with
  | nil => rfl
  | cons t ts ih =>
    rw [permFilter, ← ih]
    simp only [List.map_cons, List.any_cons, List.filterMap_cons]
    rcases evalFilter (apiEnv w (fvars.getD []) t) e with _ | _ | _
    · rfl
    · cases List.any _ _ <;> rfl
    · cases List.any _ _ <;> rfl

theorem specApiSets_of_equiv {w : World} {fvars : Option (List (String × Val))} {ty : TgtType} {e : Expr}
    {inv : Inventory} {o : ApiObs} (hs : o.slow = apiSlow w fvars ty e inv) (heq : ApiEquiv o.fast o.slow) :
    specApiSets w fvars ty e inv o = none := by
  unfold specApiSets
  rw [sameObs_of_apiEquiv heq, apiExpected_eq_apiSlow, ← hs]
  cases o.slow with
  | none => rfl
  | some l =>
    have hl : l.all l.contains = true := List.all_eq_true.mpr fun _ ht => List.contains_iff_mem.mpr ht
    simp only [hl, Bool.not_true, Bool.false_eq_true, if_false]

/-- The action handler's count, like the other two, is a function of the length of the target list, so equal lengths give
    equal counts. -/
theorem actionResults_eq_bind_length (l : Option (List Val)) :
    actionResults l = (l.map List.length).bind fun n => if n = 0 then none else some n := by
  rcases l with _ | _ | ⟨x, xs⟩ <;> rfl

end Icinga.C16
