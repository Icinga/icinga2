/-
  C16 — the specification's declarative reading (`matchDecl`, `declAll`, `expectedCreated`): wherever it is defined, it
  is plain evaluation.
-/
import IcingaProofs.C16.Load

namespace Icinga.C16

/-- Where every `assign where` and `ignore where` expression has a value, no operand is cut off by one that raises, and
    the filter's scans (`evalFilter_filter`) give the reading's value. -/
theorem evalFilter_filter_of_matchDecl {env : Env} {r : Rule} {b : Bool} (h : matchDecl env r = some b) :
    evalFilter env r.filter = some b := by
  unfold matchDecl at h
  simp only at h
  split at h
  · cases h
  · next hdef =>
    cases h
    rw [Bool.not_eq_true, Bool.or_eq_false_iff] at hdef
    rw [evalFilter_filter, orScan_of_defined hdef.1, orScan_of_defined hdef.2]
    cases r.assign.isEmpty <;> cases (r.assign.map (evalFilter env)).any (· == some true) <;> rfl

theorem evalInstance_of_declInst {w : World} {id : Nat} {r : Rule} {t : Val} {i : Inst} {o : Outcome}
    (h : declInst w id r t i = some o) : evalInstance w false id r t i = o := by
  obtain ⟨b, hb, rfl⟩ := Option.map_eq_some_iff.mp h
  simp only [evalInstance_false_eq, evalFilter_filter_of_matchDecl hb]
  cases b <;> rfl

theorem declRule_eq_map_evalRule {w : World} {id : Nat} {r : Rule} {t : Val} (h : (declRule w id r t).all Option.isSome = true) :
    declRule w id r t = (evalRule w false id r t).map some := by
  unfold declRule evalRule at *
  cases his : instances r t with
  | none => simp [his] at h
  | some is =>
    simp only [his, List.map_map] at h ⊢
    apply List.map_congr_left
    intro i hi
    obtain ⟨o, ho⟩ := Option.isSome_iff_exists.mp (List.all_eq_true.mp h _ (List.mem_map_of_mem hi))
    rw [ho, Function.comp_apply, evalInstance_of_declInst ho]

theorem mem_unwrap {d : List (Option Outcome)} {o : Outcome} : o ∈ unwrap d ↔ some o ∈ d := by
  simp [unwrap, List.mem_filterMap]

theorem mem_declAll {w : World} {rules : Rules} {inv : Inventory} {x : Option Outcome} :
    x ∈ declAll w rules inv ↔ ∃ p ∈ rules, ∃ t ∈ targets inv p.2.tgt, x ∈ declRule w p.1 p.2 t := by
  simp only [declAll, List.mem_flatMap]

theorem unwrap_declAll_iff {w : World} {rules : Rules} {inv : Inventory}
    (h : (declAll w rules inv).all Option.isSome = true) (o : Outcome) :
    o ∈ unwrap (declAll w rules inv) ↔ o ∈ plainOutcomes w rules inv := by
  rw [mem_unwrap, mem_declAll, mem_plainOutcomes]
  refine exists_congr fun p => and_congr_right fun hp => exists_congr fun t => and_congr_right fun ht => ?_
  have hd : (declRule w p.1 p.2 t).all Option.isSome = true :=
    List.all_eq_true.mpr fun x hx => List.all_eq_true.mp h x (mem_declAll.mpr ⟨p, hp, t, ht, hx⟩)
  rw [declRule_eq_map_evalRule hd, List.mem_map]
  exact ⟨fun ⟨_, ho, he⟩ => Option.some.inj he ▸ ho, fun ho => ⟨o, ho, rfl⟩⟩

theorem declAll_no_error {w : World} {rules : Rules} {inv : Inventory} :
    some Outcome.error ∉ declAll w rules inv := by
  rw [mem_declAll]
  rintro ⟨p, _, t, _, hx⟩
  unfold declRule at hx
  cases his : instances p.2 t with
  | none => simp [his] at hx
  | some is =>
    rw [his] at hx
    obtain ⟨i, _, hi⟩ := List.mem_map.mp hx
    obtain ⟨b, _, hb⟩ := Option.map_eq_some_iff.mp hi
    cases b <;> cases hb

theorem expectedCreated_eq_some {w : World} {rules : Rules} {inv : Inventory} {exp : List Created} :
    expectedCreated w rules inv = some exp ↔
      (declAll w rules inv).all Option.isSome = true ∧
      (declAll w rules (extend inv (unwrap (declAll w rules inv)))).all Option.isSome = true ∧
      (unwrap (declAll w rules (extend inv (unwrap (declAll w rules inv))))).filterMap Outcome.created? = exp := by
  unfold expectedCreated
  simp only
  cases (declAll w rules inv).all Option.isSome with
  | false => exact ⟨nofun, fun h => nomatch h.1⟩
  | true =>
    cases (declAll w rules (extend inv (unwrap (declAll w rules inv)))).all Option.isSome with
    | false => exact ⟨nofun, fun h => nomatch h.2.1⟩
    | true => exact ⟨fun h => ⟨rfl, rfl, Option.some.inj h⟩, fun h => congrArg some h.2.2⟩

theorem expectedCreated_equiv_plainFull {w : World} {rules : Rules} {inv : Inventory} {exp : List Created}
    (h : expectedCreated w rules inv = some exp) : (LoadResult.accepted exp).Equiv (plainFull w rules inv) := by
  obtain ⟨h1, h2, rfl⟩ := expectedCreated_eq_some.mp h
  have e1 := unwrap_declAll_iff h1
  -- the second round of the reading runs on the same targets as the second round of the load
  have e2 : OutcomesEquiv (unwrap (declAll w rules (extend inv (unwrap (declAll w rules inv)))))
      (plainOutcomes w rules (extend inv (plainOutcomes w rules inv))) :=
    (OutcomesEquiv.of_mem_iff (unwrap_declAll_iff h2)).trans
      (plainOutcomes_congr w (fun _ => Iff.rfl) (extend_congr (InvEquiv.refl inv) (.of_mem_iff e1)))
  -- the reading's outcomes hold no error, so that load is accepted; congruence does the rest
  have h := loadResult_congr e2
  rwa [loadResult_eq_accepted.mpr ⟨fun he => declAll_no_error (mem_unwrap.mp he), rfl⟩] at h

end Icinga.C16
