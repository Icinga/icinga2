/-
  C04 — property theorems.  Every `theorem` in this file is a proof obligation of the check.
  The model (IcingaModel/C04/Model.lean) is a transition system whose actions are the lock-protected
  sections of CheckerComponent and the attribute writes that happen outside its mutex; "for every
  interleaving" is "for every list of enabled actions" (`run`).
-/
import IcingaProofs.C04.Invariants
import IcingaProofs.C04.NextCheck
import IcingaProofs.C04.TraceLemmas
import IcingaProofs.C04.Completion
import IcingaModel.C04.Spec

namespace Icinga.C04

/-- **one_location.**  In every state reachable by any interleaving of scheduler sections, helper sections,
    object handlers, next-check handlers and attribute writes (pause, resume, SetNextCheck, force,
    activation, deactivation at any moment), no checkable is in the idle and the pending set at once; and
    whenever an `ObjectHandler` section has run since the last write of `active`/`paused` (i.e. at every lock
    release outside the window between an attribute write and the handler call that follows it on the same
    thread), a checkable is schedulable (active ∧ ¬paused ∧ local zone) iff it is in exactly one of them:
    nothing is dropped, nothing is scheduled twice. -/
theorem one_location (n : Nat) (max : Int) (hm : 0 ≤ max) (acts : List Act) (s : St)
    (hr : run (init n max) acts = some s) (c : Nat) :
    ¬((s.chk c).inIdle = true ∧ (s.chk c).inPending = true) ∧
    ((s.chk c).synced = true →
      ((s.chk c).schedulable = true ↔ ((s.chk c).inIdle = true ∨ (s.chk c).inPending = true))) := by
  have h := (inv_run hm hr).chk c
  exact ⟨h.not_both, h.synced_iff⟩

/-- the hypotheses of `one_location` are met on a non-trivial run: activate, resume, pick, pause while pending -/
example : ((run (init 2 1) [.setActive 1 true, .setPaused 1 false, .objectHandler 1, .sched 1 5 {},
    .setPaused 1 true, .objectHandler 1, .rearm 1 5 6, .helperGuard 1]).map
      fun s => ((s.chk 1).inIdle, (s.chk 1).inPending, (s.chk 1).synced, (s.chk 1).hx)) = some (false, false, true, 1) := by
  decide +kernel

/-- **key_tracks_next_check.**  Rescheduling at any moment never leaves a stale key behind: whenever a
    `NextCheckChangedHandler` section has run since the last write of `next_check`, an idle checkable sits in
    the index under exactly its `next_check`. -/
theorem key_tracks_next_check (n : Nat) (max : Int) (hm : 0 ≤ max) (acts : List Act) (s : St)
    (hr : run (init n max) acts = some s) (c : Nat)
    (hk : (s.chk c).keySynced = true) (hi : (s.chk c).inIdle = true) :
    (s.chk c).idleKey = (s.chk c).nextCheck :=
  ((inv_run hm hr).chk c).key hk hi

example : ((run (init 1 1) [.setActive 0 true, .setPaused 0 false, .objectHandler 0, .setNextCheck 0 77,
    .nextCheckChanged 0]).map fun s => ((s.chk 0).inIdle, (s.chk 0).keySynced, (s.chk 0).idleKey)) = some (true, true, 77) := by
  decide +kernel

/-- **single_flight.**  For every interleaving — passive results processed at any moment included (F-C04c, fixed by 1c45f06) — at
    most one execution of a checkable is between a successful `m_CheckRunning` test-and-set and its result — be it a command body
    inside the helper, a spawned plugin process, or a finished process whose result is on its way to `ProcessCheckResult` — and
    one is iff the flag is set. -/
theorem single_flight (n : Nat) (max : Int) (acts : List Act) (s : St)
    (hr : run (init n max) acts = some s) (c : Nat) :
    (s.chk c).hx + (s.chk c).procs + (s.chk c).pz ≤ 1 ∧
    ((s.chk c).hx + (s.chk c).procs + (s.chk c).pz = 1 ↔ (s.chk c).running = true) := by
  have h := chk_run flightInv_apply flightInv_default hr c
  exact ⟨h.le_one, h.eq_one_iff⟩

/-- asynchronous execution: the helper has long finished and the checkable, idle again, has been dispatched a second time; the
    process still holds the flag, so the second helper finds the guard busy (`hr = 1`) and starts nothing -/
example : ((run (init 1 2) [.setActive 0 true, .setPaused 0 false, .objectHandler 0, .sched 0 0 {},
    .rearm 0 0 1, .helperGuard 0, .spawn 0, .pluginInc 0, .helperDec 0, .helperFinish 0, .setNextCheck 0 0, .nextCheckChanged 0,
    .sched 0 0 {}, .rearm 0 0 1, .helperGuard 0]).map
      fun s => ((s.chk 0).procs, (s.chk 0).running, (s.chk 0).hr, (s.chk 0).inPending, s.counter)) = some (1, true, 1, true, 2) := by
  decide +kernel

/-- a passive result during an execution changes nothing: the forced second dispatch finds the guard busy and starts nothing -/
example : ((run (init 1 4) [.setActive 0 true, .setPaused 0 false, .objectHandler 0, .sched 0 0 {}, .rearm 0 0 1, .helperGuard 0, .spawn 0,
    .passiveResult 0, .pluginInc 0, .helperDec 0, .helperFinish 0, .force 0, .sched 0 1 {}, .rearm 0 1 2, .helperGuard 0]).map
      fun s => ((s.chk 0).hx, (s.chk 0).procs, (s.chk 0).running, (s.chk 0).hr)) = some (0, 1, true, 1) := by decide +kernel

/-- F-C04c, the code before the fix (`passiveResultPreFix` is not a transition of the model): before 1c45f06 a passive result
    cleared the flag like every other result, which destroys the invariant behind `single_flight` — shown here on the state with one
    plugin process running: the flag is clear while the process runs, so the next test-and-set finds it clear and starts a second
    execution (the third conjunct says only that the flag is set again after that guard, which holds of a busy guard too).  The
    `passiveResult` of the fixed code keeps the invariant. -/
theorem passive_result_pre_fix_breaks_single_flight :
    let x : Chk := { running := true, procs := 1 }
    FlightInv x ∧ ¬ FlightInv x.passiveResultPreFix ∧ (x.passiveResultPreFix.helperGuard).running = true ∧
      FlightInv x.passiveResult := by
  unfold FlightInv; decide

/-- **concurrency_bound.**  For every interleaving the number of command executions running at once — command bodies
    inside helpers plus *spawned, unfinished plugin processes*, over all checkables — never exceeds
    `max_concurrent_checks`; every one of them holds a unit of the pending-checks counter, and the counter is exactly
    the units held by helpers plus PluginCheckTask's own outstanding `+1`s.  (The invariant behind it: helpers that may
    still start something + running command bodies + running processes ≤ max; the dispatch needs `counter < max`
    and every such slot holds a unit.) -/
theorem concurrency_bound (n : Nat) (max : Int) (hm : 0 ≤ max) (acts : List Act) (s : St)
    (hr : run (init n max) acts = some s) :
    s.executing ≤ max ∧ s.executing ≤ s.counter ∧ 0 ≤ s.counter ∧
    s.counter = sumTo s.n (fun i => (s.chk i).units) := by
  have hinv := inv_run hm hr
  have hmax : s.max = max := (run_n_max hr).2
  have h1 := hinv.executing_le_max
  have h2 := executing_le_slots s
  have h3 := hinv.slots_le_counter
  have h4 := hinv.counter_nonneg
  exact ⟨by omega, by omega, h4, hinv.counter_eq⟩

example : ((run (init 2 1) [.setActive 0 true, .setPaused 0 false, .objectHandler 0, .setActive 1 true,
    .setPaused 1 false, .objectHandler 1, .sched 0 0 {}, .rearm 0 0 1, .helperGuard 0]).map
      fun s => (s.executing, s.counter, decide (schedEnabled s 1 0))) = some (1, 1, false) := by
  decide +kernel

/-- the *counter* itself is not bounded by `max_concurrent_checks` — between PluginCheckTask's `+1` and
    the helper's `-1` one check holds two units (here: max = 1, counter = 2, one process running) -/
theorem counter_exceeds_max_with_plugins :
    ((run (init 1 1) [.setActive 0 true, .setPaused 0 false, .objectHandler 0, .sched 0 0 {},
        .rearm 0 0 1, .helperGuard 0, .spawn 0, .pluginInc 0]).map fun s => (s.counter, s.max, s.executing)) = some (2, 1, 1) := by
  decide +kernel

/-- **next_check_window.**  `Checkable::UpdateNextCheck` (exact arithmetic): for every `now`, every scheduling
    offset and every interval `> 0` (check_interval, or retry_interval while soft) the next check lies in the
    future and at most one interval ahead.  This speaks of the code for `now ≥ 0` and offset `≥ 0` only: for a negative dividend C's
    `fmod` is not the model's (`fmod`, IcingaModel/C04/Model.lean).  (The trace validation evaluates the same window on the implementation's own
    next_check after every execution — clause `next_check_window` — with the interval in force determined by the harness.) -/
theorem next_check_window (now off interval : Rat) (hi : 0 < interval) :
    now < updateNextCheck now off interval ∧ updateNextCheck now off interval ≤ now + interval := by
  have := adj_bounds now off interval hi
  unfold updateNextCheck
  constructor <;> grind

example : updateNextCheck 1000 7 60 = 1059 + 43 / 100 := by decide +kernel
example : updateNextCheck 1000 7 (1 / 2) = 1000 + 1 / 2 := by decide +kernel

/-- **forced_runs.**  When the scheduler takes a checkable whose `force_next_check` is set, the check is
    dispatched whatever reachability, `enable_active_checks` and the check period say: it moves from idle to
    pending, the flag is cleared and a helper is queued. -/
theorem forced_runs (s : St) (c : Nat) (now : Int) (i : SkipIn)
    (hen : schedEnabled s c now) (hf : (s.chk c).forced = true) :
    ∃ s', step s (.sched c now i) = some s' ∧ (s'.chk c).inPending = true ∧ (s'.chk c).inIdle = false ∧
      (s'.chk c).forced = false ∧ (s'.chk c).hq = (s.chk c).hq + 1 ∧ s'.counter = s.counter + 1 := by
  obtain ⟨h2, h3⟩ := after_dispatch s c now i (by rw [hf]; rfl)
  refine ⟨_, step_iff.2 ⟨hen, rfl⟩, ?_⟩
  rw [h2]
  exact ⟨rfl, rfl, rfl, rfl, h3⟩

/-- and an unforced check is skipped exactly when unreachable, disabled or outside its period -/
theorem skip_iff (f r e p : Bool) : Chk.skips f r e p = true ↔ (f = false ∧ (r = false ∨ e = false ∨ p = false)) := by
  revert f r e p; decide

/-- **eligible_runs.**  The scheduler's guard set (checkercomponent.cpp:142-176 as transcribed: dependency test, the object's
    own flag with the global flag of its type — host checks for hosts, service checks for services —, check period) agrees with
    the property's notion of eligibility (`eligible`, IcingaModel/C04/Spec.lean): whenever the scheduler's section is enabled for
    a due entry, the check is dispatched (idle → pending, a helper queued, one slot taken) if it is forced or eligible, and
    otherwise — and only otherwise — it is skipped and stays idle.  "Every active checkable … with active checks enabled and
    inside its check period is executed": in particular a service is never skipped because of its host's state. -/
theorem eligible_runs (s : St) (c : Nat) (now : Int) (i : SkipIn) (hen : schedEnabled s c now) :
    ∃ s', step s (.sched c now i) = some s' ∧
      (((s.chk c).forced = true ∨ eligible i.isService i.own i.hostChecks i.svcChecks i.inPeriod i.depOk = true) →
        (s'.chk c).inPending = true ∧ (s'.chk c).inIdle = false ∧ (s'.chk c).hq = (s.chk c).hq + 1 ∧
          s'.counter = s.counter + 1) ∧
      (((s.chk c).forced = false ∧ eligible i.isService i.own i.hostChecks i.svcChecks i.inPeriod i.depOk = false) →
        (s'.chk c).inIdle = true ∧ (s'.chk c).inPending = (s.chk c).inPending ∧ (s'.chk c).hq = (s.chk c).hq ∧
          s'.counter = s.counter) := by
  refine ⟨_, step_iff.2 ⟨hen, rfl⟩, fun h => ?_, fun h => ?_⟩
  · obtain ⟨h2, h3⟩ := after_dispatch s c now i (skipsIn_eq_false_iff.2 h)
    rw [h2]; exact ⟨rfl, rfl, rfl, h3⟩
  · obtain ⟨h2, h3⟩ := after_skip s c now i (skipsIn_eq_true_iff.2 h)
    rw [h2]; exact ⟨rfl, rfl, rfl, h3⟩

/-- a service is dispatched although host checks are globally off (only the global flag of its own type counts); the state of its
    host is not among the facts the guard set reads at all -/
example : ((run (init 1 1) [.setActive 0 true, .setPaused 0 false, .objectHandler 0,
    .sched 0 0 { isService := true, hostChecks := false }]).map fun s => ((s.chk 0).inPending, s.counter)) = some (true, 1) := by
  decide +kernel
/-- … and a host is skipped when host checks are globally off although its own flag is on -/
example : ((run (init 1 1) [.setActive 0 true, .setPaused 0 false, .objectHandler 0,
    .sched 0 0 { hostChecks := false }]).map fun s => ((s.chk 0).inPending, (s.chk 0).inIdle, s.counter)) = some (false, true, 0) := by
  decide +kernel

example : ((run (init 1 1) [.setActive 0 true, .setPaused 0 false, .objectHandler 0, .force 0,
    .sched 0 0 { depOk := false, own := false, inPeriod := false }]).map fun s => ((s.chk 0).inPending, (s.chk 0).forced)) = some (true, false) := by
  decide +kernel

/-- **progress.**  No stuck state: whenever some checkable is idle and due and a slot is free, the scheduler's
    section is enabled for an idle checkable with the smallest key (which is due as well), whatever the
    recorded facts.  (`ExecuteCheck`'s early `UpdateNextCheck` is the transition `rearm`, the one of result processing / the skip path is
    `ownResched`, each followed by its own `nextCheckChanged`; the scheduler thread's sequential order "skip, then UpdateNextCheck, then
    look again" is not modelled — so this is absence of a stuck state, not liveness; real-time liveness is measured.) -/
theorem progress (s : St) (now : Int) (c0 : Nat) (h0 : c0 < s.n) (hi : (s.chk c0).inIdle = true)
    (hdue : (s.chk c0).idleKey ≤ now) (hfree : s.counter < s.max) :
    ∃ c, schedEnabled s c now ∧ (s.chk c).idleKey ≤ (s.chk c0).idleKey ∧
      ∀ i, (step s (.sched c now i)).isSome = true := by
  obtain ⟨c, hc, hic, hmin⟩ :=
    exists_min (fun i => (s.chk i).inIdle = true) (fun i => (s.chk i).idleKey) s.n c0 h0 hi
  have hle := hmin c0 h0 hi
  have hen : schedEnabled s c now := ⟨hc, hic, by omega, hfree, hmin⟩
  exact ⟨c, hen, hle, fun i => Option.isSome_iff_exists.2 ⟨_, step_iff.2 ⟨hen, rfl⟩⟩⟩

example : schedEnabled
    { n := 2, chk := fun i => if i = 0 then { inIdle := true, idleKey := 9 } else { inIdle := true, idleKey := 4 },
      counter := 0, max := 1 } 1 5 := by decide +kernel

/-- **sched_takes_earliest.**  No overtaking: whatever entry the scheduler's section takes, no idle checkable has an earlier key — a due
    check is never passed over in favour of a later one (with `key_tracks_next_check`: in favour of a later `next_check`); and the
    entry taken is due and a slot was free. -/
theorem sched_takes_earliest (s s' : St) (c : Nat) (now : Int) (i : SkipIn) (hs : step s (.sched c now i) = some s') :
    (∀ c0, c0 < s.n → (s.chk c0).inIdle = true → (s.chk c).idleKey ≤ (s.chk c0).idleKey) ∧
      (s.chk c).idleKey ≤ now ∧ s.counter < s.max := by
  have hen : schedEnabled s c now := (step_iff.1 hs).1
  exact ⟨hen.min, hen.due, hen.free⟩

/-- the later entry cannot be taken while an earlier one is idle, although it is due itself -/
example : (step (St.mk 2 (fun i => if i = 0 then { inIdle := true, idleKey := 9 } else { inIdle := true, idleKey := 4 }) 0 1)
    (.sched 0 10 {})).isNone = true := by decide +kernel

/-- a skipped or dispatched checkable stays in the schedule: after the scheduler's section it is idle under its current
    `next_check` (skipped) or pending (dispatched) -/
theorem sched_keeps_scheduled (s s' : St) (c : Nat) (now : Int) (i : SkipIn)
    (hs : step s (.sched c now i) = some s') :
    ((s'.chk c).inIdle = true ∧ (s'.chk c).idleKey = (s.chk c).nextCheck ∧ (s'.chk c).inPending = (s.chk c).inPending) ∨
    ((s'.chk c).inIdle = false ∧ (s'.chk c).inPending = true) := by
  obtain ⟨_, rfl⟩ := step_iff.1 hs
  cases hsk : Chk.skipsIn (s.chk c).forced i
  · exact .inr (by rw [(after_dispatch s c now i hsk).1]; exact ⟨rfl, rfl⟩)
  · exact .inl (by rw [(after_skip s c now i hsk).1]; exact ⟨rfl, rfl, rfl⟩)

/-- **pending_has_helper.**  "Never dropped" for the pending set: in every reachable state a checkable that sits in the pending
    set has a dispatched `ExecuteCheckHelper` that has not passed its final critical section yet — the section that takes it
    out of the pending set and, if it is still active, back into the idle set (`helperFinish`).  No interleaving of pause,
    resume, reschedule, force, activation, deactivation and completions strands a checkable in the pending set. -/
theorem pending_has_helper (n : Nat) (max : Int) (hm : 0 ≤ max) (acts : List Act) (s : St)
    (hr : run (init n max) acts = some s) (c : Nat) (hp : (s.chk c).inPending = true) :
    0 < (s.chk c).helpers ∧
      ((s.chk c).hd > 0 → ((s.upd c (s.chk c).helperFinish).chk c).inPending = false ∧
        ((s.chk c).active = true → ((s.upd c (s.chk c).helperFinish).chk c).inIdle = true)) := by
  refine ⟨((inv_run hm hr).chk c).pending_helper hp, fun _ => ?_⟩
  rw [show (s.upd c (s.chk c).helperFinish).chk c = (s.chk c).helperFinish from if_pos rfl]
  exact helperFinish_pending _ hp

/-- pending while two helpers are outstanding (dispatch, pause+resume while the command runs, second dispatch) -/
example : ((run (init 1 4) [.setActive 0 true, .setPaused 0 false, .objectHandler 0, .sched 0 0 {}, .rearm 0 0 1, .helperGuard 0,
    .setPaused 0 true, .objectHandler 0, .setPaused 0 false, .objectHandler 0, .sched 0 1 {}]).map
      fun s => ((s.chk 0).inPending, (s.chk 0).helpers)) = some (true, 2) := by decide +kernel

/-- **completion_always_possible.**  "Never dropped", as absence of a dead end: from EVERY reachable state — whatever pauses, resumes,
    reschedules, forced checks, activations, deactivations and other checkables' events have happened, in whatever order — the
    completion path of any checkable `c` (the early re-arm, guard, result or process exit + result, PluginCheckTask's `+1`, the helper's
    `-1` and final section) can be run to its end using only `c`'s own actions (`Act.completes`),
    and in the state reached nothing of `c` is in flight, `c` is not in the pending set, and — if its handlers have run and it is
    this node's to schedule — it is in the idle set under some key: it will be taken again. -/
theorem completion_always_possible (n : Nat) (max : Int) (hm : 0 ≤ max) (acts : List Act) (s : St)
    (hr : run (init n max) acts = some s) (c : Nat) (hc : c < n) :
    ∃ more s', run (init n max) (acts ++ more) = some s' ∧ (∀ a ∈ more, a.completes c = true) ∧
      (s'.chk c).settled = true ∧ (s'.chk c).inPending = false ∧
      ((s'.chk c).synced = true → (s'.chk c).schedulable = true → (s'.chk c).inIdle = true) := by
  have hn : s.n = n := (run_n_max hr).1
  obtain ⟨more, s', hrun, hall, hset⟩ := settle_exists c s (by omega)
  have hfull := run_append hr hrun
  obtain ⟨hnp, hsi⟩ := ((inv_run hm hfull).chk c).no_helpers ((Chk.settled_iff _).1 hset).1
  exact ⟨more, s', hfull, hall, hset, hnp, fun hsy => (hsi hsy).1⟩

/-- two helpers outstanding (second dispatch after pause+resume during the first command), one command running: seven more
    actions of checkable 0 and it is settled and idle again -/
example : ((run (init 1 4) ([.setActive 0 true, .setPaused 0 false, .objectHandler 0, .sched 0 0 {}, .rearm 0 0 1, .helperGuard 0,
    .setPaused 0 true, .objectHandler 0, .setPaused 0 false, .objectHandler 0, .sched 0 1 {}] ++
    [.rearm 0 1 2, .helperGuard 0, .result 0, .helperDec 0, .helperDec 0, .helperFinish 0, .helperFinish 0])).map
      fun s => ((s.chk 0).settled, (s.chk 0).inIdle, (s.chk 0).inPending, s.counter)) = some (true, true, false, 0) := by decide +kernel

/-- **no_slot_leak.**  In every reachable state in which nothing is in flight — no helper between its dispatch and its final
    section, no plugin process running, no result on its way — the pending-checks counter is 0: every concurrency slot taken by a
    dispatch or by PluginCheckTask's own `+1` has been given back, whatever happened to the checkable meanwhile (paused,
    deactivated, re-added, dispatched again while its process ran). -/
theorem no_slot_leak (n : Nat) (max : Int) (hm : 0 ≤ max) (acts : List Act) (s : St)
    (hr : run (init n max) acts = some s) (hq : s.settled = true) : s.counter = 0 :=
  (inv_run hm hr).settled_counter hq

/-- settled again after an asynchronous execution whose checkable was paused while the process ran -/
example : ((run (init 1 1) [.setActive 0 true, .setPaused 0 false, .objectHandler 0, .sched 0 0 {}, .rearm 0 0 1, .helperGuard 0, .spawn 0,
    .setPaused 0 true, .objectHandler 0, .procExit 0, .pluginInc 0, .helperDec 0, .helperFinish 0, .procResult 0]).map
      fun s => (s.settled, s.counter)) = some (true, 0) := by decide +kernel

/-- **model_trace_meets_spec** (the safety part of the property as one statement).  For every number of checkables,
    every `max_concurrent_checks ≥ 0` and every interleaving of enabled actions (passive results at any moment included) —
    scheduler sections with arbitrary clocks and oracle inputs, helper sections, check completions, pause / resume /
    activation / deactivation (attribute writes and handler calls at any distance from each other), next-check
    changes, forced checks — the trace an observer takes from the model (membership at every lock release, the
    scheduler's slot and skip decisions, start and end of every command execution, the quiescent snapshot at the end;
    IcingaModel/C04/Trace.lean) satisfies the executable specification `specTrace` that the check also evaluates on the
    real scheduler's observations: never in both sets; once an authority-changing operation (pause, resume, activation,
    deactivation) has completed, at every later lock release a checkable that is not this node's to schedule is in neither
    set and one that is, is in one (until the next such operation begins); no dispatch without a free slot, no forced check skipped,
    no eligible check (active checks enabled for the object and its type, period open, no failed disable_checks dependency) skipped
    and no ineligible unforced one executed, never two executions of one checkable at once, never more than
    `max_concurrent_checks` executions, `next_check` after the dispatch whenever an execution attempt has come back and no outside
    party has written it since (`rearmed_when_attempt_returns`), and at quiescence
    schedulable ⇔ in exactly one set, under its `next_check`, nothing left in the pending set once all helpers have finished, and
    the pending-checks counter back at 0 once nothing is in flight.  (The model emits no `window` observation: that clause is
    evaluated on the implementation only, and its arithmetic is the subject of `next_check_window`; real-time liveness is measured,
    not proved.) -/
theorem model_trace_meets_spec (n : Nat) (max : Int) (hm : 0 ≤ max) (acts : List Act) (tr : List Ev)
    (ht : traceOf (init n max) acts = some tr) :
    specTrace { max := max } tr = none :=
  rel_run acts _ _ tr (rel_init n max hm) (fun _ _ hb => nomatch hb) ht

/-- the hypotheses are met by a non-trivial run (dispatch, execution, pause while pending, result, finish) and the trace
    it produces is not empty -/
example : (traceOf (init 2 1) [.setActive 1 true, .setPaused 1 false, .objectHandler 1, .force 1,
    .sched 1 5 { own := false }, .rearm 1 5 6, .nextCheckChanged 1, .helperGuard 1, .setPaused 1 true, .objectHandler 1, .result 1, .helperDec 1,
    .helperFinish 1]) = some [.opBegin 1, .opBegin 1, .authority 1 true, .loc 1 true false, .slot 0 1,
      .decision 1 true false false, .loc 1 false true, .loc 1 false true, .execStart 1, .opBegin 1, .authority 1 false, .loc 1 false false,
      .execEnd 1, .rearmed 1 5 6, .loc 1 false false, .quiescent 0 false false false 0 0, .quiescent 1 false false false 0 6,
      .quiescentCounter 0] := by decide +kernel

/-- … and by an asynchronous one: the process outlives its helper, exits, and only then delivers its result -/
example : (traceOf (init 1 1) [.setActive 0 true, .setPaused 0 false, .objectHandler 0, .sched 0 0 {},
    .rearm 0 0 1, .nextCheckChanged 0, .helperGuard 0, .spawn 0, .pluginInc 0, .helperDec 0, .helperFinish 0, .procExit 0, .procResult 0]).bind
      (fun tr => some tr.length) = some 14 := by decide +kernel

/-- … and by the run of F-C04c: a passive result while the process runs, then a forced dispatch — the trace passes (no second
    `execStart`) -/
example : (traceOf (init 1 4) [.setActive 0 true, .setPaused 0 false, .objectHandler 0, .sched 0 0 {}, .rearm 0 0 1, .helperGuard 0, .spawn 0,
    .passiveResult 0, .pluginInc 0, .helperDec 0, .helperFinish 0, .force 0, .sched 0 1 {}, .rearm 0 1 2, .helperGuard 0]).bind
      (fun tr => some (specTrace { max := 4 } tr, tr.count (.execStart 0))) = some (none, 1) := by decide +kernel

/-- **rearm_after_dispatch.**  The clause `not_rearmed` ("after each execution the next check time lies in the future", evaluated on the
    implementation's own `next_check` every time an execution attempt has come back - result delivered, process spawned, or single-flight
    guard found busy) accepts every observation for which some clock reading lies between the dispatch and `next_check`.  These are the two
    facts behind `Checkable::ExecuteCheck`'s unconditional early `UpdateNextCheck()` (checkable-check.cpp:584-588, before the guard): the
    helper reads the clock no earlier than the scheduler that dispatched it (`d ≤ now`), and `UpdateNextCheck` yields a value after the
    clock it read (`now < v`, theorem `next_check_window` for every offset and interval > 0); every later write by the scheduler's
    machinery (result processing, skip path) is of the same kind.  The statement is about the clause alone; the model's transitions
    `rearm` / `ownResched` carry the two facts as their enabling conditions, and that they keep `next_check` after the dispatch in every
    reachable state is `rearmed_when_attempt_returns`. -/
theorem rearm_after_dispatch (sp : SpecSt) (c : Nat) (d now v : Int) (hmono : d ≤ now) (hfut : now < v) :
    specStep sp (.rearmed c d v) = none :=
  if_pos (by omega)

/-- **rearmed_when_attempt_returns.**  For every interleaving: in every reachable state in which an execution attempt of `c` has passed
    `ExecuteCheck`'s early `UpdateNextCheck()` and is still outstanding (before the guard, executing, spawning, returned, or before its
    final section) and no outside party (`setNextCheck`: API action, external command, cluster event) has written `next_check` since the
    earliest outstanding dispatch, `next_check` lies after that dispatch - whatever pauses, resumes, second dispatches, busy guards,
    passive results and completions happened meanwhile.  In particular a helper that finds the single-flight guard busy comes back with
    the checkable re-armed: the scheduler does not take it again at once.  (`model_trace_meets_spec` carries this as the `rearmed`
    observation at every `helperDec`.) -/
theorem rearmed_when_attempt_returns (n : Nat) (max : Int) (acts : List Act) (s : St)
    (hr : run (init n max) acts = some s) (c : Nat) (hf : (s.chk c).foreign = false)
    (hh : 0 < (s.chk c).hu + (s.chk c).hx + (s.chk c).hs + (s.chk c).hr + (s.chk c).hd) :
    (s.chk c).dispatchedAt < (s.chk c).nextCheck :=
  chk_run rearmInv_apply rearmInv_default hr c hf hh

/-- the hypotheses are met while a second attempt (process of the first still running) has found the guard busy and returned -/
example : ((run (init 1 4) [.setActive 0 true, .setPaused 0 false, .objectHandler 0, .sched 0 0 {}, .rearm 0 2 32, .helperGuard 0, .spawn 0,
    .pluginInc 0, .helperDec 0, .helperFinish 0, .ownResched 0 3 4, .nextCheckChanged 0, .sched 0 7 {}, .rearm 0 8 38, .helperGuard 0]).map
      fun s => ((s.chk 0).foreign, (s.chk 0).hr, (s.chk 0).procs, (s.chk 0).dispatchedAt, (s.chk 0).nextCheck)) = some (false, 1, 1, 7, 38) := by
  decide +kernel

/-- the order matters: a helper cannot reach the guard before it has re-armed the checkable (the mutation "re-arm only after a successful
    guard" is not a behaviour of the model) -/
example : (run (init 1 4) [.setActive 0 true, .setPaused 0 false, .objectHandler 0, .sched 0 0 {}, .helperGuard 0]).isNone = true := by decide +kernel

/-- … with the exact arithmetic of `UpdateNextCheck`: whatever offset and interval > 0, the value it computes from a clock reading not
    before the dispatch lies after the dispatch -/
theorem update_next_check_after_dispatch (d now off interval : Rat) (hi : 0 < interval) (hmono : d ≤ now) :
    d < updateNextCheck now off interval := by
  have := (next_check_window now off interval hi).1
  grind

example : specStep { max := 1 } (.rearmed 0 1000 1030) = none := by decide +kernel

example : specTrace { max := 1 } [.rearmed 0 10 10] = some .not_rearmed := by decide +kernel
example : specTrace { max := 1 } [.rearmed 0 10 11] = none := by decide +kernel

example : specTrace { max := 2 } [.execStart 3, .loc 3 false true, .execStart 3] = some .single_flight := by decide +kernel
example : specTrace { max := 1 } [.execStart 3, .execStart 4] = some .concurrency_bound := by decide +kernel
example : specTrace { max := 1 } [.loc 0 true true] = some .one_location := by decide +kernel
example : specTrace { max := 1 } [.slot 1 1] = some .concurrency_slot := by decide +kernel
example : specTrace { max := 1 } [.decision 0 true true false] = some .forced_runs := by decide +kernel
example : specTrace { max := 1 } [.decision 0 false true true] = some .eligible_skipped := by decide +kernel
example : specTrace { max := 1 } [.decision 0 false false false] = some .ran_although_disabled := by decide +kernel
example : specTrace { max := 1 } [.decision 0 false true false, .decision 0 true false false, .decision 0 false false true] = none := by decide +kernel
example : specTrace { max := 1 } [.quiescent 0 true false true 0 0] = some .quiescent_pending := by decide +kernel
example : specTrace { max := 1 } [.quiescentCounter 1] = some .slot_leaked := by decide +kernel
example : specTrace { max := 1 } [.window 10 11 10 5] = some .next_check_window := by decide +kernel
example : specTrace { max := 1 } [.quiescent 0 true false false 0 0] = some .quiescent_location := by decide +kernel
example : specTrace { max := 1 } [.opBegin 3, .authority 3 false, .loc 3 true false] = some .scheduled_while_not_responsible := by decide +kernel
example : specTrace { max := 1 } [.authority 3 true, .loc 3 false false] = some .dropped_from_schedule := by decide +kernel
example : specTrace { max := 1 } [.authority 3 false, .opBegin 3, .loc 3 true false, .authority 3 true, .loc 3 true false] = none := by decide +kernel
example : specTrace { max := 1 } [.quiescent 0 true true false 3 4] = some .quiescent_key := by decide +kernel
example : specTrace { max := 2 } [.execStart 3, .slot 1 2, .execStart 4, .execEnd 3, .execStart 3, .window 10 11 15 5,
    .quiescent 0 true true false 4 4, .quiescent 1 false false false 0 9] = none := by decide +kernel

end Icinga.C04
