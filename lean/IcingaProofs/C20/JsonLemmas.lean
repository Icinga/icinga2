/-
  C20 — JSON values: the parser reads every value back from the encoder's text and stops behind it (`ValueOk`, for every
  lawful number codec), so `jsonDecode (jsonEncode v) = some v`; a document that parses to an object starts with '{'; the
  witness `nest` of the nesting limit.
-/
import IcingaModel.C20.Json
import IcingaModel.C20.Limit
import IcingaProofs.C20.JsonStringLemmas
import IcingaProofs.C20.IntCodecLemmas
namespace Icinga.C20

/-- What may follow a number token: nothing, or a byte that cannot continue the token. -/
def NumSafe (rest : List UInt8) : Prop := ∀ b r, rest = b :: r → isNumChar b = false

theorem numSafe_nil : NumSafe [] := by intro b r h; cases h

theorem numSafe_cons (b : UInt8) (r : List UInt8) (h : isNumChar b = false) : NumSafe (b :: r) := by
  intro b' r' e; cases e; exact h

theorem takeWhile_numChars (xs rest : List UInt8) (hx : ∀ b ∈ xs, isNumChar b = true)
    (hr : NumSafe rest) :
    (xs ++ rest).takeWhile isNumChar = xs ∧ (xs ++ rest).dropWhile isNumChar = rest := by
  have hrest : rest.takeWhile isNumChar = [] ∧ rest.dropWhile isNumChar = rest := by
    cases rest with
    | nil => simp
    | cons b r => simp [hr b r rfl]
  rw [List.takeWhile_append_of_pos hx, List.dropWhile_append_of_pos hx, hrest.1, hrest.2, List.append_nil]
  exact ⟨rfl, rfl⟩

theorem decodeNumber_fmt {N : Type} (c : NumCodec N) (hc : c.Lawful) (n : N) (rest : List UInt8)
    (hr : NumSafe rest) : decodeNumber c (c.fmt n ++ rest) = some (JValue.num n, rest) := by
  have := takeWhile_numChars (c.fmt n) rest (hc.chars n) hr
  unfold decodeNumber
  rw [this.1, this.2, hc.roundtrip]

theorem decodeValueF_numStart {N : Type} (c : NumCodec N) (f : Nat) (b : UInt8) (t : List UInt8)
    (hb : isNumChar b = true) : decodeValueF c (f + 1) (b :: t) = decodeNumber c (b :: t) := by
  have ne : ∀ x, isNumChar x = false → b ≠ x := fun x hx e => by rw [e, hx] at hb; cases hb
  simp only [decodeValueF]
  rw [if_neg (ne 110 rfl), if_neg (ne 116 rfl), if_neg (ne 102 rfl), if_neg (ne 34 rfl), if_neg (ne 91 rfl),
    if_neg (ne 123 rfl), if_pos hb]

theorem jsonEncodeString_cons (s : List Char) (rest : List UInt8) :
    jsonEncodeString s ++ rest = 34 :: (encodeChars s ++ 34 :: rest) := by
  simp [jsonEncodeString]

/-- After `[` the parser tests for the empty array by `]` (93), so the first element's text must not begin with it. -/
theorem jsonEncode_head {N : Type} (c : NumCodec N) (hc : c.Lawful) (v : JValue N)
    (rest : List UInt8) : ∃ b r, jsonEncode c v ++ rest = b :: r ∧ b ≠ 93 :=
  match v with
  | .null | .bool true | .bool false | .str _ | .arr [] | .arr (_ :: _) | .obj [] | .obj ((_, _) :: _) =>
    ⟨_, _, rfl, by decide⟩
  | .num n => by
    have hch := hc.chars n
    simp only [jsonEncode]
    cases h : c.fmt n with
    | nil => exact absurd h (hc.nonempty n)
    | cons b t =>
      rw [h] at hch
      have hb := hch b (by simp)
      exact ⟨b, t ++ rest, rfl, by intro e; rw [e] at hb; revert hb; decide⟩

theorem jsonEncode_length_pos {N : Type} (c : NumCodec N) (hc : c.Lawful) (v : JValue N) :
    1 ≤ (jsonEncode c v).length := by
  obtain ⟨b, r, h, _⟩ := jsonEncode_head c hc v []
  simp only [List.append_nil] at h
  rw [h]; simp

theorem encodeRestElems_length_pos {N : Type} (c : NumCodec N) (xs : List (JValue N)) :
    1 ≤ (encodeRestElems c xs).length := by
  cases xs <;> simp [encodeRestElems]

theorem encodeRestMembers_length_pos {N : Type} (c : NumCodec N)
    (kvs : List (List Char × JValue N)) : 1 ≤ (encodeRestMembers c kvs).length := by
  cases kvs with
  | nil => simp [encodeRestMembers]
  | cons kv kvs => obtain ⟨k, v⟩ := kv; simp [encodeRestMembers]

def ValueOk {N : Type} (c : NumCodec N) (v : JValue N) : Prop :=
  ∀ (f : Nat) (rest : List UInt8), (jsonEncode c v).length ≤ f → NumSafe rest →
    decodeValueF c f (jsonEncode c v ++ rest) = some (v, rest)


-- In the list cases the byte behind a value is `]` (93), `,` (44) or `}` (125): none continues a number token.
-- `elemsOk` and `membersOk` take the statement for the head value as a hypothesis, so that every recursive call is on a
-- structurally smaller list or value.
mutual
theorem valueOk_of_lawful {N : Type} (c : NumCodec N) (hc : c.Lawful) : (v : JValue N) → ValueOk c v
  | .null | .bool true | .bool false | .arr [] | .obj [] => by
    -- a fixed token: the parser's run on it is a closed computation
    intro f rest hf _
    obtain ⟨f, rfl⟩ : ∃ g, f = g + 1 := ⟨f - 1, by simp [jsonEncode] at hf; omega⟩
    rfl
  | .num n => by
    intro f rest hf hr
    have hpos := jsonEncode_length_pos c hc (.num n)
    obtain ⟨f, rfl⟩ : ∃ g, f = g + 1 := ⟨f - 1, by omega⟩
    simp only [jsonEncode]
    cases h : c.fmt n with
    | nil => exact absurd h (hc.nonempty n)
    | cons b t =>
      have hb : isNumChar b = true := hc.chars n b (by simp [h])
      rw [List.cons_append, decodeValueF_numStart c f b _ hb, ← List.cons_append, ← h]
      exact decodeNumber_fmt c hc n rest hr
  | .str s => by
    intro f rest hf _
    obtain ⟨f, rfl⟩ : ∃ g, f = g + 1 :=
      ⟨f - 1, by simp [jsonEncode, jsonEncodeString] at hf; omega⟩
    have hs := jsonDecodeString_jsonEncodeString s rest
    rw [jsonEncodeString_cons] at hs
    simp only [jsonEncode]
    rw [jsonEncodeString_cons]
    simp [decodeValueF, hs]
  | .arr (x :: xs) => by
    intro f rest hf _
    simp only [jsonEncode, List.length_cons, List.length_append] at hf
    obtain ⟨f, rfl⟩ : ∃ g, f = g + 1 := ⟨f - 1, by omega⟩
    obtain ⟨b, r, hbr, hb⟩ := jsonEncode_head c hc x (encodeRestElems c xs ++ rest)
    have he := elemsOk c hc xs f x rest (by omega) (valueOk_of_lawful c hc x)
    simp only [jsonEncode, List.cons_append, List.append_assoc]
    rw [hbr] at he
    rw [hbr]
    simp [decodeValueF, hb, he]
  | .obj ((k, v) :: kvs) => by
    intro f rest hf _
    simp only [jsonEncode, List.length_cons, List.length_append] at hf
    obtain ⟨f, rfl⟩ : ∃ g, f = g + 1 := ⟨f - 1, by omega⟩
    have he := membersOk c hc kvs f k v rest (by omega) (valueOk_of_lawful c hc v)
    simp only [jsonEncode, List.cons_append, List.append_assoc]
    rw [jsonEncodeString_cons] at he
    rw [jsonEncodeString_cons]
    simp [decodeValueF, he]
theorem elemsOk {N : Type} (c : NumCodec N) (hc : c.Lawful) : (xs : List (JValue N)) →
    ∀ (f : Nat) (x : JValue N) (rest : List UInt8),
      (jsonEncode c x).length + (encodeRestElems c xs).length ≤ f → ValueOk c x →
      decodeElemsF c f (jsonEncode c x ++ (encodeRestElems c xs ++ rest)) = some (x :: xs, rest)
  | [] => by
    intro f x rest hf hx
    simp only [encodeRestElems, List.length_cons, List.length_nil] at hf
    obtain ⟨f, rfl⟩ : ∃ g, f = g + 1 := ⟨f - 1, by omega⟩
    simp only [decodeElemsF, encodeRestElems, List.cons_append, List.nil_append]
    rw [hx f (93 :: rest) (by omega) (numSafe_cons _ _ (by decide))]
    simp
  | y :: ys => by
    intro f x rest hf hx
    simp only [encodeRestElems, List.length_cons, List.length_append] at hf
    obtain ⟨f, rfl⟩ : ∃ g, f = g + 1 := ⟨f - 1, by omega⟩
    have ih := elemsOk c hc ys f y rest (by omega) (valueOk_of_lawful c hc y)
    simp only [decodeElemsF, encodeRestElems, List.cons_append, List.append_assoc]
    rw [hx f _ (by omega) (numSafe_cons 44 _ (by decide))]
    simp [ih]
theorem membersOk {N : Type} (c : NumCodec N) (hc : c.Lawful) :
    (kvs : List (List Char × JValue N)) →
    ∀ (f : Nat) (k : List Char) (v : JValue N) (rest : List UInt8),
      (jsonEncodeString k).length + (1 + ((jsonEncode c v).length + (encodeRestMembers c kvs).length))
        ≤ f → ValueOk c v →
      decodeMembersF c f (jsonEncodeString k ++
        (58 :: (jsonEncode c v ++ (encodeRestMembers c kvs ++ rest)))) = some ((k, v) :: kvs, rest)
  | [] => by
    intro f k v rest hf hv
    simp only [encodeRestMembers, List.length_cons, List.length_nil] at hf
    obtain ⟨f, rfl⟩ : ∃ g, f = g + 1 := ⟨f - 1, by omega⟩
    simp only [decodeMembersF, encodeRestMembers, List.cons_append, List.nil_append]
    rw [jsonDecodeString_jsonEncodeString]
    simp only [if_true]
    rw [hv f (125 :: rest) (by omega) (numSafe_cons _ _ (by decide))]
    simp
  | (k', v') :: kvs => by
    intro f k v rest hf hv
    simp only [encodeRestMembers, List.length_cons, List.length_append] at hf
    obtain ⟨f, rfl⟩ : ∃ g, f = g + 1 := ⟨f - 1, by omega⟩
    have ih := membersOk c hc kvs f k' v' rest (by omega) (valueOk_of_lawful c hc v')
    simp only [decodeMembersF, encodeRestMembers, List.cons_append, List.append_assoc]
    rw [jsonDecodeString_jsonEncodeString]
    simp only [if_true]
    rw [hv f _ (by omega) (numSafe_cons 44 _ (by decide))]
    simp [ih]
end

theorem decodeValueF_jsonEncode {N : Type} (c : NumCodec N) (hc : c.Lawful) (v : JValue N)
    (f : Nat) (rest : List UInt8) (hf : (jsonEncode c v).length ≤ f) (hr : NumSafe rest) :
    decodeValueF c f (jsonEncode c v ++ rest) = some (v, rest) :=
  valueOk_of_lawful c hc v f rest hf hr

theorem jsonDecode_jsonEncode {N : Type} (c : NumCodec N) (hc : c.Lawful) (v : JValue N) :
    jsonDecode c (jsonEncode c v) = some v := by
  have h := valueOk_of_lawful c hc v ((jsonEncode c v).length + 1) [] (by omega) numSafe_nil
  simp only [List.append_nil] at h
  simp [jsonDecode, h]


theorem decodeValueF_obj_head {N : Type} (c : NumCodec N) (f : Nat) (bs : List UInt8)
    (kvs : List (List Char × JValue N)) (r : List UInt8)
    (h : decodeValueF c f bs = some (.obj kvs, r)) : ∃ t, bs = 123 :: t := by
  cases f with
  | zero => cases h
  | succ f =>
    cases bs with
    | nil => cases h
    | cons b rest =>
      simp only [decodeValueF] at h
      by_cases h1 : b = 110
      · rw [if_pos h1] at h
        obtain ⟨_, _, hx⟩ := Option.map_eq_some_iff.mp h; cases hx
      rw [if_neg h1] at h
      by_cases h2 : b = 116
      · rw [if_pos h2] at h
        obtain ⟨_, _, hx⟩ := Option.map_eq_some_iff.mp h; cases hx
      rw [if_neg h2] at h
      by_cases h3 : b = 102
      · rw [if_pos h3] at h
        obtain ⟨_, _, hx⟩ := Option.map_eq_some_iff.mp h; cases hx
      rw [if_neg h3] at h
      by_cases h4 : b = 34
      · rw [if_pos h4] at h
        cases hs : jsonDecodeString (b :: rest) <;> rw [hs] at h <;> cases h
      rw [if_neg h4] at h
      by_cases h5 : b = 91
      · rw [if_pos h5] at h
        cases rest with
        | nil => cases h
        | cons b' r' =>
          dsimp only at h
          by_cases h93 : b' = 93
          · rw [if_pos h93] at h; cases h
          · rw [if_neg h93] at h
            cases he : decodeElemsF c f (b' :: r') <;> rw [he] at h <;> cases h
      rw [if_neg h5] at h
      by_cases h6 : b = 123
      · exact ⟨rest, by rw [h6]⟩
      rw [if_neg h6] at h
      by_cases h7 : isNumChar b = true
      · rw [if_pos h7, decodeNumber] at h
        cases hn : c.parse (List.takeWhile isNumChar (b :: rest)) <;> rw [hn] at h <;> cases h
      · rw [if_neg h7] at h; cases h

/-- `{` is 123; the language of the model has no leading whitespace. -/
theorem jsonDecode_obj_head {N : Type} (c : NumCodec N) (bs : List UInt8) (kvs : List (List Char × JValue N))
    (h : jsonDecode c bs = some (.obj kvs)) : ∃ t, bs = 123 :: t := by
  unfold jsonDecode at h
  cases hv : decodeValueF c (bs.length + 1) bs with
  | none => simp [hv] at h
  | some vr =>
    obtain ⟨v, r⟩ := vr
    rw [hv] at h
    cases r with
    | cons x xs => simp at h
    | nil =>
      simp only [Option.some.injEq] at h
      subst h
      exact decodeValueF_obj_head c _ bs kvs [] hv

theorem depth_nest {N : Type} (n : Nat) : depth (nest n : JValue N) = n + 1 := by
  induction n with
  | zero => simp [nest, depth, depthElems]
  | succ n ih => simp [nest, depth, depthElems, ih]

theorem encode_nest_length {N : Type} (c : NumCodec N) (n : Nat) : (jsonEncode c (nest n : JValue N)).length = 2 * (n + 1) := by
  induction n with
  | zero => simp [nest, jsonEncode]
  | succ n ih => simp [nest, jsonEncode, encodeRestElems, ih]; omega

/-- A nested object with empty containers, duplicate keys and negative numbers. -/
def sampleValue : JValue Int :=
  .obj [("k".toList, .arr [.num (-12), .null, .bool true, .obj [], .arr []]),
        ("é\"".toList, .str "x\ty".toList), ("k".toList, .num 0)]

def sampleBytes : List UInt8 :=
  asciiBytes "{\"k\":[-12,null,true,{},[]],\"\\u00e9\\\"\":\"x\\ty\",\"k\":0}"

theorem jsonEncode_sampleValue : jsonEncode intCodec sampleValue = sampleBytes := by decide +kernel

example : jsonEncode intCodec sampleValue = sampleBytes := jsonEncode_sampleValue
example : jsonDecode intCodec sampleBytes = some sampleValue := by
  rw [← jsonEncode_sampleValue]
  exact jsonDecode_jsonEncode intCodec intCodec_lawful sampleValue
-- rejected: trailing comma, truncated input, a key without value, trailing garbage, non-canonical numbers, empty input
example : (jsonDecode intCodec (asciiBytes "[1,]")).isNone = true := by decide +kernel
example : (jsonDecode intCodec (asciiBytes "[1,2")).isNone = true := by decide +kernel
example : (jsonDecode intCodec (asciiBytes "{\"a\":1")).isNone = true := by decide +kernel
example : (jsonDecode intCodec (asciiBytes "{\"a\"}")).isNone = true := by decide +kernel
example : (jsonDecode intCodec (asciiBytes "[1]]")).isNone = true := by decide +kernel
example : (jsonDecode intCodec (asciiBytes "01")).isNone = true := by decide +kernel
example : (jsonDecode intCodec (asciiBytes "-0")).isNone = true := by decide +kernel
example : (jsonDecode intCodec (asciiBytes "nul")).isNone = true := by decide +kernel
example : (jsonDecode intCodec (asciiBytes "")).isNone = true := by decide +kernel
example : (jsonDecode intCodec (asciiBytes "[[1,[2,{\"a\":null}]],-7]")).isSome = true := by
  decide +kernel

end Icinga.C20
