/-
  C20 — lemmas for IcingaModel/C20/Conn.lean.  The receive loop of a connection (`connLoop`) by what one receive step
  returns; the state file: what `specFramesAll` accepts is a sequence of canonical frames, and a record function that
  answers at one record only yields that answer once per occurrence.
-/
import IcingaModel.C20.Conn
import IcingaProofs.C20.SpecLemmas

namespace Icinga.C20

theorem connLoop_eq_nil {N : Type} (c : NumCodec N) (max : Option Nat) (fuel : Nat) (bs : Bytes)
    (h : ∀ kvs r, recvMessage c max bs ≠ .message kvs r) : connLoop c max fuel bs = [] := by
  cases fuel with
  | zero => rfl
  | succ n =>
    unfold connLoop
    cases hr : recvMessage c max bs with
    | message k r => exact absurd hr (h k r)
    | rejected e r => rfl
    | frameError e r => rfl
    | eof => rfl

theorem connLoop_message {N : Type} (c : NumCodec N) (max : Option Nat) (n : Nat) (bs rest : Bytes)
    (kvs : List (List Char × JValue N)) (h : recvMessage c max bs = .message kvs rest) :
    connLoop c max (n + 1) bs = kvs :: connLoop c max n rest := by
  rw [connLoop, h]

theorem specFramesAll_sound : ∀ (fuel : Nat) (bs : Bytes) (ps : List Bytes), specFramesAll fuel bs = some ps →
    bs = nsEncodeAll ps ∧ ∀ p ∈ ps, p.length < 10 ^ 9 := by
  intro fuel
  induction fuel with
  | zero => intro bs ps h; simp [specFramesAll] at h
  | succ f ih =>
    intro bs ps h
    unfold specFramesAll at h
    by_cases he : bs.isEmpty = true
    · simp [he] at h
      subst h
      simp [List.isEmpty_iff] at he
      simp [he, nsEncodeAll_nil]
    · simp only [he, Bool.false_eq_true, if_false] at h
      cases hf : specFrame bs with
      | none => simp [hf] at h
      | some pr =>
        obtain ⟨p, rest⟩ := pr
        simp only [hf] at h
        cases hr : specFramesAll f rest with
        | none => simp [hr] at h
        | some qs =>
          simp [hr] at h
          subst h
          obtain ⟨hbs, hp⟩ := specFrame_sound bs p rest hf
          obtain ⟨hrest, hq⟩ := ih rest qs hr
          exact ⟨by rw [hbs, hrest, nsEncodeAll_cons], List.forall_mem_cons.mpr ⟨hp, hq⟩⟩

theorem filterMap_eq_replicate {α β : Type} [BEq α] [LawfulBEq α] (f : α → Option β) (g : α) (w : β)
    (hg : f g = some w) (hother : ∀ a, a ≠ g → f a = none) :
    ∀ l : List α, l.filterMap f = List.replicate (l.filter (· == g)).length w := by
  intro l
  induction l with
  | nil => rfl
  | cons a r ih =>
    by_cases ha : a = g
    · subst ha
      simp [hg, ih, List.replicate_succ]
    · have hne : (a == g) = false := beq_false_of_ne ha
      simp [hother a ha, ih, hne]

end Icinga.C20
