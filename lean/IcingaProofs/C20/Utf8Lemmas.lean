/-
  C20 — UTF-8 sanitising (`Utility::ValidateUTF8` / utf8cpp `replace_invalid`) around the JSON codec.  `validateNext`
  accepts exactly the encodings of scalar values: a multi-byte sequence is the lead's payload followed by base-64 digits
  (`readTrails`, `trailsOf`: one statement for any number of continuation bytes), and the lengths 2, 3, 4 are rows (digits,
  lead divisor, lead marker) of one lemma, `validateNext_row`; two of its error classes are characterised too
  (`validateNext_invalidLead_iff`, `validateNext_notEnoughRoom`).  Hence the strict decoder and the sanitiser agree on
  well-formed text, the sanitiser's output is always well formed, and — the encoder emitting ASCII only — the JSON round
  trip on byte strings is the sanitising map.
-/
import IcingaModel.C20.Utf8
import IcingaProofs.C20.JsonLemmas
namespace Icinga.C20

theorem isTrail_iff (b : UInt8) : isTrail b = true ↔ b.toNat / 64 = 2 := by
  simp [isTrail]

theorem isCodePointValid_iff (cp : Nat) : isCodePointValid cp = true ↔ cp.isValidChar := by
  simp only [isCodePointValid, isSurrogate, Nat.isValidChar, Bool.and_eq_true, Bool.not_eq_true',
    decide_eq_true_eq, Bool.and_eq_false_iff, decide_eq_false_iff_not]
  omega

theorem isOverlong_false_iff (cp len : Nat) : isOverlongSequence cp len = false ↔
    (cp < 0x80 → len = 1) ∧ (0x80 ≤ cp → cp < 0x800 → len = 2) ∧ (0x800 ≤ cp → cp < 0x10000 → len = 3) := by
  unfold isOverlongSequence
  split
  · simp; omega
  · split
    · simp; omega
    · split
      · simp; omega
      · simp; omega

theorem checkCodePoint_ok_iff (cp len : Nat) : checkCodePoint cp len = .ok () ↔
    cp.isValidChar ∧ isOverlongSequence cp len = false := by
  rw [← isCodePointValid_iff]
  unfold checkCodePoint
  cases isCodePointValid cp <;> cases isOverlongSequence cp len <;> simp


/-- `(x << s) & mask` with `mask + 1 = m << s` keeps the low bits of `x`. -/
theorem shl_mask (x m k : Nat) : x * k % (m * k) = x % m * k := Nat.mul_mod_mul_right k x m

theorem increaseSafely_bind_ok {β : Type} (l : List UInt8) (k : UInt8 → List UInt8 → Except Utf8Err β) (y : β) :
    (match increaseSafely l with
      | .error e => .error e
      | .ok (b, r) => k b r : Except Utf8Err β) = .ok y ↔ ∃ b r, l = b :: r ∧ b.toNat / 64 = 2 ∧ k b r = .ok y := by
  cases l with
  | nil => exact ⟨nofun, nofun⟩
  | cons x xs =>
    rw [increaseSafely]
    by_cases ht : isTrail x = true
    · rw [if_pos ht]
      exact ⟨fun h => ⟨x, xs, rfl, (isTrail_iff x).mp ht, h⟩, fun ⟨_, _, e, _, h⟩ => by cases e; exact h⟩
    · rw [if_neg ht]
      exact ⟨nofun, fun ⟨_, _, e, hb, _⟩ => by cases e; exact absurd ((isTrail_iff _).mpr hb) ht⟩

theorem validateNext_cons_ok_iff (lead : UInt8) (after rest : List UInt8) (cp : Nat) :
    validateNext (lead :: after) = .ok (cp, rest) ↔
      getSequence (sequenceLength lead) lead after = .ok (cp, rest) ∧
        checkCodePoint cp (sequenceLength lead) = .ok () := by
  simp only [validateNext]
  constructor
  · intro h
    split at h
    · cases h
    · rename_i cp' rest' hg
      split at h
      · cases h
      · rename_i hc
        cases h
        exact ⟨hg, hc⟩
  · rintro ⟨hg, hc⟩
    simp only [hg, hc]

theorem sequenceLength_cases (b : UInt8) :
    (sequenceLength b = 1 ∧ b.toNat < 0x80) ∨ (sequenceLength b = 2 ∧ b.toNat / 32 = 6) ∨
    (sequenceLength b = 3 ∧ b.toNat / 16 = 14) ∨ (sequenceLength b = 4 ∧ b.toNat / 8 = 30) ∨
    (sequenceLength b = 0 ∧ (0x80 ≤ b.toNat ∧ b.toNat < 0xC0 ∨ 0xF8 ≤ b.toNat)) := by
  unfold sequenceLength
  by_cases h1 : b.toNat < 0x80
  · rw [if_pos h1]; exact .inl ⟨rfl, h1⟩
  rw [if_neg h1]
  by_cases h2 : b.toNat / 32 = 0x6
  · rw [if_pos h2]; exact .inr (.inl ⟨rfl, h2⟩)
  rw [if_neg h2]
  by_cases h3 : b.toNat / 16 = 0xE
  · rw [if_pos h3]; exact .inr (.inr (.inl ⟨rfl, h3⟩))
  rw [if_neg h3]
  by_cases h4 : b.toNat / 8 = 0x1E
  · rw [if_pos h4]; exact .inr (.inr (.inr (.inl ⟨rfl, h4⟩)))
  · rw [if_neg h4]; exact .inr (.inr (.inr (.inr ⟨rfl, by omega⟩)))

theorem validateNext_len1 (b : UInt8) (rest : List UInt8) (h : b.toNat < 0x80) :
    validateNext (b :: rest) = .ok (b.toNat, rest) := by
  have hs : sequenceLength b = 1 := by simp [sequenceLength, h]
  rw [validateNext_cons_ok_iff, hs, checkCodePoint_ok_iff]
  exact ⟨rfl, by simp only [Nat.isValidChar]; omega, by simp [isOverlongSequence, h]⟩

/-- `k` continuation bytes read as `get_sequence_x` does (each through `increase_safely`), their six payload bits
    shifted into `acc` one after the other. -/
def readTrails : Nat → Nat → List UInt8 → Except Utf8Err (Nat × List UInt8)
  | 0, acc, r => .ok (acc, r)
  | k + 1, acc, r =>
    match increaseSafely r with
    | .error e => .error e
    | .ok (b, r') => readTrails k (acc * 64 + b.toNat % 64) r'

/-- The `k` low base-64 digits of `cp` as continuation bytes, most significant first. -/
def trailsOf : Nat → Nat → List UInt8
  | 0, _ => []
  | k + 1, cp => UInt8.ofNat (cp / 64 ^ k % 64 + 0x80) :: trailsOf k cp

theorem getSequence2_eq (lead : UInt8) (after : List UInt8) :
    getSequence2 lead after = readTrails 1 (lead.toNat % 32) after := by
  simp only [getSequence2, readTrails]
  rcases increaseSafely after with e | ⟨b1, r1⟩
  · rfl
  · simp only [shl_mask lead.toNat 32 64]

theorem getSequence3_eq (lead : UInt8) (after : List UInt8) :
    getSequence3 lead after = readTrails 2 (lead.toNat % 16) after := by
  simp only [getSequence3, readTrails]
  rcases increaseSafely after with e | ⟨b1, r1⟩
  · rfl
  dsimp only
  rcases increaseSafely r1 with e | ⟨b2, r2⟩
  · rfl
  · simp only [shl_mask lead.toNat 16 4096, shl_mask b1.toNat 64 64]
    congr 2; omega

theorem getSequence4_eq (lead : UInt8) (after : List UInt8) :
    getSequence4 lead after = readTrails 3 (lead.toNat % 8) after := by
  simp only [getSequence4, readTrails]
  rcases increaseSafely after with e | ⟨b1, r1⟩
  · rfl
  dsimp only
  rcases increaseSafely r1 with e | ⟨b2, r2⟩
  · rfl
  dsimp only
  rcases increaseSafely r2 with e | ⟨b3, r3⟩
  · rfl
  · simp only [shl_mask lead.toNat 8 262144, shl_mask b1.toNat 64 4096, shl_mask b2.toNat 64 64]
    congr 2; omega

/-- One continuation byte: six payload bits under the marker `10`. -/
theorem trail_step (acc cp : Nat) (b : UInt8) :
    b.toNat / 64 = 2 ∧ acc * 64 + b.toNat % 64 = cp ↔ acc = cp / 64 ∧ b = UInt8.ofNat (cp % 64 + 0x80) := by
  constructor
  · rintro ⟨hb, rfl⟩
    refine ⟨by omega, UInt8.toNat_inj.mp ?_⟩
    rw [u8_toNat_ofNat_lt _ (by omega)]; omega
  · rintro ⟨rfl, rfl⟩
    rw [u8_toNat_ofNat_lt _ (by omega)]; omega

theorem readTrails_ok_iff : ∀ (k acc : Nat) (after rest : List UInt8) (cp : Nat),
    readTrails k acc after = .ok (cp, rest) ↔ acc = cp / 64 ^ k ∧ after = trailsOf k cp ++ rest := by
  intro k
  induction k with
  | zero =>
    intro acc after rest cp
    simp only [readTrails, trailsOf, Nat.pow_zero, Nat.div_one, List.nil_append, Except.ok.injEq, Prod.mk.injEq]
  | succ k ih =>
    intro acc after rest cp
    rw [readTrails]
    refine (increaseSafely_bind_ok after (fun b r' => readTrails k (acc * 64 + b.toNat % 64) r') (cp, rest)).trans ?_
    simp only [ih, trailsOf, List.cons_append]
    constructor
    · rintro ⟨b, r, rfl, hb, hacc, rfl⟩
      obtain ⟨h1, h2⟩ := (trail_step acc _ b).mp ⟨hb, hacc⟩
      exact ⟨by rw [h1, Nat.div_div_eq_div_mul, Nat.pow_succ], by rw [h2]⟩
    · rintro ⟨rfl, rfl⟩
      refine ⟨_, _, rfl, ?_⟩
      have := (trail_step (cp / 64 ^ (k + 1)) (cp / 64 ^ k) (UInt8.ofNat (cp / 64 ^ k % 64 + 0x80))).mpr
        ⟨by rw [Nat.pow_succ, ← Nat.div_div_eq_div_mul], rfl⟩
      exact ⟨this.1, this.2, rfl⟩

/-- `append`, by the number `t` of continuation bytes: the lead carries the marker for `t` and the digits above the
    `t` low ones. -/
theorem utf8EncodeChar_rows (c : Char) :
    (c.toNat < 0x80 → utf8EncodeChar c = [UInt8.ofNat c.toNat]) ∧
    (0x80 ≤ c.toNat → c.toNat < 0x800 → utf8EncodeChar c = UInt8.ofNat (c.toNat / 64 ^ 1 + 0xC0) :: trailsOf 1 c.toNat) ∧
    (0x800 ≤ c.toNat → c.toNat < 0x10000 →
      utf8EncodeChar c = UInt8.ofNat (c.toNat / 64 ^ 2 + 0xE0) :: trailsOf 2 c.toNat) ∧
    (0x10000 ≤ c.toNat → utf8EncodeChar c = UInt8.ofNat (c.toNat / 64 ^ 3 + 0xF0) :: trailsOf 3 c.toNat) := by
  unfold utf8EncodeChar
  simp only [trailsOf, Nat.pow_zero, Nat.div_one, Nat.reducePow]
  refine ⟨fun h => if_pos h, fun h1 h2 => ?_, fun h1 h2 => ?_, fun h => ?_⟩
  · rw [if_neg (by omega), if_pos h2]
  · rw [if_neg (by omega), if_neg (by omega), if_pos h2]
  · rw [if_neg (by omega), if_neg (by omega), if_neg (by omega)]

/-- A multi-byte sequence with `t` continuation bytes, lead marker `mark` and `d` = two to the number of the lead's
    payload bits: `validate_next` accepts it with code point `cp` exactly if it is `append`'s output for `cp`, up to
    the test for the shortest form. -/
theorem validateNext_row (t d mark : Nat) (lead : UInt8) (after rest : List UInt8) (cp : Nat) (hd : 0 < d)
    (hmark : mark + d ≤ 256) (hdiv : mark % d = 0)
    (hs : sequenceLength lead = t + 1 ↔ lead.toNat / d = mark / d)
    (hg : getSequence (t + 1) lead after = readTrails t (lead.toNat % d) after) :
    sequenceLength lead = t + 1 ∧ getSequence (t + 1) lead after = .ok (cp, rest) ↔
      cp / 64 ^ t < d ∧ lead :: after = UInt8.ofNat (cp / 64 ^ t + mark) :: trailsOf t cp ++ rest := by
  rw [hs, hg, readTrails_ok_iff]
  have hm : mark / d * d = mark := Nat.div_mul_cancel (Nat.dvd_of_mod_eq_zero hdiv)
  constructor
  · rintro ⟨h1, h2, rfl⟩
    have hlt : lead.toNat % d < d := Nat.mod_lt _ hd
    have : lead.toNat = cp / 64 ^ t + mark := by
      rw [← h2, ← hm, ← h1, Nat.add_comm, Nat.mul_comm]; exact (Nat.div_add_mod _ _).symm
    exact ⟨h2 ▸ hlt, by rw [← this, UInt8.ofNat_toNat]; rfl⟩
  · rintro ⟨h1, h2⟩
    obtain ⟨rfl, rfl⟩ := List.cons.inj h2
    have e : (UInt8.ofNat (cp / 64 ^ t + mark)).toNat = mark / d * d + cp / 64 ^ t := by
      rw [u8_toNat_ofNat_lt _ (by omega), hm, Nat.add_comm]
    rw [e]
    exact ⟨by rw [Nat.mul_comm, Nat.mul_add_div hd, Nat.div_eq_of_lt h1, Nat.add_zero],
      by rw [Nat.mul_comm, Nat.mul_add_mod, Nat.mod_eq_of_lt h1], rfl⟩

theorem sequenceLength_rows (lead : UInt8) :
    (sequenceLength lead = 1 + 1 ↔ lead.toNat / 32 = 0xC0 / 32) ∧ (sequenceLength lead = 2 + 1 ↔ lead.toNat / 16 = 0xE0 / 16) ∧
    (sequenceLength lead = 3 + 1 ↔ lead.toNat / 8 = 0xF0 / 8) := by
  rcases sequenceLength_cases lead with h | h | h | h | h <;> omega

theorem validateNext_row2 (lead : UInt8) (after rest : List UInt8) (cp : Nat) :
    sequenceLength lead = 2 ∧ getSequence 2 lead after = .ok (cp, rest) ↔
      cp / 64 ^ 1 < 32 ∧ lead :: after = UInt8.ofNat (cp / 64 ^ 1 + 0xC0) :: trailsOf 1 cp ++ rest :=
  validateNext_row 1 32 0xC0 lead after rest cp (by decide) (by decide) (by decide) (sequenceLength_rows lead).1
    (getSequence2_eq lead after)

theorem validateNext_row3 (lead : UInt8) (after rest : List UInt8) (cp : Nat) :
    sequenceLength lead = 3 ∧ getSequence 3 lead after = .ok (cp, rest) ↔
      cp / 64 ^ 2 < 16 ∧ lead :: after = UInt8.ofNat (cp / 64 ^ 2 + 0xE0) :: trailsOf 2 cp ++ rest :=
  validateNext_row 2 16 0xE0 lead after rest cp (by decide) (by decide) (by decide) (sequenceLength_rows lead).2.1
    (getSequence3_eq lead after)

theorem validateNext_row4 (lead : UInt8) (after rest : List UInt8) (cp : Nat) :
    sequenceLength lead = 4 ∧ getSequence 4 lead after = .ok (cp, rest) ↔
      cp / 64 ^ 3 < 8 ∧ lead :: after = UInt8.ofNat (cp / 64 ^ 3 + 0xF0) :: trailsOf 3 cp ++ rest :=
  validateNext_row 3 8 0xF0 lead after rest cp (by decide) (by decide) (by decide) (sequenceLength_rows lead).2.2
    (getSequence4_eq lead after)

theorem utf8EncodeChar_cons (c : Char) : ∃ b t, utf8EncodeChar c = b :: t := by
  unfold utf8EncodeChar
  dsimp only
  split
  · exact ⟨_, _, rfl⟩
  split
  · exact ⟨_, _, rfl⟩
  split <;> exact ⟨_, _, rfl⟩

theorem validateNext_ok_iff (bs rest : List UInt8) (cp : Nat) :
    validateNext bs = .ok (cp, rest) ↔ ∃ c : Char, c.toNat = cp ∧ bs = utf8EncodeChar c ++ rest := by
  rcases bs with _ | ⟨lead, after⟩
  · refine ⟨nofun, fun ⟨c, _, e⟩ => ?_⟩
    obtain ⟨b, t, h⟩ := utf8EncodeChar_cons c
    rw [h] at e; cases e
  constructor
  · intro h
    obtain ⟨hg, hc⟩ := (validateNext_cons_ok_iff _ _ _ _).mp h
    obtain ⟨hv, hs⟩ := (checkCodePoint_ok_iff _ _).mp hc
    refine ⟨Char.ofNatAux cp hv, rfl, ?_⟩
    -- the overlong check, read as a lower bound on the code point for each sequence length
    have hlow : (sequenceLength lead = 2 → 0x80 ≤ cp) ∧ (sequenceLength lead = 3 → 0x800 ≤ cp) ∧
        (sequenceLength lead = 4 → 0x10000 ≤ cp) := by
      have hsl := (isOverlong_false_iff _ _).mp hs
      omega
    -- from here on bounds are taken by lemma: `omega` would also pick up the encoder's table and be slow
    have enc := utf8EncodeChar_rows (Char.ofNatAux cp hv)
    rw [show (Char.ofNatAux cp hv).toNat = cp from rfl] at enc
    rcases sequenceLength_cases lead with ⟨hl, hb⟩ | ⟨hl, _⟩ | ⟨hl, _⟩ | ⟨hl, _⟩ | ⟨hl, _⟩ <;> rw [hl] at hg
    · -- one byte: `getSequence` returns the lead itself
      cases hg
      rw [enc.1 hb, UInt8.ofNat_toNat]; rfl
    · obtain ⟨h, e⟩ := (validateNext_row2 ..).mp ⟨hl, hg⟩
      rw [e, enc.2.1 (hlow.1 hl) ((Nat.div_lt_iff_lt_mul (by decide)).mp h)]
    · obtain ⟨h, e⟩ := (validateNext_row3 ..).mp ⟨hl, hg⟩
      rw [e, enc.2.2.1 (hlow.2.1 hl) ((Nat.div_lt_iff_lt_mul (by decide)).mp h)]
    · obtain ⟨h, e⟩ := (validateNext_row4 ..).mp ⟨hl, hg⟩
      rw [e, enc.2.2.2 (hlow.2.2 hl)]
    · -- not a lead byte: `getSequence` fails
      cases hg
  · rintro ⟨c, rfl, e⟩
    have hmax : c.toNat < 0x110000 := by
      have : c.toNat < 55296 ∨ 57343 < c.toNat ∧ c.toNat < 1114112 := c.valid
      omega
    have enc := utf8EncodeChar_rows c
    -- a row that accepts the bytes, with the sequence length the shortest one for the code point
    have ok : ∀ L, sequenceLength lead = L ∧ getSequence L lead after = .ok (c.toNat, rest) →
        isOverlongSequence c.toNat L = false → validateNext (lead :: after) = .ok (c.toNat, rest) :=
      fun L h hs => (validateNext_cons_ok_iff _ _ _ _).mpr
        ⟨h.1 ▸ h.2, (checkCodePoint_ok_iff _ _).mpr ⟨c.valid, h.1 ▸ hs⟩⟩
    by_cases h1 : c.toNat < 0x80
    · rw [enc.1 h1] at e
      obtain ⟨rfl, rfl⟩ := List.cons.inj e
      have hb := u8_toNat_ofNat_lt c.toNat (Nat.lt_trans h1 (by decide))
      have := validateNext_len1 (UInt8.ofNat c.toNat) after (by rw [hb]; exact h1)
      rwa [hb] at this
    by_cases h2 : c.toNat < 0x800
    · rw [enc.2.1 (Nat.le_of_not_lt h1) h2] at e
      exact ok 2 ((validateNext_row2 ..).mpr ⟨(Nat.div_lt_iff_lt_mul (by decide)).mpr h2, e⟩) (by simp [isOverlongSequence, h1, h2])
    by_cases h3 : c.toNat < 0x10000
    · rw [enc.2.2.1 (Nat.le_of_not_lt h2) h3] at e
      exact ok 3 ((validateNext_row3 ..).mpr ⟨(Nat.div_lt_iff_lt_mul (by decide)).mpr h3, e⟩)
        (by simp [isOverlongSequence, h1, h2, h3])
    · rw [enc.2.2.2 (Nat.le_of_not_lt h3)] at e
      exact ok 4 ((validateNext_row4 ..).mpr ⟨(Nat.div_lt_iff_lt_mul (by decide)).mpr (Nat.lt_trans hmax (by decide)), e⟩)
        (by simp [isOverlongSequence, h1, h2, h3])

theorem validateNext_utf8EncodeChar (c : Char) (rest : List UInt8) :
    validateNext (utf8EncodeChar c ++ rest) = .ok (c.toNat, rest) :=
  (validateNext_ok_iff _ rest c.toNat).mpr ⟨c, rfl, rfl⟩

theorem increaseSafely_notEnoughRoom (l : List UInt8)
    (h : increaseSafely l = .error .notEnoughRoom) : l = [] := by
  cases l with
  | nil => rfl
  | cons b r => rw [increaseSafely] at h; split at h <;> cases h

theorem readTrails_error : ∀ (k acc : Nat) (after : List UInt8) (e : Utf8Err), readTrails k acc after = .error e →
    (e = .notEnoughRoom ∧ (∀ x ∈ after, isTrail x = true) ∧ after.length < k) ∨ e = .incompleteSequence := by
  intro k
  induction k with
  | zero => intro acc after e h; cases h
  | succ k ih =>
    intro acc after e h
    cases after with
    | nil => cases h; exact .inl ⟨rfl, nofun, Nat.succ_pos k⟩
    | cons b r =>
      rw [readTrails, increaseSafely] at h
      by_cases ht : isTrail b = true
      · rw [if_pos ht] at h
        rcases ih _ r e h with ⟨he, hr, hl⟩ | he
        · exact .inl ⟨he, List.forall_mem_cons.mpr ⟨ht, hr⟩, Nat.succ_lt_succ hl⟩
        · exact .inr he
      · rw [if_neg ht] at h; cases h; exact .inr rfl

theorem getSequence_error (n : Nat) (lead : UInt8) (after : List UInt8) (e : Utf8Err)
    (h : getSequence n lead after = .error e) :
    (e = .invalidLead ∧ (n = 0 ∨ 4 < n)) ∨
    (e = .notEnoughRoom ∧ (∀ x ∈ after, isTrail x = true) ∧ after.length + 1 < n) ∨
    e = .incompleteSequence := by
  rcases n with _ | _ | _ | _ | _ | n
  · cases h; exact .inl ⟨rfl, .inl rfl⟩
  · cases h
  · exact .inr ((readTrails_error 1 _ after e ((getSequence2_eq lead after).symm.trans h)).imp_left fun h => ⟨h.1, h.2.1, Nat.succ_lt_succ h.2.2⟩)
  · exact .inr ((readTrails_error 2 _ after e ((getSequence3_eq lead after).symm.trans h)).imp_left fun h => ⟨h.1, h.2.1, Nat.succ_lt_succ h.2.2⟩)
  · exact .inr ((readTrails_error 3 _ after e ((getSequence4_eq lead after).symm.trans h)).imp_left fun h => ⟨h.1, h.2.1, Nat.succ_lt_succ h.2.2⟩)
  · cases h; exact .inl ⟨rfl, .inr (by omega)⟩

theorem checkCodePoint_error (cp len : Nat) (e : Utf8Err) (h : checkCodePoint cp len = .error e) :
    e = .overlongSequence ∨ e = .invalidCodePoint := by
  unfold checkCodePoint at h
  split at h
  · split at h
    · cases h
    · cases h; exact .inl rfl
  · cases h; exact .inr rfl

theorem validateNext_cons_error (lead : UInt8) (after : List UInt8) (e : Utf8Err)
    (h : validateNext (lead :: after) = .error e) :
    getSequence (sequenceLength lead) lead after = .error e ∨ e = .overlongSequence ∨ e = .invalidCodePoint := by
  simp only [validateNext] at h
  split at h
  · rename_i e' hg
    cases h
    exact .inl hg
  · split at h
    · rename_i e' hc
      cases h
      exact .inr (checkCodePoint_error _ _ _ hc)
    · cases h

theorem validateNext_invalidLead_iff (b : UInt8) (after : List UInt8) :
    validateNext (b :: after) = .error .invalidLead ↔
      (0x80 ≤ b.toNat ∧ b.toNat < 0xC0) ∨ 0xF8 ≤ b.toNat := by
  have key : validateNext (b :: after) = .error .invalidLead → sequenceLength b = 0 ∨ 4 < sequenceLength b := by
    intro h
    rcases validateNext_cons_error _ _ _ h with hg | h | h
    · rcases getSequence_error _ _ _ _ hg with ⟨_, hn⟩ | ⟨h, _⟩ | h
      · exact hn
      · cases h
      · cases h
    · cases h
    · cases h
  rcases sequenceLength_cases b with ⟨hl, hb⟩ | ⟨hl, hb⟩ | ⟨hl, hb⟩ | ⟨hl, hb⟩ | ⟨hl, hb⟩
  · exact ⟨fun h => by have := key h; omega, fun h => by omega⟩
  · exact ⟨fun h => by have := key h; omega, fun h => by omega⟩
  · exact ⟨fun h => by have := key h; omega, fun h => by omega⟩
  · exact ⟨fun h => by have := key h; omega, fun h => by omega⟩
  · exact ⟨fun _ => hb, fun _ => by simp [validateNext, hl, getSequence]⟩

theorem skipTrail_eq_nil (bs : List UInt8) (h : ∀ x ∈ bs, isTrail x = true) : skipTrail bs = [] := by
  unfold skipTrail
  induction bs with
  | nil => rfl
  | cons b bs ih =>
    rw [List.dropWhile_cons, if_pos (h b (by simp))]
    exact ih (fun x hx => h x (by simp [hx]))

/-- `NOT_ENOUGH_ROOM`: at most two bytes follow the lead, all of them trail bytes; so the
    `start = end` of checked.h:95 discards exactly the truncated sequence, the same bytes the
    "skip the lead and the following trail bytes" of the other error classes would discard. -/
theorem validateNext_notEnoughRoom (b : UInt8) (after : List UInt8)
    (h : validateNext (b :: after) = .error .notEnoughRoom) :
    (∀ x ∈ after, isTrail x = true) ∧ after.length + 1 < sequenceLength b ∧ skipTrail after = [] := by
  rcases validateNext_cons_error _ _ _ h with hg | h | h
  · rcases getSequence_error _ _ _ _ hg with ⟨h, _⟩ | ⟨_, ht, hl⟩ | h
    · cases h
    · exact ⟨ht, hl, skipTrail_eq_nil after ht⟩
    · cases h
  · cases h
  · cases h

theorem consumed_append (xs rest : List UInt8) : consumed (xs ++ rest) rest = xs := by
  unfold consumed
  exact List.take_left' (by simp)

theorem replacementMark_eq : replacementMark = utf8EncodeChar (Char.ofNat 0xFFFD) := by decide

theorem utf8DecodeF_utf8Encode (s : List Char) : ∀ f : Nat, (utf8Encode s).length ≤ f →
    utf8DecodeF f (utf8Encode s) = some s := by
  induction s with
  | nil => intro f _; cases f <;> simp [utf8Encode, utf8DecodeF]
  | cons c cs ih =>
    intro f hf
    obtain ⟨b, t, hbt⟩ := utf8EncodeChar_cons c
    have hv := validateNext_utf8EncodeChar c (utf8Encode cs)
    simp only [utf8Encode, List.length_append] at hf ⊢
    rw [hbt] at hv hf ⊢
    simp only [List.cons_append, List.length_cons] at hv hf ⊢
    obtain ⟨f, rfl⟩ : ∃ g, f = g + 1 := ⟨f - 1, by omega⟩
    rw [utf8DecodeF, hv]
    simp only
    rw [charOfNat?_toNat]
    simp only
    rw [ih f (by omega)]

theorem utf8Decode_utf8Encode (s : List Char) : utf8Decode (utf8Encode s) = some s :=
  utf8DecodeF_utf8Encode s _ (Nat.le_refl _)

theorem validateNext_ok_length (b : UInt8) (after rest : List UInt8) (cp : Nat)
    (h : validateNext (b :: after) = .ok (cp, rest)) : rest.length ≤ after.length := by
  obtain ⟨c, _, hbs⟩ := (validateNext_ok_iff _ _ _).mp h
  obtain ⟨x, t, hc⟩ := utf8EncodeChar_cons c
  have := congrArg List.length hbs
  simp only [hc, List.length_cons, List.length_append] at this
  omega

theorem skipTrail_length_le (bs : List UInt8) : (skipTrail bs).length ≤ bs.length :=
  (List.dropWhile_sublist _).length_le

theorem sanitiseF_fuel : ∀ (f g : Nat) (bs : List UInt8), bs.length ≤ f → bs.length ≤ g →
    sanitiseF f bs = sanitiseF g bs := by
  intro f
  induction f with
  | zero =>
    intro g bs hf _
    have : bs = [] := List.length_eq_zero_iff.mp (by omega)
    subst this
    cases g <;> simp [sanitiseF]
  | succ f ih =>
    intro g bs hf hg
    cases bs with
    | nil => cases g <;> simp [sanitiseF]
    | cons b after =>
      simp only [List.length_cons] at hf hg
      obtain ⟨g, rfl⟩ : ∃ g', g = g' + 1 := ⟨g - 1, by omega⟩
      have hsk := skipTrail_length_le after
      rw [sanitiseF, sanitiseF]
      split
      · rename_i cp rest hv
        have := validateNext_ok_length _ _ _ _ hv
        rw [ih g rest (by omega) (by omega)]
      · rfl
      · rw [ih g after (by omega) (by omega)]
      · rw [ih g _ (by omega) (by omega)]
      · rw [ih g _ (by omega) (by omega)]
      · rw [ih g _ (by omega) (by omega)]

theorem sanitise_nil : sanitise [] = [] := rfl

/-- `replace_invalid`'s loop body as an equation on `sanitise` itself (no fuel): the fuel
    `bs.length` never runs out. -/
theorem sanitise_cons (b : UInt8) (after : List UInt8) :
    sanitise (b :: after) =
      match validateNext (b :: after) with
      | .ok (_, rest) => consumed (b :: after) rest ++ sanitise rest
      | .error .notEnoughRoom => replacementMark
      | .error .invalidLead => replacementMark ++ sanitise after
      | .error .incompleteSequence => replacementMark ++ sanitise (skipTrail after)
      | .error .overlongSequence => replacementMark ++ sanitise (skipTrail after)
      | .error .invalidCodePoint => replacementMark ++ sanitise (skipTrail after) := by
  have hsk := skipTrail_length_le after
  unfold sanitise
  simp only [List.length_cons]
  rw [sanitiseF]
  split
  · rename_i cp rest hv
    have := validateNext_ok_length _ _ _ _ hv
    simp only [hv]
    rw [sanitiseF_fuel after.length rest.length rest (by omega) (Nat.le_refl _)]
  · rename_i hv; simp only [hv]
  · rename_i hv; simp only [hv]
  · rename_i hv; simp only [hv]
    rw [sanitiseF_fuel after.length _ _ (by omega) (Nat.le_refl _)]
  · rename_i hv; simp only [hv]
    rw [sanitiseF_fuel after.length _ _ (by omega) (Nat.le_refl _)]
  · rename_i hv; simp only [hv]
    rw [sanitiseF_fuel after.length _ _ (by omega) (Nat.le_refl _)]

theorem sanitise_utf8EncodeChar_append (c : Char) (rest : List UInt8) :
    sanitise (utf8EncodeChar c ++ rest) = utf8EncodeChar c ++ sanitise rest := by
  obtain ⟨b, t, h⟩ := utf8EncodeChar_cons c
  have hv := validateNext_utf8EncodeChar c rest
  have hc := consumed_append (utf8EncodeChar c) rest
  rw [h, List.cons_append] at hv hc ⊢
  rw [sanitise_cons, hv]
  exact congrArg (· ++ sanitise rest) hc

theorem sanitise_utf8Encode_append (s : List Char) (rest : List UInt8) :
    sanitise (utf8Encode s ++ rest) = utf8Encode s ++ sanitise rest := by
  induction s with
  | nil => rfl
  | cons c cs ih => rw [utf8Encode, List.append_assoc, sanitise_utf8EncodeChar_append, ih, List.append_assoc]

theorem sanitise_utf8Encode (s : List Char) : sanitise (utf8Encode s) = utf8Encode s := by
  have := sanitise_utf8Encode_append s []
  rwa [List.append_nil, sanitise_nil, List.append_nil] at this

theorem sanitise_eq_utf8Encode (bs : List UInt8) : ∃ s, sanitise bs = utf8Encode s := by
  induction h : bs.length using Nat.strongRecOn generalizing bs with
  | _ n ih =>
    cases bs with
    | nil => exact ⟨[], rfl⟩
    | cons b after =>
      subst h
      have hsk := skipTrail_length_le after
      have mark : ∀ t : List UInt8, t.length ≤ after.length → ∃ s, replacementMark ++ sanitise t = utf8Encode s :=
        fun t ht => by
          obtain ⟨s, hs⟩ := ih t.length (Nat.lt_succ_of_le ht) t rfl
          exact ⟨Char.ofNat 0xFFFD :: s, by rw [replacementMark_eq, hs]; rfl⟩
      rw [sanitise_cons]
      split
      · rename_i cp rest hv
        obtain ⟨c, _, hbs⟩ := (validateNext_ok_iff _ _ _).mp hv
        obtain ⟨s, hs⟩ := ih rest.length (Nat.lt_succ_of_le (validateNext_ok_length _ _ _ _ hv)) rest rfl
        exact ⟨c :: s, by rw [hbs, consumed_append, hs]; rfl⟩
      · exact ⟨[Char.ofNat 0xFFFD], by rw [replacementMark_eq]; simp [utf8Encode]⟩
      · exact mark after (Nat.le_refl _)
      · exact mark _ hsk
      · exact mark _ hsk
      · exact mark _ hsk

theorem utf8DecodeF_eq_some : ∀ (f : Nat) (bs : List UInt8) (s : List Char),
    utf8DecodeF f bs = some s → bs = utf8Encode s := by
  intro f
  induction f with
  | zero =>
    intro bs s h
    cases bs with
    | nil => simp only [utf8DecodeF, Option.some.injEq] at h; rw [← h]; rfl
    | cons b after => simp [utf8DecodeF] at h
  | succ f ih =>
    intro bs s h
    cases bs with
    | nil => simp only [utf8DecodeF, Option.some.injEq] at h; rw [← h]; rfl
    | cons b after =>
      rw [utf8DecodeF] at h
      split at h
      · simp at h
      · rename_i cp rest hv
        obtain ⟨c, hc, hbs⟩ := (validateNext_ok_iff _ _ _).mp hv
        rw [← hc, charOfNat?_toNat] at h
        simp only at h
        split at h
        · simp at h
        · rename_i cs hcs
          simp only [Option.some.injEq] at h
          rw [← h, hbs, ih rest cs hcs]; rfl

theorem utf8Decode_eq_some_iff (bs : List UInt8) (s : List Char) :
    utf8Decode bs = some s ↔ bs = utf8Encode s :=
  ⟨utf8DecodeF_eq_some _ bs s, fun h => by rw [h]; exact utf8Decode_utf8Encode s⟩

theorem utf8Decode_sanitise_isSome (bs : List UInt8) : (utf8Decode (sanitise bs)).isSome = true := by
  obtain ⟨s, hs⟩ := sanitise_eq_utf8Encode bs
  rw [hs, utf8Decode_utf8Encode]; rfl

theorem utf8Encode_decodeLossy (bs : List UInt8) : utf8Encode (decodeLossy bs) = sanitise bs := by
  obtain ⟨s, hs⟩ := sanitise_eq_utf8Encode bs
  unfold decodeLossy
  rw [hs, utf8Decode_utf8Encode]


def IsAscii (bs : List UInt8) : Prop := ∀ b ∈ bs, b.toNat < 0x80

instance (bs : List UInt8) : Decidable (IsAscii bs) := by unfold IsAscii; infer_instance

theorem isAscii_nil : IsAscii [] := by intro b hb; simp at hb

theorem isAscii_cons (b : UInt8) (bs : List UInt8) : IsAscii (b :: bs) ↔ b.toNat < 0x80 ∧ IsAscii bs :=
  List.forall_mem_cons

theorem isAscii_append (xs ys : List UInt8) : IsAscii (xs ++ ys) ↔ IsAscii xs ∧ IsAscii ys :=
  List.forall_mem_append

theorem sanitise_ascii (bs : List UInt8) (h : IsAscii bs) : sanitise bs = bs := by
  induction bs with
  | nil => rfl
  | cons b after ih =>
    rw [isAscii_cons] at h
    rw [sanitise_cons, validateNext_len1 b after h.1]
    have := consumed_append [b] after
    simp only [List.cons_append, List.nil_append] at this
    show consumed (b :: after) after ++ sanitise after = _
    rw [this, ih h.2]; rfl

theorem isNumChar_ascii (b : UInt8) (h : isNumChar b = true) : b.toNat < 0x80 := by
  simp only [isNumChar, Bool.or_eq_true, beq_iff_eq, Bool.and_eq_true, decide_eq_true_eq] at h
  rcases h with ((((h | h) | h) | h) | h) | h
  all_goals first
    | (rw [h]; decide)
    | omega

theorem hexDigit_ascii (k : Nat) : (hexDigit (k % 16)).toNat < 0x80 := by
  have : ∀ k : Fin 16, (hexDigit k.val).toNat < 0x80 := by decide
  exact this ⟨k % 16, by omega⟩

theorem hex4_ascii (n : Nat) : IsAscii (hex4 n) := by
  intro b hb
  simp only [hex4, List.mem_cons, List.not_mem_nil, or_false] at hb
  rcases hb with rfl | rfl | rfl | rfl <;> exact hexDigit_ascii _

theorem encodeChar_ascii (c : Char) : IsAscii (encodeChar c) := by
  rcases encodeChar_cases c with ⟨e, he, h⟩ | ⟨_, h⟩ | ⟨_, h⟩ | ⟨_, h2, _, _, h⟩
  · simp only [List.mem_cons, Prod.mk.injEq, List.not_mem_nil, or_false] at he
    rw [h]
    rcases he with ⟨_, rfl⟩ | ⟨_, rfl⟩ | ⟨_, rfl⟩ | ⟨_, rfl⟩ | ⟨_, rfl⟩ | ⟨_, rfl⟩ | ⟨_, rfl⟩ <;> decide
  · rw [h, isAscii_cons, isAscii_cons]
    exact ⟨by decide, by decide, hex4_ascii _⟩
  · rw [h, isAscii_cons, isAscii_cons, isAscii_append, isAscii_cons, isAscii_cons]
    exact ⟨by decide, by decide, hex4_ascii _, by decide, by decide, hex4_ascii _⟩
  · intro b hb
    rw [h, List.mem_singleton] at hb
    rw [hb, u8_toNat_ofNat_lt _ (by omega)]; omega

theorem encodeChars_ascii (s : List Char) : IsAscii (encodeChars s) := by
  induction s with
  | nil => exact isAscii_nil
  | cons c cs ih => rw [encodeChars, isAscii_append]; exact ⟨encodeChar_ascii c, ih⟩

theorem jsonEncodeString_ascii (s : List Char) : IsAscii (jsonEncodeString s) := by
  rw [jsonEncodeString, isAscii_cons, isAscii_append, isAscii_cons]
  exact ⟨by decide, encodeChars_ascii s, by decide, isAscii_nil⟩


mutual
theorem jsonEncode_ascii {N : Type} (c : NumCodec N) (hc : c.Lawful) :
    (v : JValue N) → IsAscii (jsonEncode c v)
  | .null | .bool true | .bool false | .arr [] | .obj [] => by simp only [jsonEncode]; decide
  | .num n => by
    simp only [jsonEncode]
    intro b hb; exact isNumChar_ascii b (hc.chars n b hb)
  | .str s => by simp only [jsonEncode]; exact jsonEncodeString_ascii s
  | .arr (x :: xs) => by
    simp only [jsonEncode]
    rw [isAscii_cons, isAscii_append]
    exact ⟨by decide, jsonEncode_ascii c hc x, encodeRestElems_ascii c hc xs⟩
  | .obj ((k, v) :: kvs) => by
    simp only [jsonEncode]
    rw [isAscii_cons, isAscii_append, isAscii_cons, isAscii_append]
    exact ⟨by decide, jsonEncodeString_ascii k, by decide, jsonEncode_ascii c hc v,
      encodeRestMembers_ascii c hc kvs⟩
theorem encodeRestElems_ascii {N : Type} (c : NumCodec N) (hc : c.Lawful) :
    (xs : List (JValue N)) → IsAscii (encodeRestElems c xs)
  | [] => by simp only [encodeRestElems]; decide
  | x :: xs => by
    simp only [encodeRestElems]
    rw [isAscii_cons, isAscii_append]
    exact ⟨by decide, jsonEncode_ascii c hc x, encodeRestElems_ascii c hc xs⟩
theorem encodeRestMembers_ascii {N : Type} (c : NumCodec N) (hc : c.Lawful) :
    (kvs : List (List Char × JValue N)) → IsAscii (encodeRestMembers c kvs)
  | [] => by simp only [encodeRestMembers]; decide
  | (k, v) :: kvs => by
    simp only [encodeRestMembers]
    rw [isAscii_cons, isAscii_append, isAscii_cons, isAscii_append]
    exact ⟨by decide, jsonEncodeString_ascii k, by decide, jsonEncode_ascii c hc v,
      encodeRestMembers_ascii c hc kvs⟩
end

mutual
theorem toJ_toB {N : Type} : (v : BValue N) → v.toJ.toB = v.sanitised
  | .null | .bool _ | .num _ => rfl
  | .str s => by simp only [BValue.toJ, JValue.toB, BValue.sanitised, utf8Encode_decodeLossy]
  | .arr xs => by
    simp only [BValue.toJ, JValue.toB, BValue.sanitised, toJElems_toBElems xs]
  | .obj kvs => by
    simp only [BValue.toJ, JValue.toB, BValue.sanitised, toJMembers_toBMembers kvs]
theorem toJElems_toBElems {N : Type} :
    (xs : List (BValue N)) → JValue.toBElems (BValue.toJElems xs) = BValue.sanitisedElems xs
  | [] => rfl
  | x :: xs => by
    simp only [BValue.toJElems, JValue.toBElems, BValue.sanitisedElems, toJ_toB x,
      toJElems_toBElems xs]
theorem toJMembers_toBMembers {N : Type} : (kvs : List (List UInt8 × BValue N)) →
    JValue.toBMembers (BValue.toJMembers kvs) = BValue.sanitisedMembers kvs
  | [] => rfl
  | (k, v) :: kvs => by
    simp only [BValue.toJMembers, JValue.toBMembers, BValue.sanitisedMembers, toJ_toB v,
      toJMembers_toBMembers kvs, utf8Encode_decodeLossy]
end

theorem jsonDecodeB_jsonEncodeB {N : Type} (c : NumCodec N) (hc : c.Lawful) (v : BValue N) :
    jsonDecodeB c (jsonEncodeB c v) = some v.sanitised := by
  unfold jsonDecodeB jsonEncodeB
  rw [sanitise_ascii _ (jsonEncode_ascii c hc v.toJ), jsonDecode_jsonEncode c hc, Option.map_some,
    toJ_toB]

mutual
theorem sanitised_toB {N : Type} : (j : JValue N) → j.toB.sanitised = j.toB
  | .null | .bool _ | .num _ => rfl
  | .str s => by simp only [JValue.toB, BValue.sanitised, sanitise_utf8Encode]
  | .arr xs => by simp only [JValue.toB, BValue.sanitised, sanitisedElems_toBElems xs]
  | .obj kvs => by simp only [JValue.toB, BValue.sanitised, sanitisedMembers_toBMembers kvs]
theorem sanitisedElems_toBElems {N : Type} :
    (xs : List (JValue N)) → BValue.sanitisedElems (JValue.toBElems xs) = JValue.toBElems xs
  | [] => rfl
  | x :: xs => by
    simp only [JValue.toBElems, BValue.sanitisedElems, sanitised_toB x, sanitisedElems_toBElems xs]
theorem sanitisedMembers_toBMembers {N : Type} : (kvs : List (List Char × JValue N)) →
    BValue.sanitisedMembers (JValue.toBMembers kvs) = JValue.toBMembers kvs
  | [] => rfl
  | (k, v) :: kvs => by
    simp only [JValue.toBMembers, BValue.sanitisedMembers, sanitised_toB v,
      sanitisedMembers_toBMembers kvs, sanitise_utf8Encode]
end

theorem sanitised_sanitised {N : Type} (v : BValue N) : v.sanitised.sanitised = v.sanitised := by
  rw [← toJ_toB v, sanitised_toB]

theorem json_roundtrip_bytes_toB {N : Type} (c : NumCodec N) (hc : c.Lawful) (j : JValue N) :
    jsonDecodeB c (jsonEncodeB c j.toB) = some j.toB := by
  rw [jsonDecodeB_jsonEncodeB c hc j.toB, sanitised_toB]

/-- For the examples only. -/
private instance : DecidableEq (Except Utf8Err (Nat × List UInt8)) := fun a b =>
  match a, b with
  | .ok x, .ok y => if h : x = y then isTrue (by rw [h]) else isFalse (by intro e; cases e; exact h rfl)
  | .error x, .error y =>
    if h : x = y then isTrue (by rw [h]) else isFalse (by intro e; cases e; exact h rfl)
  | .ok _, .error _ => isFalse (by intro e; cases e)
  | .error _, .ok _ => isFalse (by intro e; cases e)

-- every error class of `validate_next` is reachable
example : validateNext [] = .error .notEnoughRoom := by decide +kernel
example : validateNext [0xE2, 0x82] = .error .notEnoughRoom := by decide +kernel
example : validateNext [0xF0, 0x9F, 0x98] = .error .notEnoughRoom := by decide +kernel
example : validateNext [0xC3] = .error .notEnoughRoom := by decide +kernel
example : validateNext [0x80] = .error .invalidLead := by decide +kernel
example : validateNext [0xBF, 0x41] = .error .invalidLead := by decide +kernel
example : validateNext [0xF8, 0x88, 0x80, 0x80, 0x80] = .error .invalidLead := by decide +kernel
example : validateNext [0xFF] = .error .invalidLead := by decide +kernel
example : validateNext [0xE2, 0x28, 0xA1] = .error .incompleteSequence := by decide +kernel
example : validateNext [0xE2, 0x82, 0x28] = .error .incompleteSequence := by decide +kernel
-- a non-trail byte is noticed before the end of input is: INCOMPLETE, not NOT_ENOUGH_ROOM
example : validateNext [0xF0, 0x28] = .error .incompleteSequence := by decide +kernel
-- 0xC0, 0xC1 are leads; their sequences are overlong
example : validateNext [0xC0, 0x80] = .error .overlongSequence := by decide +kernel
example : validateNext [0xC1, 0xBF] = .error .overlongSequence := by decide +kernel
example : validateNext [0xE0, 0x9F, 0xBF] = .error .overlongSequence := by decide +kernel
example : validateNext [0xF0, 0x8F, 0xBF, 0xBF] = .error .overlongSequence := by decide +kernel
-- surrogates, above U+10FFFF; 0xF5..0xF7 are leads whose code points are too large
example : validateNext [0xED, 0xA0, 0x80] = .error .invalidCodePoint := by decide +kernel
example : validateNext [0xED, 0xBF, 0xBF] = .error .invalidCodePoint := by decide +kernel
example : validateNext [0xF4, 0x90, 0x80, 0x80] = .error .invalidCodePoint := by decide +kernel
example : validateNext [0xF5, 0x80, 0x80, 0x80] = .error .invalidCodePoint := by decide +kernel
example : validateNext [0xF7, 0xBF, 0xBF, 0xBF] = .error .invalidCodePoint := by decide +kernel
-- boundaries of the accepted ranges
example : validateNext [0x7F, 0x41] = .ok (0x7F, [0x41]) := by decide +kernel
example : validateNext [0xC2, 0x80] = .ok (0x80, []) := by decide +kernel
example : validateNext [0xDF, 0xBF] = .ok (0x7FF, []) := by decide +kernel
example : validateNext [0xE0, 0xA0, 0x80] = .ok (0x800, []) := by decide +kernel
example : validateNext [0xED, 0x9F, 0xBF] = .ok (0xD7FF, []) := by decide +kernel
example : validateNext [0xEE, 0x80, 0x80] = .ok (0xE000, []) := by decide +kernel
example : validateNext [0xEF, 0xBF, 0xBF] = .ok (0xFFFF, []) := by decide +kernel
example : validateNext [0xF0, 0x90, 0x80, 0x80] = .ok (0x10000, []) := by decide +kernel
example : validateNext [0xF4, 0x8F, 0xBF, 0xBF, 0x80] = .ok (0x10FFFF, [0x80]) := by decide +kernel

-- `sanitise`: one U+FFFD per bad sequence
example : sanitise [0xC0, 0x80] = [0xEF, 0xBF, 0xBD] := by decide +kernel
example : sanitise [0xED, 0xA0, 0x80] = [0xEF, 0xBF, 0xBD] := by decide +kernel
example : sanitise [0xF4, 0x90, 0x80, 0x80] = [0xEF, 0xBF, 0xBD] := by decide +kernel
example : sanitise [0xE2, 0x82] = [0xEF, 0xBF, 0xBD] := by decide +kernel
example : sanitise [0xE2, 0x28, 0xA1] = [0xEF, 0xBF, 0xBD, 0x28, 0xEF, 0xBF, 0xBD] := by
  decide +kernel
example : sanitise [0xFF] = [0xEF, 0xBF, 0xBD] := by decide +kernel
example : sanitise [0x80] = [0xEF, 0xBF, 0xBD] := by decide +kernel
-- invalid lead: only that byte is replaced, the trail bytes after it one by one
example : sanitise [0xFF, 0x80, 0x41] = [0xEF, 0xBF, 0xBD, 0xEF, 0xBF, 0xBD, 0x41] := by
  decide +kernel
-- overlong: trail bytes beyond the sequence are swallowed by the same replacement mark
example : sanitise [0xC0, 0x80, 0x80, 0x80, 0x41] = [0xEF, 0xBF, 0xBD, 0x41] := by decide +kernel
-- truncated at the end after valid text; text on both sides of a bad sequence survives
example : sanitise [0x41, 0xF0, 0x9F, 0x98] = [0x41, 0xEF, 0xBF, 0xBD] := by decide +kernel
example : sanitise [0x41, 0xED, 0xA0, 0x80, 0xC3, 0xA9] = [0x41, 0xEF, 0xBF, 0xBD, 0xC3, 0xA9] := by
  decide +kernel
-- valid text ("Aé€😀", U+FFFD itself, the empty string) is unchanged
example : sanitise [0x41, 0xC3, 0xA9, 0xE2, 0x82, 0xAC, 0xF0, 0x9F, 0x98, 0x80] =
    [0x41, 0xC3, 0xA9, 0xE2, 0x82, 0xAC, 0xF0, 0x9F, 0x98, 0x80] := by decide +kernel
example : sanitise [0xEF, 0xBF, 0xBD] = [0xEF, 0xBF, 0xBD] := by decide +kernel
example : sanitise [] = [] := by decide +kernel

-- `utf8Encode`/`utf8Decode` agree with Lean's own UTF-8 encoder on a sample; the strict decoder
-- rejects each of the malformed inputs above
example : utf8Encode "Aé€😀".toList = "Aé€😀".toUTF8.toList := by decide +kernel
example : utf8Decode [0x41, 0xC3, 0xA9, 0xE2, 0x82, 0xAC, 0xF0, 0x9F, 0x98, 0x80] =
    some "Aé€😀".toList := by decide +kernel
example : utf8Decode [0xC0, 0x80] = none := by decide +kernel
example : utf8Decode [0xED, 0xA0, 0x80] = none := by decide +kernel
example : utf8Decode [0xF4, 0x90, 0x80, 0x80] = none := by decide +kernel
example : utf8Decode [0xE2, 0x82] = none := by decide +kernel
example : utf8Decode [0xE2, 0x28, 0xA1] = none := by decide +kernel
example : utf8Decode [0xFF] = none := by decide +kernel
example : utf8Decode [0x80] = none := by decide +kernel
example : utf8Decode [0x41, 0xF0, 0x9F, 0x98] = none := by decide +kernel
example : decodeLossy [0x41, 0xC0, 0x80, 0xC3, 0xA9] = ['A', Char.ofNat 0xFFFD, 'é'] := by
  decide +kernel

/-- Keys and strings with an overlong sequence, a lone surrogate, a truncated sequence, next to
    well-formed non-ASCII text. -/
def sampleBValue : BValue Int :=
  .obj [([0x6B, 0xC0, 0x80], .arr [.str [0xED, 0xA0, 0x80, 0x41], .num (-3), .str [0xC3, 0xA9]]),
        ([0xE2, 0x82, 0xAC], .str [0x41, 0xF0, 0x9F])]

example : jsonEncodeB intCodec sampleBValue =
    asciiBytes "{\"k\\ufffd\":[\"\\ufffdA\",-3,\"\\u00e9\"],\"\\u20ac\":\"A\\ufffd\"}" := by
  decide +kernel
example : sampleBValue.sanitised =
    .obj [([0x6B, 0xEF, 0xBF, 0xBD],
            .arr [.str [0xEF, 0xBF, 0xBD, 0x41], .num (-3), .str [0xC3, 0xA9]]),
          ([0xE2, 0x82, 0xAC], .str [0x41, 0xEF, 0xBF, 0xBD])] := rfl
example : jsonDecodeB intCodec (jsonEncodeB intCodec sampleBValue) = some sampleBValue.sanitised :=
  jsonDecodeB_jsonEncodeB intCodec intCodec_lawful sampleBValue
-- the decoder turns escapes into UTF-8 bytes
example : (match jsonDecodeB intCodec (asciiBytes "[\"\\u00e9\\ud83d\\ude00\"]") with
    | some (.arr [.str s]) => s == [0xC3, 0xA9, 0xF0, 0x9F, 0x98, 0x80]
    | _ => false) = true := by decide +kernel
-- raw invalid bytes in the JSON text are replaced before parsing; Json.lean's parser then rejects
-- the raw non-ASCII U+FFFD (raw multi-byte sequences are outside that model)
example : (jsonDecodeB intCodec [34, 0xFF, 34]).isNone = true := by decide +kernel

end Icinga.C20
