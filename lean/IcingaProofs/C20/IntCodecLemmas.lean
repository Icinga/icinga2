/-
  C20 — the integer instance of the number codec: `natToDec` is `natDigits`, so the decimal facts come from DigitLemmas;
  `intCodec` satisfies the codec laws and parses nothing but its own canonical spelling.
-/
import IcingaProofs.C20.DigitLemmas
import IcingaProofs.C20.JsonStringLemmas
namespace Icinga.C20

theorem natToDec_eq_natDigits (n : Nat) : natToDec n = natDigits n := by
  have : ∀ f n, (revDigitsF f n).reverse = natDigitsF f n := by
    intro f
    induction f with
    | zero => intro n; rfl
    | succ f ih =>
      intro n
      rw [revDigitsF, natDigitsF]
      split
      · rfl
      · rw [List.reverse_cons, ih]; rfl
  exact this _ n

theorem revDigitsVal_reverse (ds : Bytes) (h : ∀ b ∈ ds, isDigit b = true) :
    ∀ r, revDigitsVal (ds.reverse ++ r) = (revDigitsVal r).map (digitsVal · ds) := by
  induction ds with
  | nil => intro r; show revDigitsVal r = _; cases revDigitsVal r <;> rfl
  | cons d ds ih =>
    intro r
    have hd := isDigit_iff.mp (h d (by simp))
    rw [List.reverse_cons, List.append_assoc, ih (fun b hb => h b (by simp [hb])), List.singleton_append, revDigitsVal,
      if_pos hd]
    cases revDigitsVal r <;> rfl

theorem natToDec_ne_nil (n : Nat) : natToDec n ≠ [] := by
  rw [natToDec_eq_natDigits]; exact natDigits_ne_nil n

theorem natToDec_digits (n : Nat) : ∀ b ∈ natToDec n, 48 ≤ b.toNat ∧ b.toNat ≤ 57 := by
  rw [natToDec_eq_natDigits]; exact fun b hb => isDigit_iff.mp (natDigits_all_digits n b hb)

theorem decToNat?_natToDec (n : Nat) : decToNat? (natToDec n) = some n := by
  rw [natToDec_eq_natDigits]
  cases h : natDigits n with
  | nil => exact absurd h (natDigits_ne_nil n)
  | cons b t =>
    have := revDigitsVal_reverse _ (natDigits_all_digits n) []
    rw [List.append_nil] at this
    rw [decToNat?, ← h, this, revDigitsVal, Option.map_some, digitsVal_natDigits]

theorem intParseLoose_natToDec (n : Nat) : intParseLoose (natToDec n) = some (Int.ofNat n) := by
  have hne := natToDec_ne_nil n
  have hd := natToDec_digits n
  have hv := decToNat?_natToDec n
  cases h : natToDec n with
  | nil => exact absurd h hne
  | cons b rest =>
    rw [h] at hd hv
    have hb := hd b (by simp)
    have n45 : b ≠ 45 := by intro e; rw [e] at hb; simp at hb
    simp only [intParseLoose]
    rw [if_neg n45, hv]

theorem intParseLoose_intFmt (x : Int) : intParseLoose (intFmt x) = some x := by
  cases x with
  | ofNat n => exact intParseLoose_natToDec n
  | negSucc n =>
    simp only [intFmt, intParseLoose, if_true]
    rw [decToNat?_natToDec]
    simp only [Option.some.injEq]
    rfl

theorem isNumChar_of_digit (b : UInt8) (h : 48 ≤ b.toNat ∧ b.toNat ≤ 57) : isNumChar b = true := by
  simp [isNumChar, h.1, h.2]

theorem intCodec_lawful : intCodec.Lawful where
  roundtrip := by
    intro x
    show intParse (intFmt x) = some x
    unfold intParse
    rw [intParseLoose_intFmt]
    simp
  nonempty := by
    intro x
    show intFmt x ≠ []
    cases x with
    | ofNat n => exact natToDec_ne_nil n
    | negSucc n => simp [intFmt]
  chars := by
    intro x b hb
    change b ∈ intFmt x at hb
    cases x with
    | ofNat n => exact isNumChar_of_digit b (natToDec_digits n b hb)
    | negSucc n =>
      simp only [intFmt, List.mem_cons] at hb
      rcases hb with hb | hb
      · rw [hb]; decide
      · exact isNumChar_of_digit b (natToDec_digits _ b hb)

theorem intParse_canonical (bs : List UInt8) (x : Int) (h : intCodec.parse bs = some x) :
    intCodec.fmt x = bs := by
  change intParse bs = some x at h
  unfold intParse at h
  split at h
  · simp at h
  · split at h
    · rename_i he; simp only [Option.some.injEq] at h; rw [← h]; exact he
    · simp at h

-- the codec laws are satisfiable and `intParse` is not the constant `none`
example : intCodec.parse (asciiBytes "-120") = some (-120) := by decide +kernel
example : intCodec.fmt (-120) = asciiBytes "-120" := by decide +kernel

end Icinga.C20
