/-
  C20 — NumberFloat's integer path (IcingaModel/C20/Number.lean): when `b64NatMag` yields an integer, that integer IS
  the double's magnitude (no rounding), and what `numberFloatInt` yields has that magnitude and lies within the C++ ranges.
-/
import IcingaModel.C20.Number

namespace Icinga.C20

theorem b64NatMag_exact (bits n : Nat) (h : b64NatMag bits = some n) :
    (b64Mag bits).1 * 2 ^ (b64Mag bits).2.1 = n * 2 ^ (b64Mag bits).2.2 := by
  unfold b64NatMag at h
  split at h
  · simp at h
  · rcases hm : b64Mag bits with ⟨m, e2, d2⟩
    simp only [hm] at h ⊢
    split at h
    · rename_i hdiv
      simp only [Option.some.injEq] at h
      subst h
      have hd : m % 2 ^ d2 = 0 := by simpa using hdiv
      have : m / 2 ^ d2 * 2 ^ d2 = m := Nat.div_mul_cancel (Nat.dvd_of_mod_eq_zero hd)
      calc m * 2 ^ e2 = (m / 2 ^ d2 * 2 ^ d2) * 2 ^ e2 := by rw [this]
        _ = m / 2 ^ d2 * 2 ^ e2 * 2 ^ d2 := by rw [Nat.mul_assoc, Nat.mul_comm (2 ^ d2), ← Nat.mul_assoc]
    · simp at h

theorem numberFloatInt_eq_some (bits : Nat) (n : Int) (h : numberFloatInt bits = some n) :
    b64NatMag bits = some n.natAbs ∧ -(2 ^ 63 : Int) ≤ n ∧ n < 2 ^ 64 := by
  unfold numberFloatInt at h
  cases hm : b64NatMag bits with
  | none => simp [hm] at h
  | some k =>
    simp only [hm] at h
    split at h
    · split at h
      · cases h; exact ⟨by simp, by omega, by omega⟩
      · cases h
    · split at h
      · cases h; exact ⟨by simp, by omega, by omega⟩
      · cases h

end Icinga.C20
