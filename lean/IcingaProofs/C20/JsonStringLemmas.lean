/-
  C20 — JSON strings: `decodeChar1` undoes `encodeChar` case by case along `encodeChar_cases` (two-character escape,
  `\uXXXX`, surrogate pair, raw byte), hence `jsonDecodeString` reads back what `jsonEncodeString` wrote, whatever follows.
-/
import IcingaModel.C20.Json
namespace Icinga.C20

theorem u8_toNat_ofNat_lt (n : Nat) (h : n < 256) : (UInt8.ofNat n).toNat = n :=
  UInt8.toNat_ofNat_of_lt' h

theorem hexVal_hexDigit (k : Nat) (h : k < 16) : hexVal (hexDigit k) = some k := by
  have : ∀ k : Fin 16, hexVal (hexDigit k.val) = some k.val := by decide
  exact this ⟨k, h⟩

theorem parseHex4_hex4 (n : Nat) (h : n < 65536) (rest : List UInt8) :
    parseHex4 (hex4 n ++ rest) = some (n, rest) := by
  simp only [hex4, List.cons_append, List.nil_append, parseHex4]
  rw [hexVal_hexDigit _ (by omega), hexVal_hexDigit _ (by omega), hexVal_hexDigit _ (by omega),
    hexVal_hexDigit _ (by omega)]
  simp only [Option.some.injEq, Prod.mk.injEq, and_true]
  -- the digits as successive quotients by 16, which `omega` relates to one another at once
  rw [show n / 4096 = n / 16 / 16 / 16 by rw [Nat.div_div_eq_div_mul, Nat.div_div_eq_div_mul],
    show n / 256 = n / 16 / 16 by rw [Nat.div_div_eq_div_mul]]
  omega

theorem charOfNat?_toNat (c : Char) : charOfNat? c.toNat = some c := by
  have h : c.toNat.isValidChar := c.valid
  unfold charOfNat?
  rw [dif_pos h]
  rfl

theorem decodeChar1_u (r : List UInt8) : decodeChar1 (92 :: 117 :: r) = decodeUEscape r := by
  simp [decodeChar1]

theorem decodeChar1_bmpEscape (c : Char) (h : c.toNat ≤ 0xFFFF) (rest : List UInt8) :
    decodeChar1 (92 :: 117 :: hex4 c.toNat ++ rest) = some (c, rest) := by
  have hv : c.toNat < 55296 ∨ 57343 < c.toNat ∧ c.toNat < 1114112 := c.valid
  simp only [List.cons_append]
  rw [decodeChar1_u, decodeUEscape, parseHex4_hex4 _ (by omega)]
  simp only
  rw [if_neg (by omega), charOfNat?_toNat]
  rfl

theorem decodeChar1_surrogatePair (c : Char) (h : 0x10000 ≤ c.toNat) (rest : List UInt8) :
    decodeChar1 (92 :: 117 :: (hex4 (0xD7C0 + c.toNat / 1024) ++
      92 :: 117 :: hex4 (0xDC00 + c.toNat % 1024)) ++ rest) = some (c, rest) := by
  have hv : c.toNat < 1114112 := by
    have : c.toNat < 55296 ∨ 57343 < c.toNat ∧ c.toNat < 1114112 := c.valid
    omega
  simp only [List.cons_append, List.append_assoc]
  rw [decodeChar1_u, decodeUEscape, parseHex4_hex4 _ (by omega)]
  simp only
  rw [if_pos (by omega)]
  rw [if_pos (by simp), parseHex4_hex4 _ (by omega)]
  simp only
  rw [if_pos (by omega)]
  have e : 0x10000 + (0xD7C0 + c.toNat / 1024 - 0xD800) * 1024 + (0xDC00 + c.toNat % 1024 - 0xDC00)
      = c.toNat := by omega
  rw [e, charOfNat?_toNat]
  rfl

theorem decodeChar1_rawByte (c : Char) (h1 : 0x20 ≤ c.toNat) (h2 : c.toNat < 0x7F) (h3 : c.toNat ≠ 0x22)
    (h4 : c.toNat ≠ 0x5C) (rest : List UInt8) :
    decodeChar1 ([UInt8.ofNat c.toNat] ++ rest) = some (c, rest) := by
  have hb := u8_toNat_ofNat_lt c.toNat (by omega)
  have n92 : UInt8.ofNat c.toNat ≠ 92 := by
    intro h; rw [h] at hb; simp at hb; omega
  have n34 : UInt8.ofNat c.toNat ≠ 34 := by
    intro h; rw [h] at hb; simp at hb; omega
  simp only [List.cons_append, List.nil_append, decodeChar1]
  rw [if_neg n92, if_neg n34, hb, if_pos (by omega), charOfNat?_toNat]
  rfl

/-- The branches of nlohmann's `dump_escaped` (`ensure_ascii = true`). -/
theorem encodeChar_cases (c : Char) :
    (∃ e : UInt8, (c.toNat, e) ∈ [(0x08, 98), (0x09, 116), (0x0A, 110), (0x0C, 102), (0x0D, 114), (0x22, 34),
      (0x5C, 92)] ∧ encodeChar c = [92, e]) ∨
    (c.toNat ≤ 0xFFFF ∧ encodeChar c = 92 :: 117 :: hex4 c.toNat) ∨
    (0x10000 ≤ c.toNat ∧ encodeChar c =
      92 :: 117 :: (hex4 (0xD7C0 + c.toNat / 1024) ++ 92 :: 117 :: hex4 (0xDC00 + c.toNat % 1024))) ∨
    (0x20 ≤ c.toNat ∧ c.toNat < 0x7F ∧ c.toNat ≠ 0x22 ∧ c.toNat ≠ 0x5C ∧
      encodeChar c = [UInt8.ofNat c.toNat]) := by
  unfold encodeChar
  simp only
  by_cases h08 : c.toNat = 0x08
  · exact .inl ⟨98, by simp [h08], if_pos h08⟩
  rw [if_neg h08]
  by_cases h09 : c.toNat = 0x09
  · exact .inl ⟨116, by simp [h09], if_pos h09⟩
  rw [if_neg h09]
  by_cases h0A : c.toNat = 0x0A
  · exact .inl ⟨110, by simp [h0A], if_pos h0A⟩
  rw [if_neg h0A]
  by_cases h0C : c.toNat = 0x0C
  · exact .inl ⟨102, by simp [h0C], if_pos h0C⟩
  rw [if_neg h0C]
  by_cases h0D : c.toNat = 0x0D
  · exact .inl ⟨114, by simp [h0D], if_pos h0D⟩
  rw [if_neg h0D]
  by_cases h22 : c.toNat = 0x22
  · exact .inl ⟨34, by simp [h22], if_pos h22⟩
  rw [if_neg h22]
  by_cases h5C : c.toNat = 0x5C
  · exact .inl ⟨92, by simp [h5C], if_pos h5C⟩
  rw [if_neg h5C]
  by_cases hesc : c.toNat ≤ 0x1F ∨ c.toNat ≥ 0x7F
  · rw [if_pos hesc]
    by_cases hb : c.toNat ≤ 0xFFFF
    · exact .inr (.inl ⟨hb, if_pos hb⟩)
    · exact .inr (.inr (.inl ⟨by omega, if_neg hb⟩))
  · exact .inr (.inr (.inr ⟨by omega, by omega, h22, h5C, if_neg hesc⟩))

theorem decodeChar1_encodeChar (c : Char) (rest : List UInt8) :
    decodeChar1 (encodeChar c ++ rest) = some (c, rest) := by
  rcases encodeChar_cases c with ⟨e, he, h⟩ | ⟨hb, h⟩ | ⟨hs, h⟩ | ⟨h1, h2, h3, h4, h⟩
  · simp only [List.mem_cons, Prod.mk.injEq, List.not_mem_nil, or_false] at he
    rw [h]
    rcases he with ⟨hc, rfl⟩ | ⟨hc, rfl⟩ | ⟨hc, rfl⟩ | ⟨hc, rfl⟩ | ⟨hc, rfl⟩ | ⟨hc, rfl⟩ | ⟨hc, rfl⟩
    all_goals
      cases (hc ▸ Char.ofNat_toNat c : Char.ofNat _ = c)
      rfl
  · rw [h]; exact decodeChar1_bmpEscape c hb rest
  · rw [h]; exact decodeChar1_surrogatePair c hs rest
  · rw [h]; exact decodeChar1_rawByte c h1 h2 h3 h4 rest

theorem decodeChar1_head (bs : List UInt8) (x : Char × List UInt8) (h : decodeChar1 bs = some x) :
    ∃ b r, bs = b :: r ∧ b ≠ 34 := by
  cases bs with
  | nil => cases h
  | cons b r =>
    refine ⟨b, r, rfl, ?_⟩
    rintro rfl
    simp [decodeChar1] at h

theorem encodeChar_ne_nil (c : Char) : encodeChar c ≠ [] := by
  intro h
  have hd := decodeChar1_encodeChar c []
  rw [h] at hd
  cases hd

theorem decodeCharsF_encodeChars (s : List Char) : ∀ (f : Nat) (acc : List Char) (rest : List UInt8),
    (encodeChars s ++ 34 :: rest).length ≤ f →
    decodeCharsF f (encodeChars s ++ 34 :: rest) acc = some (acc.reverse ++ s, rest) := by
  induction s with
  | nil =>
    intro f acc rest hf
    cases f with
    | zero => simp [encodeChars] at hf
    | succ f => simp [encodeChars, decodeCharsF]
  | cons c cs ih =>
    intro f acc rest hf
    cases f with
    | zero => simp [encodeChars] at hf
    | succ f =>
      have hl := List.length_pos_iff.mpr (encodeChar_ne_nil c)
      simp only [encodeChars, List.append_assoc, List.length_append] at hf ⊢
      have hd := decodeChar1_encodeChar c (encodeChars cs ++ 34 :: rest)
      obtain ⟨b, r, hbr, hb⟩ := decodeChar1_head _ _ hd
      rw [hbr] at hd
      rw [hbr, decodeCharsF]
      rw [if_neg hb, hd]
      simp only
      rw [ih f (c :: acc) rest (by simp only [List.length_append]; omega)]
      simp

theorem jsonDecodeString_jsonEncodeString (s : List Char) (rest : List UInt8) :
    jsonDecodeString (jsonEncodeString s ++ rest) = some (s, rest) := by
  simp only [jsonEncodeString, List.cons_append, List.append_assoc, List.nil_append,
    jsonDecodeString, if_true]
  rw [decodeCharsF_encodeChars s _ [] rest (Nat.le_refl _)]
  simp

/-- ASCII text as bytes (used by the examples of the C20 modules only). -/
def asciiBytes (s : String) : List UInt8 := s.toList.map (fun c => UInt8.ofNat c.toNat)

-- control characters, quote, non-ASCII BMP, astral (surrogate pair), DEL, unescaped '/'
example : jsonEncodeString "a\"\né😀/\x7f".toList =
    asciiBytes "\"a\\\"\\n\\u00e9\\ud83d\\ude00/\\u007f\"" := by decide +kernel
example : jsonDecodeString (asciiBytes "\"a\\\"\\n\\u00e9\\ud83d\\ude00/\\u007f\"tail") =
    some ("a\"\né😀/\x7f".toList, asciiBytes "tail") := by decide +kernel
-- upper-case hex and `\/` are accepted although never emitted
example : jsonDecodeString (asciiBytes "\"\\u00E9\\/\"") = some ("é/".toList, []) := by
  decide +kernel
-- lone high surrogate, lone low surrogate, high surrogate followed by a non-surrogate
example : jsonDecodeString (asciiBytes "\"\\ud800\"") = none := by decide +kernel
example : jsonDecodeString (asciiBytes "\"\\udc00\"") = none := by decide +kernel
example : jsonDecodeString (asciiBytes "\"\\ud83d\\u0041\"") = none := by decide +kernel
-- unterminated string, truncated escape, raw control byte
example : jsonDecodeString (asciiBytes "\"abc") = none := by decide +kernel
example : jsonDecodeString (asciiBytes "\"\\u00e\"") = none := by decide +kernel
example : jsonDecodeString [34, 10, 34] = none := by decide +kernel

end Icinga.C20
