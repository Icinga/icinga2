/-
  C20 — the netstring readers: the TLS reader's header loop and body; the buffered reader's parser (a decided answer is
  stable under more bytes, `nsParseBuf_stable`); its read loop by one induction against the chunk-free relation `Parses`
  (`nsBufRun_parses`), so that what the loop returns on frames, on a `streamEnd` and on anything behind frames, and
  that it ends with no more items than the bytes hold on arbitrary streams (`Parses.cost`, `nsReadAll_total`), are facts
  about byte strings.
-/
import IcingaProofs.C20.DigitLemmas

namespace Icinga.C20

theorem hdrLoop_inv : ∀ (bs : Bytes) (rb len : Nat) (lz : Bool) (r : HdrResult), rb ≤ 9 →
    hdrLoop rb len lz bs = r → (∀ e rest, r ≠ .error e rest) →
    ∃ ds rest, bs = ds ++ rest ∧ (∀ b ∈ ds, isDigit b = true) ∧ rb + ds.length ≤ 9 ∧ (lz = true → ds = []) ∧
      (rb = 0 → NoLeadingZero ds) ∧
      ((r = .eof ∧ rest = []) ∨
       (∃ rest', rest = colon :: rest' ∧ r = .done (digitsVal len ds) rest' ∧ (rb = 0 → ds ≠ []))) := by
  intro bs
  induction bs with
  | nil =>
    intro rb len lz r hrb h _
    exact ⟨[], [], rfl, by simp, by simpa using hrb, fun _ => rfl, (fun _ a b t e => nomatch e), .inl ⟨h.symm, rfl⟩⟩
  | cons x xs ih =>
    intro rb len lz r hrb h hr
    simp only [hdrLoop] at h
    by_cases hd : isDigit x = true
    · rw [if_pos hd] at h
      by_cases h9 : (rb == 9) = true
      · rw [if_pos h9] at h; exact absurd h.symm (hr _ _)
      rw [if_neg h9] at h
      by_cases hlz : lz = true
      · rw [if_pos hlz] at h; exact absurd h.symm (hr _ _)
      rw [if_neg hlz] at h
      have hrb' : rb + 1 ≤ 9 := by simp at h9; omega
      obtain ⟨ds, rest, he, hall, hl, hz, _, hend⟩ := ih (rb + 1) _ _ r hrb' h hr
      refine ⟨x :: ds, rest, by rw [he]; rfl, List.forall_mem_cons.mpr ⟨hd, hall⟩, by simp; omega,
        fun hh => absurd hh hlz, ?_, ?_⟩
      · intro hrb0 a b t e
        cases e
        cases h48 : (x == 48) with
        | false => rfl
        | true => cases hz (by simp [hrb0, h48])
      · rcases hend with ⟨hr1, hr2⟩ | ⟨rest', hr1, hr2, _⟩
        · exact .inl ⟨hr1, hr2⟩
        · exact .inr ⟨rest', hr1, by rw [hr2]; simp [digitsVal], fun _ => by simp⟩
    · rw [if_neg hd] at h
      by_cases hc : (x == colon) = true
      · rw [if_pos hc] at h
        by_cases h0 : (rb == 0) = true
        · rw [if_pos h0] at h; exact absurd h.symm (hr _ _)
        rw [if_neg h0] at h
        have hx : x = colon := by simpa using hc
        exact ⟨[], x :: xs, rfl, by simp, by simpa using hrb, fun _ => rfl, (fun _ a b t e => nomatch e),
          .inr ⟨xs, by rw [hx], by rw [← h]; rfl, fun hh => absurd (by simp [hh]) h0⟩⟩
      · rw [if_neg hc] at h; exact absurd h.symm (hr _ _)

/-- `hdrLoop_inv` read forwards, from any state `rb`, `lz` of the loop. -/
theorem hdrLoop_digits : ∀ (ds : Bytes) (rb len : Nat) (lz : Bool) (tail : Bytes), (∀ b ∈ ds, isDigit b = true) →
    rb + ds.length ≤ 9 → (lz = true → ds = []) → (rb = 0 → NoLeadingZero ds) →
    (∀ b t, tail = b :: t → isDigit b = false) →
    hdrLoop rb len lz (ds ++ tail) = hdrLoop (rb + ds.length) (digitsVal len ds) false tail := by
  intro ds
  induction ds with
  | nil =>
    intro rb len lz tail _ _ _ _ ht
    cases tail with
    | nil => rfl
    | cons b t => simp [hdrLoop, ht b t rfl, digitsVal]
  | cons d ds ih =>
    intro rb len lz tail hd hlen hlz h0 ht
    have hdd : isDigit d = true := hd d (by simp)
    simp only [List.length_cons] at hlen
    have h9 : (rb == 9) = false := by simp; omega
    have hlz' : lz = false := by cases lz with | false => rfl | true => cases hlz rfl
    simp only [List.cons_append, hdrLoop, hdd, if_true, h9, hlz', Bool.false_eq_true, if_false]
    rw [ih (rb + 1) _ _ tail (fun b hb => hd b (by simp [hb])) (by omega) ?_ (fun h => by omega) ht]
    · simp only [digitsVal, List.foldl_cons, List.length_cons]
      congr 1; omega
    · intro h
      simp only [Bool.and_eq_true, beq_iff_eq] at h
      cases ds with
      | nil => rfl
      | cons e t => have := h0 h.1 d e t rfl; simp [h.2] at this

theorem hdrLoop_natDigits (n : Nat) (hn : n < 10 ^ 9) (rest : Bytes) :
    hdrLoop 0 0 false (natDigits n ++ colon :: rest) = .done n rest := by
  rw [hdrLoop_digits (natDigits n) 0 0 false _ (natDigits_all_digits n)
    (by have := (natDigits_length_le n 9 (by omega)).mpr hn; omega) nofun (fun _ => natDigits_noLeadingZero n)
    (by rintro b t ⟨⟩; exact colon_not_digit), digitsVal_natDigits]
  simp [hdrLoop, colon_not_digit, natDigits_ne_nil]

theorem hdrLoop_canonical (bs : Bytes) (len : Nat) (rest : Bytes)
    (h : hdrLoop 0 0 false bs = .done len rest) :
    bs = natDigits len ++ colon :: rest ∧ len < 10 ^ 9 := by
  obtain ⟨ds, r, he, hall, hl, _, hnz, hend⟩ :=
    hdrLoop_inv bs 0 0 false _ (by omega) h (by intro e r hh; cases hh)
  rcases hend with ⟨hd, _⟩ | ⟨rest', hr, hd, hne⟩
  · cases hd
  · cases hd
    have hnd := natDigits_digitsVal_canonical ds hall (hne rfl) (hnz rfl)
    rw [Nat.zero_add] at hl
    exact ⟨by rw [he, hr, hnd], (natDigits_length_le _ 9 (by omega)).mp (by rw [hnd]; exact hl)⟩

theorem nsEncode_append (p rest : Bytes) :
    nsEncode p ++ rest = natDigits p.length ++ colon :: (p ++ comma :: rest) := by
  simp [nsEncode]

theorem nsEncode_length (p : Bytes) : (nsEncode p).length = (natDigits p.length).length + 1 + p.length + 1 := by
  simp [nsEncode]; omega

theorem nsEncode_length_ge (p : Bytes) : 3 ≤ (nsEncode p).length := by
  rw [nsEncode_length]; have := List.length_pos_iff.mpr (natDigits_ne_nil p.length); omega

theorem nsEncodeAll_nil : nsEncodeAll [] = [] := rfl

theorem nsEncodeAll_cons (p : Bytes) (ps : List Bytes) : nsEncodeAll (p :: ps) = nsEncode p ++ nsEncodeAll ps := rfl

theorem nsEncodeAll_append (a b : List Bytes) : nsEncodeAll (a ++ b) = nsEncodeAll a ++ nsEncodeAll b := by
  induction a with
  | nil => rfl
  | cons p r ih => simp [nsEncodeAll_cons, ih]

theorem tlsLimitExceeded_none (n : Nat) : tlsLimitExceeded none n = false := rfl

theorem tlsLimitExceeded_some (m n : Nat) : tlsLimitExceeded (some m) n = decide (m < n) := rfl

/-- What the TLS reader does once the header loop has delivered the declared length (netstring.cpp:170-197). -/
def tlsBody (max : Option Nat) (len : Nat) (rest : Bytes) : TlsResult :=
  if tlsLimitExceeded max len then ⟨.error .maxExceeded rest, 0⟩
  else if rest.length < len then ⟨.eof, len⟩
  else
    match rest.drop len with
    | [] => ⟨.eof, len⟩
    | t :: rest' =>
      if t == comma then ⟨.ok (rest.take len) rest', len⟩
      else ⟨.error .missingComma rest', len⟩

theorem nsReadTls_header (max : Option Nat) (n : Nat) (hn : n < 10 ^ 9) (rest : Bytes) :
    nsReadTls max (natDigits n ++ colon :: rest) = tlsBody max n rest := by
  unfold nsReadTls
  rw [hdrLoop_natDigits n hn]
  rfl

theorem nsReadTls_over_limit (max : Option Nat) (n : Nat) (hn : n < 10 ^ 9) (tail : Bytes)
    (hmax : tlsLimitExceeded max n = true) :
    nsReadTls max (natDigits n ++ colon :: tail) = ⟨.error .maxExceeded tail, 0⟩ := by
  rw [nsReadTls_header max n hn, tlsBody, if_pos hmax]

/-- The TLS reader by the shape of the stream: it ends inside the length field, or the length field violates the format
    (in both nothing is allocated: the `0`), or it starts with a canonical header. -/
theorem nsReadTls_cases (max : Option Nat) (bs : Bytes) :
    (nsReadTls max bs = ⟨.eof, 0⟩ ∧ (∀ b ∈ bs, isDigit b = true) ∧ bs.length ≤ 9 ∧ NoLeadingZero bs) ∨
    (∃ e r, nsReadTls max bs = ⟨.error e r, 0⟩) ∨
    (∃ n r, bs = natDigits n ++ colon :: r ∧ n < 10 ^ 9 ∧ nsReadTls max bs = tlsBody max n r) := by
  cases hh : hdrLoop 0 0 false bs with
  | eof =>
    obtain ⟨ds, rest, he, hall, hl, _, hnz, hend⟩ := hdrLoop_inv bs 0 0 false _ (by omega) hh (by intro e r h; cases h)
    rcases hend with ⟨_, rfl⟩ | ⟨_, _, hd, _⟩
    · rw [List.append_nil] at he
      subst he
      exact .inl ⟨by simp only [nsReadTls, hh], hall, by omega, hnz rfl⟩
    · cases hd
  | error e r => exact .inr (.inl ⟨e, r, by simp only [nsReadTls, hh]⟩)
  | done len r =>
    obtain ⟨hbs, hlen⟩ := hdrLoop_canonical bs len r hh
    exact .inr (.inr ⟨len, r, hbs, hlen, by rw [hbs]; exact nsReadTls_header max len hlen r⟩)

theorem tlsBody_cases (max : Option Nat) (n : Nat) (r : Bytes) :
    (tlsLimitExceeded max n = true ∧ tlsBody max n r = ⟨.error .maxExceeded r, 0⟩) ∨
    (tlsLimitExceeded max n = false ∧
      ((r.drop n = [] ∧ tlsBody max n r = ⟨.eof, n⟩) ∨
       (∃ p r', r = p ++ comma :: r' ∧ p.length = n ∧ tlsBody max n r = ⟨.ok p r', n⟩) ∨
       (∃ p t r', r = p ++ t :: r' ∧ p.length = n ∧ t ≠ comma ∧ tlsBody max n r = ⟨.error .missingComma r', n⟩))) := by
  unfold tlsBody
  by_cases hm : tlsLimitExceeded max n = true
  · exact .inl ⟨hm, if_pos hm⟩
  right
  rw [if_neg hm]
  refine ⟨by simpa using hm, ?_⟩
  by_cases hl : r.length < n
  · exact .inl ⟨List.drop_eq_nil_of_le (by omega), if_pos hl⟩
  rw [if_neg hl]
  cases hd : r.drop n with
  | nil => exact .inl ⟨rfl, rfl⟩
  | cons t r' =>
    dsimp only
    by_cases hc : (t == comma) = true
    · rw [if_pos hc]
      rw [beq_iff_eq] at hc
      exact .inr (.inl ⟨r.take n, r', by rw [← hc, ← hd, List.take_append_drop], by rw [List.length_take]; omega, rfl⟩)
    · rw [if_neg hc]
      exact .inr (.inr ⟨r.take n, t, r', by rw [← hd, List.take_append_drop], by rw [List.length_take]; omega,
        by simpa using hc, rfl⟩)

theorem tlsBody_ok_iff {max : Option Nat} {n : Nat} {r p r' : Bytes} {a : Nat} :
    tlsBody max n r = ⟨.ok p r', a⟩ ↔
      tlsLimitExceeded max n = false ∧ r = p ++ comma :: r' ∧ p.length = n ∧ a = n := by
  constructor
  · intro h
    rcases tlsBody_cases max n r with ⟨_, he⟩ | ⟨hm, ⟨_, he⟩ | ⟨q, r'', rfl, rfl, he⟩ | ⟨_, _, _, _, _, _, he⟩⟩ <;> rw [he] at h <;> cases h
    exact ⟨hm, rfl, rfl, rfl⟩
  · rintro ⟨hm, rfl, rfl, rfl⟩
    simp [tlsBody, hm]

theorem nsReadTls_ok_iff {max : Option Nat} {bs p rest : Bytes} {a : Nat} :
    nsReadTls max bs = ⟨.ok p rest, a⟩ ↔
      bs = nsEncode p ++ rest ∧ p.length < 10 ^ 9 ∧ tlsLimitExceeded max p.length = false ∧ a = p.length := by
  constructor
  · intro h
    rcases nsReadTls_cases max bs with ⟨he, _⟩ | ⟨e, r, he⟩ | ⟨n, r, hbs, hn, hb⟩
    · rw [he] at h; cases h
    · rw [he] at h; cases h
    · rw [hb] at h
      obtain ⟨hm, rfl, rfl, rfl⟩ := tlsBody_ok_iff.mp h
      exact ⟨by rw [hbs, nsEncode_append], hn, hm, rfl⟩
  · rintro ⟨rfl, hn, hmax, rfl⟩
    rw [nsEncode_append, nsReadTls_header max _ hn]
    exact tlsBody_ok_iff.mpr ⟨hmax, rfl, rfl, rfl⟩

theorem nsReadTls_alloc (max : Option Nat) (bs : Bytes) : (nsReadTls max bs).alloc = 0 ∨
    ((nsReadTls max bs).alloc < 10 ^ 9 ∧ tlsLimitExceeded max (nsReadTls max bs).alloc = false) := by
  rcases nsReadTls_cases max bs with ⟨he, _⟩ | ⟨e, r, he⟩ | ⟨n, r, _, hn, hb⟩
  · exact .inl (by rw [he])
  · exact .inl (by rw [he])
  · rw [hb]
    rcases tlsBody_cases max n r with ⟨_, he⟩ | ⟨hm, ⟨_, he⟩ | ⟨_, _, _, _, he⟩ | ⟨_, _, _, _, _, _, he⟩⟩ <;> rw [he]
    · exact .inl rfl
    · exact .inr ⟨hn, hm⟩
    · exact .inr ⟨hn, hm⟩
    · exact .inr ⟨hn, hm⟩

theorem tlsBody_eof (max : Option Nat) (n : Nat) (r : Bytes) (h : (tlsBody max n r).out = .eof) :
    tlsLimitExceeded max n = false ∧ r.drop n = [] := by
  rcases tlsBody_cases max n r with ⟨_, he⟩ | ⟨hm, ⟨hd, _⟩ | ⟨_, _, _, _, he⟩ | ⟨_, _, _, _, _, _, he⟩⟩
  · rw [he] at h; cases h
  · exact ⟨hm, hd⟩
  · rw [he] at h; cases h
  · rw [he] at h; cases h

theorem takeWhile_all {α : Type} (p : α → Bool) (l : List α) (h : ∀ b ∈ l, p b = true) : l.takeWhile p = l := by
  have := List.takeWhile_append_of_pos (l₂ := []) h
  rwa [List.append_nil, List.takeWhile_nil, List.append_nil] at this

theorem takeWhile_append_drop_length {α : Type} (p : α → Bool) (l : List α) :
    l.takeWhile p ++ l.drop (l.takeWhile p).length = l := by
  have h := congrArg (List.drop (l.takeWhile p).length) (List.takeWhile_append_dropWhile (p := p) (l := l))
  rw [List.drop_left] at h
  rw [← h]
  exact List.takeWhile_append_dropWhile

/-- 17: the scan gives up behind index 16 (netstring.cpp:52). -/
theorem findColon_digits : ∀ (ds : Bytes) (i : Nat) (rest : Bytes), (∀ b ∈ ds, isDigit b = true) →
    i + ds.length ≤ 17 → findColon i (ds ++ rest) = findColon (i + ds.length) rest := by
  intro ds
  induction ds with
  | nil => intro i rest _ _; rfl
  | cons d ds ih =>
    intro i rest hd h17
    have hdd : isDigit d = true := hd d (by simp)
    simp only [List.length_cons] at h17
    have h16 : ¬ (i > 16) := by omega
    simp only [List.cons_append, findColon, isDigit_ne_colon hdd, Bool.false_eq_true, if_false, h16]
    rw [ih (i + 1) rest (fun b hb => hd b (by simp [hb])) (by omega), List.length_cons]
    congr 1; omega

theorem bufLeadingZero_natDigits (n : Nat) (q : Bytes) : bufLeadingZero (natDigits n ++ colon :: q) = false := by
  cases he : natDigits n with
  | nil => exact absurd he (natDigits_ne_nil n)
  | cons d ds =>
    cases ds with
    | nil => simp [bufLeadingZero, colon_not_digit]
    | cons e es => simp [bufLeadingZero, natDigits_noLeadingZero n d e es he]

/-- The buffered reader's limit test counts the ',' (netstring.cpp:77-79 against :170). -/
theorem bufLimitExceeded_eq (max : Option Nat) (n : Nat) : bufLimitExceeded max n = tlsLimitExceeded max (n + 1) := by
  cases max <;> rfl

theorem nsParseBuf_nil (max : Option Nat) : nsParseBuf max [] = .need := by
  simp [nsParseBuf, findColon]

/-- `d`, the declared length, is read from the leading digits of `pre` only: junk between them and the ':' is ignored (the
    reader is lenient). -/
theorem nsParseBuf_found (max : Option Nat) (pre post : Bytes) (d : Nat)
    (hfc : findColon 0 (pre ++ colon :: post) = .found pre.length) (hd : digitsVal 0 (pre.takeWhile isDigit) = d) :
    nsParseBuf max (pre ++ colon :: post) =
      if bufLeadingZero (pre ++ colon :: post) then .error .leadingZero
      else if (pre.takeWhile isDigit).length > 9 then .error .tooLong
      else if bufLimitExceeded max d then .error .maxExceeded
      else if post.length < d + 1 then .need
      else match post.drop d with
        | [] => .need
        | t :: _ => if t != comma then .error .missingComma else .item (post.take d) (pre.length + 1 + d + 1) := by
  have htake : List.take pre.length (pre ++ colon :: post) = pre := by simp
  have hd1 : List.drop (pre.length + 1) (pre ++ colon :: post) = post := by
    rw [List.drop_append]; simp [List.drop_eq_nil_of_le]
  have hd2 : List.drop (pre.length + 1 + d) (pre ++ colon :: post) = post.drop d := by
    conv => rhs; rw [← hd1, List.drop_drop]
  have hlen : ((pre ++ colon :: post).length < pre.length + 1 + (d + 1)) = (post.length < d + 1) := by
    simp only [List.length_append, List.length_cons, eq_iff_iff]; omega
  simp only [nsParseBuf, hfc, htake, hd, hd1, hd2, hlen]
  rfl

theorem nsParseBuf_header (max : Option Nat) (n : Nat) (hn : n < 10 ^ 9) (q : Bytes) :
    nsParseBuf max (natDigits n ++ colon :: q) =
      if bufLimitExceeded max n then .error .maxExceeded
      else if q.length < n + 1 then .need
      else match q.drop n with
        | [] => .need
        | t :: _ => if t != comma then .error .missingComma
                    else .item (q.take n) ((natDigits n).length + 1 + n + 1) := by
  have hall := natDigits_all_digits n
  have hlen := (natDigits_length_le n 9 (by omega)).mpr hn
  have hpos : 0 < (natDigits n).length := List.length_pos_iff.mpr (natDigits_ne_nil n)
  have hfc : findColon 0 (natDigits n ++ colon :: q) = .found (natDigits n).length := by
    rw [findColon_digits _ 0 _ hall (by omega), Nat.zero_add, findColon, if_pos (beq_self_eq_true _), if_neg (by rw [beq_iff_eq]; omega)]
  rw [nsParseBuf_found max _ q n hfc (by rw [takeWhile_all isDigit _ hall, digitsVal_natDigits]),
    bufLeadingZero_natDigits, takeWhile_all isDigit _ hall, if_neg (by simp), if_neg (by omega)]

/-- A payload the buffered reader accepts under `max`; `10 ^ 9`: the length field has at most nine digits.  Used by
    unfolding: an anonymous pair is an `okPayload`, and `.1`, `.2` read it. -/
def okPayload (max : Option Nat) (p : Bytes) : Prop := p.length < 10 ^ 9 ∧ bufLimitExceeded max p.length = false

/-- A complete frame at the front of the buffer is returned (netstring.cpp:96-100). -/
theorem nsParseBuf_frame (max : Option Nat) (p rest : Bytes) (hp : okPayload max p) :
    nsParseBuf max (nsEncode p ++ rest) = .item p (nsEncode p).length := by
  rw [nsEncode_append, nsParseBuf_header max p.length hp.1]
  have h1 : ¬ ((p ++ comma :: rest).length < p.length + 1) := by simp
  have h2 : (p ++ comma :: rest).drop p.length = comma :: rest := by simp
  have h3 : (p ++ comma :: rest).take p.length = p := by simp
  simp only [hp.2, Bool.false_eq_true, h1, if_false, h2, h3, bne_self_eq_false, nsEncode_length]

theorem findColon_found_split : ∀ (buf : Bytes) (i hl : Nat), findColon i buf = .found hl →
    ∃ pre post, buf = pre ++ colon :: post ∧ i + pre.length = hl ∧ colon ∉ pre ∧ 1 ≤ hl := by
  intro buf
  induction buf with
  | nil => intro i hl h; simp [findColon] at h
  | cons b bs ih =>
    intro i hl h
    simp only [findColon] at h
    by_cases hc : (b == colon) = true
    · simp only [hc, if_true] at h
      by_cases h0 : (i == 0) = true
      · simp [h0] at h
      · simp only [h0, Bool.false_eq_true, if_false, ColonResult.found.injEq] at h
        have hb : b = colon := by simpa using hc
        have hi : i ≠ 0 := by simpa using h0
        exact ⟨[], bs, by simp [hb], by simpa using h, by simp, by omega⟩
    · simp only [hc, Bool.false_eq_true, if_false] at h
      by_cases h16 : i > 16
      · simp [h16] at h
      · simp only [h16, if_false] at h
        obtain ⟨pre, post, he, hl', hn, h1⟩ := ih (i + 1) hl h
        refine ⟨b :: pre, post, by simp [he], by simp; omega, ?_, h1⟩
        intro hm
        rcases List.mem_cons.mp hm with hm | hm
        · have : (b == colon) = true := by simp [hm]
          exact hc this
        · exact hn hm

theorem nsParseBuf_item_shape {max : Option Nat} {buf p : Bytes} {n : Nat}
    (h : nsParseBuf max buf = .item p n) :
    ∃ pre rest, buf = pre ++ colon :: (p ++ comma :: rest) ∧ n = pre.length + 1 + p.length + 1 ∧ pre ≠ [] ∧
      colon ∉ pre ∧ p.length = digitsVal 0 (pre.takeWhile isDigit) ∧ bufLimitExceeded max p.length = false := by
  cases hfc : findColon 0 buf with
  | error e => rw [nsParseBuf, hfc] at h; cases h
  | notFound => rw [nsParseBuf, hfc] at h; cases h
  | found hl =>
    obtain ⟨pre, post, rfl, hpl, hnc, hl1⟩ := findColon_found_split buf 0 hl hfc
    rw [Nat.zero_add] at hpl
    subst hpl
    rw [nsParseBuf_found max pre post _ hfc rfl] at h
    generalize hd : digitsVal 0 (List.takeWhile isDigit pre) = d at h
    by_cases hz : bufLeadingZero (pre ++ colon :: post) = true
    · rw [if_pos hz] at h; cases h
    rw [if_neg hz] at h
    by_cases h9 : (List.takeWhile isDigit pre).length > 9
    · rw [if_pos h9] at h; cases h
    rw [if_neg h9] at h
    by_cases hm : bufLimitExceeded max d = true
    · rw [if_pos hm] at h; cases h
    rw [if_neg hm] at h
    by_cases hsz : post.length < d + 1
    · rw [if_pos hsz] at h; cases h
    rw [if_neg hsz] at h
    cases hdp : post.drop d with
    | nil => rw [hdp] at h; cases h
    | cons t rest =>
      rw [hdp] at h
      dsimp only at h
      by_cases htc : (t != comma) = true
      · rw [if_pos htc] at h; cases h
      rw [if_neg htc] at h
      cases h
      have ht : t = comma := by simpa using htc
      have hpl2 : (post.take d).length = d := by rw [List.length_take]; omega
      have hpost : post = post.take d ++ comma :: rest := by
        rw [← ht, ← hdp, List.take_append_drop]
      refine ⟨pre, rest, by rw [← hpost], by omega, ?_, hnc, by rw [hpl2, hd], by rw [hpl2]; simpa using hm⟩
      rintro rfl
      simp at hl1

/-- `n ≤ buf.length` is the counterpart of "all reads are inside `Buffer[0..Size)`": the model has no indexed read. -/
theorem nsParseBuf_item_bounds {max : Option Nat} {buf p : Bytes} {n : Nat}
    (h : nsParseBuf max buf = .item p n) : p.length + 3 ≤ n ∧ n ≤ buf.length := by
  obtain ⟨pre, rest, rfl, rfl, hpre, _⟩ := nsParseBuf_item_shape h
  have := List.length_pos_iff.mpr hpre
  simp only [List.length_append, List.length_cons]
  omega

theorem findColon_stable (more : Bytes) : ∀ (buf : Bytes) (i : Nat), findColon i buf ≠ .notFound →
    findColon i (buf ++ more) = findColon i buf := by
  intro buf
  induction buf with
  | nil => intro i h; simp [findColon] at h
  | cons b bs ih =>
    intro i h
    simp only [findColon, List.cons_append] at h ⊢
    by_cases hc : (b == colon) = true
    · simp only [hc, if_true]
    · simp only [hc, Bool.false_eq_true, if_false] at h ⊢
      by_cases h16 : i > 16
      · simp only [h16, if_true]
      · simp only [h16, if_false] at h ⊢
        exact ih (i + 1) h

theorem bufLeadingZero_pre (pre x y : Bytes) (hpre : pre ≠ []) :
    bufLeadingZero (pre ++ colon :: x) = bufLeadingZero (pre ++ colon :: y) := by
  match pre, hpre with
  | [a], _ => rfl
  | a :: b :: r, _ => rfl

theorem nsParseBuf_stable (max : Option Nat) (buf more : Bytes) (h : nsParseBuf max buf ≠ .need) :
    nsParseBuf max (buf ++ more) = nsParseBuf max buf := by
  cases hfc : findColon 0 buf with
  | notFound => rw [nsParseBuf, hfc] at h; exact absurd rfl h
  | error e =>
    have hfc' := findColon_stable more buf 0 (by rw [hfc]; nofun)
    rw [hfc] at hfc'
    rw [nsParseBuf, nsParseBuf, hfc, hfc']
  | found hl =>
    have hfc' := findColon_stable more buf 0 (by rw [hfc]; nofun)
    rw [hfc] at hfc'
    obtain ⟨pre, post, rfl, hpl, hnc, hl1⟩ := findColon_found_split buf 0 hl hfc
    rw [Nat.zero_add] at hpl
    subst hpl
    have hpre : pre ≠ [] := by rintro rfl; simp at hl1
    rw [List.append_assoc, List.cons_append] at hfc' ⊢
    rw [nsParseBuf_found max pre post _ hfc rfl] at h ⊢
    rw [nsParseBuf_found max pre (post ++ more) _ hfc' rfl, bufLeadingZero_pre pre (post ++ more) post hpre]
    generalize digitsVal 0 (List.takeWhile isDigit pre) = d at h ⊢
    by_cases hz : bufLeadingZero (pre ++ colon :: post) = true
    · simp only [hz, if_true]
    simp only [hz, Bool.false_eq_true, if_false] at h ⊢
    by_cases h9 : (List.takeWhile isDigit pre).length > 9
    · simp only [h9, if_true]
    simp only [h9, if_false] at h ⊢
    by_cases hm : bufLimitExceeded max d = true
    · simp only [hm, if_true]
    simp only [hm, Bool.false_eq_true, if_false] at h ⊢
    by_cases hsz : post.length < d + 1
    · rw [if_pos hsz] at h; exact absurd rfl h
    have hsz' : ¬ (post ++ more).length < d + 1 := by rw [List.length_append]; omega
    rw [if_neg hsz] at h ⊢
    rw [if_neg hsz']
    have hdrop : (post ++ more).drop d = post.drop d ++ more := by
      rw [List.drop_append_of_le_length (by omega)]
    have htake : (post ++ more).take d = post.take d := by
      rw [List.take_append_of_le_length (by omega)]
    rw [hdrop, htake]
    cases hdp : post.drop d with
    | nil => rw [hdp] at h; exact absurd rfl h
    | cons t r => rfl

/-- A decided answer would stand on the whole frame (`nsParseBuf_stable`), whose item consumes more bytes than the prefix
    holds. -/
theorem nsParseBuf_proper_prefix (max : Option Nat) (p buf suffix : Bytes) (hp : okPayload max p) (hs : suffix ≠ [])
    (he : buf ++ suffix = nsEncode p) :
    nsParseBuf max buf = .need := by
  by_cases h : nsParseBuf max buf = .need
  · exact h
  · have hst := nsParseBuf_stable max buf suffix h
    have hf := nsParseBuf_frame max p [] hp
    rw [List.append_nil, ← he] at hf
    have hb := (nsParseBuf_item_bounds (hst.symm.trans hf)).2
    have := List.length_pos_iff.mpr hs
    rw [List.length_append] at hb
    omega

theorem nsBufCall_eof_flag (max : Option Nat) (buf : Bytes) (mr : Bool) (s : List Bytes) :
    nsBufCall max ⟨buf, mr, true⟩ s = (.eof, ⟨buf, mr, true⟩, s) := by
  simp [nsBufCall]

theorem nsBufCall_eof_stream (max : Option Nat) (buf : Bytes) :
    nsBufCall max ⟨buf, true, false⟩ [] = (.eof, ⟨buf, true, true⟩, []) := by
  simp [nsBufCall]

theorem nsBufCall_fill (max : Option Nat) (buf c : Bytes) (cs : List Bytes) :
    nsBufCall max ⟨buf, true, false⟩ (c :: cs) = nsBufCall max ⟨buf ++ c, false, false⟩ cs := by
  simp [nsBufCall]

theorem nsBufCall_parse (max : Option Nat) (buf : Bytes) (s : List Bytes) :
    nsBufCall max ⟨buf, false, false⟩ s =
      match nsParseBuf max buf with
      | .need => (.needData, ⟨buf, true, false⟩, s)
      | .error e => (.error e, ⟨buf, false, false⟩, s)
      | .item p n => (.newItem p, ⟨buf.drop n, false, false⟩, s) := by
  simp only [nsBufCall, Bool.false_eq_true, if_false]
  cases nsParseBuf max buf <;> rfl

theorem runMeasure_mk (b : Bytes) (mr e : Bool) (s : List Bytes) :
    runMeasure ⟨b, mr, e⟩ s = b.length + s.flatten.length + 2 * s.length + (if mr then 0 else 1) := rfl

/-- The first half of a call.  Fill and parse happen in the same call, so a fill does not touch the fuel; the measure pays
    for it. -/
theorem nsBufRun_read (max : Option Nat) (f : Nat) (buf : Bytes) (mr : Bool) (stream : List Bytes) (acc : List Bytes) (k : Nat) :
    (mr = true ∧ stream = [] ∧ nsBufRun max (f + 1) ⟨buf, mr, false⟩ stream acc k = ⟨acc.reverse, k + 1, .eof⟩) ∨
    ∃ buf' stream', buf' ++ stream'.flatten = buf ++ stream.flatten ∧
      runMeasure ⟨buf', false, false⟩ stream' ≤ runMeasure ⟨buf, mr, false⟩ stream ∧
      nsBufRun max (f + 1) ⟨buf, mr, false⟩ stream acc k = nsBufRun max (f + 1) ⟨buf', false, false⟩ stream' acc k := by
  cases mr with
  | false => exact .inr ⟨buf, stream, rfl, Nat.le_refl _, rfl⟩
  | true =>
    cases stream with
    | nil => exact .inl ⟨rfl, rfl, by simp only [nsBufRun, nsBufCall_eof_stream max buf]⟩
    | cons c cs =>
      refine .inr ⟨buf ++ c, cs, by simp, ?_, by simp only [nsBufRun, nsBufCall_fill max buf c cs]⟩
      simp only [runMeasure_mk, List.flatten_cons, List.length_cons, List.length_append, if_true, Bool.false_eq_true,
        if_false]
      omega

theorem nsBufRun_parse (max : Option Nat) (f : Nat) (buf : Bytes) (stream : List Bytes) (acc : List Bytes) (k : Nat) :
    nsBufRun max (f + 1) ⟨buf, false, false⟩ stream acc k =
      match nsParseBuf max buf with
      | .need => nsBufRun max f ⟨buf, true, false⟩ stream acc (k + 1)
      | .error e => ⟨acc.reverse, k + 1, .error e⟩
      | .item p n => nsBufRun max f ⟨buf.drop n, false, false⟩ stream (p :: acc) (k + 1) := by
  simp only [nsBufRun, nsBufCall_parse max buf stream]
  cases nsParseBuf max buf <;> rfl

theorem runMeasure_need (buf : Bytes) (stream : List Bytes) :
    runMeasure ⟨buf, true, false⟩ stream + 1 = runMeasure ⟨buf, false, false⟩ stream := by
  simp [runMeasure_mk]

theorem runMeasure_drop (buf : Bytes) (n : Nat) (stream : List Bytes) (h : n ≤ buf.length) :
    runMeasure ⟨buf.drop n, false, false⟩ stream + n = runMeasure ⟨buf, false, false⟩ stream := by
  simp only [runMeasure_mk, List.length_drop]
  omega

/-- What follows the complete frames of a stream, and how the read loop then ends. -/
def streamEnd (max : Option Nat) (t : Bytes) (fin : RunEnd) : Prop :=
  (t = [] ∧ fin = .eof) ∨
  (∃ q suffix, okPayload max q ∧ suffix ≠ [] ∧ t ++ suffix = nsEncode q ∧ fin = .eof) ∨
  (∃ n tail, n < 10 ^ 9 ∧ bufLimitExceeded max n = true ∧ t = natDigits n ++ colon :: tail ∧
    fin = .error .maxExceeded)

theorem streamEnd_nil (max : Option Nat) : streamEnd max [] .eof := .inl ⟨rfl, rfl⟩

theorem streamEnd_truncated (max : Option Nat) (q t suffix : Bytes) (hq : okPayload max q) (hs : suffix ≠ [])
    (ht : t ++ suffix = nsEncode q) : streamEnd max t .eof := .inr (.inl ⟨q, suffix, hq, hs, ht, rfl⟩)

theorem streamEnd_over_limit (max : Option Nat) (n : Nat) (tail : Bytes) (hn : n < 10 ^ 9)
    (hmax : bufLimitExceeded max n = true) : streamEnd max (natDigits n ++ colon :: tail) (.error .maxExceeded) :=
  .inr (.inr ⟨n, tail, hn, hmax, rfl, rfl⟩)

/-- What the read loop makes of the byte string `t`, told without chunks. -/
inductive Parses (max : Option Nat) : Bytes → List Bytes → RunEnd → Prop
  | need {t} : nsParseBuf max t = .need → Parses max t [] .eof
  | error {t e} : nsParseBuf max t = .error e → Parses max t [] (.error e)
  | item {t p n ps fin} : nsParseBuf max t = .item p n → Parses max (t.drop n) ps fin → Parses max t (p :: ps) fin

/-- `m` bounds the length: each item consumes at least three bytes. -/
theorem parses_exists (max : Option Nat) : ∀ (m : Nat) (t : Bytes), t.length ≤ m → ∃ ps fin, Parses max t ps fin := by
  intro m
  induction m with
  | zero =>
    intro t ht
    have : t = [] := List.length_eq_zero_iff.mp (by omega)
    subst this
    exact ⟨[], .eof, .need (nsParseBuf_nil max)⟩
  | succ m ih =>
    intro t ht
    cases hp : nsParseBuf max t with
    | need => exact ⟨[], .eof, .need hp⟩
    | error e => exact ⟨[], .error e, .error hp⟩
    | item p n =>
      have hb := nsParseBuf_item_bounds hp
      obtain ⟨ps, fin, h⟩ := ih (t.drop n) (by rw [List.length_drop]; omega)
      exact ⟨p :: ps, fin, .item hp h⟩

/-- What a list of items costs in stream bytes: each its length plus at least three framing bytes. -/
def framingCost (ps : List Bytes) : Nat := (ps.map (fun p => p.length + 3)).sum

theorem Parses.cost {max : Option Nat} {t : Bytes} {ps : List Bytes} {fin : RunEnd} (h : Parses max t ps fin) :
    fin ≠ .outOfFuel ∧ framingCost ps ≤ t.length := by
  induction h with
  | need _ => exact ⟨nofun, Nat.zero_le _⟩
  | error _ => exact ⟨nofun, Nat.zero_le _⟩
  | @item t p n ps fin hp _ ih =>
    have hb := nsParseBuf_item_bounds hp
    have hc : framingCost (p :: ps) = p.length + 3 + framingCost ps := rfl
    rw [List.length_drop] at ih
    exact ⟨ih.1, by omega⟩

/-- The one induction over the loop: a decided parse of the buffer is the parse of all of `t` (`nsParseBuf_stable`). -/
theorem nsBufRun_parses (max : Option Nat) : ∀ (fuel : Nat) (buf : Bytes) (mr : Bool) (stream : List Bytes)
    (acc : List Bytes) (k : Nat) (t : Bytes) (ps : List Bytes) (fin : RunEnd), Parses max t ps fin →
    buf ++ stream.flatten = t → (mr = true → nsParseBuf max buf = .need) → runMeasure ⟨buf, mr, false⟩ stream < fuel →
    (nsBufRun max fuel ⟨buf, mr, false⟩ stream acc k).items = acc.reverse ++ ps ∧
    (nsBufRun max fuel ⟨buf, mr, false⟩ stream acc k).final = fin ∧
    (nsBufRun max fuel ⟨buf, mr, false⟩ stream acc k).calls ≤ k + runMeasure ⟨buf, mr, false⟩ stream + 1 := by
  intro fuel
  induction fuel with
  | zero => intro buf mr stream acc k t ps fin _ _ _ hm; omega
  | succ f ih =>
    intro buf mr stream acc k t ps fin hP he hmr hm
    rcases nsBufRun_read max f buf mr stream acc k with ⟨rfl, rfl, hr⟩ | ⟨buf', stream', he', hM, hr⟩
    · -- the loop wants data and the stream is exhausted: end-of-file
      have hb : buf = t := by simpa using he
      subst hb
      rw [hr]
      -- `buf = t` was found wanting when `mustRead` was set (`hmr`), so `t` parses to `need`
      cases hP with
      | need _ => exact ⟨by simp, rfl, by simp only; omega⟩
      | error h => rw [hmr rfl] at h; cases h
      | item h _ => rw [hmr rfl] at h; cases h
    · -- the buffer (refilled if a read was due) is parsed now
      rw [hr, nsBufRun_parse]
      have het : buf' ++ stream'.flatten = t := he'.trans he
      cases hp : nsParseBuf max buf' with
      | need =>
        dsimp only
        have hN := runMeasure_need buf' stream'
        have := ih buf' true stream' acc (k + 1) t ps fin hP het (fun _ => hp) (by omega)
        exact ⟨this.1, this.2.1, by have := this.2.2; omega⟩
      | error e =>
        have hst : nsParseBuf max t = .error e := by
          have := nsParseBuf_stable max buf' stream'.flatten (by rw [hp]; nofun)
          rwa [het, hp] at this
        cases hP with
        | need h => rw [hst] at h; cases h
        | error h => rw [hst] at h; cases h; exact ⟨by simp, rfl, by simp only; omega⟩
        | item h _ => rw [hst] at h; cases h
      | item p n =>
        dsimp only
        have hst : nsParseBuf max t = .item p n := by
          have := nsParseBuf_stable max buf' stream'.flatten (by rw [hp]; nofun)
          rwa [het, hp] at this
        have hb := nsParseBuf_item_bounds hp
        cases hP with
        | need h => rw [hst] at h; cases h
        | error h => rw [hst] at h; cases h
        | item h hrest =>
          rw [hst] at h; cases h
          have hd : buf'.drop n ++ stream'.flatten = t.drop n := by
            rw [← het, List.drop_append_of_le_length hb.2]
          have hD := runMeasure_drop buf' n stream' hb.2
          have := ih (buf'.drop n) false stream' (p :: acc) (k + 1) _ _ fin hrest hd nofun (by omega)
          exact ⟨by simpa using this.1, this.2.1, by have := this.2.2; omega⟩

theorem Parses.frames {max : Option Nat} {t : Bytes} {items : List Bytes} {fin : RunEnd} (h : Parses max t items fin) :
    ∀ ps : List Bytes, (∀ p ∈ ps, okPayload max p) → Parses max (nsEncodeAll ps ++ t) (ps ++ items) fin := by
  intro ps
  induction ps with
  | nil => intro _; exact h
  | cons p ps ih =>
    intro hps
    have hp := hps p (by simp)
    rw [nsEncodeAll_cons, List.append_assoc]
    refine .item (nsParseBuf_frame max p _ hp) ?_
    rw [List.drop_left]
    exact ih (fun x hx => hps x (by simp [hx]))

theorem Parses.of_streamEnd {max : Option Nat} {t : Bytes} {fin : RunEnd} (ht : streamEnd max t fin) :
    Parses max t [] fin := by
  rcases ht with ⟨rfl, rfl⟩ | ⟨q, suffix, hq, hs, hqe, rfl⟩ | ⟨n, tail, hn, hmax, rfl, rfl⟩
  · exact .need (nsParseBuf_nil max)
  · exact .need (nsParseBuf_proper_prefix max q t suffix hq hs hqe)
  · exact .error (by rw [nsParseBuf_header max n hn, if_pos hmax])

theorem nsReadAll_parses (max : Option Nat) (chunks : List Bytes) (ps : List Bytes) (fin : RunEnd)
    (h : Parses max chunks.flatten ps fin) : (nsReadAll max chunks).items = ps ∧ (nsReadAll max chunks).final = fin ∧
      (nsReadAll max chunks).calls ≤ chunks.flatten.length + 2 * chunks.length + 1 := by
  have := nsBufRun_parses max (runFuel {} chunks) [] true chunks [] 0 _ ps fin h (by simp) (fun _ => nsParseBuf_nil max)
    (by simp [runFuel])
  simpa [nsReadAll, runMeasure_mk] using this

theorem nsReadAll_frames_end (max : Option Nat) (ps : List Bytes) (t : Bytes) (fin : RunEnd) (chunks : List Bytes)
    (hps : ∀ p ∈ ps, okPayload max p) (ht : streamEnd max t fin) (hc : chunks.flatten = nsEncodeAll ps ++ t) :
    (nsReadAll max chunks).items = ps ∧ (nsReadAll max chunks).final = fin := by
  have := nsReadAll_parses max chunks _ fin (hc ▸ (Parses.of_streamEnd ht).frames ps hps)
  exact ⟨by simpa using this.1, this.2.1⟩

/-- Arbitrary input: the bound on the calls is `runMeasure` of the fresh context plus one. -/
theorem nsReadAll_total (max : Option Nat) (chunks : List Bytes) :
    (nsReadAll max chunks).final ≠ .outOfFuel ∧
    (nsReadAll max chunks).calls ≤ chunks.flatten.length + 2 * chunks.length + 1 ∧
    framingCost (nsReadAll max chunks).items ≤ chunks.flatten.length := by
  obtain ⟨ps, fin, h⟩ := parses_exists max _ chunks.flatten (Nat.le_refl _)
  obtain ⟨hi, hf, hc⟩ := nsReadAll_parses max chunks ps fin h
  rw [hi, hf]
  exact ⟨h.cost.1, hc, h.cost.2⟩

theorem nsReadAll_items_prefix (max : Option Nat) (ps : List Bytes) (g : Bytes) (chunks : List Bytes)
    (hps : ∀ p ∈ ps, okPayload max p) (hc : chunks.flatten = nsEncodeAll ps ++ g) :
    ∃ extra, (nsReadAll max chunks).items = ps ++ extra := by
  obtain ⟨extra, fin, h⟩ := parses_exists max _ g (Nat.le_refl _)
  exact ⟨extra, (nsReadAll_parses max chunks _ fin (hc ▸ h.frames ps hps)).1⟩

/-- `j` is the number of frames wholly inside the first `k` bytes. -/
theorem take_nsEncodeAll (max : Option Nat) : ∀ (ps : List Bytes) (k : Nat), (∀ p ∈ ps, okPayload max p) → ∃ (j : Nat) (t : Bytes),
    (nsEncodeAll ps).take k = nsEncodeAll (ps.take j) ++ t ∧ streamEnd max t .eof ∧
    (nsEncodeAll (ps.take j)).length ≤ k ∧ (j < ps.length → k < (nsEncodeAll (ps.take (j + 1))).length) := by
  intro ps
  induction ps with
  | nil => intro k _; exact ⟨0, [], List.take_nil, streamEnd_nil max, Nat.zero_le k, fun h => absurd h (Nat.not_lt_zero 0)⟩
  | cons p r ih =>
    intro k hps
    by_cases hk : k < (nsEncode p).length
    · refine ⟨0, (nsEncode p).take k, ?_, ?_, Nat.zero_le k, fun _ => ?_⟩
      · rw [nsEncodeAll_cons, List.take_append_of_le_length (Nat.le_of_lt hk)]; rfl
      · refine streamEnd_truncated max p _ ((nsEncode p).drop k) (hps p List.mem_cons_self) ?_ (List.take_append_drop _ _)
        intro h
        have := congrArg List.length h
        simp only [List.length_drop, List.length_nil] at this
        omega
      · rw [List.take_succ_cons, List.take_zero, nsEncodeAll_cons, List.length_append]; omega
    · obtain ⟨j, t, h1, h2, h3, h4⟩ := ih (k - (nsEncode p).length) (fun x hx => hps x (List.mem_cons_of_mem _ hx))
      refine ⟨j + 1, t, ?_, h2, ?_, fun hj => ?_⟩
      · rw [List.take_succ_cons, nsEncodeAll_cons, nsEncodeAll_cons, List.take_append, List.take_of_length_le (Nat.not_lt.mp hk), h1, List.append_assoc]
      · rw [List.take_succ_cons, nsEncodeAll_cons, List.length_append]; omega
      · have := h4 (by simpa using hj)
        rw [List.take_succ_cons, nsEncodeAll_cons, List.length_append]; omega

end Icinga.C20
