/-
  C20 — JSON wire codec, dictionary layer: lemmas for IcingaModel/C20/Dict.lean.  `keyLt` is the lexicographic `<` of
  `List Char` (`keyLt_iff_lt`), a strict total order, so a key-sorted member list is determined by its lookups; `dictSet`
  (`m_Data[k] = v`) keeps the order and the last write of a key wins; hence `canonV` yields exactly the key-sorted,
  duplicate-free trees and fixes them, and `icingaDecode ∘ jsonEncode` is `canonV`.
-/
import IcingaModel.C20.Dict
import IcingaProofs.C20.JsonLemmas

set_option autoImplicit false

namespace Icinga.C20

theorem char_lt_iff (a b : Char) : a.toNat < b.toNat ↔ a < b := by
  rw [Char.lt_def, UInt32.lt_iff_toNat_lt]; rfl

theorem keyLt_iff_lt : ∀ a b : List Char, keyLt a b = true ↔ a < b
  | [], [] => by simp [keyLt]
  | [], _ :: _ => by simp [keyLt]
  | _ :: _, [] => by simp [keyLt]
  | a :: as, b :: bs => by
    rw [keyLt, List.cons_lt_cons_iff, ← char_lt_iff, ← keyLt_iff_lt as bs]
    by_cases h1 : a.toNat < b.toNat
    · simp [h1]
    · by_cases h2 : b.toNat < a.toNat
      · have : a ≠ b := by rintro rfl; omega
        simp [h1, h2, this]
      · have : a = b := Char.toNat_inj.mp (by omega)
        subst this
        simp

theorem keyLt_irrefl (a : List Char) : keyLt a a = false := by
  rw [← Bool.not_eq_true, keyLt_iff_lt]; exact List.lt_irrefl a

theorem keyLt_trans (a b c : List Char) (h1 : keyLt a b = true) (h2 : keyLt b c = true) : keyLt a c = true :=
  (keyLt_iff_lt a c).mpr (List.lt_trans ((keyLt_iff_lt a b).mp h1) ((keyLt_iff_lt b c).mp h2))

theorem keyLt_trichotomy (a b : List Char) : keyLt a b = true ∨ a = b ∨ keyLt b a = true := by
  rw [keyLt_iff_lt, keyLt_iff_lt]
  by_cases h1 : a < b
  · exact .inl h1
  by_cases h2 : b < a
  · exact .inr (.inr h2)
  · exact .inr (.inl (List.le_antisymm (List.not_lt.mp h2) (List.not_lt.mp h1)))

theorem keyLt_asymm (a b : List Char) (h : keyLt a b = true) : keyLt b a = false := by
  rw [← Bool.not_eq_true, keyLt_iff_lt]; exact List.lt_asymm ((keyLt_iff_lt a b).mp h)

theorem keyLt_ne (a b : List Char) (h : keyLt a b = true) : a ≠ b := by
  intro hab
  subst hab
  rw [keyLt_irrefl] at h
  cases h

/-- `std::map` equivalence (`!(a<b) && !(b<a)`) is equality. -/
theorem keyLt_equiv_eq (a b : List Char) (h1 : keyLt a b = false) (h2 : keyLt b a = false) :
    a = b := by
  rcases keyLt_trichotomy a b with h | h | h
  · rw [h1] at h; cases h
  · exact h
  · rw [h2] at h; cases h

variable {N : Type}

theorem keysSorted_iff_pairwise : ∀ (m : List (List Char × JValue N)),
    keysSorted m = true ↔ m.Pairwise (fun a b => keyLt a.1 b.1 = true)
  | [] => by simp [keysSorted]
  | [_] => by simp [keysSorted]
  | (k1, v1) :: (k2, v2) :: m => by
    have ih := keysSorted_iff_pairwise ((k2, v2) :: m)
    simp only [keysSorted, Bool.and_eq_true, ih]
    constructor
    · rintro ⟨h12, hp⟩
      refine List.pairwise_cons.mpr ⟨?_, hp⟩
      intro y hy
      rcases List.mem_cons.mp hy with rfl | hy
      · exact h12
      · exact keyLt_trans _ _ _ h12 ((List.pairwise_cons.mp hp).1 y hy)
    · intro hp
      have := List.pairwise_cons.mp hp
      exact ⟨this.1 (k2, v2) (by simp), this.2⟩

theorem keysSorted_cons (k : List Char) (v : JValue N) (m : List (List Char × JValue N)) :
    keysSorted ((k, v) :: m) = true ↔
      (∀ y ∈ m, keyLt k y.1 = true) ∧ keysSorted m = true := by
  rw [keysSorted_iff_pairwise, keysSorted_iff_pairwise, List.pairwise_cons]

theorem dictSet_cons (k : List Char) (v : JValue N) (k' : List Char) (v' : JValue N) (m : List (List Char × JValue N)) :
    (keyLt k k' = true ∧ dictSet k v ((k', v') :: m) = (k, v) :: (k', v') :: m) ∨
    (keyLt k' k = true ∧ dictSet k v ((k', v') :: m) = (k', v') :: dictSet k v m) ∨
    (k = k' ∧ dictSet k v ((k', v') :: m) = (k', v) :: m) := by
  simp only [dictSet]
  by_cases h1 : keyLt k k' = true
  · exact .inl ⟨h1, if_pos h1⟩
  by_cases h2 : keyLt k' k = true
  · exact .inr (.inl ⟨h2, by rw [if_neg h1, if_pos h2]⟩)
  · exact .inr (.inr ⟨keyLt_equiv_eq k k' (by simpa using h1) (by simpa using h2), by rw [if_neg h1, if_neg h2]⟩)

theorem forall_key_dictSet (P : List Char → Prop) (k : List Char) (v : JValue N) (hk : P k) :
    ∀ (m : List (List Char × JValue N)), (∀ z ∈ m, P z.1) → ∀ y ∈ dictSet k v m, P y.1
  | [], _ => by simpa [dictSet] using hk
  | (k', v') :: m, hm => by
    obtain ⟨h', hm'⟩ := List.forall_mem_cons.mp hm
    rcases dictSet_cons k v k' v' m with ⟨_, e⟩ | ⟨_, e⟩ | ⟨_, e⟩ <;> rw [e]
    · exact List.forall_mem_cons.mpr ⟨hk, hm⟩
    · exact List.forall_mem_cons.mpr ⟨h', forall_key_dictSet P k v hk m hm'⟩
    · exact List.forall_mem_cons.mpr ⟨h', hm'⟩

theorem dictSet_sorted (k : List Char) (v : JValue N) : ∀ (m : List (List Char × JValue N)),
    keysSorted m = true → keysSorted (dictSet k v m) = true
  | [] => by simp [dictSet, keysSorted]
  | (k', v') :: m => by
    intro hs
    have hs' := (keysSorted_cons k' v' m).mp hs
    rcases dictSet_cons k v k' v' m with ⟨h, e⟩ | ⟨h, e⟩ | ⟨_, e⟩ <;> rw [e]
    · simp only [keysSorted, Bool.and_eq_true]
      exact ⟨h, hs⟩
    · exact (keysSorted_cons _ _ _).mpr
        ⟨forall_key_dictSet (keyLt k' · = true) k v h m hs'.1, dictSet_sorted k v m hs'.2⟩
    · exact (keysSorted_cons _ _ _).mpr hs'

theorem dictGet_dictSet (k k' : List Char) (v : JValue N) : ∀ (m : List (List Char × JValue N)),
    dictGet k' (dictSet k v m) = if k' = k then some v else dictGet k' m
  | [] => by simp [dictSet, dictGet, eq_comm]
  | (k₀, v₀) :: m => by
    rcases dictSet_cons k v k₀ v₀ m with ⟨_, e⟩ | ⟨h2, e⟩ | ⟨rfl, e⟩ <;> rw [e]
    · simp [dictGet, eq_comm]
    · have hne : k₀ ≠ k := keyLt_ne _ _ h2
      simp only [dictGet]
      rw [dictGet_dictSet k k' v m]
      by_cases h : k₀ = k'
      · rw [if_pos h, if_neg (h ▸ hne), if_pos h]
      · rw [if_neg h, if_neg h]
    · simp only [dictGet, eq_comm]
      split <;> rfl

theorem dictOfMembers_sorted (kvs : List (List Char × JValue N)) :
    keysSorted (dictOfMembers kvs) = true :=
  List.foldlRecOn kvs _ (motive := fun m => keysSorted m = true) rfl
    (fun m hm kv _ => dictSet_sorted kv.1 kv.2 m hm)

theorem dictGet_append (k : List Char) : ∀ (a b : List (List Char × JValue N)),
    dictGet k (a ++ b) = (dictGet k a).or (dictGet k b)
  | [], b => by simp [dictGet]
  | (k', v) :: a, b => by
    simp only [List.cons_append, dictGet]
    split
    · simp
    · exact dictGet_append k a b

theorem dictGet_foldl_dictSet (k : List Char) (kvs : List (List Char × JValue N)) :
    ∀ (acc : List (List Char × JValue N)),
      dictGet k (kvs.foldl (fun m kv => dictSet kv.1 kv.2 m) acc) =
        (dictGet k kvs.reverse).or (dictGet k acc) := by
  induction kvs with
  | nil => intro acc; simp [dictGet]
  | cons kv kvs ih =>
    intro acc
    simp only [List.foldl_cons, List.reverse_cons]
    rw [ih, dictGet_append, Option.or_assoc, dictGet_dictSet]
    congr 1
    obtain ⟨k₀, v₀⟩ := kv
    simp only [dictGet]
    by_cases h : k₀ = k
    · subst h; simp
    · simp [h, Ne.symm h]

theorem dictGet_dictOfMembers (k : List Char) (kvs : List (List Char × JValue N)) :
    dictGet k (dictOfMembers kvs) = dictGet k kvs.reverse := by
  rw [dictOfMembers, dictGet_foldl_dictSet]
  simp [dictGet]

theorem dictGet_none_of_lt (k : List Char) : ∀ (m : List (List Char × JValue N)),
    (∀ y ∈ m, keyLt k y.1 = true) → dictGet k m = none
  | [] => by simp [dictGet]
  | (k', v') :: m => by
    intro h
    have hne : k' ≠ k := Ne.symm (keyLt_ne _ _ (h (k', v') (by simp)))
    simp only [dictGet, if_neg hne]
    exact dictGet_none_of_lt k m (fun y hy => h y (List.mem_cons_of_mem _ hy))

theorem sorted_ext : ∀ (m₁ m₂ : List (List Char × JValue N)),
    keysSorted m₁ = true → keysSorted m₂ = true →
    (∀ k, dictGet k m₁ = dictGet k m₂) → m₁ = m₂
  | [], [] => by simp
  | [], (k, v) :: m => by
    intro _ _ h
    have := h k
    simp [dictGet] at this
  | (k, v) :: m, [] => by
    intro _ _ h
    have := h k
    simp [dictGet] at this
  | (k1, v1) :: m₁, (k2, v2) :: m₂ => by
    intro h1 h2 h
    have s1 := (keysSorted_cons k1 v1 m₁).mp h1
    have s2 := (keysSorted_cons k2 v2 m₂).mp h2
    rcases keyLt_trichotomy k1 k2 with hlt | heq | hlt
    · have := h k1
      have hne : k2 ≠ k1 := Ne.symm (keyLt_ne _ _ hlt)
      rw [dictGet, if_pos rfl, dictGet, if_neg hne,
        dictGet_none_of_lt k1 m₂ (fun y hy => keyLt_trans _ _ _ hlt (s2.1 y hy))] at this
      cases this
    · subst heq
      have hv := h k1
      simp only [dictGet, if_true] at hv
      have hv : v1 = v2 := Option.some.inj hv
      subst hv
      have htl : ∀ k, dictGet k m₁ = dictGet k m₂ := by
        intro k
        by_cases hk : k1 = k
        · subst hk
          rw [dictGet_none_of_lt k1 m₁ s1.1, dictGet_none_of_lt k1 m₂ s2.1]
        · have := h k
          simpa only [dictGet, if_neg hk] using this
      rw [sorted_ext m₁ m₂ s1.2 s2.2 htl]
    · have := h k2
      have hne : k1 ≠ k2 := Ne.symm (keyLt_ne _ _ hlt)
      rw [dictGet, if_neg hne, dictGet, if_pos rfl,
        dictGet_none_of_lt k2 m₁ (fun y hy => keyLt_trans _ _ _ hlt (s1.1 y hy))] at this
      cases this

/-- `dictOfMembers kvs` is THE key-sorted list in which every key is bound to the value of its last
    member in `kvs` (specification of `JsonDecode`'s object handling up to uniqueness). -/
theorem dictOfMembers_unique_aux (kvs m : List (List Char × JValue N))
    (hs : keysSorted m = true) (hg : ∀ k, dictGet k m = dictGet k kvs.reverse) :
    m = dictOfMembers kvs :=
  sorted_ext m _ hs (dictOfMembers_sorted kvs)
    (fun k => by rw [hg k, dictGet_dictOfMembers])

theorem canonElems_eq_map (xs : List (JValue N)) : canonElems xs = xs.map canonV := by
  induction xs with
  | nil => simp [canonElems]
  | cons x xs ih => simp [canonElems, ih]

theorem canonMembers_eq_map (kvs : List (List Char × JValue N)) :
    canonMembers kvs = kvs.map (fun kv => (kv.1, canonV kv.2)) := by
  induction kvs with
  | nil => simp [canonMembers]
  | cons kv kvs ih => obtain ⟨k, v⟩ := kv; simp [canonMembers, ih]

theorem canonV_obj_aux (kvs : List (List Char × JValue N)) :
    canonV (.obj kvs) =
      .obj ((kvs.map (fun kv => (kv.1, canonV kv.2))).foldl (fun m kv => dictSet kv.1 kv.2 m) []) := by
  simp [canonV, dictOfMembers, canonMembers_eq_map]

theorem canonicalMembers_dictSet (k : List Char) (v : JValue N) (hv : canonicalB v = true) :
    ∀ (m : List (List Char × JValue N)), canonicalMembers m = true →
      canonicalMembers (dictSet k v m) = true
  | [] => by simp [dictSet, canonicalMembers, hv]
  | (k', v') :: m => by
    intro hm
    simp only [canonicalMembers, Bool.and_eq_true] at hm
    rcases dictSet_cons k v k' v' m with ⟨_, e⟩ | ⟨_, e⟩ | ⟨_, e⟩ <;> rw [e]
    · simp [canonicalMembers, hv, hm]
    · simp [canonicalMembers, hm, canonicalMembers_dictSet k v hv m hm.2]
    · simp [canonicalMembers, hv, hm]

theorem canonicalMembers_foldl (kvs : List (List Char × JValue N)) :
    ∀ (acc : List (List Char × JValue N)), canonicalMembers kvs = true →
      canonicalMembers acc = true →
      canonicalMembers (kvs.foldl (fun m kv => dictSet kv.1 kv.2 m) acc) = true := by
  induction kvs with
  | nil => intro acc _ h; exact h
  | cons kv kvs ih =>
    intro acc hk ha
    obtain ⟨k, v⟩ := kv
    simp only [canonicalMembers, Bool.and_eq_true] at hk
    exact ih _ hk.2 (canonicalMembers_dictSet k v hk.1 acc ha)

mutual
theorem canonV_canonicalB : (v : JValue N) → canonicalB (canonV v) = true
  | .null | .bool _ | .num _ | .str _ => by simp [canonV, canonicalB]
  | .arr xs => by simp only [canonV, canonicalB]; exact canonElems_canonical xs
  | .obj kvs => by
    simp only [canonV, canonicalB, Bool.and_eq_true]
    exact ⟨dictOfMembers_sorted _,
      canonicalMembers_foldl _ [] (canonMembers_canonical kvs) (by simp [canonicalMembers])⟩
theorem canonElems_canonical : (xs : List (JValue N)) → canonicalElems (canonElems xs) = true
  | [] => by simp [canonElems, canonicalElems]
  | x :: xs => by
    simp [canonElems, canonicalElems, canonV_canonicalB x, canonElems_canonical xs]
theorem canonMembers_canonical : (kvs : List (List Char × JValue N)) →
    canonicalMembers (canonMembers kvs) = true
  | [] => by simp [canonMembers, canonicalMembers]
  | (_, v) :: kvs => by
    simp [canonMembers, canonicalMembers, canonV_canonicalB v, canonMembers_canonical kvs]
end

theorem dictSet_append_of_lt (k : List Char) (v : JValue N) :
    ∀ (m : List (List Char × JValue N)), (∀ y ∈ m, keyLt y.1 k = true) →
      dictSet k v m = m ++ [(k, v)]
  | [] => by simp [dictSet]
  | (k', v') :: m => by
    intro h
    have hk' : keyLt k' k = true := h (k', v') (by simp)
    have hn : keyLt k k' = false := keyLt_asymm _ _ hk'
    simp only [dictSet, hn, hk', if_true, List.cons_append]
    rw [dictSet_append_of_lt k v m (fun y hy => h y (List.mem_cons_of_mem _ hy))]
    simp

theorem foldl_dictSet_of_sorted (kvs : List (List Char × JValue N)) :
    ∀ (acc : List (List Char × JValue N)), keysSorted (acc ++ kvs) = true →
      kvs.foldl (fun m kv => dictSet kv.1 kv.2 m) acc = acc ++ kvs := by
  induction kvs with
  | nil => intro acc _; simp
  | cons kv kvs ih =>
    intro acc h
    obtain ⟨k, v⟩ := kv
    have hp := (keysSorted_iff_pairwise _).mp h
    have hlt : ∀ y ∈ acc, keyLt y.1 k = true := fun y hy =>
      (List.pairwise_append.mp hp).2.2 y hy (k, v) (by simp)
    simp only [List.foldl_cons]
    rw [dictSet_append_of_lt k v acc hlt, ih (acc ++ [(k, v)]) (by simpa using h)]
    simp

theorem dictOfMembers_of_sorted (kvs : List (List Char × JValue N))
    (h : keysSorted kvs = true) : dictOfMembers kvs = kvs := by
  have := foldl_dictSet_of_sorted kvs [] (by simpa using h)
  simpa [dictOfMembers] using this

mutual
theorem canonV_eq_self : (v : JValue N) → canonicalB v = true → canonV v = v
  | .null | .bool _ | .num _ | .str _ => by simp [canonV]
  | .arr xs => by
    intro h
    simp only [canonicalB] at h
    simp only [canonV, canonElems_of_canonical xs h]
  | .obj kvs => by
    intro h
    simp only [canonicalB, Bool.and_eq_true] at h
    simp only [canonV, canonMembers_of_canonical kvs h.2, dictOfMembers_of_sorted kvs h.1]
theorem canonElems_of_canonical : (xs : List (JValue N)) → canonicalElems xs = true →
    canonElems xs = xs
  | [] => by simp [canonElems]
  | x :: xs => by
    intro h
    simp only [canonicalElems, Bool.and_eq_true] at h
    simp only [canonElems, canonV_eq_self x h.1, canonElems_of_canonical xs h.2]
theorem canonMembers_of_canonical : (kvs : List (List Char × JValue N)) →
    canonicalMembers kvs = true → canonMembers kvs = kvs
  | [] => by simp [canonMembers]
  | (k, v) :: kvs => by
    intro h
    simp only [canonicalMembers, Bool.and_eq_true] at h
    simp only [canonMembers, canonV_eq_self v h.1, canonMembers_of_canonical kvs h.2]
end

theorem canonV_idempotent (v : JValue N) : canonV (canonV v) = canonV v :=
  canonV_eq_self _ (canonV_canonicalB v)

theorem canonical_iff_fixed_aux (v : JValue N) : Canonical v ↔ canonV v = v :=
  ⟨canonV_eq_self v, fun h => h ▸ canonV_canonicalB v⟩

theorem icingaDecode_jsonEncode (c : NumCodec N) (hc : c.Lawful) (v : JValue N) :
    icingaDecode c (jsonEncode c v) = some (canonV v) := by
  simp [icingaDecode, jsonDecode_jsonEncode c hc v]

theorem icingaDecode_jsonEncode_of_canonical (c : NumCodec N) (hc : c.Lawful) (v : JValue N)
    (hv : Canonical v) : icingaDecode c (jsonEncode c v) = some v := by
  rw [icingaDecode_jsonEncode c hc v, canonV_eq_self v hv]

theorem icingaDecode_canonical (c : NumCodec N) (bs : List UInt8) (v : JValue N)
    (h : icingaDecode c bs = some v) : Canonical v := by
  simp only [icingaDecode, Option.map_eq_some_iff] at h
  obtain ⟨w, _, rfl⟩ := h
  exact canonV_canonicalB w

theorem icingaDecode_reencode_aux (c : NumCodec N) (hc : c.Lawful) (bs : List UInt8) (v : JValue N)
    (h : icingaDecode c bs = some v) : icingaDecode c (jsonEncode c v) = some v :=
  icingaDecode_jsonEncode_of_canonical c hc v (icingaDecode_canonical c bs v h)

/-- `JValue` has no `DecidableEq`: the examples compare values through their wire text. -/
def icingaRecode (s : String) : Option (List UInt8) :=
  (icingaDecode intCodec (asciiBytes s)).map (jsonEncode intCodec)

-- key order: by code point, a proper prefix (also the empty key) first
example : keyLt "a".toList "b".toList = true := by decide +kernel
example : keyLt "b".toList "a".toList = false := by decide +kernel
example : keyLt "".toList "a".toList = true := by decide +kernel
example : keyLt "a".toList "ab".toList = true := by decide +kernel
example : keyLt "ab".toList "b".toList = true := by decide +kernel
example : keyLt "B".toList "a".toList = true := by decide +kernel
example : keyLt "z".toList "é".toList = true := by decide +kernel
-- U+FFFD < U+1F600 by code point (and in UTF-8), although its UTF-16 escape `\ufffd` is
-- greater than `\ud83d\ude00`
example : keyLt "\uFFFD".toList "😀".toList = true := by decide +kernel

/-- `{"b":1,"a":2,"b":3}` as parsed: textual order, duplicate kept. -/
def dupSample : JValue Int :=
  .obj [("b".toList, .num 1), ("a".toList, .num 2), ("b".toList, .num 3)]

example : jsonDecode intCodec (asciiBytes "{\"b\":1,\"a\":2,\"b\":3}") = some dupSample := by
  rw [← (by decide +kernel :
    jsonEncode intCodec dupSample = asciiBytes "{\"b\":1,\"a\":2,\"b\":3}")]
  exact jsonDecode_jsonEncode intCodec intCodec_lawful dupSample
-- sorted, last duplicate wins
example : jsonEncode intCodec (canonV dupSample) = asciiBytes "{\"a\":2,\"b\":3}" := by
  decide +kernel
example : icingaRecode "{\"b\":1,\"a\":2,\"b\":3}" = some (asciiBytes "{\"a\":2,\"b\":3}") := by
  decide +kernel
example : ¬ Canonical dupSample := by decide +kernel
example : Canonical (canonV dupSample) := by decide +kernel
example : (dictGet "b".toList (dictOfMembers [("b".toList, JValue.num (1 : Int)),
    ("a".toList, .num 2), ("b".toList, .num 3)])).map (jsonEncode intCodec) =
    some (asciiBytes "3") := by decide +kernel
example : (dictGet "c".toList (dictOfMembers [("b".toList, JValue.num (1 : Int)),
    ("a".toList, .num 2), ("b".toList, .num 3)])).isNone = true := by decide +kernel

-- nested: objects inside objects inside arrays are all converted; arrays keep their order
example : icingaRecode ("{\"z\":{\"y\":1,\"x\":[{\"b\":1,\"a\":2},3,1],\"y\":2},\"a\":null," ++
      "\"z\":{\"y\":1,\"x\":[{\"b\":1,\"a\":2},3,1],\"y\":[]}}") =
    some (asciiBytes "{\"a\":null,\"z\":{\"x\":[{\"a\":2,\"b\":1},3,1],\"y\":[]}}") := by
  decide +kernel
-- a key that is a prefix of another one, and the empty key
example : icingaRecode "{\"ab\":1,\"b\":0,\"a\":2,\"\":3,\"aa\":4}" =
    some (asciiBytes "{\"\":3,\"a\":2,\"aa\":4,\"ab\":1,\"b\":0}") := by decide +kernel
-- non-ASCII keys order by code point: z (7A) < é (E9) < U+FFFD < 😀 (1F600)
example : icingaRecode "{\"\\ud83d\\ude00\":1,\"\\ufffd\":2,\"z\":3,\"\\u00e9\":4}" =
    some (asciiBytes "{\"z\":3,\"\\u00e9\":4,\"\\ufffd\":2,\"\\ud83d\\ude00\":1}") := by
  decide +kernel
-- nothing to do: empty object, scalars, already sorted input
example : icingaRecode "{}" = some (asciiBytes "{}") := by decide +kernel
example : icingaRecode "[3,1,2,1]" = some (asciiBytes "[3,1,2,1]") := by decide +kernel
example : icingaRecode "{\"a\":1,\"b\":{\"c\":[],\"d\":\"x\"}}" =
    some (asciiBytes "{\"a\":1,\"b\":{\"c\":[],\"d\":\"x\"}}") := by decide +kernel
-- a syntax error stays an error
example : icingaRecode "{\"a\":1,}" = none := by decide +kernel

/-- An Icinga value with nested dictionaries: `Canonical` is satisfiable by a non-trivial tree and
    the round-trip theorem applies to it. -/
def goodSample : JValue Int :=
  .obj [("".toList, .arr [.obj [("a".toList, .num 2), ("b".toList, .num (-1))], .null]),
        ("a".toList, .obj []), ("ab".toList, .str "x".toList), ("é".toList, .bool false)]

example : Canonical goodSample := by decide +kernel
example : icingaDecode intCodec (jsonEncode intCodec goodSample) = some goodSample :=
  icingaDecode_jsonEncode_of_canonical intCodec intCodec_lawful goodSample (by decide +kernel)
-- an unsorted inner object makes the whole tree non-canonical
example : ¬ Canonical (JValue.arr [JValue.obj [("b".toList, JValue.num (1 : Int)),
    ("a".toList, .num 2)]]) := by decide +kernel
-- equal neighbours are not "ascending"
example : keysSorted [("a".toList, JValue.num (1 : Int)), ("a".toList, .num 2)] = false := by
  decide +kernel

end Icinga.C20
