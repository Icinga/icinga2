/-
  C20 — decimal digits: `natDigits` (the printer of a netstring's length field, and of JSON integers) and `digitsVal`
  (what the readers compute from a digit string) are inverse to each other on canonical digit strings.
-/
import IcingaModel.C20.Model

namespace Icinga.C20

theorem digitByte_toNat {k : Nat} (h : k < 10) : (digitByte k).toNat = 48 + k := by
  simp [digitByte, UInt8.toNat_ofNat']; omega

theorem isDigit_digitByte {k : Nat} (h : k < 10) : isDigit (digitByte k) = true := by
  simp [isDigit, digitByte_toNat h]; omega

theorem digitVal_digitByte {k : Nat} (h : k < 10) : digitVal (digitByte k) = k := by
  simp [digitVal, digitByte_toNat h]

theorem isDigit_iff {b : UInt8} : isDigit b = true ↔ 48 ≤ b.toNat ∧ b.toNat ≤ 57 := by
  simp [isDigit]

theorem digitVal_lt {b : UInt8} (h : isDigit b = true) : digitVal b < 10 := by
  have := isDigit_iff.mp h; simp [digitVal]; omega

theorem digitByte_digitVal {b : UInt8} (h : isDigit b = true) : digitByte (digitVal b) = b := by
  have h' := isDigit_iff.mp h
  apply UInt8.toNat_inj.mp
  rw [digitByte_toNat (digitVal_lt h)]
  simp [digitVal]; omega

theorem colon_not_digit : isDigit colon = false := by decide
theorem comma_not_digit : isDigit comma = false := by decide

theorem isDigit_ne_colon {b : UInt8} (h : isDigit b = true) : (b == colon) = false := by
  rw [beq_eq_false_iff_ne]
  rintro rfl
  rw [colon_not_digit] at h
  cases h

theorem eq48_iff_digitVal {b : UInt8} (h : isDigit b = true) : (b == 48) = true ↔ digitVal b = 0 := by
  have h' := isDigit_iff.mp h
  simp only [beq_iff_eq, digitVal]
  constructor
  · intro hb; subst hb; rfl
  · intro hv; apply UInt8.toNat_inj.mp; simp; omega

theorem natDigitsF_fuel : ∀ (f g n : Nat), n < f → n < g → natDigitsF f n = natDigitsF g n := by
  intro f
  induction f with
  | zero => intro g n h; omega
  | succ f ih =>
    intro g n hf hg
    cases g with
    | zero => omega
    | succ g =>
      simp only [natDigitsF]
      by_cases h10 : n < 10
      · simp [h10]
      · simp only [h10, if_false]
        rw [ih g (n / 10) (by omega) (by omega)]

theorem natDigits_eq (n : Nat) :
    natDigits n = if n < 10 then [digitByte n] else natDigits (n / 10) ++ [digitByte (n % 10)] := by
  show natDigitsF (n + 1) n = if n < 10 then [digitByte n] else natDigitsF (n / 10 + 1) (n / 10) ++ [digitByte (n % 10)]
  rw [natDigitsF]
  by_cases h10 : n < 10
  · simp [h10]
  · simp only [h10, if_false]
    rw [natDigitsF_fuel n (n / 10 + 1) (n / 10) (by omega) (by omega)]

theorem natDigits_lt10 {n : Nat} (h : n < 10) : natDigits n = [digitByte n] := by
  rw [natDigits_eq]; simp [h]

theorem natDigits_ge10 {n : Nat} (h : 10 ≤ n) : natDigits n = natDigits (n / 10) ++ [digitByte (n % 10)] := by
  rw [natDigits_eq]; simp [Nat.not_lt.mpr h]

theorem natDigits_all_digits (n : Nat) : ∀ b ∈ natDigits n, isDigit b = true := by
  induction n using Nat.strongRecOn with
  | _ n ih =>
    by_cases h10 : n < 10
    · rw [natDigits_lt10 h10]; intro b hb; simp at hb; subst hb; exact isDigit_digitByte h10
    · rw [natDigits_ge10 (by omega)]
      intro b hb
      rcases List.mem_append.mp hb with hb | hb
      · exact ih (n / 10) (by omega) b hb
      · simp at hb; subst hb; exact isDigit_digitByte (Nat.mod_lt _ (by omega))

theorem natDigits_ne_nil (n : Nat) : natDigits n ≠ [] := by
  rw [natDigits_eq]; split <;> simp

theorem digitsVal_append (acc : Nat) (xs ys : Bytes) :
    digitsVal acc (xs ++ ys) = digitsVal (digitsVal acc xs) ys := by
  simp [digitsVal, List.foldl_append]

theorem digitsVal_natDigits (n : Nat) : digitsVal 0 (natDigits n) = n := by
  induction n using Nat.strongRecOn with
  | _ n ih =>
    by_cases h10 : n < 10
    · rw [natDigits_lt10 h10]; simp [digitsVal, digitVal_digitByte h10]
    · rw [natDigits_ge10 (by omega), digitsVal_append, ih (n / 10) (by omega)]
      simp [digitsVal, digitVal_digitByte (Nat.mod_lt n (by omega : 0 < 10))]
      omega

/-- Needs `1 ≤ acc`: from 0 a leading '0' would be lost. -/
theorem natDigits_digitsVal : ∀ (ds : Bytes) (acc : Nat), 1 ≤ acc → (∀ b ∈ ds, isDigit b = true) →
    natDigits (digitsVal acc ds) = natDigits acc ++ ds := by
  intro ds
  induction ds with
  | nil => intro acc _ _; simp [digitsVal]
  | cons d ds ih =>
    intro acc hacc hd
    have hdd : isDigit d = true := hd d (by simp)
    have hlt := digitVal_lt hdd
    have : digitsVal acc (d :: ds) = digitsVal (acc * 10 + digitVal d) ds := by simp [digitsVal]
    rw [this, ih (acc * 10 + digitVal d) (by omega) (fun b hb => hd b (by simp [hb]))]
    rw [natDigits_ge10 (by omega : 10 ≤ acc * 10 + digitVal d)]
    have h1 : (acc * 10 + digitVal d) / 10 = acc := by omega
    have h2 : (acc * 10 + digitVal d) % 10 = digitVal d := by omega
    rw [h1, h2, digitByte_digitVal hdd]; simp

/-- The bridge between the readers' "at most nine digits" and the statements' `< 10 ^ 9`. -/
theorem natDigits_length_le (n k : Nat) (hk : 1 ≤ k) : (natDigits n).length ≤ k ↔ n < 10 ^ k := by
  induction k generalizing n with
  | zero => omega
  | succ k ih =>
    by_cases h10 : n < 10
    · have : 10 ^ 1 ≤ 10 ^ (k + 1) := Nat.pow_le_pow_right (by omega) (by omega)
      rw [natDigits_lt10 h10, List.length_singleton]
      omega
    · rw [natDigits_ge10 (by omega), List.length_append, List.length_singleton, Nat.pow_succ]
      by_cases hk0 : k = 0
      · have := List.length_pos_iff.mpr (natDigits_ne_nil (n / 10))
        subst hk0
        omega
      · have := ih (n / 10) (by omega)
        omega

theorem natDigits_head_nonzero {n : Nat} (h : 1 ≤ n) : ∃ d ds, natDigits n = d :: ds ∧ (d == 48) = false := by
  induction n using Nat.strongRecOn with
  | _ n ih =>
    by_cases h10 : n < 10
    · refine ⟨digitByte n, [], natDigits_lt10 h10, ?_⟩
      cases h48 : (digitByte n == 48)
      · rfl
      · have := (eq48_iff_digitVal (isDigit_digitByte h10)).mp h48
        rw [digitVal_digitByte h10] at this
        omega
    · obtain ⟨d, ds, he, hd⟩ := ih (n / 10) (by omega) (by omega)
      exact ⟨d, ds ++ [digitByte (n % 10)], by rw [natDigits_ge10 (by omega), he]; simp, hd⟩

/-- No leading zero: '0' (48) may be the whole digit string but does not stand in front of another digit. -/
def NoLeadingZero (ds : Bytes) : Prop := ∀ a b t, ds = a :: b :: t → (a == 48) = false

theorem natDigits_noLeadingZero (n : Nat) : NoLeadingZero (natDigits n) := by
  intro a b t h
  by_cases h0 : n = 0
  · subst h0; cases h
  · obtain ⟨d, ds, he, h48⟩ := natDigits_head_nonzero (Nat.pos_of_ne_zero h0)
    rw [he] at h
    cases h; exact h48

theorem natDigits_digitsVal_canonical (ds : Bytes) (hall : ∀ b ∈ ds, isDigit b = true) (hne : ds ≠ [])
    (hnz : NoLeadingZero ds) : natDigits (digitsVal 0 ds) = ds := by
  match ds, hne with
  | [d], _ =>
    have hd := hall d (by simp)
    have : digitsVal 0 [d] = digitVal d := by simp [digitsVal]
    rw [this, natDigits_lt10 (digitVal_lt hd), digitByte_digitVal hd]
  | d :: e :: t, _ =>
    have hd := hall d (by simp)
    have hv : 1 ≤ digitVal d := by
      rcases Nat.eq_zero_or_pos (digitVal d) with hz | hp
      · have := (eq48_iff_digitVal hd).mpr hz
        rw [hnz d e t rfl] at this
        cases this
      · exact hp
    have : digitsVal 0 (d :: e :: t) = digitsVal (digitVal d) (e :: t) := by simp [digitsVal]
    rw [this, natDigits_digitsVal (e :: t) _ hv (fun b hb => hall b (List.mem_cons_of_mem _ hb)),
      natDigits_lt10 (digitVal_lt hd), digitByte_digitVal hd]
    rfl

theorem natDigits_zero : natDigits 0 = [48] := by decide

end Icinga.C20
