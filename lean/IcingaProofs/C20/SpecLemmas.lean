/-
  C20 — the specification predicates of IcingaModel/C20/Spec.lean (read off the frame *format*) against the format's
  encoder and the proofs' vocabulary: `specFrame`/`specHeader` recognise exactly canonical frames/headers; `withinLimit` is
  the negation of the TLS reader's limit test and `bufWithin` is `okPayload`; the stream behind the frames of
  `acceptedPrefix` is a `streamEnd`.
-/
import IcingaProofs.C20.NetstringLemmas
import IcingaModel.C20.Spec

namespace Icinga.C20

theorem takeWhile_natDigits (n : Nat) (r : Bytes) : (natDigits n ++ colon :: r).takeWhile isDigit = natDigits n := by
  rw [List.takeWhile_append_of_pos (natDigits_all_digits n), List.takeWhile_cons, colon_not_digit]
  simp

theorem specFrame_complete (p rest : Bytes) (hn : p.length < 10 ^ 9) :
    specFrame (nsEncode p ++ rest) = some (p, rest) := by
  have he := nsEncode_append p rest
  have hlen := (natDigits_length_le p.length 9 (by omega)).mpr hn
  unfold specFrame
  simp only
  rw [he, takeWhile_natDigits, digitsVal_natDigits]
  have h1 : List.take p.length (List.drop ((natDigits p.length).length + 1) (natDigits p.length ++ colon :: (p ++ comma :: rest))) = p := by
    rw [List.drop_append]; simp [List.drop_eq_nil_of_le]
  rw [h1, ← he]
  have h2 : (nsEncode p).isPrefixOf (nsEncode p ++ rest) = true := by
    simp [List.isPrefixOf_iff_prefix]
  simp [h2, hlen]

theorem specFrame_sound (bs p rest : Bytes) (h : specFrame bs = some (p, rest)) :
    bs = nsEncode p ++ rest ∧ p.length < 10 ^ 9 := by
  unfold specFrame at h
  simp only at h
  split at h
  · rename_i hc
    simp only [Option.some.injEq, Prod.mk.injEq] at h
    obtain ⟨hp, hr⟩ := h
    rw [hp] at hc hr
    obtain ⟨h9, hpre⟩ := hc
    have hpre' := List.isPrefixOf_iff_prefix.mp hpre
    obtain ⟨t, ht⟩ := hpre'
    have hbs : bs = nsEncode p ++ rest := by
      rw [← hr, ← ht]; simp
    refine ⟨hbs, ?_⟩
    rw [hbs, nsEncode_append, takeWhile_natDigits] at h9
    exact (natDigits_length_le p.length 9 (by omega)).mp h9
  · simp at h


theorem specHeader_complete (n : Nat) (tail : Bytes) (hn : n < 10 ^ 9) :
    specHeader (natDigits n ++ colon :: tail) = some (n, tail.length) := by
  have hlen := (natDigits_length_le n 9 (by omega)).mpr hn
  unfold specHeader
  simp only
  rw [takeWhile_natDigits, digitsVal_natDigits]
  have : List.drop (natDigits n).length (natDigits n ++ colon :: tail) = colon :: tail := by simp
  rw [this]
  simp [natDigits_ne_nil, hlen]

theorem specHeader_sound (bs : Bytes) (n after : Nat) (h : specHeader bs = some (n, after)) :
    ∃ tail, bs = natDigits n ++ colon :: tail ∧ after = tail.length ∧ n < 10 ^ 9 := by
  unfold specHeader at h
  simp only at h
  split at h
  · rename_i c tail hd
    split at h
    · rename_i hc
      simp only [Option.some.injEq, Prod.mk.injEq] at h
      obtain ⟨hn, ha⟩ := h
      obtain ⟨hcol, _, h9, hcanon⟩ := hc
      have hcol' : c = colon := by simpa using hcol
      have hcanon' : natDigits (digitsVal 0 (List.takeWhile isDigit bs)) = List.takeWhile isDigit bs := by
        simpa using hcanon
      refine ⟨tail, ?_, ha.symm, ?_⟩
      · rw [← hn, hcanon', ← hcol', ← hd]; exact (takeWhile_append_drop_length isDigit bs).symm
      · apply (natDigits_length_le n 9 (by omega)).mp
        rw [← hn, hcanon']; exact h9
    · simp at h
  · simp at h

theorem zeroThenDigit_eq_false (ds : Bytes) (h : NoLeadingZero ds) :
    zeroThenDigit ds = false := by
  match ds, h with
  | [], _ => rfl
  | [_], _ => rfl
  | a :: b :: r, h => exact h a b r rfl

theorem withinLimit_eq_true_iff (max : Option Nat) (n : Nat) : withinLimit max n = true ↔ tlsLimitExceeded max n = false := by
  cases max with
  | none => exact ⟨fun _ => rfl, fun _ => rfl⟩
  | some m => simp [withinLimit, tlsLimitExceeded_some]

theorem withinLimit_eq_false_iff (max : Option Nat) (n : Nat) : withinLimit max n = false ↔ tlsLimitExceeded max n = true := by
  rw [← Bool.not_eq_true, withinLimit_eq_true_iff, Bool.not_eq_false]

theorem bufWithin_iff (max : Option Nat) (p : Bytes) : bufWithin max p = true ↔ okPayload max p := by
  simp [bufWithin, okPayload, and_comm]

theorem acceptedPrefix_stream (max : Option Nat) : ∀ ps : List Bytes, (∀ p ∈ ps, p.length < 10 ^ 9) →
    ∃ t, nsEncodeAll ps = nsEncodeAll (acceptedPrefix max ps).1 ++ t ∧
      streamEnd max t (if (acceptedPrefix max ps).2 then .eof else .error .maxExceeded) ∧
      ∀ p ∈ (acceptedPrefix max ps).1, okPayload max p := by
  intro ps
  induction ps with
  | nil => intro _; exact ⟨[], rfl, streamEnd_nil max, nofun⟩
  | cons p r ih =>
    intro hlen
    by_cases hp : bufWithin max p = true
    · obtain ⟨t, he, hs, hok⟩ := ih (fun x hx => hlen x (List.mem_cons_of_mem _ hx))
      have hacc : acceptedPrefix max (p :: r) = (p :: (acceptedPrefix max r).1, (acceptedPrefix max r).2) := by
        simp [acceptedPrefix, hp]
      rw [hacc]
      exact ⟨t, by rw [nsEncodeAll_cons, he, nsEncodeAll_cons, List.append_assoc], hs,
        List.forall_mem_cons.mpr ⟨(bufWithin_iff max p).mp hp, hok⟩⟩
    · have hacc : acceptedPrefix max (p :: r) = ([], false) := by simp [acceptedPrefix, hp]
      have hq : bufLimitExceeded max p.length = true := by
        cases h : bufLimitExceeded max p.length with
        | true => rfl
        | false => exact absurd ((bufWithin_iff max p).mpr ⟨hlen p (by simp), h⟩) hp
      rw [hacc]
      exact ⟨_, nsEncode_append p (nsEncodeAll r), streamEnd_over_limit max p.length _ (hlen p (by simp)) hq, nofun⟩

theorem itemsOf_items (ps : List Bytes) (tl : List SObs) : itemsOf (ps.map .item ++ tl) = ps ++ itemsOf tl := by
  induction ps with
  | nil => rfl
  | cons p ps ih => simp [itemsOf, ih]

theorem itemsOf_sobsOfRun (r : RunResult) : itemsOf (sobsOfRun r) = r.items := by
  rw [sobsOfRun, itemsOf_items]
  cases r.final <;> simp [itemsOf]

/-- The framed-stream clause of the specification, read off a run. -/
theorem framedSpec_of_run (max : Option Nat) (ps : List Bytes) (r : RunResult)
    (hi : r.items = (acceptedPrefix max ps).1)
    (hf : if (acceptedPrefix max ps).2 = true then r.final = .eof else ∃ e, r.final = .error e) :
    framedSpec max ps (nsEncodeAll ps) true (sobsOfRun r) = none := by
  unfold framedSpec
  have hit := itemsOf_sobsOfRun r
  rw [hi] at hit
  rcases hacc : acceptedPrefix max ps with ⟨want, all⟩
  rw [hacc] at hit hf
  cases all with
  | true =>
    have hfin : r.final = .eof := hf
    have hobs : sobsOfRun r = r.items.map .item ++ [.eof] := by rw [sobsOfRun, hfin]
    rw [hobs] at hit ⊢
    simp [hit]
  | false =>
    obtain ⟨e, hfin⟩ : ∃ e, r.final = .error e := hf
    have hobs : sobsOfRun r = r.items.map .item ++ [.err] := by rw [sobsOfRun, hfin]
    rw [hobs] at hit ⊢
    simp [hit]

end Icinga.C20
