/-
  C03 — the checkers of the specification, each proved of one call of `BeginExecuteNotification` and carried
  through the operations by the rules of IcingaProofs/C03/Steps.lean; the checkable's side.
-/
import IcingaProofs.C03.Steps
import IcingaProofs.C03.Call

namespace Icinga.C03

/-- One call by its three outcomes: it passes the five guards; it stops and shows nothing; it is a Recovery that stops and
    shows "not passed". -/
theorem Pres_call {G : Type} {f : G → Event → Option Clause × G} {Inv : G → St → Prop} {P : Event → Prop}
    {c : Cfg} {ty : NType} {force rem : Bool} {e : Env} {g : G} {s : St}
    (hpass : stopped c ty force e = false →
      P ⟨ty, rem, true, force, passedUsers c s ty force rem e⟩ →
      (f g ⟨ty, rem, true, force, passedUsers c s ty force rem e⟩).1 = none ∧
        Inv (f g ⟨ty, rem, true, force, passedUsers c s ty force rem e⟩).2
          (passedResult c s ty force rem e).1)
    (hquiet : stopped c ty force e = true → ty ≠ .recovery → Inv g (beginExec c s ty force rem e).1)
    (hrec : stopped c ty force e = true → ty = .recovery → P ⟨.recovery, rem, false, force, []⟩ →
      (f g ⟨.recovery, rem, false, force, []⟩).1 = none ∧
        Inv (f g ⟨.recovery, rem, false, force, []⟩).2 (beginExec c s ty force rem e).1) :
    PresAt f Inv P (beginStep c ty force rem e) g s := by
  refine Pres_begin fun _ => ?_
  cases hs : stopped c ty force e
  · rw [beginExec_passed hs, passedResult_event]
    exact hpass hs
  · rcases (beginExec_stopped hs s rem).event with ⟨hne, h'⟩ | ⟨hre, h'⟩ <;> rw [h']
    · exact hquiet hs hne
    · exact hrec hs hre

theorem timesOpen_eq (c : Cfg) (e : Env) : timesOpen c e = (!beforeBegin c e && !afterEnd c e) := by
  unfold timesOpen beforeBegin afterEnd
  cases c.tbegin <;> cases c.tend <;> simp

/-- The three hypotheses are the first three clauses of `deliveryEv`, which speak of the operation; the remaining clauses
    are the guards the call has passed and `userOk` of the users it delivers to. -/
theorem delivery_begin (c : Cfg) (k : OpKind) (e : Env) (ty : NType) (force rem : Bool)
    (hclaim : (force && k == .send && !e.force) = false)
    (hflags : ((!force || k == .tick) && !(e.globalEnabled && e.ckEnabled)) = false)
    (hpaused : pausedFor k e = false) :
    Pres (deliveryEv c k e) (fun _ _ => True) (fun _ => True) (beginStep c ty force rem e) := by
  intro g s _
  refine Pres_call (Inv := fun _ _ => True) (P := fun _ => True) (fun hs _ => ⟨?_, trivial⟩) (fun _ _ => trivial)
    (fun _ _ _ => ⟨rfl, trivial⟩) trivial
  · have hu : (passedUsers c s ty force rem e).all (userAdmits c e ty force) = true := by
      rw [List.all_eq_true]
      intro uid hm
      obtain ⟨u, hmem, hid, hok⟩ := userLoop_delivered_ok c ty force rem e _ _ _ _ hm
      unfold userAdmits
      rw [List.any_eq_true]
      refine ⟨u, hmem, ?_⟩
      unfold userOk at hok
      simp only [Bool.and_eq_true] at hok ⊢
      refine ⟨⟨by simp [hid], hok.1⟩, hok.2⟩
    have p := passes hs
    have ht : (!force && ty == NType.problem && !timesOpen c e) = false := by
      rw [timesOpen_eq]
      have h2 := p.tbegin
      have h3 := p.tend
      simp only [gBegin, gEnd] at h2 h3
      cases hx : (!force && ty == NType.problem)
      · rfl
      · rw [hx] at h2 h3
        rw [show beforeBegin c e = false from h2, show afterEnd c e = false from h3]; rfl
    have h1 := p.period
    have h4 := p.type
    have h5 := p.state
    simp only [gPeriod, gType, gState] at h1 h4 h5
    simp only [deliveryEv, hclaim, hflags, hpaused, hu, h1, h4, h5, ht, Bool.not_true, Bool.false_eq_true, if_false]

theorem delivery_calls (c : Cfg) {k : OpKind} {e : Env} {ty : NType} {force rem : Bool} (h : Calls k e ty force rem) :
    Pres (deliveryEv c k e) (fun _ _ => True) (fun _ => True) (beginStep c ty force rem e) := by
  have htick : tickSkipped e = false → (e.globalEnabled && e.ckEnabled) = true ∧ pausedFor .tick e = false := by
    intro hs
    simp only [tickSkipped, Bool.or_eq_false_iff, Bool.not_eq_false'] at hs
    exact ⟨hs.2, by simp [pausedFor, hs.1]⟩
  cases h with
  | request ty hbl hpa =>
    apply delivery_begin
    · cases e.force <;> simp
    · simp only [sendBlocked] at hbl
      cases hf : e.force <;> simp_all
    · simp [pausedFor, hpa]
  | timer ty force hs => exact delivery_begin c .tick e ty force false (by simp) (by simp [(htick hs).1]) (htick hs).2
  | reminder hs => exact delivery_begin c .tick e .problem false true (by simp) (by simp [(htick hs).1]) (htick hs).2

theorem delivery_op (c : Cfg) (g : Unit) (s : St) (op : Op) :
    (deliveryObs c g (applyOp c s op).2).1 = none :=
  (Pres_op c (deliveryEv c) (fun _ _ _ _ _ _ => trivial) (fun _ _ _ _ _ => delivery_calls c) op g s trivial
    (fun _ _ => trivial)).1

def RecInv (ps : List Nat) (s : St) : Prop := ∀ x ∈ s.npu, x ∈ ps

/-- Problem: `notified_problem_users` grows only by users the call delivers to, and these the checker adds to `ps`.
    Other types: the loop is a filter that contains `wasNotified`, the checker's clause for Recovery and Acknowledgement.
    A call that stops keeps the list, or clears it where the checker clears `ps` as well. -/
theorem recipients_begin (c : Cfg) (e : Env) (ty : NType) (force rem : Bool) :
    Pres (recipientsEv e) RecInv (fun _ => True) (beginStep c ty force rem e) := by
  intro ps s hi
  refine Pres_call (fun hs _ => ?_) (fun hs hne => ?_) (fun hs hre _ => ?_) hi
  · simp only [passedResult_npu, passedUsers, RecInv]
    generalize (pre s ty).lns = lns
    by_cases hprob : ty = .problem
    · subst hprob
      have hnpu := userLoop_npu c .problem force rem e e.users s.npu lns
      generalize userLoop c .problem force rem e s.npu lns e.users = q at hnpu ⊢
      refine ⟨rfl, fun x hx => List.mem_append.mpr ?_⟩
      rcases hnpu x hx with h1 | h1
      · exact .inr (hi x h1)
      · exact .inl h1
    · have hnprob : (ty == NType.problem) = false := beq_false_of_ne hprob
      rw [userLoop_filter c ty force rem e hprob]
      have hall : (ty == NType.recovery || ty == NType.ack) = true →
          ((e.users.filter fun u => userOk c ty force e u && wasNotified s.npu ty u).map UEnv.id).all
            (fun uid => ps.contains uid || notSubscribed e uid) = true := by
        intro hra
        simp only [List.all_eq_true, List.mem_map, List.mem_filter]
        rintro uid ⟨u, ⟨hu, hok⟩, rfl⟩
        simp only [wasNotified, hra, Bool.not_true, Bool.false_or, Bool.and_eq_true, Bool.or_eq_true,
          Bool.not_eq_true'] at hok
        rcases hok.2 with hw | hw
        · have : u.id ∈ ps := hi _ (by simpa using hw)
          simp [this]
        · have : notSubscribed e u.id = true := by
            unfold notSubscribed; rw [List.any_eq_true]; exact ⟨u, hu, by simp [hw]⟩
          simp [this]
      generalize (e.users.filter fun u => userOk c ty force e u && wasNotified s.npu ty u).map UEnv.id = us at hall ⊢
      constructor
      · cases hra : (ty == NType.recovery || ty == NType.ack)
        · simp [recipientsEv, hra]
        · simp only [recipientsEv, hra, hall hra, Bool.not_true, Bool.and_false, Bool.false_eq_true, if_false]
      · -- a Recovery clears both lists; every other type leaves both as they are
        intro x hx
        cases hr : (ty == NType.recovery) <;> simp [recipientsEv, hr, hnprob] at hx ⊢
        exact hi x hx
  · have : (ty == NType.recovery) = false := beq_false_of_ne hne
    intro x hx
    rw [(beginExec_stopped hs s rem).npu] at hx
    simp only [this, Bool.false_and, Bool.false_eq_true, if_false] at hx; exact hi x hx
  · subst hre
    refine ⟨rfl, ?_⟩
    intro x hx
    rw [(beginExec_stopped hs s rem).npu] at hx
    simp only [recipientsEv, recoveryWithheld, beq_self_eq_true, if_true, Bool.not_false, Bool.true_and]
    simp only [gPeriod, beq_self_eq_true, Bool.true_and] at hx
    -- the model's `gPeriod` and the checker's `recoveryWithheld` are this one test: false, both lists are cleared;
    -- true, both are kept
    cases hg : (!force && !e.periodOpen)
    · simp [hg] at hx
    · simp only [hg, Bool.not_true, Bool.false_eq_true, if_false, if_true] at hx ⊢; exact hi x hx

theorem recipients_op (c : Cfg) (ps : List Nat) (s : St) (op : Op) (hi : RecInv ps s)
    (hnd : recoveryDropped (applyOp c s op).2 = false) :
    (recipientsObs ps (applyOp c s op).2).1 = none ∧ RecInv (recipientsObs ps (applyOp c s op).2).2 (applyOp c s op).1 := by
  unfold recipientsObs
  rw [hnd]
  simp only [Bool.false_eq_true, if_false]
  exact Pres_op c (fun _ => recipientsEv) (fun _ _ _ _ _ h => h) (fun _ e ty force rem _ => recipients_begin c e ty force rem)
    op ps s hi (fun _ _ => trivial)

/-- The case `recipients_op` excludes: the request is dropped before any notification object is touched (F-C03b). -/
theorem dropped_noop (c : Cfg) (s : St) (op : Op) (h : recoveryDropped (applyOp c s op).2 = true) :
    (applyOp c s op).1 = s ∧ (applyOp c s op).2.events = [] := by
  cases op with
  | send ty e =>
    simp only [recoveryDropped, applyOp, Bool.and_eq_true, beq_iff_eq, Bool.not_eq_true'] at h
    have hb : sendBlocked e = true := by
      simp only [sendBlocked, Bool.and_eq_true, Bool.not_eq_true']
      exact ⟨by simpa using h.1.2, h.1.1.2⟩
    simp [applyOp, sendStep, hb]
  | tick e => simp [recoveryDropped, applyOp] at h

def DupRel (ls lns : Nat → Option Nat) : Prop := ∀ u st, ls u = some st → lnsGet lns u = st
def DupInv (ls : Nat → Option Nat) (s : St) : Prop := DupRel ls s.lns

/-- Where the checker's `ls` has an entry, the code's dictionary reads the same state (`DupRel`).  So a user the checker
    would take for a duplicate is one `isDup` made the loop skip; for a user the loop delivers to (`.2.2`), both sides
    record `e.state` (`.2.1`: the dictionary after the loop). -/
theorem noDup_loop (c : Cfg) (force rem : Bool) (e : Env) :
    ∀ (us : List UEnv) (npu : List Nat) (lns ls : Nat → Option Nat), DupRel ls lns →
      (noDupUsers (!rem && !e.volatile) e.state ls (userLoop c .problem force rem e npu lns us).2.2).1 = none ∧
      DupRel (noDupUsers (!rem && !e.volatile) e.state ls (userLoop c .problem force rem e npu lns us).2.2).2
        (userLoop c .problem force rem e npu lns us).2.1 := by
  intro us
  induction us with
  | nil => intro npu lns ls h; exact ⟨rfl, h⟩
  | cons u rest ih =>
    intro npu lns ls h
    simp only [userLoop]
    have hget : ∀ v, lnsGet (userStep c .problem force rem e npu lns u).2.1 v =
        if (userStep c .problem force rem e npu lns u).2.2 && v == u.id then e.state else lnsGet lns v :=
      userStep_lnsGet c force rem e npu lns u
    cases hf : (userStep c .problem force rem e npu lns u).2.2 <;> simp only [hf, Bool.false_and, Bool.true_and] at hget
    · -- `u` skipped: the dictionary reads as before
      exact ih _ _ ls fun v st hv => by rw [hget]; exact h v st hv
    · -- `u` delivered to: the dictionary reads `e.state` at `u.id`
      simp only [if_true, noDupUsers]
      -- the code did not take the Problem for a duplicate, so the bookkeeping does not either
      have hchk : ((!rem && !e.volatile) && ls u.id == some e.state) = false := by
        rw [Bool.eq_false_iff]
        intro hc
        simp only [Bool.and_eq_true, Bool.not_eq_true', beq_iff_eq] at hc
        rw [userStep_flag] at hf
        simp [isDup, hc.1.1, hc.1.2, h u.id e.state hc.2] at hf
      rw [hchk]
      apply ih
      intro v st hv
      rw [hget]
      unfold lnsSet at hv
      cases hvu : (v == u.id) <;> simp only [hvu, Bool.false_eq_true, if_false, if_true, Option.some.injEq] at hv ⊢
      · exact h v st hv
      · exact hv

theorem noDup_begin (c : Cfg) (e : Env) (ty : NType) (force rem : Bool) :
    Pres (noDupEv e) DupInv (fun _ => True) (beginStep c ty force rem e) := by
  intro ls s hi
  refine Pres_call (fun hs _ => ?_) (fun hs hne => ?_) (fun _ _ _ => ⟨rfl, fun _ _ hu => nomatch hu⟩) hi
  · simp only [passedResult_lns, passedUsers, DupInv]
    by_cases hrec : ty = .recovery
    · subst hrec; exact ⟨rfl, fun _ _ hu => nomatch hu⟩
    · have hnrec : (ty == NType.recovery) = false := beq_false_of_ne hrec
      rw [pre_of_ne s ty hrec]
      by_cases hprob : ty = .problem
      · subst hprob
        obtain ⟨a, b⟩ := noDup_loop c force rem e e.users s.npu s.lns ls hi
        simp only [noDupEv]
        exact ⟨by simpa using a, by simpa [DupInv] using b⟩
      · have hnprob : (ty == NType.problem) = false := beq_false_of_ne hprob
        rw [userLoop_filter c ty force rem e hprob]
        simp only [noDupEv, hnrec, hnprob, Bool.false_and, Bool.false_eq_true, if_false]
        exact ⟨trivial, hi⟩
  · unfold DupInv; rw [(beginExec_stopped hs s rem).lns, pre_of_ne s ty hne]; exact hi

theorem noDup_op (c : Cfg) (ls : Nat → Option Nat) (s : St) (op : Op) (hi : DupInv ls s) :
    (noDupObs ls (applyOp c s op).2).1 = none ∧ DupInv (noDupObs ls (applyOp c s op).2).2 (applyOp c s op).1 := by
  unfold noDupObs
  generalize hls : (if recoveryDropped (applyOp c s op).2 = true then fun _ => none else ls) = ls'
  have hi' : DupInv ls' s := by
    subst hls
    cases recoveryDropped (applyOp c s op).2
    · simpa using hi
    · intro u st hu; simp at hu
  exact Pres_op c (fun _ => noDupEv) (fun _ _ _ _ _ h => h) (fun _ e ty force rem _ => noDup_begin c e ty force rem)
    op ls' s hi' (fun _ _ => trivial)

/-- Relation between the reminder bookkeeping and the scheduling attributes, between operations: the remembered
    Problem was not sent before `times.begin`; `next_notification` lies at least `interval` after it; and while nothing
    re-armed the object (`quiet`) `no_more_notifications` is set if `interval ≤ 0`. -/
def RemInv (c : Cfg) (g : RemSt) (s : St) : Prop :=
  ∀ t1 l, g.lastProb = some (t1, l) →
    (∀ b, c.tbegin = some b → 0 ≤ b → l + b ≤ t1) ∧
    (0 < c.interval → t1 + c.interval ≤ s.next) ∧ (g.quiet = true → c.interval ≤ 0 → s.noMore = true)

/-- Inside an operation with environment `e`: the second part is what `remValidate` establishes at its start. -/
def RemInvE (c : Cfg) (e : Env) (g : RemSt) (s : St) : Prop :=
  RemInv c g s ∧ ∀ t1 l, g.lastProb = some (t1, l) → l = e.lhsc ∧ t1 ≤ e.now

/-- `hn`: moving `next_notification` to `now + interval` or later will do, because the remembered Problem was not sent in
    the future. -/
theorem RemInvE_mono {c : Cfg} {e : Env} {g g' : RemSt} {s s' : St} (hi : RemInvE c e g s)
    (hl : g'.lastProb = g.lastProb) (hq : g'.quiet = true → g.quiet = true)
    (hn : 0 < c.interval → s.next ≤ s'.next ∨ e.now + c.interval ≤ s'.next)
    (hm : g'.quiet = true → c.interval ≤ 0 → s.noMore = true → s'.noMore = true) :
    RemInvE c e g' s' := by
  rw [RemInvE, RemInv, hl]
  refine ⟨fun t1 l h => ?_, hi.2⟩
  obtain ⟨a, d, f⟩ := hi.1 t1 l h
  refine ⟨a, ?_, ?_⟩
  · intro hpos; have := d hpos; have := (hi.2 t1 l h).2; have := hn hpos; omega
  · intro hq' hint; exact hm hq' hint (f (hq hq') hint)

theorem RemInvE_next {c : Cfg} {e : Env} {g : RemSt} {s : St} (hi : RemInvE c e g s) :
    RemInvE c e g { s with next := e.now + c.interval } :=
  RemInvE_mono hi rfl id (fun _ => .inr (Int.le_refl _)) fun _ _ h => h

theorem RemInv_validate (c : Cfg) (e : Env) (g : RemSt) (s : St) (h : RemInv c g s) :
    RemInvE c e (remValidate e g) s := by
  unfold remValidate
  rcases hg : g.lastProb with _ | ⟨t, l⟩
  · exact ⟨h, fun t1 l hl => (by rw [hg] at hl; cases hl)⟩
  · simp only
    cases hv : (l == e.lhsc && decide (t ≤ e.now))
    · exact ⟨fun _ _ hl => (nomatch hl), fun _ _ hl => (nomatch hl)⟩
    · simp only [Bool.and_eq_true, beq_iff_eq, decide_eq_true_eq] at hv
      refine ⟨h, fun t1 l' hl => ?_⟩
      rw [if_pos rfl, hg] at hl
      cases hl
      exact hv

/-- The side condition of the strict checker: no event re-arms the reminder of an `interval ≤ 0` object (F-C03c). -/
def NoRearm (strict : Bool) (c : Cfg) (ev : Event) : Prop := strict = true → rearms c ev = false

theorem rearms_of_pos {c : Cfg} (h : 0 < c.interval) (ev : Event) : rearms c ev = false := by
  have : ¬ c.interval ≤ 0 := by omega
  simp [rearms, this]

/-- Stated at one bookkeeping value, of which `hrem` speaks; the state is arbitrary.
    `hrem`: of the `Calls` only `reminder` carries the flag; the two spacing clauses come from the timer's due-test. -/
theorem reminder_call (strict : Bool) (c : Cfg) (k : OpKind) (e : Env) (ty : NType) (force rem : Bool)
    (g : RemSt) (s : St)
    (hrem : rem = true → Calls k e ty force rem ∧ remSpacingOk c e g = true ∧ remInterval0Ok c g = true) :
    PresAt (reminderEv strict c k e) (RemInvE c e) (NoRearm strict c) (beginStep c ty force rem e) g s := by
  intro hi
  refine Pres_call (fun hs hP => ?_) (fun hs hne => ?_) (fun hs hre _ => ?_) hi
  · obtain ⟨hnx, hno⟩ := passedResult_sched c s ty force rem e
    generalize passedUsers c s ty force rem e = us at hP ⊢
    generalize (passedResult c s ty force rem e).1 = st at hnx hno ⊢
    have hchk : (reminderEv strict c k e g ⟨ty, rem, true, force, us⟩).1 = none := by
      cases hr : rem
      · rfl
      · obtain ⟨hc, hspacing, hint0⟩ := hrem hr
        subst hr
        cases hc with
        | reminder _ hcond hpend => simp [reminderEv, hcond, hpend, hspacing, hint0]
    refine ⟨hchk, ?_⟩
    by_cases hprob : ty = .problem
    · subst hprob
      simp only [beq_self_eq_true, Bool.true_and] at hnx hno
      cases hf : force
      · -- unforced Problem: becomes the remembered one
        subst hf
        have hg : (reminderEv strict c k e g ⟨.problem, rem, true, false, us⟩).2 = ⟨some (e.now, e.lhsc), true⟩ := by
          simp [reminderEv]
        rw [hg]
        refine ⟨fun t1 l hl => ?_, fun t1 l hl => by cases hl; exact ⟨rfl, Int.le_refl _⟩⟩
        cases hl
        refine ⟨?_, ?_, ?_⟩
        · intro b hbs hb0
          have hnotBefore := (passes hs).tbegin
          simp only [gBegin, Bool.not_false, beq_self_eq_true, Bool.true_and] at hnotBefore
          exact Int.not_lt.mp fun hlt => by
            rw [(beforeBegin_iff c e).2 ⟨b, hbs, hb0, hlt⟩] at hnotBefore; cases hnotBefore
        · intro hpos; rw [hnx, if_pos (decide_eq_true hpos)]; exact Int.le_refl _
        · intro _ hint; rw [hno, if_pos (decide_eq_true hint)]
      · -- forced Problem: the bookkeeping ignores it, the schedule is set as for any Problem
        subst hf
        refine RemInvE_mono hi rfl id (fun hpos => .inr ?_) fun _ hint _ => ?_
        · rw [hnx, if_pos (decide_eq_true hpos)]; exact Int.le_refl _
        · rw [hno, if_pos (decide_eq_true hint)]
    · have hnprob : (ty == NType.problem) = false := beq_false_of_ne hprob
      simp only [hnprob, Bool.false_and, Bool.false_eq_true, if_false] at hnx hno
      have hn : 0 < c.interval → s.next ≤ st.next ∨ e.now + c.interval ≤ st.next := fun _ => .inl (Int.le_of_eq hnx.symm)
      by_cases hcus : ty = .custom
      · -- Custom: neither the checker's bookkeeping nor `no_more_notifications` moves
        subst hcus
        refine RemInvE_mono hi rfl id hn ?_
        intro _ _ h; rw [hno]; simpa using h
      · have hncus : (ty == NType.custom) = false := beq_false_of_ne hcus
        cases hloose : (ty == NType.recovery || !strict)
        · -- strict, and neither Problem, Custom nor Recovery: the event re-arms unless `interval > 0`
          simp only [Bool.or_eq_false_iff, Bool.not_eq_false'] at hloose
          have hpos : ¬ c.interval ≤ 0 := by
            simpa [rearms, hnprob, hncus, hloose.1] using hP hloose.2
          have hg : (reminderEv strict c k e g ⟨ty, rem, true, force, us⟩).2 = g := by
            simp [reminderEv, hnprob, hncus, hloose.1, hloose.2]
          rw [hg]
          exact RemInvE_mono hi rfl id hn fun _ hint => absurd hint hpos
        · have hg : (reminderEv strict c k e g ⟨ty, rem, true, force, us⟩).2 = { g with quiet := false } := by
            simp [reminderEv, hnprob, hncus, hloose]
          rw [hg]
          -- `quiet` is off afterwards: both hypotheses about it are vacuous
          exact RemInvE_mono hi rfl nofun hn nofun
  · cases hbegin : gBegin c ty force e
    · have hn := (beginExec_stopped hs s rem).next hbegin
      have hm := (beginExec_stopped hs s rem).noMore hbegin
      exact RemInvE_mono hi rfl id (fun _ => .inl (Int.le_of_eq hn.symm)) (fun _ _ h => by rw [hm hne]; exact h)
    · -- stopped by `times.begin`, which moves `next` and resets `noMore`: then no Problem sent under this hard state is
      -- remembered, and the relation holds of the empty bookkeeping whatever the schedule
      simp only [gBegin, Bool.and_eq_true, Bool.not_eq_true', beq_iff_eq] at hbegin
      have hnone : g.lastProb = none := by
        rcases hl : g.lastProb with _ | ⟨t1, l⟩
        · rfl
        · obtain ⟨hlhsc, hpast⟩ : l = e.lhsc ∧ t1 ≤ e.now := hi.2 t1 l hl
          obtain ⟨bb, hc, hb0, hlt⟩ := (beforeBegin_iff c e).1 hbegin.2
          have : l + bb ≤ t1 := (hi.1 t1 l hl).1 bb hc hb0
          -- t1 ≤ now < lhsc + bb = l + bb ≤ t1
          omega
      exact ⟨fun t1 l hl => (by rw [hnone] at hl; cases hl), hi.2⟩
  · -- a Recovery is never a reminder, and `times.begin` stops Problems only
    subst hre
    have hn := (beginExec_stopped hs s rem).next (by simp [gBegin])
    have hr : rem = false := by
      cases rem
      · rfl
      · cases (hrem rfl).1
    subst hr
    exact ⟨rfl, RemInvE_mono hi rfl nofun (fun _ => .inl (Int.le_of_eq hn.symm)) nofun⟩

theorem reminder_begin (strict : Bool) (c : Cfg) (k : OpKind) (e : Env) (ty : NType) (force : Bool) :
    Pres (reminderEv strict c k e) (RemInvE c e) (NoRearm strict c) (beginStep c ty force false e) :=
  fun g s => reminder_call strict c k e ty force false g s nofun

theorem reminder_reminderStep (strict : Bool) (c : Cfg) (e : Env) (hs : tickSkipped e = false) :
    Pres (reminderEv strict c .tick e) (RemInvE c e) (NoRearm strict c) (reminderStep c e) := by
  refine Pres_reminderStep c e (fun _ _ _ => RemInvE_next) fun g s hd ha hi => ?_
  obtain ⟨hd1, hd2⟩ := (reminderDue_iff c s e).1 hd
  obtain ⟨hc, hpend, -⟩ := (reminderAllowed_iff _ e).1 ha
  -- the handler's due-test gives the checker's two spacing clauses
  have hsp : remSpacingOk c e g = true := by
    unfold remSpacingOk
    rcases hl : g.lastProb with _ | ⟨t1, l⟩
    · rfl
    · obtain ⟨-, d, -⟩ := hi.1 t1 l hl
      simp only [Bool.or_eq_true, decide_eq_true_eq]
      by_cases hpos : 0 < c.interval
      · right; have := d hpos; omega
      · left; omega
  have hi0 : remInterval0Ok c g = true := by
    unfold remInterval0Ok
    cases hq : g.quiet
    · simp
    · rcases hl : g.lastProb with _ | ⟨t1, l⟩
      · simp
      · obtain ⟨-, -, f⟩ := hi.1 t1 l hl
        by_cases hint : c.interval ≤ 0
        · have := f hq hint
          rw [hd1 hint] at this; cases this
        · simp [hint]
  exact reminder_call strict c .tick e .problem false true g _ (fun _ => ⟨.reminder hs hc hpend, hsp, hi0⟩)
    (RemInvE_next hi)

/-- The only checker whose relation depends on the operation's environment and whose reminder call needs what the
    handler's due-test says of the bookkeeping value, so it takes the rules for the two operations themselves. -/
theorem reminder_op (strict : Bool) (c : Cfg) (g : RemSt) (s : St) (op : Op) (hi : RemInv c g s)
    (hp : ∀ ev ∈ (applyOp c s op).2.events, NoRearm strict c ev) :
    (reminderObsOf strict c g (applyOp c s op).2).1 = none ∧
      RemInv c (reminderObsOf strict c g (applyOp c s op).2).2 (applyOp c s op).1 := by
  cases op with
  | send ty e =>
    exact (Pres_send (f := reminderEv strict c .send e) c ty e (fun _ _ h => h)
      (fun _ _ => reminder_begin strict c .send e ty e.force) (remValidate e g) s (RemInv_validate c e g s hi) hp).imp_right (·.1)
  | tick e =>
    exact (Pres_tick (f := reminderEv strict c .tick e) c e (fun _ _ _ h => h) (fun _ _ h => h)
      (fun _ _ _ _ ty force _ => reminder_begin strict c .tick e ty force) (reminder_reminderStep strict c e)
      (remValidate e g) s (RemInv_validate c e g s hi) hp).imp_right (·.1)

/-- No event of the trace re-arms the reminder of an `interval ≤ 0` object: no notification of a type other than
    Problem, Custom and Recovery passes the notification-level filters (always true when `interval > 0`). -/
def NoRearmTrace (c : Cfg) (tr : List Obs) : Prop := ∀ o ∈ tr, ∀ ev ∈ o.events, rearms c ev = false

theorem reminder_ops (strict : Bool) (c : Cfg) (ops : List Op) (g : RemSt) (s : St) (hi : RemInv c g s)
    (hp : strict = true → NoRearmTrace c (traceOf c s ops)) :
    runTrace (reminderObsOf strict c) g (traceOf c s ops) = none :=
  runTrace_ok (reminderObsOf strict c) (RemInv c) (fun o => ∀ ev ∈ o.events, NoRearm strict c ev) c
    (reminder_op strict c) ops g s hi (fun o ho ev hev hs => hp hs o ho ev hev)

theorem reminderStep_held (c : Cfg) (e : Env) (s : St) :
    (reminderStep c e s).2 ≠ [] → (reminderStep c e s).1.sup.problem = false := by
  rcases reminderStep_shapes c e s with ⟨-, h⟩ | ⟨-, -, h⟩ | ⟨-, ha, h⟩ <;> rw [h]
  · exact fun h => absurd rfl h
  · exact fun h => absurd rfl h
  · have hp : s.sup.problem = false := ((reminderAllowed_iff _ e).1 ha).2.2
    -- a call with the reminder flag leaves `suppressed_notifications` alone even when the closed period stops it
    have : (beginExec c { s with next := e.now + c.interval } .problem false true e).1.sup = s.sup := by
      rw [beginExec_sup]; exact ite_self _
    intro _
    simp only [beginStep, this, hp]

theorem reminder_event (c : Cfg) (s : St) (op : Op) : ∀ ev ∈ (applyOp c s op).2.events, ev.reminder = true →
    (applyOp c s op).2.kind = .tick ∧ ev.ty = .problem ∧ remCondOk (applyOp c s op).2.env = true ∧
      (applyOp c s op).2.env.ckProblemPending = false := by
  intro ev hm hr
  have := events_op c
    (fun k e ev => !ev.reminder || (k == .tick && ev.ty == .problem && remCondOk e && !e.ckProblemPending))
    (fun h s ev hev => by
      obtain ⟨h1, h2, -⟩ := beginExec_event hev
      cases h <;> simp_all)
    s op ev hm
  simpa [hr, and_assoc] using this

theorem reminder_not_held (c : Cfg) (s : St) (op : Op) :
    ∀ ev ∈ (applyOp c s op).2.events, ev.reminder = true → (applyOp c s op).2.heldAfter = false := by
  intro ev hm hr
  cases op with
  | send ty e => have := (reminder_event c s _ ev hm hr).1; cases this
  | tick e =>
    -- the reminder part comes last, shows something only if no Problem is held back, and leaves that so;
    -- the part before it makes no call with the reminder flag
    simp only [applyOp, tickStep] at hm ⊢
    by_cases hs : tickSkipped e = true
    · simp [hs] at hm
    · simp only [hs, seq] at hm ⊢
      generalize dropStash s e = s0 at hm ⊢
      rcases List.mem_append.mp hm with hm | hm
      · have := ((Pres_supStep c e (fun _ _ _ _ => trivial) (fun _ _ _ => trivial) fun _ _ _ ty force _ =>
          each_begin (cl := .reminderOnlyFromTimer) (q := fun ev => !ev.reminder) (Inv := fun _ _ => True) c ty force false e
            (fun _ _ h => by rw [(beginExec_event h).2.1]; rfl) (fun _ _ => trivial)).all s0 trivial).1
        have := List.all_eq_true.mp this ev hm
        simp [hr] at this
      · exact reminderStep_held c e _ (List.ne_nil_of_mem hm)

theorem held_op (c : Cfg) (s : St) (op : Op) : heldObs (applyOp c s op).2 = none := by
  unfold heldObs
  rw [if_neg]
  intro hc
  simp only [Bool.and_eq_true, List.any_eq_true] at hc
  obtain ⟨hh, ev, hm, hr⟩ := hc
  rw [reminder_not_held c s op ev hm hr] at hh; cases hh

theorem heldTrace_ok (c : Cfg) : ∀ (ops : List Op) (s : St), heldTrace (traceOf c s ops) = none :=
  traceOf_ind c (fun _ tr => heldTrace tr = none) (fun _ => rfl) fun s op tr ih => by
    simp only [heldTrace, held_op]; exact ih

/-- The first part is the relation, the second the demand of one `each` checker.  The handlers empty the stash or leave it
    alone and no call touches it; everything the timer calls besides the replay is unforced. -/
theorem tick_forced_from_stash (c : Cfg) (s : St) (e : Env) :
    (∀ p ∈ (tickStep c s e).1.stash, p ∈ s.stash) ∧
    ∀ ev ∈ (tickStep c s e).2, ev.force = true → (ev.ty, true) ∈ s.stash := by
  have hb : ∀ ty force rem, (force = true → (ty, true) ∈ s.stash) →
      Pres (each .forceClaim fun ev => !ev.force || s.stash.contains (ev.ty, true))
        (fun _ s' => ∀ p ∈ s'.stash, p ∈ s.stash) (fun _ => True) (beginStep c ty force rem e) := by
    intro ty force rem hf
    apply each_begin
    · intro s' ev h
      obtain ⟨h1, -, h3⟩ := beginExec_event h
      cases hfo : force
      · simp [h3, hfo]
      · simp [h1, h3, hfo, hf hfo]
    · intro s' hi; rw [beginExec_stash]; exact hi
  -- the relation does not read `sup`; nothing is in the emptied stash
  obtain ⟨h1, h2⟩ := (Pres_tick c e (fun _ _ _ h => h) (fun _ _ _ _ hp => nomatch hp)
    (fun _ _ s' hi ty force hf => hb ty force false fun h => hi _ (hf h))
    (fun _ => Pres_reminderStep c e (fun _ _ _ h => h) fun g s _ _ hi => hb .problem false true nofun g _ hi)).all s
    (fun _ h => h)
  refine ⟨h2, fun ev hm hf => ?_⟩
  have := List.all_eq_true.mp h1 ev hm
  simpa [hf] using this

def OwedInv (owed : List NType) (s : St) : Prop := ∀ p ∈ s.stash, p.2 = true → p.1 ∈ owed

theorem owed_op (c : Cfg) (owed : List NType) (s : St) (op : Op) (hi : OwedInv owed s) :
    (owedObs owed (applyOp c s op).2).1 = none ∧ OwedInv (owedObs owed (applyOp c s op).2).2 (applyOp c s op).1 := by
  cases op with
  | send ty e =>
    have hmono : ∀ (b : Bool) p, p ∈ owed → p ∈ (if b then (some ty).toList ++ owed else owed) := by
      intro b p hp; cases b <;> simp [hp]
    refine ⟨rfl, ?_⟩
    simp only [applyOp, owedObs]
    -- a request that is stashed shows nothing, and is owed if it is forced
    rcases sendStep_shapes c s ty e with h | h | ⟨-, -, h⟩ <;> simp only [h] <;> intro p hp hf
    · exact hmono _ _ (hi p hp hf)
    · rcases List.mem_append.mp hp with hp | hp
      · exact hmono _ _ (hi p hp hf)
      · cases List.mem_singleton.mp hp
        simp only at hf
        simp [hf]
    · rw [show (beginStep c ty e.force false e s).1.stash = s.stash from beginExec_stash c s ty e.force false e] at hp
      exact hmono _ _ (hi p hp hf)
  | tick e =>
    obtain ⟨h1, h2⟩ := tick_forced_from_stash c s e
    simp only [applyOp, owedObs]
    refine ⟨if_pos ?_, fun p hp hf => hi p (h1 p hp) hf⟩
    rw [List.all_eq_true]
    intro ev hm
    cases hf : ev.force
    · rfl
    · simpa using hi _ (h2 ev hm hf) rfl

theorem beginExec_bypass {c : Cfg} {s : St} {ty : NType} {force rem : Bool} {e : Env} {ev : Event}
    (h : (beginExec c s ty force rem e).2 = some ev) : bypassEv e ev = true := by
  rcases beginExec_shows h with ⟨-, rfl⟩ | ⟨-, rfl⟩
  · cases force
    · rfl
    · cases hp : plainType ty
      · simp [bypassEv, hp]
      · -- a plain type: the loop is a filter that a forced call lets every enabled user pass
        have hty := hp
        simp only [plainType, Bool.not_eq_true', Bool.or_eq_false_iff] at hty
        obtain ⟨⟨h1, h2⟩, h3⟩ := hty
        rw [passedUsers, userLoop_filter c ty true rem e (by simpa using h1)]
        simp only [bypassEv, hp, Bool.and_self, Bool.not_true, Bool.false_or, List.all_eq_true, Bool.or_eq_true,
          Bool.not_eq_true', List.contains_eq_mem, decide_eq_true_eq]
        intro u hu
        cases hen : u.enabled
        · left; rfl
        · right
          refine List.mem_map.mpr ⟨u, List.mem_filter.mpr ⟨hu, ?_⟩, rfl⟩
          simp [userOk, wasNotified, hen, h2, h3]
  · rfl

theorem bypass_op (c : Cfg) (s : St) (op : Op) : bypassObs (applyOp c s op).2 = true :=
  List.all_eq_true.mpr (events_op c (fun _ e => bypassEv e) (fun _ _ _ => beginExec_bypass) s op)

/-- The per-object operations a checkable-level sequence amounts to: requests carry the checkable's flag, requests and
    timer runs while the object is not registered do not reach it. -/
def lower : CkSt → List COp → List Op
  | _, [] => []
  | k, .setForce :: rest => lower (ckSetForce k) rest
  | k, .attach b :: rest => lower { k with attached := b } rest
  | k, .send ty e :: rest =>
    if k.attached then .send ty { e with force := k.force } :: lower (ckRequest k).1 rest else lower (ckRequest k).1 rest
  | k, .tick e :: rest => if k.attached then .tick e :: lower k rest else lower k rest

/-- The hypothesis on `mid`: no operation sets the checkable's flag to the other value; a `setForce` sets it, a request
    resets it, nothing else touches it. -/
theorem crun_force (c : Cfg) (b : Bool) (mid : List COp) : ∀ (k : CkSt) (s : St), k.force = b →
    (∀ op ∈ mid, (op = COp.setForce → b = true) ∧ ∀ ty e, op = COp.send ty e → b = false) →
    (crun c k s mid).1.force = b := by
  induction mid with
  | nil => intro k s h _; exact h
  | cons op rest ih =>
    intro k s h hm
    have hop := hm op (List.mem_cons_self ..)
    simp only [crun]
    apply ih _ _ _ fun o ho => hm o (List.mem_cons_of_mem _ ho)
    cases op with
    | setForce => rw [hop.1 rfl]; rfl
    | attach a => exact h
    | send ty e => rw [hop.2 ty e rfl]; simp only [cApply]; cases k.attached <;> rfl
    | tick e => simp only [cApply]; cases k.attached <;> exact h

end Icinga.C03
