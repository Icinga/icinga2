/-
  C03 — checkers over events, and the rules that carry a checker's relation to the bookkeeping attributes through
  the model's operations.  Every operation is a composition of calls of `BeginExecuteNotification` (`beginStep`)
  and of updates that show nothing, so what has to be proved of a checker is proved of one call.
-/
import IcingaModel.C03.Spec

namespace Icinga.C03

/-- `P` is a side condition on the events produced; only the reminder checker needs one (F-C03c). -/
def Pres {G : Type} (f : G → Event → Option Clause × G) (Inv : G → St → Prop) (P : Event → Prop)
    (step : St → St × List Event) : Prop :=
  ∀ g s, Inv g s → (∀ ev ∈ (step s).2, P ev) →
    (evFold f g (step s).2).1 = none ∧ Inv (evFold f g (step s).2).2 (step s).1

/-- `Pres f Inv P step` is `∀ g s, PresAt f Inv P step g s`.  The rules that know something of the state or of
    the bookkeeping value are stated in this form. -/
def PresAt {G : Type} (f : G → Event → Option Clause × G) (Inv : G → St → Prop) (P : Event → Prop)
    (step : St → St × List Event) (g : G) (s : St) : Prop :=
  Inv g s → (∀ ev ∈ (step s).2, P ev) →
    (evFold f g (step s).2).1 = none ∧ Inv (evFold f g (step s).2).2 (step s).1

theorem Pres_silent {G : Type} {f : G → Event → Option Clause × G} {Inv : G → St → Prop} {P : Event → Prop}
    (h : St → St) (hh : ∀ g s, Inv g s → Inv g (h s)) : Pres f Inv P (fun s => (h s, [])) := by
  intro g s hi _
  exact ⟨rfl, hh g s hi⟩

theorem evFold_append {G : Type} (f : G → Event → Option Clause × G) (g : G) (a b : List Event) :
    evFold f g (a ++ b) =
      (match evFold f g a with
       | (some cl, g') => (some cl, g')
       | (none, g') => evFold f g' b) := by
  induction a generalizing g with
  | nil => simp [evFold]
  | cons ev rest ih =>
    simp only [List.cons_append, evFold]
    rcases h : f g ev with ⟨_ | cl, g'⟩
    · simp only; exact ih g'
    · simp

theorem evFold_opt {G : Type} (f : G → Event → Option Clause × G) (g : G) (o : Option Event) :
    evFold f g o.toList = (match o with | none => (none, g) | some ev => f g ev) := by
  cases o with
  | none => rfl
  | some ev =>
    simp only [Option.toList, evFold]
    rcases h : f g ev with ⟨_ | cl, g'⟩ <;> simp

section
variable {G : Type} {f : G → Event → Option Clause × G} {Inv : G → St → Prop} {P : Event → Prop}

theorem PresAt_seq {a b : St → St × List Event} {g : G} {s : St} (ha : PresAt f Inv P a g s) (hb : Pres f Inv P b) :
    PresAt f Inv P (seq a b) g s := by
  intro hi hp
  simp only [seq] at hp ⊢
  obtain ⟨a1, a2⟩ := ha hi (fun ev h => hp ev (List.mem_append_left _ h))
  rw [evFold_append, ← Prod.eta (evFold f g (a s).2), a1]
  exact hb _ (a s).1 a2 (fun ev h => hp ev (List.mem_append_right _ h))

theorem Pres_seq {a b : St → St × List Event} (ha : Pres f Inv P a) (hb : Pres f Inv P b) : Pres f Inv P (seq a b) :=
  fun g s => PresAt_seq (ha g s) hb

theorem Pres_begin {c : Cfg} {ty : NType} {force reminder : Bool} {e : Env} {g : G} {s : St}
    (h : Inv g s → match (beginExec c s ty force reminder e).2 with
       | none => Inv g (beginExec c s ty force reminder e).1
       | some ev => P ev → (f g ev).1 = none ∧ Inv (f g ev).2 (beginExec c s ty force reminder e).1) :
    PresAt f Inv P (beginStep c ty force reminder e) g s := by
  intro hi hp
  have h := h hi
  simp only [beginStep] at hp ⊢
  rw [evFold_opt]
  rcases hq : (beginExec c s ty force reminder e).2 with _ | ev
  · rw [hq] at h; exact ⟨rfl, h⟩
  · rw [hq] at h hp
    exact h (hp ev (by simp))

/-! The hypotheses `hsup`, `hstash`, `hnext` say that the checker's relation survives what the handlers themselves,
  outside `BeginExecuteNotification`, do to `suppressed_notifications`, `stashed_notifications` and `next_notification`. -/

theorem Pres_fireOne (c : Cfg) (fire : Bool) (ty : NType) (e : Env)
    (hsup : ∀ g s sup, Inv g s → Inv g { s with sup := sup })
    (hb : Pres f Inv P (beginStep c ty false false e)) : Pres f Inv P (fireOne c fire ty e) := by
  cases fire
  · exact Pres_silent id fun _ _ hi => hi
  · exact fun g s hi hp => hb g _ (hsup g s (s.sup.clear ty) hi) hp

theorem Pres_fireSup (c : Cfg) (e : Env)
    (hsup : ∀ g s sup, Inv g s → Inv g { s with sup := sup })
    (hb : ∀ ty, Pres f Inv P (beginStep c ty false false e)) : Pres f Inv P (fireSup c e) := by
  intro g s hi hp
  exact Pres_seq (Pres_fireOne c _ .problem e hsup (hb _))
    (Pres_seq (Pres_fireOne c _ .recovery e hsup (hb _))
      (Pres_seq (Pres_fireOne c _ .flapStart e hsup (hb _)) (Pres_fireOne c _ .flapEnd e hsup (hb _))))
    g _ (hsup g s _ hi) hp

theorem Pres_unstashList (c : Cfg) (e : Env) :
    ∀ l : List (NType × Bool), (∀ p ∈ l, Pres f Inv P (beginStep c p.1 p.2 false e)) →
      Pres f Inv P (unstashList c e l) := by
  intro l
  induction l with
  | nil => exact fun _ => Pres_silent id fun _ _ hi => hi
  | cons a rest ih =>
    obtain ⟨ty, force⟩ := a
    intro hb g s hi hp
    exact Pres_seq (hb (ty, force) (List.mem_cons_self ..)) (ih fun p hp => hb p (List.mem_cons_of_mem _ hp)) g s hi hp

/-- `unstash c e s`, i.e. the replay of `s.stash` from the emptied stash: the relation is asked of that state, not of the one
    `unstash` is entered in. -/
theorem Pres_unstash (c : Cfg) (e : Env) (g : G) (s : St)
    (hb : ∀ ty force, (force = true → (ty, true) ∈ s.stash) → Pres f Inv P (beginStep c ty force false e)) :
    PresAt f Inv P (unstashList c e s.stash) g { s with stash := [] } :=
  Pres_unstashList c e s.stash (fun p hp => hb p.1 p.2 fun h => by obtain ⟨ty, force⟩ := p; subst h; exact hp) g _

/-- `hb`: a forced call in the timer's first half is the replay of a forced request found in the stash `s.stash` with
    which the handler is entered (`g`, `s`: bookkeeping and state at entry). -/
theorem Pres_supStep (c : Cfg) (e : Env)
    (hsup : ∀ g s sup, Inv g s → Inv g { s with sup := sup })
    (hstash : ∀ g s, Inv g s → Inv g { s with stash := [] })
    (hb : ∀ g s, Inv g s → ∀ ty force, (force = true → (ty, true) ∈ s.stash) →
      Pres f Inv P (beginStep c ty force false e)) :
    Pres f Inv P (supStep c e) := by
  intro g s hi
  simp only [supStep]
  cases e.reachable
  · exact fun _ => ⟨rfl, hi⟩
  · exact PresAt_seq (fun hi => Pres_unstash c e g s (hb g s hi) (hstash g s hi))
      (Pres_fireSup c e hsup fun ty => hb g s hi ty false nofun) hi

theorem reminderStep_shapes (c : Cfg) (e : Env) (s : St) :
    (reminderDue c s e = false ∧ reminderStep c e s = (s, [])) ∨
    (reminderDue c s e = true ∧ reminderAllowed { s with next := e.now + c.interval } e = false ∧
      reminderStep c e s = ({ s with next := e.now + c.interval }, [])) ∨
    (reminderDue c s e = true ∧ reminderAllowed { s with next := e.now + c.interval } e = true ∧
      reminderStep c e s = beginStep c .problem false true e { s with next := e.now + c.interval }) := by
  simp only [reminderStep]
  cases reminderDue c s e
  · exact .inl ⟨rfl, rfl⟩
  · cases reminderAllowed { s with next := e.now + c.interval } e
    · exact .inr (.inl ⟨rfl, rfl, rfl⟩)
    · exact .inr (.inr ⟨rfl, rfl, rfl⟩)

theorem reminderAllowed_iff (s : St) (e : Env) :
    reminderAllowed s e = true ↔ remCondOk e = true ∧ e.ckProblemPending = false ∧ s.sup.problem = false := by
  simp only [reminderAllowed, remCondOk, Bool.not_or, Bool.not_not, Bool.and_eq_true, Bool.not_eq_true']
  constructor <;> intro h <;> simp only [h, and_self]

theorem reminderDue_iff (c : Cfg) (s : St) (e : Env) :
    reminderDue c s e = true ↔ (c.interval ≤ 0 → s.noMore = false) ∧ s.next ≤ e.now := by
  simp [reminderDue, Int.not_lt, Decidable.imp_iff_not_or]

/-- `hb`: the one call with the reminder flag, with what the handler has tested before it, from the relation as it was
    before `next_notification` was moved (the due-test read the old value). -/
theorem Pres_reminderStep (c : Cfg) (e : Env)
    (hnext : ∀ g s, reminderDue c s e = true → Inv g s → Inv g { s with next := e.now + c.interval })
    (hb : ∀ g s, reminderDue c s e = true → reminderAllowed { s with next := e.now + c.interval } e = true →
      PresAt f Inv P (fun s => beginStep c .problem false true e { s with next := e.now + c.interval }) g s) :
    Pres f Inv P (reminderStep c e) := by
  intro g s hi hp
  rcases reminderStep_shapes c e s with ⟨-, h⟩ | ⟨hd, -, h⟩ | ⟨hd, ha, h⟩ <;> simp only [h] at hp ⊢
  · exact ⟨rfl, hi⟩
  · exact ⟨rfl, hnext g s hd hi⟩
  · exact hb g s hd ha hi hp

/-- `hb`: as in `Pres_supStep`; its stash is that of the state after `dropStash`, the operation's own first step. -/
theorem Pres_tick (c : Cfg) (e : Env)
    (hsup : ∀ g s sup, Inv g s → Inv g { s with sup := sup })
    (hstash : ∀ g s, Inv g s → Inv g { s with stash := [] })
    (hb : tickSkipped e = false → ∀ g s, Inv g s → ∀ ty force, (force = true → (ty, true) ∈ s.stash) →
      Pres f Inv P (beginStep c ty force false e))
    (hr : tickSkipped e = false → Pres f Inv P (reminderStep c e)) :
    Pres f Inv P (fun s => tickStep c s e) := by
  intro g s hi
  have hd : Inv g (dropStash s e) := by
    unfold dropStash
    cases (e.paused && e.authUpdated)
    · exact hi
    · exact hstash g s hi
  simp only [tickStep]
  cases hs : tickSkipped e
  · exact Pres_seq (Pres_supStep c e hsup hstash (hb hs)) (hr hs) g _ hd
  · exact fun _ => ⟨rfl, hd⟩

theorem sendStep_shapes (c : Cfg) (s : St) (ty : NType) (e : Env) :
    sendStep c s ty e = (s, []) ∨ sendStep c s ty e = ({ s with stash := s.stash ++ [(ty, e.force)] }, []) ∨
    (sendBlocked e = false ∧ e.paused = false ∧ sendStep c s ty e = beginStep c ty e.force false e s) := by
  unfold sendStep
  cases hb : sendBlocked e
  · cases e.authUpdated
    · exact .inr (.inl rfl)
    · cases hp : e.paused
      · cases s.stash.isEmpty
        · exact .inr (.inl rfl)
        · exact .inr (.inr ⟨rfl, rfl, rfl⟩)
      · exact .inl rfl
  · exact .inl rfl

theorem Pres_send (c : Cfg) (ty : NType) (e : Env)
    (hstash : ∀ g s, Inv g s → Inv g { s with stash := s.stash ++ [(ty, e.force)] })
    (hb : sendBlocked e = false → e.paused = false → Pres f Inv P (beginStep c ty e.force false e)) :
    Pres f Inv P (fun s => sendStep c s ty e) := by
  intro g s hi hp
  rcases sendStep_shapes c s ty e with h | h | ⟨hbl, hpa, h⟩ <;> simp only [h] at hp ⊢
  · exact ⟨rfl, hi⟩
  · exact ⟨rfl, hstash g s hi⟩
  · exact hb hbl hpa g s hi hp

/-- What `SendNotifications` resp. the timer has tested, whatever the state, when it calls `BeginExecuteNotification`
    with these arguments: type, force, reminder. -/
inductive Calls : OpKind → Env → NType → Bool → Bool → Prop
  | request {e : Env} (ty : NType) : sendBlocked e = false → e.paused = false → Calls .send e ty e.force false
  | timer {e : Env} (ty : NType) (force : Bool) : tickSkipped e = false → Calls .tick e ty force false
  | reminder {e : Env} : tickSkipped e = false → remCondOk e = true → e.ckProblemPending = false →
      Calls .tick e .problem false true

/-- Kind and environment are those of `op`, whatever the state.  For `XObs g o = evFold (fe o.kind o.env) g o.events` the
    conclusion unfolds to: `XObs g` accepts `(applyOp c s op).2`, with the relation at `(applyOp c s op).1`. -/
theorem Pres_op (c : Cfg) (fe : OpKind → Env → G → Event → Option Clause × G)
    (hupd : ∀ g s sup st n, Inv g s → Inv g { s with sup := sup, stash := st, next := n })
    (hb : ∀ k e ty force rem, Calls k e ty force rem → Pres (fe k e) Inv P (beginStep c ty force rem e))
    (op : Op) (g : G) (s : St) :
    PresAt (fe (applyOp c s op).2.kind (applyOp c s op).2.env) Inv P
      (fun s' => ((applyOp c s' op).1, (applyOp c s' op).2.events)) g s := by
  cases op with
  | send ty e =>
    exact Pres_send c ty e (fun g s => hupd g s _ _ _) (fun hbl hpa => hb _ _ _ _ _ (.request ty hbl hpa)) g s
  | tick e =>
    refine Pres_tick c e (fun g s _ => hupd g s _ _ _) (fun g s => hupd g s _ _ _)
      (fun hs _ _ _ ty force _ => hb _ _ _ _ _ (.timer ty force hs))
      (fun hs => Pres_reminderStep c e (fun g s _ => hupd g s _ _ _) fun g s _ ha hi => ?_) g s
    obtain ⟨hc, hpend, -⟩ := (reminderAllowed_iff _ e).1 ha
    exact hb _ _ _ _ _ (.reminder hs hc hpend) g _ (hupd g s _ _ _ hi)

end

/-- A demand on single events as a checker without bookkeeping, so that the `Pres` rules apply to it too.  A checker has
    to name a clause; which one `each` names is immaterial, no lemma reads it (`evFold_each`). -/
def each (cl : Clause) (q : Event → Bool) (_ : Unit) (ev : Event) : Option Clause × Unit :=
  (if q ev then none else some cl, ())

theorem evFold_each (cl : Clause) (q : Event → Bool) :
    ∀ evs : List Event, (evFold (each cl q) () evs).1 = none ↔ evs.all q = true := by
  intro evs
  induction evs with
  | nil => simp [evFold]
  | cons ev rest ih =>
    cases h : q ev
    · simp [evFold, each, h]
    · simpa [evFold, each, h] using ih

theorem each_begin {cl : Clause} {q : Event → Bool} {Inv : Unit → St → Prop} (c : Cfg) (ty : NType) (force rem : Bool) (e : Env)
    (hq : ∀ s ev, (beginExec c s ty force rem e).2 = some ev → q ev = true)
    (hi : ∀ s, Inv () s → Inv () (beginExec c s ty force rem e).1) :
    Pres (each cl q) Inv (fun _ => True) (beginStep c ty force rem e) := by
  intro g s
  refine Pres_begin fun h => ?_
  rcases hev : (beginExec c s ty force rem e).2 with _ | ev
  · exact hi s h
  · intro _; simp only [each, hq s ev hev, if_true]; exact ⟨trivial, hi s h⟩

theorem PresAt.all {cl : Clause} {q : Event → Bool} {Inv : Unit → St → Prop} {step : St → St × List Event} {s : St}
    (h : PresAt (each cl q) Inv (fun _ => True) step () s) (hi : Inv () s) :
    (step s).2.all q = true ∧ Inv () (step s).1 :=
  have r := h hi (fun _ _ => trivial)
  ⟨(evFold_each cl q _).1 r.1, r.2⟩

theorem Pres.all {cl : Clause} {q : Event → Bool} {Inv : Unit → St → Prop} {step : St → St × List Event}
    (h : Pres (each cl q) Inv (fun _ => True) step) (s : St) (hi : Inv () s) :
    (step s).2.all q = true ∧ Inv () (step s).1 :=
  PresAt.all (h () s) hi

theorem events_op (c : Cfg) (q : OpKind → Env → Event → Bool)
    (hq : ∀ {k e ty force rem}, Calls k e ty force rem →
      ∀ s ev, (beginExec c s ty force rem e).2 = some ev → q k e ev = true)
    (s : St) (op : Op) :
    ∀ ev ∈ (applyOp c s op).2.events, q (applyOp c s op).2.kind (applyOp c s op).2.env ev = true :=
  List.all_eq_true.mp ((Pres_op c (Inv := fun _ _ => True) (fun k e => each .forceClaim (q k e))
    (fun _ _ _ _ _ _ => trivial) (fun _ e ty force rem h => each_begin c ty force rem e (hq h) (fun _ _ => trivial))
    op () s).all trivial).1

theorem traceOf_ind (c : Cfg) (Q : St → List Obs → Prop) (nil : ∀ s, Q s [])
    (cons : ∀ s op tr, Q (applyOp c s op).1 tr → Q s ((applyOp c s op).2 :: tr)) :
    ∀ (ops : List Op) (s : St), Q s (traceOf c s ops) := by
  intro ops
  induction ops with
  | nil => exact nil
  | cons op rest ih => exact fun s => cons s op _ (ih _)

theorem runTrace_ok {G : Type} (step : G → Obs → Option Clause × G) (Inv : G → St → Prop) (P : Obs → Prop) (c : Cfg)
    (hstep : ∀ g s op, Inv g s → P (applyOp c s op).2 →
      (step g (applyOp c s op).2).1 = none ∧ Inv (step g (applyOp c s op).2).2 (applyOp c s op).1) :
    ∀ (ops : List Op) (g : G) (s : St), Inv g s → (∀ o ∈ traceOf c s ops, P o) →
      runTrace step g (traceOf c s ops) = none := by
  refine fun ops g s => traceOf_ind c (fun s tr => ∀ g, Inv g s → (∀ o ∈ tr, P o) → runTrace step g tr = none)
    (fun _ _ _ _ => rfl) (fun s op tr ih g hi hp => ?_) ops s g
  simp only [runTrace]
  obtain ⟨h1, h2⟩ := hstep g s op hi (hp _ (List.mem_cons_self ..))
  rw [← Prod.eta (step g (applyOp c s op).2), h1]
  exact ih _ h2 (fun o ho => hp o (List.mem_cons_of_mem _ ho))

end Icinga.C03
