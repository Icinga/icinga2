/-
  C03 — one call of `Notification::BeginExecuteNotification`: it stops at one of the five notification-level guards
  (`beginExec_stopped`: what it shows and which attributes it leaves alone) or does the bookkeeping and walks the
  users (`beginExec_passed`, `passedResult`).
-/
import IcingaModel.C03.Model

namespace Icinga.C03

theorem userStep_flag (c : Cfg) (ty : NType) (force rem : Bool) (e : Env) (npu : List Nat) (lns : Nat → Option Nat) (u : UEnv) :
    (userStep c ty force rem e npu lns u).2.2 = (userOk c ty force e u && wasNotified npu ty u && !isDup lns ty rem e u) := by
  unfold userStep
  cases (userOk c ty force e u && wasNotified npu ty u && !isDup lns ty rem e u)
  · rfl
  · cases (ty == NType.problem) <;> rfl

theorem lnsGet_lnsSet (lns : Nat → Option Nat) (u st v : Nat) :
    lnsGet (lnsSet lns u st) v = if v == u then st else lnsGet lns v := by
  unfold lnsGet lnsSet
  cases (v == u) <;> rfl

theorem userStep_lnsGet (c : Cfg) (force rem : Bool) (e : Env) (npu : List Nat) (lns : Nat → Option Nat) (u : UEnv) (v : Nat) :
    lnsGet (userStep c .problem force rem e npu lns u).2.1 v =
      if (userStep c .problem force rem e npu lns u).2.2 && v == u.id then e.state else lnsGet lns v := by
  unfold userStep
  cases (userOk c .problem force e u && wasNotified npu .problem u && !isDup lns .problem rem e u)
  · rfl
  · cases hne : (e.state != lnsGet lns u.id)
    · -- the entry is left alone because it reads the state already
      cases hv : (v == u.id)
      · rfl
      · rw [eq_of_beq hv]
        exact (bne_eq_false_iff_eq.mp hne).symm
    · exact lnsGet_lnsSet lns u.id e.state v

theorem userLoop_filter (c : Cfg) (ty : NType) (force rem : Bool) (e : Env) (h : ty ≠ .problem)
    (npu : List Nat) (lns : Nat → Option Nat) :
    ∀ us : List UEnv, userLoop c ty force rem e npu lns us =
      (npu, lns, (us.filter fun u => userOk c ty force e u && wasNotified npu ty u).map UEnv.id) := by
  have hp : (ty == NType.problem) = false := beq_false_of_ne h
  have hstep : ∀ u, userStep c ty force rem e npu lns u = (npu, lns, userOk c ty force e u && wasNotified npu ty u) := by
    intro u
    unfold userStep isDup
    cases (userOk c ty force e u && wasNotified npu ty u) <;> simp [hp]
  intro us
  induction us with
  | nil => rfl
  | cons u rest ih =>
    cases hb : (userOk c ty force e u && wasNotified npu ty u) <;> simp [userLoop, hstep, ih, hb]

theorem userLoop_delivered_ok (c : Cfg) (ty : NType) (force rem : Bool) (e : Env) :
    ∀ (us : List UEnv) (npu : List Nat) (lns : Nat → Option Nat) (uid : Nat),
      uid ∈ (userLoop c ty force rem e npu lns us).2.2 → ∃ u ∈ us, u.id = uid ∧ userOk c ty force e u = true := by
  intro us
  induction us with
  | nil => intro npu lns uid h; simp [userLoop] at h
  | cons u rest ih =>
    intro npu lns uid h
    simp only [userLoop] at h
    cases hf : (userStep c ty force rem e npu lns u).2.2
    · simp only [hf, Bool.false_eq_true, if_false] at h
      obtain ⟨v, hv, h1, h2⟩ := ih _ _ _ h
      exact ⟨v, List.mem_cons_of_mem _ hv, h1, h2⟩
    · simp only [hf, if_true, List.mem_cons] at h
      rcases h with h | h
      · refine ⟨u, by simp, h.symm, ?_⟩
        rw [userStep_flag] at hf
        simp only [Bool.and_eq_true] at hf
        exact hf.1.1
      · obtain ⟨v, hv, h1, h2⟩ := ih _ _ _ h
        exact ⟨v, List.mem_cons_of_mem _ hv, h1, h2⟩

theorem userStep_npu (c : Cfg) (ty : NType) (force rem : Bool) (e : Env) (npu : List Nat) (lns : Nat → Option Nat) (u : UEnv) :
    ∀ x ∈ (userStep c ty force rem e npu lns u).1, x ∈ npu ∨ (x = u.id ∧ (userStep c ty force rem e npu lns u).2.2 = true) := by
  unfold userStep
  cases (userOk c ty force e u && wasNotified npu ty u && !isDup lns ty rem e u)
  · exact fun x hx => .inl hx
  · cases (ty == NType.problem)
    · exact fun x hx => .inl hx
    · cases npu.contains u.id
      · intro x hx
        rcases List.mem_append.mp hx with h | h
        · exact .inl h
        · exact .inr ⟨List.mem_singleton.mp h, rfl⟩
      · exact fun x hx => .inl hx

theorem userLoop_npu (c : Cfg) (ty : NType) (force rem : Bool) (e : Env) :
    ∀ (us : List UEnv) (npu : List Nat) (lns : Nat → Option Nat),
      ∀ x ∈ (userLoop c ty force rem e npu lns us).1, x ∈ npu ∨ x ∈ (userLoop c ty force rem e npu lns us).2.2 := by
  intro us
  induction us with
  | nil => intro npu lns x hx; simp only [userLoop] at hx; exact Or.inl hx
  | cons u rest ih =>
    intro npu lns x hx
    simp only [userLoop] at hx ⊢
    rcases ih _ _ x hx with h | h
    · rcases userStep_npu c ty force rem e npu lns u x h with h | ⟨h1, h2⟩
      · exact Or.inl h
      · right; simp [h2, h1]
    · right
      cases (userStep c ty force rem e npu lns u).2.2 <;> simp [h]

/-- The state after the unconditional first step of `BeginExecuteNotification` (notification.cpp:236-241). -/
def pre (s : St) (ty : NType) : St := if ty == .recovery then { s with lns := fun _ => none } else s

theorem pre_eq (s : St) (ty : NType) :
    pre s ty = { s with lns := if ty == .recovery then fun _ => none else s.lns } := by
  unfold pre
  cases (ty == NType.recovery) <;> rfl

theorem pre_of_ne (s : St) (ty : NType) (h : ty ≠ .recovery) : pre s ty = s := by
  unfold pre; rw [if_neg (by simpa using h)]

/-- The users a call that no guard stops queues a command for.  A proof that needs the loop's attributes beside them
    (`passedResult_npu`, `_lns`) unfolds this, so that one rewrite of the loop term serves both. -/
def passedUsers (c : Cfg) (s : St) (ty : NType) (force rem : Bool) (e : Env) : List Nat :=
  (userLoop c ty force rem e s.npu (pre s ty).lns e.users).2.2

/-- What a call returns that no guard stops: the bookkeeping of notification.cpp:387-404 on `pre s ty`, the attributes as
    the users' loop leaves them, and the event with the users a command was queued for. -/
def passedResult (c : Cfg) (s : St) (ty : NType) (force rem : Bool) (e : Env) : St × Option Event :=
  let r := userLoop c ty force rem e s.npu (pre s ty).lns e.users
  ({ book c (pre s ty) ty e with npu := if ty == .recovery then [] else r.1, lns := r.2.1 },
   some ⟨ty, rem, true, force, r.2.2⟩)

theorem passedResult_event (c : Cfg) (s : St) (ty : NType) (force rem : Bool) (e : Env) :
    (passedResult c s ty force rem e).2 = some ⟨ty, rem, true, force, passedUsers c s ty force rem e⟩ := rfl

theorem passedResult_npu (c : Cfg) (s : St) (ty : NType) (force rem : Bool) (e : Env) :
    (passedResult c s ty force rem e).1.npu =
      if ty == .recovery then [] else (userLoop c ty force rem e s.npu (pre s ty).lns e.users).1 := rfl

theorem passedResult_lns (c : Cfg) (s : St) (ty : NType) (force rem : Bool) (e : Env) :
    (passedResult c s ty force rem e).1.lns = (userLoop c ty force rem e s.npu (pre s ty).lns e.users).2.1 := rfl

/-- What a call that passes does to the reminder's schedule (notification.cpp:394-400). -/
theorem passedResult_sched (c : Cfg) (s : St) (ty : NType) (force rem : Bool) (e : Env) :
    (passedResult c s ty force rem e).1.next =
      (if ty == .problem && decide (c.interval > 0) then e.now + c.interval else s.next) ∧
    (passedResult c s ty force rem e).1.noMore =
      (if ty == .problem && decide (c.interval ≤ 0) then true else if ty != .custom then false else s.noMore) := by
  simp only [passedResult, book, pre_eq, and_self]

theorem beforeBegin_iff (c : Cfg) (e : Env) :
    beforeBegin c e = true ↔ ∃ b, c.tbegin = some b ∧ 0 ≤ b ∧ e.now < e.lhsc + b := by
  unfold beforeBegin
  rcases c.tbegin with _ | b
  · simp
  · simp

def stopped (c : Cfg) (ty : NType) (force : Bool) (e : Env) : Bool :=
  gPeriod force e || gBegin c ty force e || gEnd c ty force e || gType c ty force || gState c ty force e

structure Passes (c : Cfg) (ty : NType) (force : Bool) (e : Env) : Prop where
  period : gPeriod force e = false
  tbegin : gBegin c ty force e = false
  tend : gEnd c ty force e = false
  type : gType c ty force = false
  state : gState c ty force e = false

theorem passes {c : Cfg} {ty : NType} {force : Bool} {e : Env} (h : stopped c ty force e = false) : Passes c ty force e := by
  simp only [stopped, Bool.or_eq_false_iff] at h
  exact ⟨h.1.1.1.1, h.1.1.1.2, h.1.1.2, h.1.2, h.2⟩

theorem beginExec_eq (c : Cfg) (s : St) (ty : NType) (force rem : Bool) (e : Env) :
    beginExec c s ty force rem e =
      if gPeriod force e then ({ pre s ty with sup := stashSup (pre s ty).sup ty rem }, filteredEv ty rem force)
      else if gBegin c ty force e then
        ({ pre s ty with next := e.lhsc + c.tbegin.getD 0 + 1, noMore := false }, filteredEv ty rem force)
      else if gEnd c ty force e then (pre s ty, filteredEv ty rem force)
      else if gType c ty force then
        ({ pre s ty with noMore := if ty == .recovery && decide (c.interval ≤ 0) then false else (pre s ty).noMore,
                         npu := if ty == .recovery then [] else (pre s ty).npu },
         filteredEv ty rem force)
      else if gState c ty force e then (pre s ty, filteredEv ty rem force)
      else passedResult c s ty force rem e := by
  unfold beginExec passedResult pre
  cases (ty == NType.recovery) <;> rfl

theorem beginExec_passed {c : Cfg} {ty : NType} {force : Bool} {e : Env} (h : stopped c ty force e = false)
    (s : St) (rem : Bool) : beginExec c s ty force rem e = passedResult c s ty force rem e := by
  have p := passes h
  simp only [beginExec_eq, p.period, p.tbegin, p.tend, p.type, p.state, Bool.false_eq_true, if_false]

/-- A call that stops at a guard shows nothing but a Recovery's "not passed".  Beyond the first step (`pre`) it changes
    no per-user attribute, except that a Recovery discarded by the type filter (i.e. not withheld by the period) clears
    `notified_problem_users` (cec0506).  The reminder's schedule is touched only by the `times.begin` guard and, in
    `no_more_notifications`, by a Recovery (notification.cpp:341-342). -/
structure Stops (c : Cfg) (s : St) (ty : NType) (force rem : Bool) (e : Env) : Prop where
  event : (ty ≠ .recovery ∧ (beginExec c s ty force rem e).2 = none) ∨
    (ty = .recovery ∧ (beginExec c s ty force rem e).2 = some ⟨.recovery, rem, false, force, []⟩)
  npu : (beginExec c s ty force rem e).1.npu = (if ty == .recovery && !gPeriod force e then [] else s.npu)
  lns : (beginExec c s ty force rem e).1.lns = (pre s ty).lns
  next : gBegin c ty force e = false → (beginExec c s ty force rem e).1.next = s.next
  noMore : gBegin c ty force e = false → ty ≠ .recovery → (beginExec c s ty force rem e).1.noMore = s.noMore

theorem beginExec_stopped {c : Cfg} {ty : NType} {force : Bool} {e : Env} (h : stopped c ty force e = true)
    (s : St) (rem : Bool) : Stops c s ty force rem e := by
  -- `key`: the fields as they stand, the first one as `filteredEv`.  By the normal form `beginExec_eq`, guard by guard:
  -- each stopping branch is a record over `pre s ty`, and a guard that concerns Problem only excludes a Recovery
  suffices key : (beginExec c s ty force rem e).2 = filteredEv ty rem force ∧ _ ∧ _ ∧ _ ∧ _ by
    obtain ⟨hev, hnpu, hlns, hnext, hnoMore⟩ := key
    refine ⟨?_, hnpu, hlns, hnext, hnoMore⟩
    rw [hev]; unfold filteredEv
    by_cases hr : ty = .recovery
    · subst hr; exact .inr ⟨rfl, rfl⟩
    · exact .inl ⟨hr, if_neg (by simpa using hr)⟩
  have hprob : ∀ {b : Bool}, (!force && ty == NType.problem && b) = true → (ty == NType.recovery) = false := by
    intro b hb
    simp only [Bool.and_eq_true, beq_iff_eq] at hb
    rw [hb.1.2]; rfl
  rw [beginExec_eq, pre_eq]
  cases h1 : gPeriod force e
  · cases h2 : gBegin c ty force e
    · cases h3 : gEnd c ty force e
      · cases h4 : gType c ty force
        · cases h5 : gState c ty force e
          · simp [stopped, h1, h2, h3, h4, h5] at h
          · simp [hprob h5]
        · refine ⟨rfl, by simp, rfl, fun _ => rfl, fun _ hne => ?_⟩
          have : (ty == NType.recovery) = false := beq_false_of_ne hne
          simp [this]
      · simp [hprob h3]
    · simp [hprob h2]
  · simp

theorem beginExec_shows {c : Cfg} {s : St} {ty : NType} {force rem : Bool} {e : Env} {ev : Event}
    (h : (beginExec c s ty force rem e).2 = some ev) :
    (stopped c ty force e = false ∧ ev = ⟨ty, rem, true, force, passedUsers c s ty force rem e⟩) ∨
    (ty = .recovery ∧ ev = ⟨.recovery, rem, false, force, []⟩) := by
  cases hs : stopped c ty force e
  · rw [beginExec_passed hs, passedResult_event] at h
    cases h; exact .inl ⟨rfl, rfl⟩
  · rcases (beginExec_stopped hs s rem).event with ⟨_, h'⟩ | ⟨hre, h'⟩ <;> rw [h'] at h <;> cases h
    exact .inr ⟨hre, rfl⟩

theorem beginExec_event {c : Cfg} {s : St} {ty : NType} {force rem : Bool} {e : Env} {ev : Event}
    (h : (beginExec c s ty force rem e).2 = some ev) : ev.ty = ty ∧ ev.reminder = rem ∧ ev.force = force := by
  rcases beginExec_shows h with ⟨-, rfl⟩ | ⟨rfl, rfl⟩
  · exact ⟨rfl, rfl, rfl⟩
  · exact ⟨rfl, rfl, rfl⟩

theorem beginExec_stash (c : Cfg) (s : St) (ty : NType) (force rem : Bool) (e : Env) :
    (beginExec c s ty force rem e).1.stash = s.stash := by
  -- the projection goes through the chain of guards, and every branch leaves the attribute alone
  simp only [beginExec_eq, apply_ite Prod.fst, apply_ite St.stash, passedResult, book, pre_eq, ite_self]

/-- Only a call that the closed period stops touches `suppressed_notifications` (notification.cpp:253-283). -/
theorem beginExec_sup (c : Cfg) (s : St) (ty : NType) (force rem : Bool) (e : Env) :
    (beginExec c s ty force rem e).1.sup = (if gPeriod force e then stashSup s.sup ty rem else s.sup) := by
  simp only [beginExec_eq, apply_ite Prod.fst, apply_ite St.sup, passedResult, book, pre_eq, ite_self]

end Icinga.C03
