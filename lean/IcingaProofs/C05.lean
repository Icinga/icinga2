/-
  C05 — property theorems.  Every `theorem` in this file is a proof obligation of the check.

  One sentence of the property is FALSE of the code, hence of the faithful model (known finding F-C05c);
  it is carried as `started_partial` + `started_counterexample`:

    every triggered downtime has been started (full, false):
      ∀ ops d, d ∈ (run …).dts → d.trigger ≠ 0 → d.starts ≥ 1

  It fails for fixed downtimes only: the specification's clauses `fixed_started_when_triggered` and
  `fixed_end_has_start` are the ones `model_trace_meets_spec_partial` leaves out; `started_when_triggered`
  (flexible downtimes) and `end_has_start` are proved.

  F-C05a (start timer at `now = end_time`), F-C05b (flexible downtime on a never-checked checkable) and
  F-C05e (trigger time recorded before `start_time`) are repaired in /repo (eead572, 40d44b0, 2efb740);
  `start_once`, `flexible_trigger` and `trigger_not_before_start` are full theorems.
-/
import IcingaProofs.C05.Whole
import IcingaProofs.C05.SourceTie

namespace Icinga.C05

/-- **in_downtime_iff.**  The checkable is in downtime at `now` exactly when some downtime attached to
    it (not removed) is in effect by its window. -/
theorem in_downtime_iff (now : Int) (dts : List Dt) :
    inDowntime now dts = true ↔ ∃ d ∈ dts, d.removed = false ∧ InWindow now d := by
  unfold inDowntime
  simp only [List.any_eq_true, Bool.and_eq_true, Bool.not_eq_eq_eq_not, Bool.not_true, isInEffect_iff]

/-- **in_downtime_iff_run.**  In every state reached by a well-formed run, at every instant `now` not before
    the last operation: the checkable is in downtime exactly when some existing downtime is fixed with
    `start ≤ now < end`, or flexible, has taken effect at some `trigger ≤ now` and `now < trigger + duration`
    (the lower bound `trigger ≤ now` is not part of `IsInEffect`; it holds of reachable states). -/
theorem in_downtime_iff_run (k : Kind) (ops : List Op) (hw : WF 990 ops) (now : Int)
    (hnow : endTime 990 ops ≤ now) :
    inDowntime now (run (initSt k) ops).dts = true ↔
      ∃ d ∈ (run (initSt k) ops).dts, d.removed = false ∧
        ((d.fixed = true ∧ d.start ≤ now ∧ now < d.fin) ∨
         (d.fixed = false ∧ 0 < d.trigger ∧ d.trigger ≤ now ∧ now < d.trigger + d.duration)) := by
  have h := linv_run (linv_init k) hw
  rw [in_downtime_iff]
  exact exists_congr fun d => and_congr_right fun hd => and_congr_right fun _ => (h.life hd).inWindow_iff hnow

/-- **depth_eq_count.**  The downtime depth is the number of downtimes in effect, and the checkable is
    in downtime iff the depth is positive. -/
theorem depth_eq_count (now : Int) (dts : List Dt) :
    depth now dts = (dts.filter (fun d => !d.removed && isInEffect now d)).length ∧
    (inDowntime now dts = true ↔ 0 < depth now dts) := by
  refine ⟨rfl, ?_⟩
  unfold inDowntime depth
  rw [List.length_pos_iff_exists_mem]
  simp only [List.any_eq_true, List.mem_filter]

/-- **trigger_write_once.**  Across any operation, every downtime is still in the list under its id, and
    a trigger time that is set (≠ 0) is unchanged. -/
theorem trigger_write_once (st : St) (op : Op) (d : Dt) (hd : d ∈ st.dts) (ht : d.trigger ≠ 0) :
    ∃ d' ∈ (step st op).1.dts, d'.id = d.id ∧ d'.trigger = d.trigger := by
  obtain ⟨d', hm, r⟩ := step_succ (pw_stepFrame st op) d hd
  exact ⟨d', hm, r.id, r.once ht⟩

/-- … and therefore over every operation sequence. -/
theorem trigger_write_once_run (ops : List Op) (st : St) (d : Dt) (hd : d ∈ st.dts) (ht : d.trigger ≠ 0) :
    ∃ d' ∈ (run st ops).dts, d'.id = d.id ∧ d'.trigger = d.trigger := by
  refine run_inv (P := fun st => ∃ d' ∈ st.dts, d'.id = d.id ∧ d'.trigger = d.trigger) (fun st op ⟨d1, h1, hid, htr⟩ => ?_)
    ops st ⟨d, hd, rfl, rfl⟩
  obtain ⟨d2, h2, hid2, htr2⟩ := trigger_write_once st op d1 h1 (htr ▸ ht)
  exact ⟨d2, h2, hid2.trans hid, htr2.trans htr⟩

/-- **trigger_only_in_window.**  A downtime that is untriggered before an operation at `now` and
    triggered after it has `start ≤ now ≤ end`, a fixed one `now < end` — it never triggers before its window
    or after its end (an untriggered downtime is expired exactly when `end < now`).  The freshly created
    downtime of an `add` obeys the same rule. -/
theorem trigger_only_in_window (st : St) (op : Op) (d' : Dt) (hd' : d' ∈ (step st op).1.dts)
    (ht : d'.trigger ≠ 0) :
    (∃ d ∈ st.dts, d.id = d'.id ∧
        (d.trigger = 0 → d.start ≤ op.now ∧ op.now ≤ d.fin ∧ (d.fixed = true → op.now < d.fin)) ∧
        (d.trigger ≠ 0 → d'.trigger = d.trigger)) ∨
    (∃ p, op = .add p op.now ∧ d'.id = p.id ∧ p.start ≤ op.now ∧ op.now ≤ p.fin ∧
        (p.fixed = true → op.now < p.fin)) := by
  rcases step_pred (pw_stepFrame st op) d' hd' with ⟨d, hd, r⟩ | ⟨p, now, rfl, _, r⟩
  · left
    exact ⟨d, hd, r.id.symm, fun h0 => r.window h0 ht, r.once⟩
  · right
    exact ⟨p, rfl, r.id, r.window rfl ht⟩

/-- **trigger_cascade.**  When `TriggerDowntime(t)` (`0 < t`) is called on a downtime `d` that can be
    triggered, then for every name `c` in `d.triggers` that denotes an existing downtime there is,
    afterwards, an existing downtime `c` that is triggered (`trigger ≠ 0`) or cannot be triggered at
    `now` (outside `[start, end]`, expired, or already in effect).  `n + 2` is any fuel that lets the
    call and one level of recursion run; this is about the children of the downtime the call is made on —
    every level, in reachable states, is `trigger_cascade_deep`. -/
theorem trigger_cascade (n : Nat) (now t : Int) (ht : 0 < t) (id : Nat) (dts : List Dt) (d : Dt)
    (hf : findDt dts id = some d) (hc : canBeTriggered now d = true)
    (c : Nat) (hcm : c ∈ d.triggers) (x : Dt) (hx : x ∈ dts) (hl : live c x = true) :
    ∃ x' ∈ triggerDt (n + 2) now t id dts,
      x'.id = c ∧ x'.removed = false ∧ (x'.trigger ≠ 0 ∨ canBeTriggered now x' = false) :=
  cascade_children (n + 2) (Nat.le_add_left 2 n) now t ht id dts d hf hc c hcm x hx hl

/-- **trigger_cascade_deep.**  At arbitrary depth: after the last operation of any well-formed run from a
    never-checked checkable, every downtime whose `TriggerDowntime` guard was passed during that operation
    (its OnDowntimeTriggered count grew) has every downtime registered in its `triggers` that still
    exists triggered, or not triggerable at that instant — and this holds for each of those in turn.
    The fuel the model's callers pass (the number of downtimes) never runs out because `triggers` only
    name newer downtimes (`Newer`, kept by every operation). -/
theorem trigger_cascade_deep (k : Kind) (ops : List Op) (op : Op) (hw : WF 990 (ops ++ [op])) :
    ∀ q ∈ preModel (run (initSt k) ops) op, ∀ q' ∈ (step (run (initSt k) ops) op).1.dts,
      q'.id = q.id → q.trigEv < q'.trigEv →
      ∀ c ∈ q.triggers, ∀ x' ∈ (step (run (initSt k) ops) op).1.dts, x'.id = c → x'.removed = false →
        x'.trigger ≠ 0 ∨ canBeTriggered op.now x' = false :=
  let ⟨_, _, c⟩ := tinv_run_last (tinv_init k) hw
  (casc_step _ op c.wfl c.now_pos c.ok).closed

/-- **end_once.**  Over every operation sequence from a state in which it holds (in particular the
    initial one): DowntimeEnd is requested at most once per downtime, never for a downtime that still
    exists.  (The second part only spells out what a removal does to the counter: it requests DowntimeEnd
    exactly when the downtime had taken effect, `IsTriggered`, and the checkable is not paused; over runs this is
    `end_exactly_once_run`.) -/
theorem end_once (ops : List Op) (st : St) (h0 : ∀ d ∈ st.dts, PEnd d) :
    (∀ d ∈ (run st ops).dts, d.ends ≤ 1 ∧ (d.removed = false → d.ends = 0)) ∧
    (∀ now d, (removeDt now d).ends = d.ends + (if isTriggered now d && !d.quiet then 1 else 0)) := by
  constructor
  · exact run_inv (P := fun st => ∀ d ∈ st.dts, PEnd d) pend_step ops st h0
  · intro now d
    simp only [removeDt]
    split <;> simp

/-- **start_only_on_effect.**  In the last operation of every well-formed run from a never-checked checkable, a
    DowntimeStart notification request is made for a downtime (an existing one, or the one the operation creates)
    only if the downtime takes effect in that very operation: before it, it had not taken effect (`IsTriggered`
    false: no trigger time), the operation passes its `TriggerDowntime` guard (`OnDowntimeTriggered` fires),
    afterwards its trigger time is set, and the instant lies inside its window `[start, end]`.  Together with
    `start_once` and the `started_when_triggered` clause: one DowntimeStart, when it takes effect. -/
theorem start_only_on_effect (k : Kind) (ops : List Op) (op : Op) (hw : WF 990 (ops ++ [op])) :
    ∀ d ∈ preModel (run (initSt k) ops) op, ∀ d' ∈ (step (run (initSt k) ops) op).1.dts, d'.id = d.id →
      d.starts < d'.starts →
      isTriggered op.now d = false ∧ d.trigEv < d'.trigEv ∧ d'.trigger ≠ 0 ∧ d.start ≤ op.now ∧ op.now ≤ d.fin := by
  obtain ⟨T, sp, c⟩ := tinv_run_last (tinv_init k) hw
  intro d hd d' hd' hid hlt
  have a := pw_pair (fun _ _ r => r.frame.id) (pw_stepLife c.linv op c.time c.ok) (nodup_step _ op c.nodup) hd hd' hid
  obtain ⟨e1, e2, e3⟩ := a.start hlt
  have hw := a.frame.evWindow e1
  exact ⟨e2, e1, e3, hw.1, hw.2⟩

/-- **end_exactly_once_run.**  In every state reached by a well-formed run from a never-checked checkable: a
    downtime that still exists has caused no DowntimeEnd request; a downtime that is gone (removed by a user, by
    its owner, or expired) has caused exactly one if it had taken effect (its trigger time was set — and, in a
    well-formed run, reached) and the checkable was not paused when it went, and none otherwise. -/
theorem end_exactly_once_run (k : Kind) (ops : List Op) (hw : WF 990 ops) :
    ∀ d ∈ (run (initSt k) ops).dts,
      (d.removed = false → d.ends = 0) ∧
      (d.removed = true → d.ends = if 0 < d.trigger ∧ d.quiet = false then 1 else 0) :=
  have h := linv_run (linv_init k) hw
  fun _ hd => ⟨(h.life hd).ends_live, (h.life hd).ends_gone⟩

/-- **expired_removed.**  After the timers have fired at `now`, no existing downtime has a due cleanup
    timer; with the timer armed at its cleanup point (as `Resume`/`TriggerDowntime` leave it) that means
    `now` is not past the end of a fixed or never-triggered downtime, nor past `trigger + duration` of
    a triggered flexible one. -/
theorem expired_removed (st : St) (now : Int) (f : Bool) :
    ∀ d ∈ (pumpOp st now f).dts, cleanupDue now d = false ∧
      (d.removed = false → d.cleanup = some (cleanupPoint d) → now ≤ cleanupPoint d) := by
  intro d hd
  have h1 := pump_not_due st now f d hd
  refine ⟨h1, fun hr harm => ?_⟩
  simp [cleanupDue, hr, harm] at h1
  exact h1

/-- **expired_removed_run.**  Without the hypothesis on the cleanup timer: after a pump at `now` at the end of
    any well-formed run, every downtime that still exists is not over — `now ≤ end` for a fixed or
    never-triggered one, `now ≤ trigger + duration` for a triggered flexible one (the cleanup timer of
    every existing downtime is armed at its cleanup point in every reachable state: `Arm`, kept with `LInv`). -/
theorem expired_removed_run (k : Kind) (ops : List Op) (now : Int) (f : Bool)
    (hw : WF 990 (ops ++ [.pump now f])) :
    ∀ d ∈ (run (initSt k) (ops ++ [.pump now f])).dts, d.removed = false →
      ((d.fixed = true ∨ d.trigger = 0) → now ≤ d.fin) ∧
      (d.fixed = false → d.trigger ≠ 0 → now ≤ d.trigger + d.duration) := by
  have h := linv_run (linv_init k) hw
  intro d hd hr
  have harm := h.arm hd hr
  have ht0 := (h.life hd).trig.1
  rw [run_snoc] at hd
  exact not_over ht0 ((expired_removed (run (initSt k) ops) now f d hd).2 hr harm)

/-- **owner_protected.**  Removing a downtime owned by a ScheduledDowntime as a user is refused and
    changes nothing; every other removal of an existing downtime removes exactly the named one. -/
theorem owner_protected (st : St) (id : Nat) (now : Int) (d : Dt) (hf : findDt st.dts id = some d) :
    (d.owner = true → removeOp st id true now = (st, 2)) ∧
    (∀ byUser, (d.owner && byUser) = false →
        removeOp st id byUser now = ({ st with dts := updateDt st.dts id (removeDt now) }, 1)) :=
  ⟨fun ho => step_remove_refused hf (by rw [ho]; rfl), fun _ hu => step_remove_ok hf hu⟩

/-- **start_once.**  Over every well-formed operation sequence from a never-checked checkable, every
    downtime causes at most one DowntimeStart notification request. -/
theorem start_once (k : Kind) (ops : List Op) (hw : WF 990 ops) :
    ∀ d ∈ (run (initSt k) ops).dts, d.starts ≤ 1 := by
  exact fun _ hd => ((linv_run (linv_init k) hw).life hd).starts_le

/-- F-C05d: a flexible downtime, two non-OK results whose execution end (1010, 1011) lies after the
    processing time (1005, 1006). -/
def ceFutureResult : List Op :=
  [.result 0 1000 1000, .add ⟨1, false, 1000, 1030, 5, 0, false⟩ 1001, .result 2 1010 1005, .result 2 1011 1006]

/-- **start_once_future_counterexample.**  The hypothesis of `start_once` that a check result's execution end
    is not later than its processing time (`WF`: `te ≤ now`) cannot be dropped: with the checker's clock
    ahead the trigger time lies in the future, the downtime is not yet `IsTriggered`, and the next non-OK
    result requests DowntimeStart again (known finding F-C05d; the trigger time itself is kept). -/
theorem start_once_future_counterexample :
    ¬ WF 990 ceFutureResult ∧
    (∃ d ∈ (run (initSt .service) ceFutureResult).dts, d.starts = 2 ∧ d.trigger = 1010) := by
  constructor
  · decide +kernel
  · decide +kernel

/-- **started_partial.**  What the two primitive updates do to the DowntimeStart counter of one downtime on an
    unpaused checkable (no run is involved): its own start (`Downtime::Start` of a fixed downtime inside its
    window, the start timer) requests DowntimeStart, `TriggerDowntime` requests it for a flexible downtime and
    not — exactly F-C05c — for a *fixed* one (non-OK result, trigger chain).  (While the checkable is paused no
    notification is requested at all: `paused_requests_nothing`.)  The statement over runs is
    `flexible_started_run`. -/
theorem started_partial (t : Int) (d : Dt) (hq : d.quiet = false) :
    (startSelf d).starts = (if d.fixed then d.starts + 1 else d.starts + 1) ∧
    (d.fixed = false → (trigSelf t d).starts = d.starts + 1) ∧
    (d.fixed = true → (trigSelf t d).starts = d.starts) := by
  refine ⟨?_, ?_, ?_⟩
  · rw [startSelf_eq]; simp [hq]
  · intro hf; rw [trigSelf_eq]; simp [hf, hq]
  · intro hf; rw [trigSelf_eq]; simp [hf]

/-- **paused_requests_nothing.**  While the checkable is paused (`quiet`, the mirror of
    `GetCheckable()->IsPaused()` kept equal to the checkable's flag on every existing downtime: `QInv`),
    neither taking effect nor ending requests a notification; the signals still fire. -/
theorem paused_requests_nothing (now t : Int) (d : Dt) (hq : d.quiet = true) :
    (trigSelf t d).starts = d.starts ∧ (startSelf d).starts = d.starts ∧ (removeDt now d).ends = d.ends ∧
    (trigSelf t d).trigEv = d.trigEv + 1 ∧ (removeDt now d).remEv = d.remEv + 1 := by
  refine ⟨?_, ?_, ?_, ?_, rfl⟩
  · rw [trigSelf_eq]; simp [hq]
  · rw [startSelf_eq]; simp [hq]
  · simp [removeDt, hq]
  · rw [trigSelf_eq]

/-- F-C05c: fixed downtime created before its window, non-OK result inside it before the start timer. -/
def ceNeverStarted : List Op :=
  [.result 0 1000 1000, .add ⟨1, true, 1010, 1020, 0, 0, false⟩ 1000, .result 2 1011 1011, .pump 1012 true,
   .remove 1 true 1017]

/-- **started_counterexample.**  "A downtime that has taken effect has caused a DowntimeStart request"
    is false of the model: the downtime is triggered, never started, and DowntimeEnd is requested. -/
theorem started_counterexample :
    ¬ (∀ ops, ∀ d ∈ (run (initSt .service) ops).dts, d.trigger ≠ 0 → d.starts ≥ 1) ∧
    (∃ d ∈ (run (initSt .service) ceNeverStarted).dts, d.starts = 0 ∧ d.ends = 1) := by
  constructor
  · intro h
    have := h ceNeverStarted
    revert this
    decide +kernel
  · decide +kernel

/-- **flexible_started_run.**  In every state reached by a well-formed run from a never-checked checkable in which
    the checkable is never paused, a flexible downtime has caused exactly one DowntimeStart notification request if
    it has taken effect (its trigger time is set), and none otherwise.  (The run-level form of `started_partial`
    for flexible downtimes; for fixed ones the statement is false of the code: `started_counterexample`.) -/
theorem flexible_started_run (k : Kind) (ops : List Op) (hw : WF 990 ops) (hnp : ∀ op ∈ ops, noPause op = true) :
    ∀ d ∈ (run (initSt k) ops).dts, d.fixed = false →
      (d.trigger ≠ 0 → d.starts = 1) ∧ (d.trigger = 0 → d.starts = 0) := by
  have h := linv_run (linv_init k) hw
  have hn := np_run ops (initSt k) ⟨rfl, fun d hd => by simp [initSt] at hd⟩ hnp
  intro d hd hf
  have l := h.life hd
  constructor
  · intro ht
    have := (hn.2 d hd).2 hf ht
    have := l.starts_le
    omega
  · exact fun ht => (l.untriggered ht).2

/-- **flexible_trigger.**  A flexible downtime takes effect at the first non-OK result, or on an already
    existing problem, inside `[start, end]`:
    (a) without a problem — a check result whose state is not OK (the second part unfolds that notion) —
        `Downtime::Start` triggers nothing (that it does trigger on a problem is part of
        `model_trace_meets_spec_partial`, clause `flexible_trigger`);
    (b) an OK (or dropped) result triggers nothing;
    (c) an accepted non-OK result at `now` triggers every existing, not yet triggered flexible downtime
        with `start ≤ now ≤ end`, with the result's execution end — or `start_time`, if the result was executed
        before it (2efb740) — as trigger time (ids are unique among the checkable's downtimes). -/
theorem flexible_trigger (st : St) (now : Int) :
    (∀ d dts, st.problem = false → startFlexible st now d dts = dts) ∧
    (st.problem = true ↔ (st.lastExec.isSome = true ∧ isOK st.kind st.state = false)) ∧
    (∀ s te, isOK st.kind s = true → (resultOp st s te now).1.dts = st.dts) ∧
    (∀ s te, stale st te now = false → isOK st.kind s = false → 0 < te →
      ∀ d ∈ st.dts, (∀ y ∈ st.dts, y.id = d.id → y = d) →
        d.removed = false → d.fixed = false → d.trigger = 0 → d.start ≤ now → now ≤ d.fin →
        ∃ d' ∈ (resultOp st s te now).1.dts, d'.id = d.id ∧ d'.removed = false ∧ d'.trigger = max te d.start) := by
  refine ⟨?_, ?_, ?_, fun s te => result_triggers_flexible st now s te⟩
  · intro d dts h; simp [startFlexible, h]
  · simp [St.problem]
  · intro s te hok
    unfold resultOp
    split <;> simp [hok]

/-- **flexible_trigger_exact.**  In every state reached by a well-formed run, an accepted non-OK result at
    `now` triggers every existing, not yet triggered flexible downtime with `start ≤ now ≤ end`, and its
    trigger time is exactly `max(execution end, start_time)` (no uniqueness hypothesis: ids are unique in
    reachable states, so the downtime is identified by its id). -/
theorem flexible_trigger_exact (k : Kind) (ops : List Op) (hw : WF 990 ops) (s : Nat) (te now : Int)
    (hs : stale (run (initSt k) ops) te now = false) (hok : isOK (run (initSt k) ops).kind s = false)
    (hte : 0 < te) :
    ∀ d ∈ (run (initSt k) ops).dts, d.removed = false → d.fixed = false → d.trigger = 0 →
      d.start ≤ now → now ≤ d.fin →
      ∃ d' ∈ (resultOp (run (initSt k) ops) s te now).1.dts, d'.id = d.id ∧ d'.removed = false ∧
        d'.trigger = max te d.start ∧ ∀ y ∈ (resultOp (run (initSt k) ops) s te now).1.dts, y.id = d.id → y = d' := by
  obtain ⟨sp, h⟩ := tinv_run_at (tinv_init k) hw
  intro d hd hr hf h0 h1 h2
  obtain ⟨d', hd', hid, hr', ht⟩ := result_triggers_flexible (run (initSt k) ops) now s te hs hok hte d hd
    (fun y hy hyid => eq_of_id h.nodup hy hd hyid) hr hf h0 h1 h2
  refine ⟨d', hd', hid, hr', ht, ?_⟩
  intro y hy hyid
  exact eq_of_id (nodup_step (run (initSt k) ops) (.result s te now) h.nodup) hy hd' (by rw [hyid, hid])

/-- **trigger_not_before_start** (F-C05e, repaired by 2efb740).  Over every operation sequence (no
    well-formedness needed) from a state in which it holds — in particular the initial one —, the trigger
    time a downtime records is never before its own `start_time`: `TriggerDowntime` clamps the time it is given
    (execution end of the result, trigger time of the root of a chain) to the start of the downtime it is called
    on, so a chained downtime whose window begins later than its trigger downtime took effect records its own
    `start_time`. -/
theorem trigger_not_before_start (ops : List Op) (st : St)
    (h0 : ∀ d ∈ st.dts, d.trigger ≠ 0 → d.start ≤ d.trigger) :
    ∀ d ∈ (run st ops).dts, d.trigger ≠ 0 → d.start ≤ d.trigger := by
  refine run_inv (P := fun st => ∀ d ∈ st.dts, d.trigger ≠ 0 → d.start ≤ d.trigger) (fun st op h0 d' hd' ht => ?_) ops st h0
  rcases step_pred (pw_stepFrame st op) d' hd' with ⟨d, hd, r⟩ | ⟨p, _, _, _, r⟩
  · by_cases hz : d.trigger = 0
    · rw [r.start]; exact r.lower hz ht
    · rw [r.once hz, r.start]; exact h0 d hd hz
  · rw [r.start]; exact r.lower rfl ht

/-- The F-C05e scenario: flexible downtime [1010, 1030] of 5 s; a CRITICAL result executed at 1004 is
    processed at 1010. -/
def ceEarlyResult : List Op :=
  [.result 0 1000 1000, .add ⟨1, false, 1010, 1030, 5, 0, false⟩ 1001, .result 2 1004 1010]

/-- It takes effect at its `start_time` (2efb740), the checkable is in downtime, and the whole specification
    holds; and a chained downtime whose window begins after its trigger downtime took effect records its own start. -/
example : WF 990 ceEarlyResult ∧
    ((run (initSt .service) ceEarlyResult).dts.map (fun d => (d.trigger, d.starts))) = [(1010, 1)] ∧
    depth 1010 (run (initSt .service) ceEarlyResult).dts = 1 ∧
    specTrace (specInit .service) (trace (initSt .service) ceEarlyResult) = none := by decide +kernel

example : ((run (initSt .host) [.result 0 1000 1000, .add ⟨1, true, 1000, 1030, 0, 0, false⟩ 995,
    .add ⟨2, false, 1003, 1030, 20, 1, false⟩ 996, .pump 1004 true]).dts.map (fun d => (d.id, d.trigger))) =
    [(1, 1000), (2, 1003)] := by decide +kernel

/-- **model_trace_meets_spec_partial.**  For every well-formed operation sequence (the clock does not run
    backwards, check results carry an execution end in `(0, now]`, durations are not negative) from a
    never-checked checkable, the trace of the model — operations with the model's own observations —
    satisfies the executable specification, evaluated through the specification's own bookkeeping, on
    every clause except the two that are false of the code (`coreMask`, IcingaProofs/C05/Whole.lean):
    existence, dropped result, in-downtime iff, depth, trigger write-once, trigger only in window,
    flexible trigger (exact time), trigger cascade, start once, DowntimeStart for every flexible downtime
    that took effect (`started_when_triggered`), fixed started in window, end once, no DowntimeEnd of a
    flexible downtime without its DowntimeStart (`end_has_start`), removed event, expired removed, owner
    protected, recorded trigger time not before start (`trigger_not_before_start`, F-C05e repaired by 2efb740),
    DowntimeStart only in the operation in which the downtime takes effect (`start_only_on_effect`).
    The full statement `specTrace (specInit k) (trace (initSt k) ops) = none` is false of the code: F-C05c
    violates `fixed_started_when_triggered` and `fixed_end_has_start` (see `started_counterexample`). -/
theorem model_trace_meets_spec_partial (k : Kind) (ops : List Op) (hw : WF 990 ops) :
    specTraceM coreMask (specInit k) (trace (initSt k) ops) = none :=
  (trace_core (tinv_init k) hw).1

/-- **guards_match_source.**  The four functions that gen/c05_guards.py translates, on every run of the check, from
    the bodies of `Downtime::IsTriggered`, `IsInEffect`, `IsExpired` and `CanBeTriggered` in lib/icinga/downtime.cpp
    (IcingaProofs/Gen/DowntimeGuards.lean) are equal, at every instant and for every downtime, to the hand-written
    predicates of the model that all the theorems of this file are about.  (Times are integers on both sides.) -/
theorem guards_match_source (now : Int) (d : Dt) :
    Icinga.Gen.DowntimeGuards.isTriggeredSrc now d = isTriggered now d ∧
    Icinga.Gen.DowntimeGuards.isInEffectSrc now d = isInEffect now d ∧
    Icinga.Gen.DowntimeGuards.isExpiredSrc now d = isExpired now d ∧
    Icinga.Gen.DowntimeGuards.canBeTriggeredSrc now d = canBeTriggered now d :=
  ⟨isTriggered_src now d, isInEffect_src now d, isExpired_src now d, canBeTriggered_src now d⟩

/-- … and they are not trivial: at 1015 the translated predicates tell a fixed downtime [1010, 1020) triggered at
    1010 in effect and not triggerable, and the same downtime at 1020 neither in effect nor expired. -/
example :
    let d : Dt := { (default : Dt) with fixed := true, start := 1010, fin := 1020, trigger := 1010 }
    Icinga.Gen.DowntimeGuards.isInEffectSrc 1015 d = true ∧ Icinga.Gen.DowntimeGuards.canBeTriggeredSrc 1015 d = false ∧
    Icinga.Gen.DowntimeGuards.isInEffectSrc 1020 d = false ∧ Icinga.Gen.DowntimeGuards.isExpiredSrc 1020 d = false ∧
    Icinga.Gen.DowntimeGuards.isExpiredSrc 1021 d = true := by decide +kernel

/-- A chained scenario: d1 fixed, d2 flexible chained to d1; the start timer at 1010 triggers both. -/
def exampleOps : List Op :=
  [.result 0 1000 1000, .add ⟨1, true, 1010, 1020, 0, 0, false⟩ 1000, .add ⟨2, false, 1010, 1020, 3, 1, true⟩ 1000,
   .pump 1010 true]

example : ((run (initSt .host) exampleOps).dts.map (fun d => (d.id, d.trigger, d.starts, d.triggers))) =
    [(1, 1010, 1, [2]), (2, 1010, 1, [])] := by decide +kernel

/-- `trigger_write_once` / `trigger_only_in_window`: their hypotheses are met on a non-trivial state. -/
example : ∃ d ∈ (run (initSt .host) exampleOps).dts, d.trigger ≠ 0 ∧ d.fixed = false := by decide +kernel

/-- `trigger_cascade`: before the pump at 1010, d1 can be triggered and has the existing d2 chained to it. -/
example : ∃ d, findDt (run (initSt .host) (exampleOps.take 3)).dts 1 = some d ∧ canBeTriggered 1010 d = true ∧
    2 ∈ d.triggers ∧ ∃ x ∈ (run (initSt .host) (exampleOps.take 3)).dts, live 2 x = true := by decide +kernel

/-- `owner_protected`: an owned downtime exists and the user removal is refused. -/
example : (removeOp (run (initSt .host) exampleOps) 2 true 1011).2 = 2 := by decide +kernel

/-- `expired_removed` / `end_once`: after the pump at 1030 both downtimes are gone, each with one DowntimeEnd. -/
example : ((run (initSt .host) (exampleOps ++ [.pump 1030 true])).dts.map (fun d => (d.removed, d.ends))) =
    [(true, 1), (true, 1)] := by decide +kernel

/-- `start_once`: the chained scenario is well-formed, and at the instant `now = end` (F-C05a, repaired by
    eead572) the start timer does not start the fixed downtime again. -/
example : WF 990 (exampleOps ++ [.pump 1020 true]) := by decide +kernel

example : ((run (initSt .host) (exampleOps ++ [.pump 1020 true])).dts.map (fun d => d.starts)) = [1, 1] := by decide +kernel

/-- `flexible_trigger` (c): an untriggered flexible downtime inside its window exists before a non-OK result. -/
example : ∃ d ∈ (run (initSt .service) [.result 0 1000 1000, .add ⟨1, false, 1000, 1020, 5, 0, false⟩ 1001]).dts,
    d.fixed = false ∧ d.trigger = 0 ∧ d.removed = false ∧ d.start ≤ 1002 ∧ (1002 : Int) ≤ d.fin := by decide +kernel

/-- The specification is not vacuous: it rejects a trace whose depth is wrong … -/
example : specTrace (specInit .service)
    [(.add ⟨1, true, 1000, 1020, 0, 0, false⟩ 1001, ⟨1, 0, true, [(1, 1001)], [(1, 1, 1), (3, 1, 1)]⟩)]
    = some .depthEqCount := by decide +kernel

/-- … one whose trigger time changes … -/
example : specTrace (specInit .service)
    [(.add ⟨1, true, 1000, 1020, 0, 0, false⟩ 1001, ⟨1, 1, true, [(1, 1001)], [(1, 1, 1), (3, 1, 1)]⟩),
     (.pump 1002 true, ⟨0, 1, true, [(1, 1002)], []⟩)]
    = some .triggerWriteOnce := by decide +kernel

/-- The masked predicate of `model_trace_meets_spec_partial` is not vacuous either … -/
example : specTraceM coreMask (specInit .service)
    [(.add ⟨1, true, 1000, 1020, 0, 0, false⟩ 1001, ⟨1, 0, true, [(1, 1001)], [(1, 1, 1), (3, 1, 1)]⟩)]
    = some .depthEqCount := by decide +kernel

/-- … and the only thing it hides on the F-C05c scenario is the F-C05c clause. -/
example : specTrace (specInit .service) (trace (initSt .service) ceNeverStarted) = some .fixedStartedWhenTriggered ∧
    specTraceM coreMask (specInit .service) (trace (initSt .service) ceNeverStarted) = none := by decide +kernel

/-- `in_downtime_iff_run` / `expired_removed_run`: the chained scenario, observed at its last instant; both
    downtimes are in effect there, and after a pump at 1013 the flexible one (1010 + 3) is still there. -/
example : endTime 990 exampleOps = 1010 ∧ inDowntime 1010 (run (initSt .host) exampleOps).dts = true := by decide +kernel

example : WF 990 (exampleOps ++ [.pump 1013 true]) ∧
    ((run (initSt .host) (exampleOps ++ [.pump 1013 true])).dts.map (fun d => (d.id, d.removed))) =
      [(1, false), (2, false)] := by decide +kernel

/-- `started_when_triggered` is inside the proved mask and not vacuous: a flexible downtime that has taken
    effect without any DowntimeStart request is rejected … -/
example : specTraceM coreMask (specInit .service)
    [(.result 2 1000 1000, ⟨1, 0, false, [], []⟩),
     (.add ⟨1, false, 1000, 1020, 5, 0, false⟩ 1001, ⟨1, 1, true, [(1, 1001)], [(3, 1, 1)]⟩)]
    = some .startedWhenTriggered := by decide +kernel

/-- … and accepts the model's own trace of the chained scenario. -/
example : specTrace (specInit .host) (trace (initSt .host) (exampleOps ++ [.pump 1030 true])) = none := by decide +kernel

/-- `start_only_on_effect`: in the pump at 1010 of the chained scenario both downtimes request DowntimeStart … -/
example : ∃ d ∈ preModel (run (initSt .host) (exampleOps.take 3)) (.pump 1010 true),
    ∃ d' ∈ (step (run (initSt .host) (exampleOps.take 3)) (.pump 1010 true)).1.dts, d'.id = d.id ∧ d.starts < d'.starts := by
  decide +kernel

/-- … and the specification rejects a DowntimeStart request for a fixed downtime created before its window. -/
example : specTrace (specInit .service)
    [(.add ⟨1, true, 1010, 1020, 0, 0, false⟩ 1001, ⟨1, 0, false, [(1, 0)], [(1, 1, 1)]⟩)]
    = some .startOnlyOnEffect := by decide +kernel

/-- `end_exactly_once_run`: a downtime removed before it took effect has caused no DowntimeEnd, one removed
    after it took effect exactly one. -/
example : WF 990 [.add ⟨1, false, 1010, 1020, 5, 0, false⟩ 1000, .remove 1 true 1005] ∧
    ((run (initSt .host) [.add ⟨1, false, 1010, 1020, 5, 0, false⟩ 1000, .remove 1 true 1005]).dts.map
      (fun d => (d.removed, d.trigger, d.ends))) = [(true, 0, 0)] ∧
    ((run (initSt .host) (exampleOps ++ [.remove 1 true 1012])).dts.map (fun d => (d.id, d.removed, d.ends))) =
      [(1, true, 1), (2, false, 0)] := by decide +kernel

/-- `flexible_started_run`: a run without pausing in which a flexible downtime takes effect. -/
example : (∀ op ∈ ceEarlyResult, noPause op = true) ∧ WF 990 ceEarlyResult ∧
    ∃ d ∈ (run (initSt .service) ceEarlyResult).dts, d.fixed = false ∧ d.trigger ≠ 0 := by decide +kernel

end Icinga.C05
