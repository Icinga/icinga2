/-
  C01 — the stale filter as equations of `step` (every later `step_*` lemma is about `stepCore`, the step without the
  filter); the streak abstraction: what one step of the model does to a state that represents a streak of non-OK
  results (`Inv`) and to what a state has counted (`counted`); the refinement of the specification's
  state/attempt/event clauses (`specStep`) under the relation `Rel`, along a step and along a run.
-/
import IcingaModel.C01.Model
import IcingaModel.C01.Spec

namespace Icinga.C01

theorem step_of_stale (c : Cfg) {s : St} {r : Res} (h : stale s r = true) : step c s r = (s, .none, false) :=
  if_pos h

theorem step_of_not_stale (c : Cfg) {s : St} {r : Res} (h : stale s r = false) :
    step c s r = ((stepCore c s r).1, (stepCore c s r).2, true) :=
  if_neg (by rw [h]; nofun)

theorem obsOf_accepted (c : Cfg) (p : St × Ev × Bool) : (obsOf c p).accepted = p.2.2 := rfl

theorem stale_of_dropped {c : Cfg} {s : St} {r : Res} (h : (step c s r).2.2 = false) : stale s r = true := by
  cases hs : stale s r
  · rw [step_of_not_stale c hs] at h
    nomatch h
  · rfl

theorem stale_iff {s : St} {r : Res} :
    stale s r = true ↔ ∃ cur, s.lastExec = some cur ∧ cur ≤ r.now ∧ r.execStart < cur := by
  unfold stale
  cases s.lastExec with
  | none => simp
  | some cur => by_cases h : cur > r.now <;> simp [h] <;> omega

theorem not_stale_of_le {s : St} {r : Res} (h : ∀ cur, s.lastExec = some cur → cur ≤ r.execStart) :
    stale s r = false :=
  Bool.eq_false_iff.mpr fun hs =>
    have ⟨cur, hl, _, hlt⟩ := stale_iff.mp hs
    Int.not_le.mpr hlt (h cur hl)

theorem mayDrop_of_stale {s : St} {r : Res} (h : stale s r = true) : mayDrop s.lastExec r.execStart = true := by
  obtain ⟨cur, hl, _, hlt⟩ := stale_iff.mp h
  rw [hl]
  exact decide_eq_true hlt

/-- `Inv c s n`: concrete state `s` represents a streak of `n` non-OK results after an OK/Up. -/
def Inv (c : Cfg) (s : St) (n : Nat) : Prop :=
  (n = 0 → isOK c.kind s.state = true ∧ s.stype = .hard ∧ s.attempt = 1) ∧
  (0 < n → n < c.max → isOK c.kind s.state = false ∧ s.stype = .soft ∧ s.attempt = n) ∧
  (0 < n → c.max ≤ n → isOK c.kind s.state = false ∧ s.stype = .hard ∧ s.attempt = 1)

theorem inv_iff {c : Cfg} {s : St} {n : Nat} :
    Inv c s n ↔
      (n = 0 ∧ isOK c.kind s.state = true ∧ s.stype = .hard ∧ s.attempt = 1) ∨
      (0 < n ∧ n < c.max ∧ isOK c.kind s.state = false ∧ s.stype = .soft ∧ s.attempt = n) ∨
      (0 < n ∧ c.max ≤ n ∧ isOK c.kind s.state = false ∧ s.stype = .hard ∧ s.attempt = 1) := by
  constructor
  · rintro ⟨h0, h1, h2⟩
    rcases Nat.eq_zero_or_pos n with hn | hn
    · exact .inl ⟨hn, h0 hn⟩
    · rcases Nat.lt_or_ge n c.max with hlt | hge
      · exact .inr (.inl ⟨hn, hlt, h1 hn hlt⟩)
      · exact .inr (.inr ⟨hn, hge, h2 hn hge⟩)
  · rintro (⟨hn, h⟩ | ⟨hn, hlt, h⟩ | ⟨hn, hge, h⟩)
    · exact ⟨fun _ => h, fun hp => by omega, fun hp => by omega⟩
    · exact ⟨fun hz => by omega, fun _ _ => h, fun _ hge => by omega⟩
    · exact ⟨fun hz => by omega, fun _ hlt => by omega, fun _ _ => h⟩

/-- State type and attempt as the first sentence of the property words them. -/
theorem Inv.shape {c : Cfg} {s : St} {n : Nat} (hi : Inv c s n) :
    (n = 0 ∨ c.max ≤ n → s.stype = .hard ∧ s.attempt = 1) ∧
    (0 < n ∧ n < c.max → s.stype = .soft ∧ s.attempt = n) := by
  rcases inv_iff.mp hi with ⟨hn, _, h⟩ | ⟨hn, hlt, _, h⟩ | ⟨hn, hge, _, h⟩
  · exact ⟨fun _ => h, fun hp => by omega⟩
  · exact ⟨fun hp => by omega, fun _ => h⟩
  · exact ⟨fun _ => h, fun hp => by omega⟩

/-- The number of non-OK results a state stands for; `nextTypeAttempt` reads the old state through this number alone
    (`nextTypeAttempt_nonok`). -/
def counted (c : Cfg) (s : St) : Nat :=
  if isOK c.kind s.state then 0 else if s.stype = .soft then s.attempt else c.max

theorem counted_of_inv {c : Cfg} {s : St} {n : Nat} (hi : Inv c s n) : counted c s = min n c.max := by
  rcases inv_iff.mp hi with ⟨rfl, a, _⟩ | ⟨_, hlt, a, b, d⟩ | ⟨_, hge, a, b, _⟩
  · simp [counted, a]
  · simp [counted, a, b, d]; omega
  · simp [counted, a, b]; omega

theorem nextTypeAttempt_ok (c : Cfg) (s : St) {new : SState} (h : isOK c.kind new = true) :
    nextTypeAttempt c s new = (.hard, 1) :=
  if_pos h

/-- A non-OK result is one more to count: the three `if`s of `nextTypeAttempt` in one. -/
theorem nextTypeAttempt_nonok (c : Cfg) (s : St) {new : SState} (h : isOK c.kind new = false) :
    nextTypeAttempt c s new = if c.max ≤ counted c s + 1 then (.hard, 1) else (.soft, counted c s + 1) := by
  unfold nextTypeAttempt counted
  rw [h]
  cases isOK c.kind s.state <;> cases s.stype <;> simp

theorem nextTypeAttempt_inv {c : Cfg} {s : St} {n : Nat} (hi : Inv c s n) {new : SState}
    (h : isOK c.kind new = false) :
    nextTypeAttempt c s new = if c.max ≤ n + 1 then (.hard, 1) else (.soft, n + 1) := by
  rw [nextTypeAttempt_nonok c s h, counted_of_inv hi]
  by_cases hm : c.max ≤ n
  · rw [Nat.min_eq_right hm, if_pos (Nat.le_succ _), if_pos (Nat.le_succ_of_le hm)]
  · rw [Nat.min_eq_left (Nat.le_of_not_le hm)]

theorem step_ok (c : Cfg) (s : St) (r : Res) (h : isOK c.kind r.state = true) :
    Inv c (stepCore c s r).1 0 := by
  simp [Inv, stepCore, nextTypeAttempt_ok c s h, h]

theorem step_nonok (c : Cfg) (s : St) (r : Res) (n : Nat) (hi : Inv c s n)
    (h : isOK c.kind r.state = false) : Inv c (stepCore c s r).1 (n + 1) := by
  have hta : ((stepCore c s r).1.stype, (stepCore c s r).1.attempt) = _ := nextTypeAttempt_inv hi h
  refine ⟨nofun, fun _ hlt => ⟨h, ?_⟩, fun _ hge => ⟨h, ?_⟩⟩
  · rw [if_neg (Nat.not_le.mpr hlt)] at hta
    exact Prod.mk.inj hta
  · rw [if_pos hge] at hta
    exact Prod.mk.inj hta

/-- The index is the one `event_inv` uses. -/
theorem inv_step (c : Cfg) (s : St) (r : Res) (n : Nat) (hi : Inv c s n) :
    Inv c (stepCore c s r).1 (if isOK c.kind r.state then 0 else n + 1) := by
  cases hok : isOK c.kind r.state
  · exact step_nonok c s r n hi hok
  · exact step_ok c s r hok

/-- `run` without the stale-result filter (`run_eq_runCore` in C01.lean: the same when timestamps do not decrease). -/
def runCore (c : Cfg) (s : St) (rs : List Res) : St :=
  rs.foldl (fun s r => (stepCore c s r).1) s

theorem runCore_nonok (c : Cfg) (tail : List Res) :
    ∀ (s : St) (n : Nat), Inv c s n → (∀ r ∈ tail, isOK c.kind r.state = false) →
      Inv c (runCore c s tail) (n + tail.length) := by
  induction tail with
  | nil => intro s n hi _; exact hi
  | cons r rs ih =>
    intro s n hi hall
    have := ih _ _ (step_nonok c s r n hi (hall r (List.mem_cons_self ..)))
      (fun r' hr' => hall r' (List.mem_cons_of_mem _ hr'))
    rwa [Nat.add_right_comm] at this

theorem runCore_append (c : Cfg) (s : St) (a b : List Res) :
    runCore c s (a ++ b) = runCore c (runCore c s a) b :=
  List.foldl_append ..

theorem inv_after_ok (c : Cfg) (s0 : St) (pre tail : List Res) (o : Res)
    (ho : isOK c.kind o.state = true) (ht : ∀ r ∈ tail, isOK c.kind r.state = false) :
    Inv c (runCore c s0 (pre ++ [o] ++ tail)) tail.length := by
  rw [runCore_append, runCore_append, ← Nat.zero_add tail.length]
  exact runCore_nonok c tail _ 0 (step_ok c (runCore c s0 pre) o ho) ht

theorem stateChange_eq_proj (k : Kind) (a b : SState) :
    stateChange k a b = (proj k a != proj k b) := by
  cases k <;> cases a <;> cases b <;> rfl

theorem isOK_eq_proj (k : Kind) (a : SState) : isOK k a = (proj k a == 0) := by
  cases k <;> cases a <;> rfl

-- The four lemmas below decide the state-change test in the `!=` form that `stateChange_eq_proj` produces.
theorem proj_ne_of_isOK_ne (k : Kind) (a b : SState) (h : isOK k a ≠ isOK k b) :
    (proj k a != proj k b) = true := by
  rw [isOK_eq_proj, isOK_eq_proj] at h
  exact bne_iff_ne.mpr fun e => h (by rw [e])

theorem proj_ne_of_ok (k : Kind) (a b : SState) (ha : isOK k a = true) (hb : isOK k b = false) :
    (proj k a != proj k b) = true :=
  proj_ne_of_isOK_ne k a b (by rw [ha, hb]; nofun)

theorem proj_ne_of_ok' (k : Kind) (a b : SState) (ha : isOK k a = false) (hb : isOK k b = true) :
    (proj k a != proj k b) = true :=
  proj_ne_of_isOK_ne k a b (by rw [ha, hb]; nofun)

theorem proj_eq_of_ok (k : Kind) (a b : SState) (ha : isOK k a = true) (hb : isOK k b = true) :
    (proj k a != proj k b) = false := by
  rw [isOK_eq_proj, beq_iff_eq] at ha hb
  rw [ha, hb]
  rfl

/-- Where the rule leaves the event open (a volatile object that is soft after the result) the model emits a
    hard one, hence `getD .hard`. -/
theorem event_inv (c : Cfg) (hmax : 1 ≤ c.max) (s : St) (n : Nat) (hi : Inv c s n) (r : Res) :
    (stepCore c s r).2 =
      (specEvent c n (if isOK c.kind r.state then 0 else n + 1) s.state r.state).getD .hard := by
  show eventOf c s r.state (nextTypeAttempt c s r.state).1 = _
  simp only [eventOf, hardChangeOf, stateChange_eq_proj, specEvent]
  cases hok : isOK c.kind r.state
  · -- a non-OK result
    rw [nextTypeAttempt_inv hi hok]
    rcases inv_iff.mp hi with ⟨rfl, a, b, _⟩ | ⟨hn, hlt, a, b, _⟩ | ⟨hn, hge, a, b, _⟩
    · -- first non-OK result after an OK/Up
      have hp := proj_ne_of_ok c.kind s.state r.state a hok
      by_cases hm : c.max = 1  -- is this already the last retry?
      · simp [a, b, hp, hm]
      · have ⟨h1, h2, h3, h4⟩ : 1 < c.max ∧ ¬ c.max ≤ 1 ∧ ¬ c.max ≤ 0 ∧ 0 < c.max := by omega
        cases hv : c.volatile <;> simp [a, b, hp, h1, h2, h3, h4, Ne.symm hm]
    · -- a retry
      by_cases hm : c.max = n + 1  -- is this the last retry?
      · simp [a, b, hm]
      · have ⟨h1, h2, h3⟩ : n + 1 < c.max ∧ ¬ c.max ≤ n + 1 ∧ ¬ c.max ≤ n := by omega
        cases hv : c.volatile <;> simp [a, b, hlt, h1, h2, h3, Ne.symm hm]
    · -- hard non-OK, another non-OK result
      have ⟨h1, h2, h3⟩ : c.max ≤ n + 1 ∧ ¬ n + 1 < c.max ∧ ¬ n < c.max := by omega
      cases hv : c.volatile <;> cases hp : (proj c.kind s.state != proj c.kind r.state) <;>
        simp [a, b, hge, h1, h2, h3]
  · -- an OK/Up result
    rw [nextTypeAttempt_ok c s hok]
    have h0 : ¬ 0 = c.max := by omega  -- decides `lastRetry` (`n' == max`) at `n' = 0`
    rcases inv_iff.mp hi with ⟨rfl, a, b, _⟩ | ⟨(hn : 1 ≤ n), _, a, b, _⟩ | ⟨(hn : 1 ≤ n), _, a, b, _⟩
    · -- OK/Up → OK/Up: no event
      simp [a, b, proj_eq_of_ok c.kind s.state r.state a hok, h0]
    · -- soft → OK/Up: recovery, hard
      simp [b, hn]
    · -- hard non-OK → OK/Up: recovery, hard
      simp [b, hn, proj_ne_of_ok' c.kind s.state r.state a hok]

/-- The clauses `stateRecorded` … `attemptRange` of `specStep`: they need no `Inv`. -/
theorem step_universal (c : Cfg) (s : St) (r : Res) :
    (stepCore c s r).1.state = r.state ∧
    (isOK c.kind r.state = true → (stepCore c s r).1.stype = .hard ∧ (stepCore c s r).1.attempt = 1) ∧
    ((stepCore c s r).1.stype = .hard → (stepCore c s r).1.attempt = 1) ∧
    1 ≤ (stepCore c s r).1.attempt ∧ (1 ≤ c.max → (stepCore c s r).1.attempt ≤ c.max) := by
  refine ⟨rfl, ?_⟩
  simp only [stepCore]
  cases h : isOK c.kind r.state
  · rw [nextTypeAttempt_nonok c s h]
    split
    · exact ⟨nofun, fun _ => rfl, Nat.le_refl 1, id⟩
    · exact ⟨nofun, nofun, Nat.le_add_left .., fun _ => by omega⟩
  · rw [nextTypeAttempt_ok c s h]
    exact ⟨fun _ => ⟨rfl, rfl⟩, fun _ => rfl, Nat.le_refl 1, id⟩

theorem soft_step (c : Cfg) (s : St) (r : Res) (h : (stepCore c s r).1.stype = .soft) :
    (stepCore c s r).1.attempt = counted c s + 1 ∧ counted c s + 1 < c.max := by
  revert h
  simp only [stepCore]
  cases hok : isOK c.kind r.state
  · rw [nextTypeAttempt_nonok c s hok]
    split
    · nofun
    · exact fun _ => ⟨rfl, by omega⟩
  · rw [nextTypeAttempt_ok c s hok]
    nofun

theorem specNext_streak (c : Cfg) (sp : SpecSt) (x : SState) :
    (specNext c sp x).streak = if isOK c.kind x then 0 else sp.streak + 1 := by
  unfold specNext; split <;> rfl

theorem specNext_prev (c : Cfg) (sp : SpecSt) (x : SState) : (specNext c sp x).prev = x := by
  unfold specNext; split <;> rfl

theorem ite_some_none {p : Prop} [Decidable p] {a : Clause} {x : Option Clause} :
    ((if p then some a else x) = none) ↔ (¬p ∧ x = none) := by by_cases h : p <;> simp [h]

theorem ite_none_some {p : Prop} [Decidable p] {a : Clause} {x : Option Clause} :
    ((if p then x else some a) = none) ↔ (p ∧ x = none) := by by_cases h : p <;> simp [h]

theorem specStep_eq_none (c : Cfg) (sp : SpecSt) (r : SState) (o : Obs) :
    specStep c sp r o = none ↔
      o.state = r ∧ (isOK c.kind r = true → o.stype = .hard ∧ o.attempt = 1) ∧
      (o.stype = .hard → o.attempt = 1) ∧ (1 ≤ o.attempt ∧ o.attempt ≤ c.max) ∧
      (c.max ≤ (specNext c sp r).streak → o.stype = .hard) ∧
      ((specNext c sp r).everOk = true → (specNext c sp r).streak = 0 ∨ c.max ≤ (specNext c sp r).streak →
        o.stype = .hard ∧ o.attempt = 1) ∧
      ((specNext c sp r).everOk = true → 0 < (specNext c sp r).streak ∧ (specNext c sp r).streak < c.max →
        o.stype = .soft ∧ o.attempt = (specNext c sp r).streak) ∧
      (sp.everOk = true → ∀ e, specEvent c sp.streak (specNext c sp r).streak sp.prev r = some e → e = o.ev) := by
  unfold specStep
  simp only [ite_some_none]
  cases specEvent c sp.streak (specNext c sp r).streak sp.prev r <;> simp [Nat.one_le_iff_ne_zero]

/-- Once the reader has seen an OK/Up result, its streak is the machine's (`Inv`).  Before that the start state may
    have any shape and may have counted results the reader never saw: the streak is only a lower bound (a soft
    state's attempt is at least the streak), which is what the clause "hard after `max` non-OK results" needs. -/
def Rel (c : Cfg) (sp : SpecSt) (s : St) : Prop :=
  (sp.everOk = true → Inv c s sp.streak ∧ s.state = sp.prev) ∧
  (sp.everOk = false →
      1 ≤ s.attempt ∧ (0 < sp.streak → isOK c.kind s.state = false) ∧
      (s.stype = .soft → sp.streak ≤ s.attempt))

theorem Rel.inv {c : Cfg} {sp : SpecSt} {s : St} (hr : Rel c sp s) (hev : sp.everOk = true) : Inv c s sp.streak :=
  (hr.1 hev).1

theorem Rel.event {c : Cfg} {sp : SpecSt} {s : St} (hmax : 1 ≤ c.max) (hr : Rel c sp s) (hev : sp.everOk = true)
    (r : Res) :
    (stepCore c s r).2 = (specEvent c sp.streak (specNext c sp r.state).streak sp.prev r.state).getD .hard := by
  obtain ⟨hi, hp⟩ := hr.1 hev
  rw [specNext_streak, ← hp]
  exact event_inv c hmax s _ hi r

/-- Everything the proofs read from the `everOk = false` half of `Rel`; that half also carries `1 ≤ attempt` (read by
    nobody) and `streak ≤ attempt` uncapped.  After the first OK/Up the two sides are equal (`counted_of_inv`). -/
theorem Rel.counted_ge {c : Cfg} {sp : SpecSt} {s : St} (hr : Rel c sp s) : min sp.streak c.max ≤ counted c s := by
  cases hev : sp.everOk
  · obtain ⟨_, hs, hso⟩ := hr.2 hev
    unfold counted
    split
    · next ho =>
      have : sp.streak = 0 := Nat.eq_zero_of_not_pos fun hk => by rw [hs hk] at ho; nomatch ho
      omega
    · split
      · next ht => have := hso ht; omega
      · exact Nat.min_le_right ..
  · rw [counted_of_inv (hr.inv hev)]
    exact Nat.le_refl _

theorem rel_init (c : Cfg) (s0 : St) (h : 1 ≤ s0.attempt) : Rel c specInit s0 :=
  ⟨nofun, fun _ => ⟨h, nofun, fun _ => Nat.zero_le _⟩⟩

theorem rel_start (c : Cfg) (hmax : 1 ≤ c.max) (s : St) (h : 1 ≤ s.attempt) : Rel c (specStart c s) s := by
  unfold specStart
  split
  · next h1 =>
    simp only [Bool.and_eq_true, beq_iff_eq] at h1
    exact ⟨fun _ => ⟨inv_iff.mpr (.inl ⟨rfl, h1.1.1, h1.1.2, h1.2⟩), rfl⟩, nofun⟩
  · split
    · next h2 =>
      simp only [Bool.and_eq_true, beq_iff_eq, Bool.not_eq_true', decide_eq_true_eq] at h2
      exact ⟨fun _ => ⟨inv_iff.mpr (.inr (.inl ⟨h2.1.2, h2.2, h2.1.1.1, h2.1.1.2, rfl⟩)), rfl⟩, nofun⟩
    · split
      · next h3 =>
        simp only [Bool.and_eq_true, beq_iff_eq, Bool.not_eq_true'] at h3
        exact ⟨fun _ => ⟨inv_iff.mpr (.inr (.inr ⟨hmax, Nat.le_refl _, h3.1.1, h3.1.2, h3.2⟩)), rfl⟩, nofun⟩
      · exact ⟨nofun, (rel_init c s h).2⟩

theorem rel_step (c : Cfg) (sp : SpecSt) (s : St) (r : Res) (hr : Rel c sp s) :
    Rel c (specNext c sp r.state) (stepCore c s r).1 := by
  cases hok : isOK c.kind r.state
  · simp only [specNext, hok, Bool.false_eq_true, if_false]
    cases hev : sp.everOk
    · have ⟨_, _, _, h1, _⟩ := step_universal c s r
      refine ⟨nofun, fun _ => ⟨h1, fun _ => hok, fun ht => ?_⟩⟩
      -- a soft state has counted one more than the old state, and the reader was not ahead of that
      show sp.streak + 1 ≤ (stepCore c s r).1.attempt
      have := hr.counted_ge
      have := soft_step c s r ht
      omega
    · exact ⟨fun _ => ⟨step_nonok c s r _ (hr.inv hev) hok, rfl⟩, nofun⟩
  · simp only [specNext, hok, if_true]
    exact ⟨fun _ => ⟨step_ok c s r hok, rfl⟩, nofun⟩

theorem specStep_model (c : Cfg) (hmax : 1 ≤ c.max) (sp : SpecSt) (s : St) (r : Res) (hr : Rel c sp s) :
    specStep c sp r.state (obsOf c ((stepCore c s r).1, (stepCore c s r).2, true)) = none := by
  have hr' := rel_step c sp s r hr
  obtain ⟨u0, u1, u2, u3, u4⟩ := step_universal c s r
  refine (specStep_eq_none ..).mpr ⟨u0, u1, u2, ⟨u3, u4 hmax⟩, fun hge => ?_,
    fun hev => (hr'.inv hev).shape.1, fun hev => (hr'.inv hev).shape.2, fun hev e he => ?_⟩
  · -- a soft state has counted less than `max`, and the reader is not ahead of what the old state had counted
    cases ht : (stepCore c s r).1.stype
    · have := hr.counted_ge
      have := soft_step c s r ht
      rw [specNext_streak] at hge
      split at hge <;> omega
    · exact ht
  · show e = (stepCore c s r).2
    rw [hr.event hmax hev r, he]
    rfl

/-- The accepted lines of a trace, in the form `specTrace` reads. -/
def acceptedOf : List (Res × Obs) → List (SState × Obs)
  | [] => []
  | (r, o) :: rest => if o.accepted then (r.state, o) :: acceptedOf rest else acceptedOf rest

theorem spec_trace_rel (c : Cfg) (hmax : 1 ≤ c.max) (rs : List Res) :
    ∀ (sp : SpecSt) (s : St), Rel c sp s → specTrace c sp (acceptedOf (trace c s rs)) = none := by
  induction rs with
  | nil => intro sp s _; rfl
  | cons r rs ih =>
    intro sp s hr
    cases hst : stale s r
    · rw [trace, step_of_not_stale c hst]
      show specTrace c sp ((r.state, _) :: acceptedOf (trace c _ rs)) = none
      rw [specTrace, specStep_model c hmax sp s r hr]
      exact ih _ _ (rel_step c sp s r hr)
    · rw [trace, step_of_stale c hst]
      exact ih _ _ hr

/-- The reader's streak bookkeeping after a trace: `specNext` over the accepted lines, as `specFull` threads it. -/
def specAfter (c : Cfg) : SpecSt → List (Res × Obs) → SpecSt
  | sp, [] => sp
  | sp, (r, o) :: rest => specAfter c (if o.accepted then specNext c sp r.state else sp) rest

theorem rel_after (c : Cfg) (rs : List Res) :
    ∀ (sp : SpecSt) (s : St), Rel c sp s → Rel c (specAfter c sp (trace c s rs)) (run c s rs) := by
  induction rs with
  | nil => intro sp s hr; exact hr
  | cons r rs ih =>
    intro sp s hr
    cases hst : stale s r
    · have := ih _ _ (rel_step c sp s r hr)
      simpa [trace, step_of_not_stale c hst, specAfter, obsOf_accepted, run, List.foldl] using this
    · have := ih _ _ hr
      simpa [trace, step_of_stale c hst, specAfter, obsOf_accepted, run, List.foldl] using this

end Icinga.C01
