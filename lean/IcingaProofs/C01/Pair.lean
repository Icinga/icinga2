/-
  C01 — two concurrently processed results: the model's two steps, observed as a pair (`pairObsOf`), pass `specPair`
  from every state related to the reader's bookkeeping.
-/
import IcingaProofs.C01.Hist

namespace Icinga.C01

theorem hardBad_getD (e : Option Ev) : hardBad e (if e.getD .hard = .hard then 1 else 0) = false := by
  rcases e with _ | _ | _ | _ <;> rfl

theorem hardBad_model (c : Cfg) (hmax : 1 ≤ c.max) (sp : SpecSt) (s : St) (r : Res) (hr : Rel c sp s) :
    (sp.everOk && hardBad (specEvent c sp.streak (specNext c sp r.state).streak sp.prev r.state)
      (if (stepCore c s r).2 = .hard then 1 else 0)) = false := by
  cases hev : sp.everOk
  · rfl
  · rw [hr.event hmax hev r]
    exact hardBad_getD _

/-- The model's observation of a pair processed as A, then B (what an implementation that serialises
    the two calls shows when A took the object lock first). -/
def pairObsOf (c : Cfg) (s : St) (a b : Res) : PairObs :=
  let p1 := stepCore c s a
  let p2 := stepCore c p1.1 b
  { accA := true, accB := true, state := p2.1.state, stype := p2.1.stype, attempt := p2.1.attempt,
    lastHard := p2.1.lastHard, hardA := if p1.2 = .hard then 1 else 0, hardB := if p2.2 = .hard then 1 else 0 }

theorem pairOrder_model (c : Cfg) (hmax : 1 ≤ c.max) (sp : SpecSt) (s : St) (a b : Res) (hr : Rel c sp s) :
    pairOrder c sp a.state b.state (pairObsOf c s a b) (pairObsOf c s a b).hardA (pairObsOf c s a b).hardB = none := by
  have hr1 := rel_step c sp s a hr
  have g1 := hardBad_model c hmax sp s a hr
  have g2 := hardBad_model c hmax _ _ b hr1
  rw [specNext_prev] at g2
  have g3 : ((if (stepCore c (stepCore c s a).1 b).2 = .hard then 1 else 0) == 1 &&
      proj c.kind (stepCore c (stepCore c s a).1 b).1.lastHard != proj c.kind b.state) = false := by
    rcases lastHard_written_or_kept c (stepCore c s a).1 b with ⟨fl, _⟩ | ⟨_, _, fe, _⟩
    · simp [fl]
    · simp [fe]
  simp only [pairOrder, pairObsOf, g1, g2, g3, Bool.false_eq_true, if_false]
  -- `specStep` reads only state, state type, attempt and event: `pairFinalObs` takes the first three from the
  -- model's final state and has the expected event by construction
  obtain ⟨h1, h2, h3, h4, h5, h6, h7, _⟩ := (specStep_eq_none ..).mp (specStep_model c hmax _ _ b hr1)
  refine (specStep_eq_none ..).mpr ⟨h1, h2, h3, h4, h5, h6, h7, fun _ e he => ?_⟩
  rw [specNext_prev] at he
  simp [pairFinalObs, he]

theorem specPair_model (c : Cfg) (hmax : 1 ≤ c.max) (sp : SpecSt) (s : St) (a b : Res) (hr : Rel c sp s) :
    specPair c sp a.state b.state (pairObsOf c s a b) = none := by
  unfold specPair
  rw [pairOrder_model c hmax sp s a b hr]

/-- The model's observation of an `X` operation through the production step (stale filter included); the driver
    (Driver/C01.lean, operation `X`) builds the same record inline. -/
def pairObsStep (c : Cfg) (s : St) (a b : Res) : PairObs :=
  let p1 := step c s a
  let p2 := step c p1.1 b
  { accA := p1.2.2, accB := p2.2.2, state := p2.1.state, stype := p2.1.stype, attempt := p2.1.attempt,
    lastHard := p2.1.lastHard, hardA := if p1.2.2 && p1.2.1 == .hard then 1 else 0,
    hardB := if p2.2.2 && p2.2.1 == .hard then 1 else 0 }

end Icinga.C01
