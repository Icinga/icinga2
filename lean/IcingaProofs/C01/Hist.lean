/-
  C01 — the hard-state bookkeeping: what one step does to the recorded hard state and the two-slot word
  (`lastHard_written_or_kept`), the reader's clauses about it (`histStep`) under the relation `HRel`, dropped
  results (`dropStep`) and the whole-trace specification `specFull`.
-/
import IcingaProofs.C01.Lemmas

namespace Icinga.C01

/-- `s.hist < 10000`: the word has two slots below 100 (`slot_shift`), as every word the code writes has; above it
    the current slot would not hold the state just written.  A volatile object rewrites the recorded hard state
    with every result, hard event or not; the reader cannot notice as long as the recorded hard state projects
    like the current state, which the two conjuncts under `c.volatile = true` keep.  The first of them does not
    mention `lo`: `h.last ≠ none` stands for "the reader knows the start" (`histStart` sets `last := none` when
    `startKnown` fails, and from the first accepted result on the conjunct holds by itself). -/
def HRel (c : Cfg) (h : HistSt) (s : St) : Prop :=
  s.hist < 10000 ∧ h.lastExec = s.lastExec ∧
  (∀ lo, h.last = some lo → sameState lo (stObs c s) = true ∧
      (c.volatile = true → proj c.kind s.lastHard = proj c.kind s.state)) ∧
  (∀ x, h.hardAt = some x → projN c.kind (s.hist / 100) = some (proj c.kind x) ∧
      proj c.kind s.lastHard = proj c.kind x ∧ (c.volatile = true → proj c.kind x = proj c.kind s.state))

theorem toNat_le (s : SState) : s.toNat ≤ 3 := by cases s <;> decide

theorem projN_toNat (k : Kind) (s : SState) : projN k s.toNat = some (proj k s) := by cases s <;> rfl

/-- `last_hard_states_raw` is a two-slot word `current * b + previous`; the code has `b = 100`. -/
theorem slot_shift (b h t : Nat) (hh : h < b * b) :
    (h / b + t * b) % b = h / b ∧ (h / b + t * b) / b = t := by
  have hq : h / b < b := Nat.div_lt_of_lt_mul hh
  have hb : 0 < b := Nat.lt_of_le_of_lt (Nat.zero_le _) hq
  exact ⟨by rw [Nat.add_mul_mod_self_right]; exact Nat.mod_eq_of_lt hq,
    by rw [Nat.add_mul_div_right _ _ hb, Nat.div_eq_of_lt hq, Nat.zero_add]⟩

theorem slot_shift_lt (b h t : Nat) (hh : h < b * b) (ht : t < b) : h / b + t * b < b * b :=
  have hq : h / b < b := Nat.div_lt_of_lt_mul hh
  calc h / b + t * b < b + t * b := Nat.add_lt_add_right hq _
    _ = (t + 1) * b := by rw [Nat.add_mul, Nat.one_mul, Nat.add_comm]
    _ ≤ b * b := Nat.mul_le_mul_right b ht

/-- The implication in the first case is the one write without a hard event: a volatile object going from OK/Up to
    OK/Up. -/
theorem lastHard_written_or_kept (c : Cfg) (s : St) (r : Res) :
    ((stepCore c s r).1.lastHard = r.state ∧ (stepCore c s r).1.hist = s.hist / 100 + r.state.toNat * 100 ∧
       ((stepCore c s r).2 ≠ .hard → c.volatile = true ∧ proj c.kind s.state = proj c.kind r.state)) ∨
    ((stepCore c s r).1.lastHard = s.lastHard ∧ (stepCore c s r).1.hist = s.hist ∧
       (stepCore c s r).2 ≠ .hard ∧ c.volatile = false) := by
  simp only [stepCore, eventOf]
  generalize hardChangeOf c s r.state _ = hc
  cases hc
  · cases hv : c.volatile
    · refine .inr ⟨rfl, rfl, ?_, rfl⟩
      simp only [Bool.false_or, Bool.false_and, Bool.false_eq_true, if_false]
      split <;> nofun
    · refine .inl ⟨rfl, rfl, fun he => ⟨rfl, ?_⟩⟩
      -- a volatile object reports a hard event unless it stays OK/Up
      have ok : isOK c.kind s.state = true ∧ isOK c.kind r.state = true := by
        cases ho : isOK c.kind s.state <;> cases hn : isOK c.kind r.state <;> simp [ho, hn] at he ⊢
      exact bne_eq_false_iff_eq.mp (proj_eq_of_ok _ _ _ ok.1 ok.2)
  · exact .inl ⟨rfl, rfl, fun he => absurd rfl he⟩

theorem histStep_eq_none (c : Cfg) (h : HistSt) (r : SState) (o : Obs) :
    histStep c h r o = none ↔
      (o.apiState = proj c.kind r ∧ o.apiLastHard = proj c.kind o.lastHard) ∧
      (o.vaState = o.state.toNat ∧ o.vaType = o.stype.toNat ∧ o.vaAttempt = o.attempt) ∧
      (o.ev = .hard → proj c.kind o.lastHard = proj c.kind r) ∧
      (o.ev = .hard → ∀ x, h.hardAt = some x → projN c.kind o.prevHard = some (proj c.kind x)) ∧
      (∀ lo, h.last = some lo →
        o.apiLastState = proj c.kind lo.state ∧
        (o.ev ≠ .hard → proj c.kind o.lastHard = proj c.kind lo.lastHard) ∧
        (o.ev ≠ .hard → c.volatile = false → projN c.kind o.prevHard = projN c.kind lo.prevHard)) := by
  unfold histStep
  -- the chain of clauses is opened once, before the four-way split (the `simp` below would redo it in each case)
  simp only [ite_some_none]
  cases h.hardAt <;> cases h.last <;> simp [ite_some_none, ite_none_some, and_assoc]

theorem sameState_obsOf (c : Cfg) (s : St) (e1 e2 : Ev) (a1 a2 : Bool) :
    sameState (obsOf c (s, e1, a1)) (obsOf c (s, e2, a2)) = true := by simp [sameState, obsOf]

theorem sameState_stObs {c : Cfg} {s : St} {lo : Obs} (h : sameState lo (stObs c s) = true) :
    lo.state = s.state ∧ lo.lastHard = s.lastHard ∧ lo.prevHard = s.hist % 100 := by
  simp [sameState, stObs, obsOf] at h
  simp [h]

theorem hrel_init (c : Cfg) (s : St) (hh : s.hist < 10000) (hl : s.lastExec = none) : HRel c histInit s :=
  ⟨hh, hl.symm, fun _ h => (nomatch h), fun _ h => (nomatch h)⟩

theorem hrel_start (c : Cfg) (s : St) (hh : s.hist < 10000) : HRel c (histStart c s) s := by
  unfold histStart
  split
  · next hk =>
    have hv : c.volatile = true → proj c.kind s.lastHard = proj c.kind s.state := fun hv => by
      simpa [startKnown, hv] using hk
    refine ⟨hh, rfl, fun lo hlo => ?_, fun x hx => ?_⟩
    · rw [← Option.some.inj hlo]
      exact ⟨sameState_obsOf .., hv⟩
    · dsimp only at hx
      split at hx
      · next he =>
        rw [← Option.some.inj hx]
        exact ⟨by rw [beq_iff_eq.mp he]; exact projN_toNat _ _, rfl, hv⟩
      · nomatch hx
  · exact ⟨hh, rfl, fun _ h => (nomatch h), fun _ h => (nomatch h)⟩

theorem histStep_model (c : Cfg) (h : HistSt) (s : St) (r : Res) (hr : HRel c h s) :
    histStep c h r.state (obsOf c ((stepCore c s r).1, (stepCore c s r).2, true)) = none ∧
    HRel c (histNext h r (obsOf c ((stepCore c s r).1, (stepCore c s r).2, true))) (stepCore c s r).1 := by
  obtain ⟨hh, hle, hlast, hhard⟩ := hr
  rw [histStep_eq_none]
  -- In each case (the step wrote the recorded hard state, or kept it) the tuple lists the groups of `histStep_eq_none`,
  -- then the conjuncts of `HRel` for the new state; the three `?_` are the comparison with the previous observation
  -- `lo`, the new previous observation and the hard state the reader knows afterwards, in this order.
  rcases lastHard_written_or_kept c s r with ⟨eqLast, eqHist, noEv⟩ | ⟨eqLast, eqHist, noEv, nonVol⟩
  · obtain ⟨hm, hd⟩ := slot_shift 100 s.hist r.state.toNat hh
    have hlt := slot_shift_lt 100 s.hist r.state.toNat hh (Nat.lt_of_le_of_lt (toNat_le _) (by decide))
    rw [← eqHist] at hm hd hlt
    refine ⟨⟨⟨rfl, rfl⟩, ⟨rfl, rfl, rfl⟩, fun _ => congrArg _ eqLast,
      -- previousHardState: the new low slot is the old current slot
      fun _ x hx => (congrArg _ hm).trans (hhard x hx).1,
      fun lo hl => ?_⟩,
      hlt, rfl, fun lo hlo => ?_, fun x hx => ?_⟩
    · obtain ⟨e1, e2, _⟩ := sameState_stObs (hlast lo hl).1
      refine ⟨congrArg (proj c.kind) e1.symm, fun he => ?_, fun he hv => ?_⟩
      · -- volatile, OK/Up → OK/Up: the slots shift but the projected hard state stays
        obtain ⟨hvol, hproj⟩ := noEv he
        rw [e2, (hlast lo hl).2 hvol, hproj]
        exact congrArg _ eqLast
      · nomatch (noEv he).1.symm.trans hv
    · rw [← Option.some.inj hlo]
      exact ⟨sameState_obsOf .., fun _ => congrArg _ eqLast⟩
    · -- the hard state the reader knows afterwards projects like the result's state
      have : proj c.kind x = proj c.kind r.state := by
        dsimp only [histNext, obsOf] at hx
        split at hx
        · rw [← Option.some.inj hx]
        · next he =>
          obtain ⟨hvol, hproj⟩ := noEv (he ∘ beq_iff_eq.mpr)
          obtain ⟨_, _, hxvol⟩ := hhard x hx
          exact (hxvol hvol).trans hproj
      exact ⟨by rw [hd, projN_toNat, this], by rw [eqLast, this], fun _ => this⟩
  · refine ⟨⟨⟨rfl, rfl⟩, ⟨rfl, rfl, rfl⟩, fun he => absurd he noEv, fun he => absurd he noEv,
      fun lo hl => ?_⟩,
      by rw [eqHist]; exact hh, rfl, fun lo hlo => ?_, fun x hx => ?_⟩
    · obtain ⟨e1, e2, e3⟩ := sameState_stObs (hlast lo hl).1
      exact ⟨congrArg (proj c.kind) e1.symm, fun _ => by rw [e2, ← eqLast]; rfl,
        fun _ _ => by rw [e3, ← eqHist]; rfl⟩
    · rw [← Option.some.inj hlo]
      exact ⟨sameState_obsOf .., fun hv => nomatch nonVol.symm.trans hv⟩
    · -- no hard event: the reader's hard state is the old one
      have hx' : h.hardAt = some x := (if_neg (noEv ∘ eq_of_beq)).symm.trans hx
      obtain ⟨hslot, hrec, _⟩ := hhard x hx'
      exact ⟨by rw [eqHist]; exact hslot, by rw [eqLast]; exact hrec, fun hv => nomatch nonVol.symm.trans hv⟩

theorem hrel_step (c : Cfg) (h : HistSt) (s : St) (r : Res) (hr : HRel c h s) :
    HRel c (histNext h r (obsOf c ((stepCore c s r).1, (stepCore c s r).2, true))) (stepCore c s r).1 :=
  (histStep_model c h s r hr).2

theorem dropStep_model (c : Cfg) (h : HistSt) (s : St) (r : Res) (hle : h.lastExec = s.lastExec)
    (hlast : ∀ lo, h.last = some lo → sameState lo (stObs c s) = true) (hst : stale s r = true) :
    dropStep h r (obsOf c (s, .none, false)) = none := by
  unfold dropStep
  rw [hle, mayDrop_of_stale hst]
  cases hl : h.last with
  | none => rfl
  | some lo =>
    have : sameState lo (obsOf c (s, .none, false)) = true := hlast lo hl
    simp only [this]
    rfl

theorem fullStep_model (c : Cfg) (hmax : 1 ≤ c.max) (sp : SpecSt) (h : HistSt) (s : St) (r : Res)
    (hr : Rel c sp s) (hh : HRel c h s) :
    fullStep c sp h r (obsOf c ((stepCore c s r).1, (stepCore c s r).2, true)) =
      (none, specNext c sp r.state, histNext h r (obsOf c ((stepCore c s r).1, (stepCore c s r).2, true))) := by
  unfold fullStep
  rw [specStep_model c hmax sp s r hr, (histStep_model c h s r hh).1]
  rfl

theorem full_trace_rel (c : Cfg) (hmax : 1 ≤ c.max) (rs : List Res) :
    ∀ (sp : SpecSt) (h : HistSt) (s : St), Rel c sp s → HRel c h s →
      specFull c sp h (trace c s rs) = none := by
  induction rs with
  | nil => intro sp h s _ _; rfl
  | cons r rs ih =>
    intro sp h s hr hh
    cases hst : stale s r
    · simp only [trace, step_of_not_stale c hst, specFull, fullStep_model c hmax sp h s r hr hh]
      exact ih _ _ _ (rel_step c sp s r hr) (hrel_step c h s r hh)
    · have ⟨_, hle, hlast, _⟩ := hh
      simp only [trace, step_of_stale c hst, specFull, fullStep, obsOf_accepted, Bool.false_eq_true, if_false,
        dropStep_model c h s r hle (fun lo hl => (hlast lo hl).1) hst]
      exact ih _ _ _ hr hh

end Icinga.C01
