/-
  C09 — strings all of whose macros have scalar values (`ScalarMacros`): the replace loop yields the template with the
  values filled in (`fillSym`; with the escape function `renderEsc`), and so does one level of `internalResolve`; an array
  command line is resolved element by element, without escaping, so each element yields its own text filled in.
-/
import IcingaProofs.C09.Expand

namespace Icinga.C09

/-- Every macro resolves — after the recursion through custom variables — to a scalar, whose text is `vo n`.  A macro
    that is not found qualifies: its value is Empty, its text "", and with the escape function it becomes the word `''`. -/
def ScalarMacros (look : Bytes → Lookup) (rec : Bytes → Res) (vo : Bytes → Option Bytes) (toks : List Tok) : Prop :=
  ∀ n ∈ macroNames toks, ∃ v2 fnd m b, expandCore look rec n = .ok (v2, fnd, m) ∧ v2.scalarBytes = some b ∧ vo n = some b

theorem ScalarMacros.tail {look : Bytes → Lookup} {rec : Bytes → Res} {vo : Bytes → Option Bytes} {t : Tok} {ts : List Tok}
    (h : ScalarMacros look rec vo (t :: ts)) : ScalarMacros look rec vo ts := by
  intro n hn
  cases t with
  | mac k => exact h n (List.mem_cons_of_mem _ hn)
  | _ => exact h n hn

theorem ScalarMacros.all_isSome {look : Bytes → Lookup} {rec : Bytes → Res} {vo : Bytes → Option Bytes} {toks : List Tok}
    (h : ScalarMacros look rec vo toks) : (macroNames toks).all (fun n => (vo n).isSome) = true := by
  rw [List.all_eq_true]
  intro n hn
  obtain ⟨_, _, _, b, _, _, hb⟩ := h n hn
  rw [hb]
  rfl

-- the shape `symLine` produces; the append law for arbitrary lists is `fillSym_append` (module `Shell`, not imported here)
theorem fillSym_bytes (vo : Bytes → Option Bytes) (b : Bytes) (r : List Sym) :
    fillSym vo (b.map Sym.byte ++ r) = b ++ fillSym vo r := by
  induction b with
  | nil => rfl
  | cons c cs ih => simp [fillSym, ih]

theorem renderEsc_bytes (vo : Bytes → Option Bytes) (b : Bytes) (r : List Sym) :
    renderEsc vo (b.map Sym.byte ++ r) = b ++ renderEsc vo r := by
  induction b with
  | nil => rfl
  | cons c cs ih => simp [renderEsc, ih]

theorem escapeMacro_scalar (v : Val) (b : Bytes) (h : v.scalarBytes = some b) : escapeMacroShellArg v = escapeShellArg b := by
  cases v <;> cases h <;> rfl

theorem concatToks_scalar (look : Bytes → Lookup) (rec : Bytes → Res) (vo : Bytes → Option Bytes) (esc : Bool) :
    ∀ toks syms, symLine toks = some syms → ScalarMacros look rec vo toks →
      ∃ m, concatToks look rec esc toks = .ok (if esc then renderEsc vo syms else fillSym vo syms, m) := by
  intro toks
  induction toks with
  | nil => intro syms hs _; cases hs; exact ⟨false, by cases esc <;> rfl⟩
  | cons t ts ih =>
    intro syms hs hsc
    cases t with
    | unclosed => cases hs
    | lit b =>
      simp only [symLine, Option.map_eq_some_iff] at hs
      obtain ⟨r, hr, rfl⟩ := hs
      obtain ⟨m, hm⟩ := ih r hr hsc.tail
      exact ⟨m, by cases esc <;> simp [concatToks, hm, renderEsc_bytes, fillSym_bytes]⟩
    | mac n =>
      simp only [symLine, Option.map_eq_some_iff] at hs
      obtain ⟨r, hr, rfl⟩ := hs
      obtain ⟨m, hm⟩ := ih r hr hsc.tail
      obtain ⟨v2, fnd, m1, b, hcore, hsb, hvo⟩ := hsc n List.mem_cons_self
      refine ⟨(!fnd || m1) || m, ?_⟩
      cases esc
      · simp [concatToks, expandMacro_of_core _ hcore, hm, hsb, fillSym, hvo]
      · simp [concatToks, expandMacro_of_core _ hcore, hm, escapeMacro_scalar v2 b hsb, Val.scalarBytes, renderEsc, hvo]

/-- `v.scalarBytes`, not `v = .str …`: a string that is one macro yields the macro's own Boolean / Number / Empty value. -/
theorem internalResolve_fill (look : Bytes → Lookup) (fuel : Nat) (vo : Bytes → Option Bytes) (s : Bytes) (syms : List Sym)
    (hs : symLine (tokenize s) = some syms)
    (hsc : ScalarMacros look (fun t => internalResolve look fuel false t) vo (tokenize s)) :
    ∃ v m, internalResolve look (fuel + 1) false s = .ok (v, m) ∧ v.scalarBytes = some (fillSym vo syms) := by
  rcases internalResolve_lone_or_loop s with ⟨n, htok, h⟩ | h <;> rw [h]
  · rw [htok] at hs hsc
    cases hs
    obtain ⟨v2, fnd, m1, b, hcore, hsb, hvo⟩ := hsc n List.mem_cons_self
    exact ⟨v2, !fnd || m1, expandMacro_of_core false hcore, by simp [fillSym, hvo, hsb]⟩
  · obtain ⟨m, hm⟩ := concatToks_scalar look _ vo false _ syms hs hsc
    exact ⟨.str (fillSym vo syms), m, by rw [hm]; rfl, rfl⟩

theorem specExpectedElem_eq_fillSym (vo : Bytes → Option Bytes) (e : Bytes) (syms : List Sym)
    (hs : symLine (tokenize e) = some syms) (hall : (macroNames (tokenize e)).all (fun n => (vo n).isSome) = true) :
    specExpectedElem vo e = some (fillSym vo syms) := by
  simp [specExpectedElem, hs, hall]

/-- Elements that can be judged: well-formed (`$` paired) and every macro with a scalar value. -/
def ElemOK (look : Bytes → Lookup) (fuel : Nat) (vo : Bytes → Option Bytes) (e : Bytes) : Prop :=
  ∃ syms, symLine (tokenize e) = some syms ∧ ScalarMacros look (fun t => internalResolve look fuel false t) vo (tokenize e)

theorem resolveArrayElems_fill (look : Bytes → Lookup) (fuel : Nat) (vo : Bytes → Option Bytes) :
    ∀ elems, (∀ e ∈ elems, ElemOK look fuel vo e) →
      ∃ ws m, resolveArrayElems look (fuel + 1) elems = .ok (ws, m) ∧ elems.mapM (specExpectedElem vo) = some ws ∧
        ws.length = elems.length := by
  intro elems
  induction elems with
  | nil => intro _; exact ⟨[], false, rfl, rfl, rfl⟩
  | cons e es ih =>
    intro h
    obtain ⟨syms, hs, hsc⟩ := h e List.mem_cons_self
    obtain ⟨ws, m2, hws, hspec, hlen⟩ := ih (fun x hx => h x (List.mem_cons_of_mem _ hx))
    obtain ⟨v, m1, hv, hsb⟩ := internalResolve_fill look fuel vo e syms hs hsc
    refine ⟨fillSym vo syms :: ws, m1 || m2, ?_, ?_, by simp [hlen]⟩
    · simp only [resolveArrayElems, hv, hws, bind_ok, pure_eq_ok]
      -- a scalar's text is its `scalarBytes`
      generalize fillSym vo syms = b at hsb ⊢
      cases v <;> cases hsb <;> rfl
    · simp [List.mapM_cons, specExpectedElem_eq_fillSym vo e syms hs hsc.all_isSome, hspec]

end Icinga.C09
