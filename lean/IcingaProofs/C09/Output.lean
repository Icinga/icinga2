/-
  C09 — plugin output: cutting a line at its first `|`, and `ParseCheckOutput` in the terms of the
  specification (`textPart`, `perfPart`, `joinQuirk`); the exit status by how the plugin ended.
-/
import IcingaModel.C09.Spec

namespace Icinga.C09

-- shortcut: instance search reaches this only after a long detour through the order classes
local instance : LawfulBEq UInt8 := instLawfulBEq

theorem cutAt_of_not_mem (sep : UInt8) (l : Bytes) (h : sep ∉ l) : cutAt sep l = (l, none) := by
  induction l with
  | nil => rfl
  | cons c cs ih =>
    have hc : c ≠ sep := Ne.symm (List.ne_of_not_mem_cons h)
    simp only [cutAt, if_neg hc, ih (List.not_mem_of_not_mem_cons h)]

theorem cutAt_append (sep : UInt8) (pre post : Bytes) (h : sep ∉ pre) :
    cutAt sep (pre ++ sep :: post) = (pre, some post) := by
  induction pre with
  | nil => simp [cutAt]
  | cons c cs ih =>
    have hc : c ≠ sep := Ne.symm (List.ne_of_not_mem_cons h)
    have hcs : sep ∉ cs := List.not_mem_of_not_mem_cons h
    simp [cutAt, hc, ih hcs]

theorem cutAt_eq (sep : UInt8) (l : Bytes) :
    cutAt sep l = (l.takeWhile (· ≠ sep), if l.contains sep then some ((l.dropWhile (· ≠ sep)).drop 1) else none) := by
  induction l with
  | nil => simp [cutAt]
  | cons c cs ih =>
    by_cases hc : c = sep
    · subst hc; simp [cutAt]
    · simp [cutAt, hc, ih, Ne.symm hc]

theorem splitLine_eq (line : Bytes) : splitLine line = (textPart line, perfPart line) := by
  unfold splitLine textPart perfPart
  rw [cutAt_eq]
  by_cases hb : BAR ∈ line
  · by_cases he : EQ ∈ (List.dropWhile (fun x => !decide (x = BAR)) line).tail
    · simp [hb, he]
    · simp [hb, he]
  · simp [hb]

theorem foldl_parseStep (L : List Bytes) (t p : Bytes) :
    L.foldl parseStep (t, p) = ((L.map textPart).foldl (appendSep LF) t, (L.filterMap perfPart).foldl (appendSep SPACE) p) := by
  induction L generalizing t p with
  | nil => rfl
  | cons x xs ih =>
    simp only [List.foldl_cons, parseStep, splitLine_eq]
    cases hp : perfPart x <;> simp [ih, hp]

theorem parseCheckOutput_eq (out : Bytes) :
    parseCheckOutput out = (joinQuirk LF ((splitLines [] out).map textPart),
      trim (joinQuirk SPACE ((splitLines [] out).filterMap perfPart))) := by
  simp only [parseCheckOutput, foldl_parseStep]
  -- `joinQuirk sep` is `foldl (appendSep sep) []` by definition
  rfl

theorem specState_eq (e : Int) : specState e = exitToState e := by
  unfold specState exitToState
  split <;> simp_all

theorem Ending.exit_eq (e : Ending) :
    e.exit = match e.killed, e.wait with
      | false, .exited c => (c : Int)
      | _, _ => 128 := by
  obtain ⟨dp, cnk, w⟩ := e
  cases w <;> cases dp <;> cases cnk <;> rfl

end Icinga.C09
