/-
  C09 — the argument vector of an `arguments` dictionary: what one argument emits is its layout filled with
  its values; the stable insertion sort of the model (`sortArgs`) is the concatenation of the specification's
  classes of equal `order` (`orderClasses`); and the specification's permutation search (`consumeClasses`)
  accepts the concatenation of the blocks in their given sequence.
-/
import IcingaModel.C09.Spec

namespace Icinga.C09

theorem fill_elemSlots (key v : Bytes) (sep : Option Bytes) (addKey addValue : Bool) (rest : List Slot) (vs : List Bytes) :
    fill key (sep.getD []) (elemSlots addKey addValue sep.isSome ++ rest) (v :: vs)
      = addArgumentHelper key v addKey addValue sep ++ fill key (sep.getD []) rest vs := by
  cases addKey <;> cases addValue <;> cases sep <;> rfl

theorem emitArr_eq_fill (a : RArg) (first : Bool) (l : List Bytes) :
    emitArr a first l = fill a.key (a.sep.getD []) (arrSlots a.skipKey a.repeatKey a.skipValue a.sep.isSome first l.length) l := by
  induction l generalizing first with
  | nil => rfl
  | cons v vs ih => simp only [emitArr, List.length_cons, arrSlots, fill_elemSlots, ih false]

theorem fill_scalar (a : RArg) (b : Bytes) :
    fill a.key (a.sep.getD []) (slots a.skipKey a.repeatKey a.skipValue a.sep.isSome none) [b]
      = addArgumentHelper a.key b (!a.skipKey) (!a.skipValue) a.sep := by
  have := fill_elemSlots a.key b a.sep (!a.skipKey) (!a.skipValue) [] []
  simpa only [List.append_nil, fill, slots] using this

theorem emitArg_eq_specArgBlock (a : RArg) : emitArg a = specArgBlock a := by
  unfold emitArg specArgBlock
  cases a.value with
  | arr l => exact emitArr_eq_fill a true l
  | str b => exact (fill_scalar a b).symm
  | empty => exact (fill_scalar a []).symm
  | bool x => exact (fill_scalar a (boolBytes x)).symm
  | num k => exact (fill_scalar a (intBytes k)).symm

theorem consumers_elemSlots (addKey addValue hasSep : Bool) : consumers (elemSlots addKey addValue hasSep) = 1 := by
  cases addKey <;> cases addValue <;> cases hasSep <;> rfl

theorem consumers_append (x y : List Slot) : consumers (x ++ y) = consumers x + consumers y := by
  induction x with
  | nil => simp [consumers]
  | cons s r ih => cases s <;> simp only [List.cons_append, consumers, ih, Nat.add_right_comm]

theorem consumers_arrSlots (sk rk sv hs first : Bool) (n : Nat) : consumers (arrSlots sk rk sv hs first n) = n := by
  induction n generalizing first with
  | zero => rfl
  | succ n ih => simp only [arrSlots, consumers_append, consumers_elemSlots, ih, Nat.add_comm]

/-- On a sorted list, insertion behind the equals: what `insertClass` does to the classes laid end to end
    (`insertClass_ok`), and what one more argument on the right does to `sortArgs` (`sortArgs_snoc`). -/
def insertLast (a : RArg) : List RArg → List RArg
  | [] => [a]
  | b :: bs => if b.order ≤ a.order then b :: insertLast a bs else a :: b :: bs

theorem forall_mem_insertLast {p : RArg → Prop} (a : RArg) (l : List RArg) (ha : p a) (hl : ∀ x ∈ l, p x) :
    ∀ x ∈ insertLast a l, p x := by
  induction l with
  | nil => exact List.forall_mem_singleton.mpr ha
  | cons b bs ih =>
    have hbs : ∀ x ∈ bs, p x := fun x hx => hl x (List.mem_cons_of_mem _ hx)
    simp only [insertLast]
    split
    · exact List.forall_mem_cons.mpr ⟨hl b List.mem_cons_self, ih hbs⟩
    · exact List.forall_mem_cons.mpr ⟨ha, hl⟩

theorem insertLast_all_gt (a : RArg) (l : List RArg) (h : ∀ x ∈ l, a.order < x.order) : insertLast a l = a :: l := by
  cases l with
  | nil => rfl
  | cons b bs =>
    simp only [insertLast]
    rw [if_neg (Int.not_le.mpr (h b List.mem_cons_self))]

theorem insertLast_append_le (a : RArg) (g l : List RArg) (h : ∀ x ∈ g, x.order ≤ a.order) :
    insertLast a (g ++ l) = g ++ insertLast a l := by
  induction g with
  | nil => rfl
  | cons b bs ih =>
    simp only [List.cons_append, insertLast, if_pos (h b List.mem_cons_self)]
    rw [ih (fun x hx => h x (List.mem_cons_of_mem _ hx))]

/-- `insertArg` puts `x` before its equals, `insertLast` puts `a` behind them, so neither gets in the other's way: this
    is where the stability of the sort enters. -/
theorem insertArg_insertLast (x a : RArg) (l : List RArg) :
    insertArg x (insertLast a l) = insertLast a (insertArg x l) := by
  induction l with
  | nil =>
    simp only [insertLast, insertArg]
    by_cases h : a.order < x.order
    · rw [if_pos h, if_neg (Int.not_le.mpr h)]
    · rw [if_neg h, if_pos (Int.not_lt.mp h)]
  | cons b bs ih =>
    by_cases h1 : b.order ≤ a.order <;> by_cases h2 : b.order < x.order
    · simp only [insertLast, insertArg, if_pos h1, if_pos h2, ih]
    · have h3 : x.order ≤ a.order := Int.le_trans (Int.not_lt.mp h2) h1
      simp only [insertLast, insertArg, if_pos h1, if_neg h2, if_pos h3]
    · have h3 : a.order < x.order := Int.lt_trans (Int.not_le.mp h1) h2
      simp only [insertLast, insertArg, if_neg h1, if_pos h2, if_pos h3]
    · simp only [insertLast, insertArg, if_neg h1, if_neg h2]
      by_cases h3 : a.order < x.order
      · rw [if_pos h3, if_neg (Int.not_le.mpr h3)]
      · rw [if_neg h3, if_pos (Int.not_lt.mp h3)]

theorem sortArgs_snoc (as : List RArg) (a : RArg) : sortArgs (as ++ [a]) = insertLast a (sortArgs as) := by
  induction as with
  | nil => rfl
  | cons x xs ih => simp only [List.cons_append, sortArgs, ih, insertArg_insertLast]

def flatCls (cls : List (Int × List RArg)) : List RArg := (cls.map (·.2)).flatten

theorem flatCls_cons (o : Int) (g : List RArg) (r : List (Int × List RArg)) : flatCls ((o, g) :: r) = g ++ flatCls r := rfl

/-- Classes uniform in `order`, the orders strictly ascending — said of the members of the later classes, so that no
    list of the orders is needed. -/
def ClsOK : List (Int × List RArg) → Prop
  | [] => True
  | (o, g) :: r => (∀ x ∈ g, x.order = o) ∧ (∀ x ∈ flatCls r, o < x.order) ∧ ClsOK r

theorem insertClass_ok (a : RArg) (cls : List (Int × List RArg)) (h : ClsOK cls) :
    ClsOK (insertClass a cls) ∧ flatCls (insertClass a cls) = insertLast a (flatCls cls) := by
  induction cls with
  | nil => exact ⟨⟨List.forall_mem_singleton.mpr rfl, (fun x hx => nomatch hx), trivial⟩, rfl⟩
  | cons c r ih =>
    obtain ⟨o, g⟩ := c
    obtain ⟨hg, hr, hok⟩ := h
    -- as in `insertClass`: `a` joins the head class (behind its members, before everything later), opens a class in
    -- front of it (everything is above `a`), or goes on past it (its members are below `a`)
    simp only [insertClass]
    split
    · next heq =>
      refine ⟨⟨List.forall_mem_append.mpr ⟨hg, List.forall_mem_singleton.mpr heq⟩, hr, hok⟩, ?_⟩
      rw [flatCls_cons, flatCls_cons, List.append_assoc, List.singleton_append,
        insertLast_append_le a g _ (fun x hx => Int.le_of_eq ((hg x hx).trans heq.symm)),
        insertLast_all_gt a _ (fun x hx => heq ▸ hr x hx)]
    · split
      · next hlt =>
        have habove : ∀ x ∈ flatCls ((o, g) :: r), a.order < x.order :=
          List.forall_mem_append.mpr ⟨fun x hx => hg x hx ▸ hlt, fun x hx => Int.lt_trans hlt (hr x hx)⟩
        exact ⟨⟨List.forall_mem_singleton.mpr rfl, habove, hg, hr, hok⟩, (insertLast_all_gt a _ habove).symm⟩
      · rename_i hne hnlt
        obtain ⟨ihok, ihflat⟩ := ih hok
        have hgt : o < a.order := ((Int.lt_trichotomy a.order o).resolve_left hnlt).resolve_left hne
        have hlater : ∀ x ∈ insertLast a (flatCls r), o < x.order := forall_mem_insertLast a _ hgt hr
        refine ⟨⟨hg, ihflat ▸ hlater, ihok⟩, ?_⟩
        rw [flatCls_cons, flatCls_cons, ihflat,
          insertLast_append_le a g _ (fun x hx => Int.le_of_lt (hg x hx ▸ hgt))]

/-- `pre`: the arguments already folded into `cls`. -/
theorem flatCls_foldl_insertClass (as : List RArg) : ∀ (pre : List RArg) (cls : List (Int × List RArg)),
    ClsOK cls → flatCls cls = sortArgs pre →
    flatCls (as.foldl (fun acc a => insertClass a acc) cls) = sortArgs (pre ++ as) := by
  induction as with
  | nil => intro pre cls _ h; rw [List.append_nil]; exact h
  | cons a as ih =>
    intro pre cls hok h
    obtain ⟨h1, h2⟩ := insertClass_ok a cls hok
    have := ih (pre ++ [a]) _ h1 (by rw [h2, h, sortArgs_snoc])
    rwa [List.append_assoc, List.singleton_append] at this

theorem sortArgs_eq_flatten_orderClasses (as : List RArg) : sortArgs as = (orderClasses as).flatten :=
  (flatCls_foldl_insertClass as [] [] trivial rfl).symm

theorem emitAll_eq (l : List RArg) : emitAll l = (l.map emitArg).flatten := by
  induction l with
  | nil => rfl
  | cons a as ih => simp [emitAll, ih]

theorem isPrefixOf_append (a b : List Bytes) : a.isPrefixOf (a ++ b) = true :=
  List.isPrefixOf_iff_prefix.mpr (List.prefix_append a b)

theorem consumePerm_identity (g : List (List Bytes)) : ∀ (fuel : Nat) (rest : List Bytes), g.length < fuel →
    rest ∈ consumePerm fuel g (g.flatten ++ rest) := by
  induction g with
  | nil =>
    intro fuel rest hf
    cases fuel with
    | zero => exact absurd hf (Nat.not_lt_zero _)
    | succ f => simp [consumePerm]
  | cons blk g' ih =>
    intro fuel rest hf
    cases fuel with
    | zero => exact absurd hf (Nat.not_lt_zero _)
    | succ f =>
      -- take the first block first
      simp only [consumePerm, List.mem_flatMap, List.mem_range]
      refine ⟨0, by simp, ?_⟩
      have hp : blk.isPrefixOf (blk ++ (g'.flatten ++ rest)) = true := isPrefixOf_append _ _
      simp only [List.flatten_cons, List.append_assoc, List.getElem?_cons_zero, hp, if_true, List.eraseIdx_cons_zero,
        List.drop_left]
      exact ih f rest (Nat.lt_of_succ_lt_succ hf)

theorem consumeClasses_identity (gs : List (List (List Bytes))) : ∀ (rests : List (List Bytes)) (rest : List Bytes),
    ((gs.map List.flatten).flatten ++ rest) ∈ rests → rest ∈ consumeClasses gs rests := by
  induction gs with
  | nil => intro rests rest h; simpa [consumeClasses] using h
  | cons g gs ih =>
    intro rests rest h
    simp only [consumeClasses]
    apply ih
    simp only [List.mem_flatMap]
    refine ⟨_, h, ?_⟩
    simp only [List.map_cons, List.flatten_cons, List.append_assoc]
    exact consumePerm_identity g (g.length + 1) _ (Nat.lt_succ_self _)

theorem emitAll_sortArgs_eq_blocks (rs : List RArg) :
    emitAll (sortArgs rs) = (((orderClasses rs).map (·.map specArgBlock)).map List.flatten).flatten := by
  rw [emitAll_eq, sortArgs_eq_flatten_orderClasses, funext emitArg_eq_specArgBlock, List.map_flatten, List.flatten_flatten,
    List.map_map]

theorem specArgvLayout_model (base : List Bytes) (rs : List RArg) :
    specArgvLayout base rs (base ++ emitAll (sortArgs rs)) = none := by
  have hmem := consumeClasses_identity ((orderClasses rs).map (·.map specArgBlock)) [emitAll (sortArgs rs)] []
    (by rw [List.append_nil, ← emitAll_sortArgs_eq_blocks]; exact List.mem_singleton.mpr rfl)
  rw [specArgvLayout, isPrefixOf_append, List.drop_left, Bool.true_and, if_pos (List.any_eq_true.mpr ⟨[], hmem, rfl⟩)]

end Icinga.C09
