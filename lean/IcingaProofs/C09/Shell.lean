/-
  C09 — string command lines: `EscapeShellArg` read by the sh lexer, and the byte lexer on the line the model
  builds against the template lexer on the template (the simulation behind `model_string_command_meets_spec`).
-/
import IcingaModel.C09.Spec
import IcingaProofs.C09.Except

namespace Icinga.C09

theorem shRun_append (s : ShSt) (a b : Bytes) :
    shRun s (a ++ b) = (shRun s a) >>= fun s' => shRun s' b := by
  induction a generalizing s with
  | nil => rfl
  | cons c cs ih =>
    simp only [List.cons_append, shRun]
    cases shStep s c with
    | error e => rfl
    | ok s' => exact ih s'

theorem shRun_escBody (done : List Bytes) (w v : Bytes) :
    shRun { done := done, cur := some w, mode := .sq } (escBody v)
      = .ok { done := done, cur := some (w ++ v), mode := .sq } := by
  induction v generalizing w with
  | nil => simp [escBody, shRun]
  | cons c cs ih =>
    -- either way the lexer has appended `c` when it reaches the body of the rest
    have : shRun { done := done, cur := some w, mode := .sq } (escBody (c :: cs))
        = shRun { done := done, cur := some (w ++ [c]), mode := .sq } (escBody cs) := by
      by_cases hc : c = SQUOTE
      · subst hc
        rfl
      · simp only [escBody, if_neg hc, shRun, shStep, bind_ok, pure_eq_ok]
        rfl
    rw [this, ih, List.append_assoc, List.singleton_append]

theorem shRun_escapeShellArg (s : ShSt) (hmode : s.mode = .unq) (v suffix : Bytes) :
    shRun s (escapeShellArg v ++ suffix)
      = shRun { done := s.done, cur := some (s.cur.getD [] ++ v), mode := .unq } suffix := by
  obtain ⟨done, cur, mode⟩ := s
  simp only at hmode
  subst hmode
  have h1 : shRun { done := done, cur := cur, mode := .unq } (escapeShellArg v ++ suffix)
      = shRun { done := done, cur := some (cur.getD []), mode := .sq } (escBody v ++ SQUOTE :: suffix) := by
    simp [escapeShellArg, shRun, shStep, SQUOTE]
  rw [h1, shRun_append, shRun_escBody]
  simp [shRun, shStep]

theorem fillSym_append (vo : Bytes → Option Bytes) (a b : List Sym) : fillSym vo (a ++ b) = fillSym vo a ++ fillSym vo b := by
  induction a with
  | nil => rfl
  | cons x xs ih => cases x <;> simp [fillSym, ih]

theorem fillSym_getD (vo : Bytes → Option Bytes) (c : Option (List Sym)) :
    (c.map (fillSym vo)).getD [] = fillSym vo (c.getD []) := by
  cases c <;> rfl

theorem fillSt_push (vo : Bytes → Option Bytes) (s : SymSt) (c : UInt8) :
    (fillSt vo s).push c = fillSt vo (s.push (.byte c)) := by
  simp [fillSt, ShSt.push, SymSt.push, fillSym_getD, fillSym_append, fillSym]

/-- On a literal byte the two lexers are the same program text: they take the same branch, and in every branch
    the new states correspond. -/
theorem step_commutes (vo : Bytes → Option Bytes) (s : SymSt) (c : UInt8) :
    shStep (fillSt vo s) c = (symStep s (.byte c)).map (fillSt vo) := by
  have hcur : (fillSt vo s).cur.getD [] = fillSym vo (s.cur.getD []) := fillSym_getD vo s.cur
  have hmode : (fillSt vo s).mode = s.mode := rfl
  unfold shStep symStep
  rw [fillSt_push, hcur, hmode]
  obtain ⟨done, cur, mode⟩ := s
  cases mode <;> simp only [apply_ite (Except.map (fillSt vo))]
  · cases cur <;> rfl
  all_goals rfl

theorem lexer_simulation (vo : Bytes → Option Bytes) (syms : List Sym) :
    ∀ s, UnqAtMacros s syms → shRun (fillSt vo s) (renderEsc vo syms) = (symRun s syms).map (fillSt vo) := by
  induction syms with
  | nil => intro s _; rfl
  | cons x xs ih =>
    intro s h
    cases x with
    | byte c =>
      simp only [renderEsc, shRun, symRun, step_commutes]
      cases hs : symStep s (.byte c) with
      | error e => rfl
      | ok s' => exact ih s' (h s' hs)
    | mac n =>
      obtain ⟨hm, h'⟩ := h
      have hstep : symStep s (.mac n) = .ok (s.push (.mac n)) := by rw [symStep, hm]; rfl
      simp only [renderEsc, symRun, hstep]
      rw [shRun_escapeShellArg (fillSt vo s) hm]
      have : ({ done := (fillSt vo s).done, cur := some ((fillSt vo s).cur.getD [] ++ (vo n).getD []), mode := .unq } : ShSt)
          = fillSt vo (s.push (.mac n)) := by
        simp [fillSt, SymSt.push, fillSym_getD, fillSym_append, fillSym, hm]
      rw [this]
      exact ih _ h'

theorem finish_commutes (vo : Bytes → Option Bytes) (s : SymSt) :
    (fillSt vo s).finish = s.finish.map (fun ws => ws.map (fillSym vo)) := by
  obtain ⟨done, cur, mode⟩ := s
  cases mode
  · cases cur <;> simp [fillSt, ShSt.finish, SymSt.finish, Except.map, List.map_reverse]
  all_goals rfl

theorem shWords_renderEsc (vo : Bytes → Option Bytes) (syms : List Sym) (h : UnqAtMacros {} syms) :
    shWords (renderEsc vo syms) = (symWords syms).map (fun ws => ws.map (fillSym vo)) := by
  have hsim : shRun {} (renderEsc vo syms) = (symRun {} syms).map (fillSt vo) := lexer_simulation vo syms {} h
  simp only [shWords, symWords, hsim]
  cases symRun {} syms with
  | error e => rfl
  | ok s => exact finish_commutes vo s

end Icinga.C09
