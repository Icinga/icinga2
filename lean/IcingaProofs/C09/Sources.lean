/-
  C09 — where macro values come from: the resolver loop with the default resolvers `icinga` and `env`.  A short name that
  no level defines is not found, and a string that mentions one resolves with the missing report set; the prefixed
  `$env.NAME$` is answered by the `env` resolver.
-/
import IcingaProofs.C09.Expand

namespace Icinga.C09

theorem splitOn_of_not_mem (sep : UInt8) (acc n : Bytes) (h : sep ∉ n) : splitOn sep acc n = [acc.reverse ++ n] := by
  induction n generalizing acc with
  | nil => simp [splitOn]
  | cons c cs ih =>
    have hc : c ≠ sep := Ne.symm (List.ne_of_not_mem_cons h)
    have hcs : sep ∉ cs := List.not_mem_of_not_mem_cons h
    simp [splitOn, hc, ih (c :: acc) hcs]

theorem splitOn_append (sep : UInt8) (acc p rest : Bytes) (h : sep ∉ p) :
    splitOn sep acc (p ++ sep :: rest) = (acc.reverse ++ p) :: splitOn sep [] rest := by
  induction p generalizing acc with
  | nil => simp [splitOn]
  | cons c cs ih =>
    have hc : c ≠ sep := Ne.symm (List.ne_of_not_mem_cons h)
    have hcs : sep ∉ cs := List.not_mem_of_not_mem_cons h
    simp [splitOn, hc, ih (c :: acc) hcs]

theorem resolveMacroIn_notFound {objs : List Obj} {mname objName : Bytes} {tokens : List Bytes}
    (h : ∀ o ∈ objs, o.resolve mname objName tokens = none) : resolveMacroIn objs mname objName tokens = .notFound := by
  induction objs with
  | nil => rfl
  | cons o os ih =>
    simp only [resolveMacroIn, h o List.mem_cons_self]
    exact ih (fun o' ho' => h o' (List.mem_cons_of_mem _ ho'))

theorem Obj.resolve_foreign (o : Obj) {mname objName : Bytes} {tokens : List Bytes} (hne : objName ≠ [])
    (h : o.rname ≠ objName) : o.resolve mname objName tokens = none := by
  simp [Obj.resolve, hne, Ne.symm h]

theorem Obj.resolve_short_none (o : Obj) (n : Bytes) (hv : assoc o.vars n = none) (ha : assoc o.attrs n = none)
    (hn : n ≠ sVars) : o.resolve n [] [n] = none := by
  simp [Obj.resolve, hv, Obj.walk, Obj.walkStep, hn, ha]

theorem definedOnSomeLevel_eq_false (levels : List Obj) (n : Bytes) (h : definedOnSomeLevel levels n = false) :
    n ≠ sVars ∧ ∀ o ∈ levels, assoc o.vars n = none ∧ assoc o.attrs n = none := by
  simp only [definedOnSomeLevel, Bool.or_eq_false_iff, decide_eq_false_iff_not, List.any_eq_false] at h
  refine ⟨h.1, fun o ho => ?_⟩
  have := h.2 o ho
  simp only [Bool.or_eq_true, Option.isSome_iff_ne_none, not_or, ne_eq, Decidable.not_not] at this
  exact this

theorem resolveMacroFull_short (objs : List Obj) (dflt : Defaults) {n : Bytes} (hdot : DOT ∉ n) :
    resolveMacroFull objs dflt n = resolveMacroIn (objs ++ [dflt.icinga]) n [] [n] := by
  have hs : splitOn DOT [] n = [n] := splitOn_of_not_mem DOT [] n hdot
  simp only [resolveMacroFull, hs]
  cases resolveMacroIn (objs ++ [dflt.icinga]) n [] [n] <;> simp [envResolve, sEnv]

theorem resolveMacroFull_undefined (objs : List Obj) (dflt : Defaults) (n : Bytes) (hdot : DOT ∉ n)
    (hundef : definedOnSomeLevel (objs ++ [dflt.icinga]) n = false) : resolveMacroFull objs dflt n = .notFound := by
  obtain ⟨hnv, hall⟩ := definedOnSomeLevel_eq_false _ n hundef
  rw [resolveMacroFull_short _ _ hdot]
  exact resolveMacroIn_notFound (fun o ho => o.resolve_short_none n (hall o ho).1 (hall o ho).2 hnv)

/-- `$env.NAME$`: no level is called `env`, so the resolver loop over the levels finds nothing and the `env` resolver answers. -/
theorem resolveMacroFull_env (objs : List Obj) (dflt : Defaults) (x : Bytes) (hx : DOT ∉ x) (hobjs : ∀ o ∈ objs, o.rname ≠ sEnv) :
    resolveMacroFull objs dflt (sEnv ++ DOT :: x)
      = match assocB dflt.env x with
        | some v => .found (.str v) false
        | none => .notFound := by
  have hsplit : splitOn DOT [] (sEnv ++ DOT :: x) = [sEnv, x] := by
    rw [splitOn_append DOT [] sEnv x (by simp [sEnv, DOT]), splitOn_of_not_mem DOT [] x hx]
    rfl
  have hall : ∀ o ∈ objs ++ [dflt.icinga], o.resolve (sEnv ++ DOT :: x) sEnv [x] = none :=
    List.forall_mem_append.mpr ⟨fun o ho => o.resolve_foreign (by decide) (hobjs o ho),
      List.forall_mem_singleton.mpr (Obj.resolve_foreign _ (by decide) (by decide : sIcinga ≠ sEnv))⟩
  cases hv : assocB dflt.env x <;> simp [resolveMacroFull, hsplit, resolveMacroIn_notFound hall, envResolve, joinDots, hv]

theorem internalResolve_undefined_missing (objs : List Obj) (dflt : Defaults) (fuel : Nat) (esc : Bool) (s : Bytes) (v : Val)
    (m : Bool) (hu : (macroNames (tokenize s)).any (undefinedShort (objs ++ [dflt.icinga])) = true)
    (h : internalResolve (resolveMacroFull objs dflt) fuel esc s = .ok (v, m)) : m = true := by
  obtain ⟨n, hn, hu⟩ := List.any_eq_true.mp hu
  simp only [undefinedShort, Bool.and_eq_true, Bool.not_eq_true', List.isEmpty_eq_false_iff] at hu
  obtain ⟨⟨hne, hdot⟩, hundef⟩ := hu
  have hnf := resolveMacroFull_undefined objs dflt n (by simpa using hdot) hundef
  cases fuel with
  | zero => cases h
  | succ fuel =>
    obtain ⟨_, μ, hv, hμ⟩ := internalResolve_ok_macro h n hn
    rw [expandMacro_notFound _ esc hne hnf] at hv
    cases hv
    exact hμ rfl

end Icinga.C09
