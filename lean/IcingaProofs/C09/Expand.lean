/-
  C09 — one macro and one level of `InternalResolveMacros`.  `expandCore` / `expandMacro` as equations by what the lookup
  answers; a faithfully cached macro (`CacheOK`) expands from the cache as it does directly.  One level is a lone macro's
  expansion as it is, or the replace loop (`internalResolve_lone_or_loop`); a level that has a value has one of every macro
  of the string, and it reads the lookup and the level below only through the expansions of those macros.
-/
import IcingaModel.C09.Spec
import IcingaProofs.C09.Except

namespace Icinga.C09

theorem tok_append (inName : Bool) (acc p rest : Bytes) (hp : DOLLAR ∉ p) :
    tok inName acc (p ++ DOLLAR :: rest)
      = (if inName then Tok.mac (acc.reverse ++ p) else .lit (acc.reverse ++ p)) :: tok (!inName) [] rest := by
  induction p generalizing acc with
  | nil => cases inName <;> simp [tok]
  | cons c cs ih =>
    have hc : c ≠ DOLLAR := Ne.symm (List.ne_of_not_mem_cons hp)
    have hcs : DOLLAR ∉ cs := List.not_mem_of_not_mem_cons hp
    cases inName <;> simp [tok, hc, ih (c :: acc) hcs]

theorem tokenize_macro (p n q : Bytes) (hp : DOLLAR ∉ p) (hn : DOLLAR ∉ n) :
    tokenize (p ++ DOLLAR :: (n ++ DOLLAR :: q)) = .lit p :: .mac n :: tokenize q := by
  simp [tokenize, tok_append false [] p _ hp, tok_append true [] n _ hn]

theorem tokenize_lone (n : Bytes) (hn : DOLLAR ∉ n) : tokenize (DOLLAR :: (n ++ [DOLLAR])) = [.lit [], .mac n, .lit []] :=
  tokenize_macro [] n [] List.not_mem_nil hn

theorem internalResolve_lone (look : Bytes → Lookup) (fuel : Nat) (esc : Bool) (n : Bytes) (hn : DOLLAR ∉ n) :
    internalResolve look (fuel + 1) esc (DOLLAR :: (n ++ [DOLLAR]))
      = expandMacro look (fun t => internalResolve look fuel false t) esc n := by
  simp only [internalResolve, tokenize_lone n hn]

theorem internalResolve_lone_or_loop (s : Bytes) :
    (∃ n, tokenize s = [.lit [], .mac n, .lit []] ∧ ∀ look fuel esc,
      internalResolve look (fuel + 1) esc s = expandMacro look (fun t => internalResolve look fuel false t) esc n) ∨
    (∀ look fuel esc,
      internalResolve look (fuel + 1) esc s
        = concatToks look (fun t => internalResolve look fuel false t) esc (tokenize s) >>= fun (b, m) => pure (.str b, m)) := by
  by_cases h : ∃ n, tokenize s = [.lit [], .mac n, .lit []]
  · obtain ⟨n, htok⟩ := h
    exact .inl ⟨n, htok, fun look fuel esc => by rw [internalResolve, htok]⟩
  · refine .inr (fun look fuel esc => ?_)
    rw [internalResolve]
    split
    · next n htok => exact absurd ⟨n, htok⟩ h
    · rfl

theorem tok_ne_nil (m : Bool) (acc cs : Bytes) : tok m acc cs ≠ [] := by
  induction cs generalizing m acc with
  | nil => cases m <;> simp [tok]
  | cons c cs ih =>
    cases m <;> by_cases hc : c = DOLLAR <;> simp [tok, hc, ih]

theorem tok_single_lit (acc cs : Bytes) (h : tok false acc cs = [.lit []]) : acc = [] ∧ cs = [] := by
  induction cs generalizing acc with
  | nil => simpa [tok] using h
  | cons c cs ih =>
    by_cases hc : c = DOLLAR
    · subst hc
      simp only [tok, if_true] at h
      exact absurd (List.cons.inj h).2 (tok_ne_nil _ _ _)
    · simp only [tok, hc, if_false] at h
      exact absurd (ih (c :: acc) h).1 (List.cons_ne_nil _ _)

theorem tokenize_single_lit (q : Bytes) (h : tokenize q = [.lit []]) : q = [] :=
  (tok_single_lit [] q h).2

/-- The recursive resolution of the value of a user macro (macroprocessor.cpp:289-310). -/
def resolveNested (rec : Bytes → Res) : Val → Res
  | .arr l => do
    let (r, m) ← resolveElems rec l
    pure (.arr r, m)
  | .str b => rec b
  | v => pure (v, false)

theorem expandCore_unsupported {look : Bytes → Lookup} (rec : Bytes → Res) {n : Bytes} (h : look n = .unsupported) :
    expandCore look rec n = .error .unsupported := by
  simp only [expandCore, h, throw_eq_error]

theorem expandCore_notFound {look : Bytes → Lookup} (rec : Bytes → Res) {n : Bytes} (h : look n = .notFound) :
    expandCore look rec n = .ok (if n = [] then (.str [DOLLAR], true, false) else (.empty, false, false)) := by
  cases n <;> simp [expandCore, h]

theorem expandCore_found {look : Bytes → Lookup} (rec : Bytes → Res) {n : Bytes} {v : Val} {r : Bool}
    (h : look n = .found v r) :
    expandCore look rec n
      = (if r then resolveNested rec (if n = [] then .str [DOLLAR] else v) else pure (if n = [] then .str [DOLLAR] else v, false))
          >>= fun (v2, m2) => pure (v2, true, m2) := by
  unfold expandCore
  rw [h]
  cases n <;> cases r <;> simp only [reduceCtorEq, ↓reduceIte]
  case cons.true => cases v <;> rfl
  all_goals rfl

theorem expandCore_plain {look : Bytes → Lookup} (rec : Bytes → Res) {n : Bytes} {v : Val} (hn : n ≠ [])
    (h : look n = .found v false) : expandCore look rec n = .ok (v, true, false) := by
  simp [expandCore_found rec h, hn]

theorem expandCore_rec {look : Bytes → Lookup} (rec : Bytes → Res) {n : Bytes} {v : Val} (hn : n ≠ [])
    (h : look n = .found v true) :
    expandCore look rec n = resolveNested rec v >>= fun (v2, m2) => pure (v2, true, m2) := by
  simp [expandCore_found rec h, hn]

theorem expandCore_unfound_eq_empty {look : Bytes → Lookup} {rec : Bytes → Res} {n : Bytes} {v : Val} {m : Bool}
    (h : expandCore look rec n = .ok (v, false, m)) : v = .empty := by
  cases hl : look n with
  | unsupported => rw [expandCore_unsupported rec hl] at h; cases h
  | notFound =>
    rw [expandCore_notFound rec hl] at h
    split at h
    · cases h
    · cases h; rfl
  | found v' r =>
    rw [expandCore_found rec hl] at h
    obtain ⟨⟨v2, m2⟩, _, h⟩ := bind_eq_ok.mp h
    cases h

theorem expandMacro_of_core {look : Bytes → Lookup} {rec : Bytes → Res} (esc : Bool) {n : Bytes} {v : Val} {found m : Bool}
    (h : expandCore look rec n = .ok (v, found, m)) :
    expandMacro look rec esc n = .ok (if esc then Val.str (escapeMacroShellArg v) else v, !found || m) := by
  simp only [expandMacro, h, bind_ok, pure_eq_ok]

theorem expandMacro_notFound {look : Bytes → Lookup} (rec : Bytes → Res) (esc : Bool) {n : Bytes} (hne : n ≠ [])
    (h : look n = .notFound) :
    expandMacro look rec esc n = .ok (if esc then Val.str (escapeMacroShellArg .empty) else .empty, true) := by
  have := expandCore_notFound rec h
  rw [if_neg hne] at this
  exact expandMacro_of_core esc this

theorem expandMacro_dollar {look : Bytes → Lookup} (rec : Bytes → Res) (hempty : look [] = .notFound) :
    expandMacro look rec false [] = .ok (.str [DOLLAR], false) :=
  expandMacro_of_core false (expandCore_notFound rec hempty)

theorem expandMacro_plain {look : Bytes → Lookup} (rec : Bytes → Res) {m : Bytes} {v : Val} (hm : m ≠ [])
    (hv : look m = .found v false) :
    expandMacro look rec false m = .ok (v, false) :=
  expandMacro_of_core false (expandCore_plain rec hm hv)

theorem expand_plain_esc (look : Bytes → Lookup) (rec : Bytes → Res) (m v : Bytes) (hm : m ≠ [])
    (hv : look m = .found (.str v) false) :
    expandMacro look rec true m = .ok (.str (escapeShellArg v), false) :=
  expandMacro_of_core true (expandCore_plain rec hm hv)

/-- The cache `c` is faithful for the macro `n` resolved under `look` (with `rec` one level deeper): it
    holds the value after recursion iff the macro was found, and no macro nested in that value was missing.
    For `$$` (`n = []`): no variable is named "" under `look` (a recursive one would have the `$` resolved once more,
    which fails), and an entry under "" in the cache is not recursive — `$$` then overrides it.
    At the model's own cache (`c = cacheLookup cache`, `rec` the resolution at `fuel`, `n ≠ []`) it holds when `expandCore`
    yields a value, `assoc cache n = cacheEntry look (fuel + 1) n` and `nestedMissing look (fuel + 1) n = false`. -/
def CacheOK (look c : Bytes → Lookup) (rec : Bytes → Res) (n : Bytes) : Prop :=
  if n = [] then look [] = .notFound ∧ (c [] = .notFound ∨ ∃ v, c [] = .found v false)
  else ∃ v found, expandCore look rec n = .ok (v, found, false) ∧ c n = (if found then .found v false else .notFound)

theorem expandMacro_cached (look c : Bytes → Lookup) (rec rec' : Bytes → Res) (esc : Bool) (n : Bytes)
    (h : CacheOK look c rec n) : expandMacro c rec' esc n = expandMacro look rec esc n := by
  unfold CacheOK at h
  split at h
  · next hn =>
    subst hn
    obtain ⟨hl, hc⟩ := h
    have hc' : expandCore c rec' [] = .ok (.str [DOLLAR], true, false) := by
      rcases hc with hc | ⟨v, hc⟩
      · exact expandCore_notFound rec' hc
      · exact expandCore_found rec' hc
    rw [expandMacro_of_core esc hc',
      expandMacro_of_core esc (expandCore_notFound rec hl)]
    rfl
  · next hn =>
    obtain ⟨v, found, h1, h2⟩ := h
    have hc' : expandCore c rec' n = .ok (v, found, false) := by
      cases found with
      | true => exact expandCore_plain rec' hn h2
      | false =>
        rw [expandCore_notFound rec' h2, if_neg hn, expandCore_unfound_eq_empty h1]
    rw [expandMacro_of_core esc hc', expandMacro_of_core esc h1]

/-- The macro's value must be a String: a lone macro returns its value as it is, the replace loop returns a String. -/
theorem internalResolve_insert (look : Bytes → Lookup) (fuel : Nat) (esc : Bool) (p m q : Bytes) {v : Bytes} {μ : Bool}
    (hp : DOLLAR ∉ p) (hmd : DOLLAR ∉ m)
    (hv : expandMacro look (fun t => internalResolve look fuel false t) esc m = .ok (.str v, μ)) :
    internalResolve look (fuel + 1) esc (p ++ DOLLAR :: (m ++ DOLLAR :: q))
      = (concatToks look (fun t => internalResolve look fuel false t) esc (tokenize q)).map
          (fun r => (.str (p ++ v ++ r.1), μ || r.2)) := by
  have htm := tokenize_macro p m q hp hmd
  rcases internalResolve_lone_or_loop (p ++ DOLLAR :: (m ++ DOLLAR :: q)) with ⟨n, htok, hs⟩ | hs <;> rw [hs]
  · -- the whole string is the macro: `p` and `q` are empty
    rw [htm] at htok
    simp only [List.cons.injEq, Tok.lit.injEq, Tok.mac.injEq] at htok
    obtain ⟨rfl, rfl, hq⟩ := htok
    simp [hq, concatToks, hv, Except.map]
  · simp only [htm, concatToks, hv, bind_ok, Val.scalarBytes]
    cases concatToks look (fun t => internalResolve look fuel false t) esc (tokenize q) with
    | error e => rfl
    | ok r => simp [Except.map]

/-- With the escape function every value is a String: the "only macro" case is the replace loop. -/
theorem internalResolve_esc (look : Bytes → Lookup) (fuel : Nat) (s : Bytes) :
    internalResolve look (fuel + 1) true s
      = (concatToks look (fun t => internalResolve look fuel false t) true (tokenize s)).map (fun r => (Val.str r.1, r.2)) := by
  rcases internalResolve_lone_or_loop s with ⟨n, htok, hs⟩ | hs <;> rw [hs]
  · simp only [htok, concatToks, expandMacro]
    cases expandCore look (fun t => internalResolve look fuel false t) n with
    | error e => rfl
    | ok p => simp [Val.scalarBytes, Except.map]
  · cases concatToks look (fun t => internalResolve look fuel false t) true (tokenize s) <;> rfl

theorem concatToks_congr {look look' : Bytes → Lookup} {rec rec' : Bytes → Res} {esc : Bool} {toks : List Tok}
    (h : ∀ n ∈ macroNames toks, expandMacro look' rec' esc n = expandMacro look rec esc n) :
    concatToks look' rec' esc toks = concatToks look rec esc toks := by
  induction toks with
  | nil => rfl
  | cons t ts ih =>
    cases t with
    | lit b => simp only [concatToks, ih h]
    | unclosed => rfl
    | mac n => simp only [concatToks, h n List.mem_cons_self, ih (fun m hm => h m (List.mem_cons_of_mem _ hm))]

theorem concatToks_ok_macro {look : Bytes → Lookup} {rec : Bytes → Res} {esc : Bool} :
    ∀ {toks : List Tok} {b : Bytes} {m : Bool}, concatToks look rec esc toks = .ok (b, m) →
      ∀ n ∈ macroNames toks, ∃ v μ, expandMacro look rec esc n = .ok (v, μ) ∧ (μ = true → m = true) := by
  intro toks
  induction toks with
  | nil => intro _ _ _ n hn; cases hn
  | cons t ts ih =>
    intro b m h n hn
    cases t with
    | unclosed => cases h
    | lit x =>
      obtain ⟨⟨b', m'⟩, hc, hr⟩ := bind_eq_ok.mp h
      cases hr
      exact ih hc n hn
    | mac k =>
      obtain ⟨⟨v, m1⟩, he, hr⟩ := bind_eq_ok.mp h
      dsimp only at hr
      split at hr
      · cases hr  -- an array value: the loop throws
      · obtain ⟨⟨b', m2⟩, hc, hr⟩ := bind_eq_ok.mp hr
        cases hr
        rcases List.mem_cons.mp hn with rfl | hn
        · exact ⟨v, m1, he, fun h1 => by rw [h1, Bool.true_or]⟩
        · obtain ⟨v', μ, hv', hμ⟩ := ih hc n hn
          exact ⟨v', μ, hv', fun h1 => by rw [hμ h1, Bool.or_true]⟩

theorem internalResolve_ok_macro {look : Bytes → Lookup} {fuel : Nat} {esc : Bool} {s : Bytes} {v : Val} {m : Bool}
    (h : internalResolve look (fuel + 1) esc s = .ok (v, m)) :
    ∀ n ∈ macroNames (tokenize s),
      ∃ v' μ, expandMacro look (fun t => internalResolve look fuel false t) esc n = .ok (v', μ) ∧ (μ = true → m = true) := by
  rcases internalResolve_lone_or_loop s with ⟨k, htok, hs⟩ | hs <;> rw [hs] at h
  · intro n hn
    obtain rfl : n = k := by simpa [htok, macroNames] using hn
    exact ⟨v, m, h, id⟩
  · obtain ⟨⟨b, m'⟩, hc, h⟩ := bind_eq_ok.mp h
    cases h
    exact concatToks_ok_macro hc

theorem internalResolve_congr {look look' : Bytes → Lookup} {fuel fuel' : Nat} {esc : Bool} {s : Bytes}
    (h : ∀ n ∈ macroNames (tokenize s), expandMacro look' (fun t => internalResolve look' fuel' false t) esc n
      = expandMacro look (fun t => internalResolve look fuel false t) esc n) :
    internalResolve look' (fuel' + 1) esc s = internalResolve look (fuel + 1) esc s := by
  rcases internalResolve_lone_or_loop s with ⟨n, htok, hs⟩ | hs <;> rw [hs, hs]
  · exact h n (by simp [htok, macroNames])
  · rw [concatToks_congr h]

end Icinga.C09
