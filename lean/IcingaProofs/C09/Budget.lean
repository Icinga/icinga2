/-
  C09 — the recursion budget.  A larger one keeps every value: the expansion of a macro is monotone, for the order `Le`, in
  the function that resolves one level deeper, and a level that has a value reads nothing but the expansions of its macros.
  A reference cycle uses up every one: a failure of the nested resolution makes the expansion of the macro fail, so a custom
  variable from which the resolution can only go on into further such variables never yields a value.
-/
import IcingaProofs.C09.Expand

namespace Icinga.C09

theorem resolveElems_mono {rec1 rec2 : Bytes → Res} (h : ∀ t, Le (rec1 t) (rec2 t)) :
    ∀ l, Le (resolveElems rec1 l) (resolveElems rec2 l)
  | [] => Le.refl _
  | e :: es => by
    have ih := resolveElems_mono h es
    simp only [resolveElems]
    split
    · exact ih.bind_left
    · refine Le.bind (h e) (fun p => ?_)
      cases p.1.scalarBytes with
      | none => exact Le.refl _
      | some b => exact ih.bind_left

theorem resolveNested_mono {rec1 rec2 : Bytes → Res} (h : ∀ t, Le (rec1 t) (rec2 t)) (v : Val) :
    Le (resolveNested rec1 v) (resolveNested rec2 v) := by
  cases v with
  | arr l => exact (resolveElems_mono h l).bind_left
  | str b => exact h b
  | _ => exact Le.refl _

theorem expandMacro_mono (look : Bytes → Lookup) {rec1 rec2 : Bytes → Res} (h : ∀ t, Le (rec1 t) (rec2 t)) (esc : Bool)
    (n : Bytes) : Le (expandMacro look rec1 esc n) (expandMacro look rec2 esc n) := by
  refine Le.bind_left ?_
  cases hl : look n with
  | unsupported => rw [expandCore_unsupported rec1 hl, expandCore_unsupported rec2 hl]; exact Le.refl _
  | notFound => rw [expandCore_notFound rec1 hl, expandCore_notFound rec2 hl]; exact Le.refl _
  | found v r =>
    rw [expandCore_found rec1 hl, expandCore_found rec2 hl]
    cases r with
    | false => exact Le.refl _
    | true => exact (resolveNested_mono h _).bind_left

theorem internalResolve_mono (look : Bytes → Lookup) :
    ∀ {fuel fuel' : Nat}, fuel ≤ fuel' → ∀ esc s, Le (internalResolve look fuel esc s) (internalResolve look fuel' esc s) := by
  intro fuel
  induction fuel with
  | zero => intro _ _ esc s r hr; cases hr
  | succ f ih =>
    intro fuel' hle esc s
    cases fuel' with
    | zero => exact absurd hle (Nat.not_succ_le_zero f)
    | succ f' =>
      intro ⟨v, m⟩ hr
      rw [← hr]
      refine internalResolve_congr (fun n hn => ?_)
      obtain ⟨v', μ, hv, _⟩ := internalResolve_ok_macro hr n hn
      rw [hv]
      exact expandMacro_mono look (ih (Nat.le_of_succ_le_succ hle) false) esc n _ hv

/-- `hv`: the value leads back to `$n$` itself — its nested resolution hits the recursion limit as soon as `$n$` one
    level deeper does. -/
theorem self_reference_bounded (look : Bytes → Lookup) (n : Bytes) (v : Val) (hn : DOLLAR ∉ n) (hne : n ≠ [])
    (hself : look n = .found v true)
    (hv : ∀ rec : Bytes → Res, rec (DOLLAR :: (n ++ [DOLLAR])) = .error .recursion → resolveNested rec v = .error .recursion) :
    ∀ fuel esc, internalResolve look fuel esc (DOLLAR :: (n ++ [DOLLAR])) = .error .recursion := by
  intro fuel
  induction fuel with
  | zero => intro esc; rfl
  | succ f ih =>
    intro esc
    rw [internalResolve_lone look f esc n hn, expandMacro, expandCore_rec _ hne hself, hv _ (ih false)]
    rfl

theorem resolveElems_fails (rec : Bytes → Res) (l : List Bytes) (e : Bytes) (he : e ∈ l) (hne : e ≠ [])
    (hf : Fails (rec e)) : Fails (resolveElems rec l) := by
  induction l with
  | nil => cases he
  | cons x xs ih =>
    simp only [resolveElems]
    rcases List.mem_cons.mp he with rfl | hmem
    · rw [if_neg hne]
      exact hf.bind
    · split
      · exact (ih hmem).bind
      · refine Fails.bind_of_all (fun ⟨v, m1⟩ => ?_)
        dsimp only
        cases v.scalarBytes with
        | none => exact ⟨_, rfl⟩
        | some b => exact (ih hmem).bind

/-- What `cycle_bounded` asks of every member of a set `S` of names: its value leads into `S` again. -/
def RefersInto (look : Bytes → Lookup) (S : Bytes → Prop) (n : Bytes) : Prop :=
  n ≠ [] ∧
  ((∃ s, look n = .found (.str s) true ∧ ∃ n' ∈ macroNames (tokenize s), S n') ∨
   (∃ l, look n = .found (.arr l) true ∧ ∃ e ∈ l, e ≠ [] ∧ ∃ n' ∈ macroNames (tokenize e), S n'))

theorem expandMacro_fails (look : Bytes → Lookup) (S : Bytes → Prop) (rec : Bytes → Res)
    (hrec : ∀ s, (∃ n ∈ macroNames (tokenize s), S n) → Fails (rec s))
    (esc : Bool) (n : Bytes) (hn : RefersInto look S n) : Fails (expandMacro look rec esc n) := by
  obtain ⟨hne, ⟨s, hl, hs⟩ | ⟨l, hl, x, hx, hxne, hs⟩⟩ := hn
  -- out through the binds of `resolveNested`'s array branch (second case), of `expandCore_rec` and of `expandMacro`
  · rw [expandMacro, expandCore_rec rec hne hl]
    exact (hrec s hs).bind.bind
  · rw [expandMacro, expandCore_rec rec hne hl]
    exact (resolveElems_fails rec l x hx hxne (hrec x hs)).bind.bind.bind

end Icinga.C09
