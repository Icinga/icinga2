/-
  C09 — `Except` through `>>=`: two relations that `>>=` preserves, `Le` and `Fails`.
-/

namespace Icinga.C09

section Except
variable {ε α β : Type}

@[simp] theorem bind_ok (a : α) (f : α → Except ε β) : (Except.ok a >>= f) = f a := rfl
@[simp] theorem bind_error (e : ε) (f : α → Except ε β) : (Except.error e >>= f) = .error e := rfl
@[simp] theorem pure_eq_ok (a : α) : (pure a : Except ε α) = .ok a := rfl
@[simp] theorem throw_eq_error (e : ε) : (throw e : Except ε α) = .error e := rfl

theorem bind_eq_ok {x : Except ε α} {f : α → Except ε β} {b : β} :
    (x >>= f) = .ok b ↔ ∃ a, x = .ok a ∧ f a = .ok b := by
  cases x <;> simp

/-- A larger recursion budget is above a smaller one in this order (`fuel_monotone`); a failure of `x` says nothing. -/
def Le (x y : Except ε α) : Prop := ∀ r, x = .ok r → y = .ok r

theorem Le.refl (x : Except ε α) : Le x x := fun _ h => h

theorem Le.bind {x y : Except ε α} {f g : α → Except ε β} (h : Le x y) (hf : ∀ a, Le (f a) (g a)) :
    Le (x >>= f) (y >>= g) := by
  intro r hr
  obtain ⟨a, ha, hfa⟩ := bind_eq_ok.mp hr
  rw [h a ha]
  exact hf a r hfa

theorem Le.bind_left {x y : Except ε α} {f : α → Except ε β} (h : Le x y) : Le (x >>= f) (y >>= f) :=
  h.bind (fun _ => Le.refl _)

/-- Whichever error: a reference cycle fails at every budget, but an earlier macro of the string may fail first with
    an error of its own (`cycle_bounded`). -/
def Fails (r : Except ε α) : Prop := ∃ e, r = .error e

theorem Fails.bind {x : Except ε α} {f : α → Except ε β} (h : Fails x) : Fails (x >>= f) := by
  obtain ⟨e, rfl⟩ := h
  exact ⟨e, rfl⟩

theorem Fails.bind_of_all {x : Except ε α} {f : α → Except ε β} (h : ∀ a, Fails (f a)) : Fails (x >>= f) := by
  cases x with
  | error e => exact ⟨e, rfl⟩
  | ok a => exact h a

end Except

end Icinga.C09
