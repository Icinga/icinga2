/-
  C09 — `ResolveMacros` and `ResolveArguments` as equations, in the cases the property speaks of: an entry of the
  `arguments` dictionary without `set_if` by how its value resolves, a failing entry in the dictionary, a successful
  resolution.
-/
import IcingaModel.C09.Model
import IcingaProofs.C09.Except

namespace Icinga.C09

theorem resolveMacros_str_cons (look : Bytes → Lookup) (level : Nat) (esc : Bool) (c : UInt8) (cs : Bytes) :
    resolveMacros look level esc (.str (c :: cs)) = internalResolve look (fuelOfLevel (level + 1)) esc (c :: cs) := rfl

theorem resolveCommand_arr (look : Bytes → Lookup) (level : Nat) (elems : List Bytes) (hasArgs : Bool) :
    resolveCommand look level (.arr elems) hasArgs
      = resolveArrayElems look (fuelOfLevel (level + 1 + 1)) elems >>= fun (ws, _) => pure (.argv ws) := by
  cases hasArgs <;> simp only [resolveCommand, Cmd.raw, resolveMacros, Raw.isEmpty] <;>
    cases resolveArrayElems look (fuelOfLevel (level + 1 + 1)) elems <;> rfl

theorem resolveArguments_none (look : Bytes → Lookup) (level : Nat) (cmd : Cmd) :
    resolveArguments look level cmd none = resolveCommand look level cmd false := by
  simp only [resolveArguments, Option.isSome]
  cases resolveCommand look level cmd false <;> rfl

theorem resolveArg_of_setIf_empty (look : Bytes → Lookup) (level : Nat) (a : ArgSpec) (hset : a.setIf.isEmpty = true) :
    resolveArg look level a = resolveMacros look (level + 1) false a.value >>= fun (v, miss) =>
      if miss then (if a.required then .error .required else .ok .skip)
      else .ok (.keep { order := a.order, skipKey := a.skipKey, repeatKey := a.repeatKey, skipValue := a.value.isEmpty,
                        key := a.key.getD a.dkey, sep := a.separator, value := v }) := by
  simp only [resolveArg, hset, if_true, bind_ok, pure_eq_ok]
  cases resolveMacros look (level + 1) false a.value with
  | error e => rfl
  | ok p => obtain ⟨v, miss⟩ := p; cases miss <;> cases a.required <;> rfl

theorem resolveArguments_entry_error (look : Bytes → Lookup) (level : Nat) (cmd : Cmd) (base : CmdOut)
    (hcmd : resolveCommand look level cmd true = .ok base) (a : ArgSpec) (e : Err)
    (hfail : resolveArg look level a = .error e) (pre post : List ArgSpec)
    (hpre : ∀ x ∈ pre, ∃ o, resolveArg look level x = .ok o) :
    resolveArguments look level cmd (some (pre ++ a :: post)) = .error e := by
  have h : resolveArgs look level (pre ++ a :: post) = .error e := by
    induction pre with
    | nil => simp only [List.nil_append, resolveArgs, hfail, bind_error]
    | cons x xs ih =>
      obtain ⟨o, ho⟩ := hpre x List.mem_cons_self
      simp only [List.cons_append, resolveArgs, ho, ih (fun y hy => hpre y (List.mem_cons_of_mem _ hy)), bind_ok, bind_error]
  simp only [resolveArguments, Option.isSome, hcmd, h, bind_ok, bind_error]

theorem resolveArguments_eq_ok (look : Bytes → Lookup) (level : Nat) (cmd : Cmd) (as : List ArgSpec) (out : CmdOut)
    (h : resolveArguments look level cmd (some as) = .ok out) :
    ∃ base rs, resolveCommand look level cmd true = .ok (.argv base) ∧ resolveArgs look level as = .ok rs ∧
      out = .argv (base ++ emitAll (sortArgs rs)) := by
  simp only [resolveArguments, Option.isSome, bind_eq_ok] at h
  obtain ⟨base, hb, rs, hr, h⟩ := h
  cases base with
  | sh line => cases h
  | argv b => exact ⟨b, rs, hb, hr, (Except.ok.inj h).symm⟩

end Icinga.C09
