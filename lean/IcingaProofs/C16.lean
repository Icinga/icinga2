/-
  C16 — property theorems.  Every `theorem` in this file is a proof obligation of the check:
  `./check C16` lists them, runs `#print axioms` on each and fails if a required one is missing.

  The statements range over every filter of the modelled language (opaque sub-expressions `other i` included), every
  list of labelled apply rules, every inventory and every `World`.
-/
import IcingaProofs.C16.Order
import IcingaProofs.C16.Trace

namespace Icinga.C16

/-- If `GetTargetHosts` extracts `names` from a filter, then in every environment in which `host` is bound to the host
    object `h` (and the recogniser's constants are what the evaluation sees) the filter evaluates — without raising — to
    exactly `h ∈ names`. -/
theorem target_hosts_sound_complete (consts : Consts) (env : Env) (e : Expr) (names : List String) (h : String)
    (hrec : getTargetHosts consts e = some names) (hc : ConstsAgree consts env)
    (hv : env.vars "host" = some (.host h)) :
    evalFilter env e = some (decide (h ∈ names)) :=
  getTargetHosts_sound_complete hc hv hrec

theorem target_services_sound_complete (consts : Consts) (env : Env) (e : Expr) (names : List (String × String))
    (h s : String) (hrec : getTargetServices consts e = some names) (hc : ConstsAgree consts env)
    (hvh : env.vars "host" = some (.host h)) (hvs : env.vars "service" = some (.service h s)) :
    evalFilter env e = some (decide ((h, s) ∈ names)) :=
  getTargetServices_sound_complete hc hvh hvs hrec

/-- hypotheses satisfiable, non-trivially: `"h2" == host.name || host.name == "h1"` on host `h1` -/
example :
    let e := Expr.or (.eq (.lit (.str "h2")) (.idx (.var "host") (.lit (.str "name"))))
                     (.eq (.idx (.var "host") (.lit (.str "name"))) (.lit (.str "h1")))
    let env : Env := { vars := bind "host" (.host "h1") fun _ => none, other := fun _ => none, field := fun _ _ => none }
    getTargetHosts none e = some ["h2", "h1"] ∧ env.vars "host" = some (.host "h1") ∧
      evalFilter env e = some true := by decide +kernel

/-- near misses are not recognised: `!=`, a non-literal operand without constants, an extra conjunct, a host name
    alone for services -/
example : getTargetHosts none (.ne (.idx (.var "host") (.lit (.str "name"))) (.lit (.str "h1"))) = none ∧
    getTargetHosts none (.eq (.idx (.var "host") (.lit (.str "name"))) (.var "X")) = none ∧
    getTargetHosts none (.and (.eq (.idx (.var "host") (.lit (.str "name"))) (.lit (.str "h1"))) (.lit (.bool true))) = none ∧
    getTargetServices none (.eq (.idx (.var "host") (.lit (.str "name"))) (.lit (.str "h1"))) = none := by decide +kernel

/-! Before commit b11cb6d `indexed_eq_plain` held only for rules whose loop variables are not named `host`/`service`
  (F-C16a) and whose `for` value has the expected kind on every target (F-C16b); since then a rule with `for` is never
  indexed (applyrule-targeted.cpp:65-70) and the statement holds outright. -/

/-- For every rule list and inventory the load with the name index is accepted exactly when the load with every filter
    evaluated is, and creates the same set of objects. -/
theorem indexed_eq_plain (w : World) (rules : Rules) (inv : Inventory) :
    (indexed w rules inv).Equiv (plain w rules inv) :=
  loadResult_congr (indexedOutcomes_equiv_plainOutcomes w)

def cexWorld : World :=
  { globals := fun _ => none, other := fun _ _ _ _ => none, field := fun _ _ => none, nav := fun _ _ => .empty,
    navNames := defaultNavNames }

def hostNameIs (n : String) : Expr := .eq (.idx (.var "host") (.lit (.str "name"))) (.lit (.str n))

/-- `apply Service "x-" for (host in ["a"]) to Host { assign where host.name == "h0" }` -/
def cexShadowRule : Rule :=
  { src := .service, tgt := .host, name := "x-", assign := [hostNameIs "h0"], ignore := [],
    loop := some { term := fun _ => .arr [.str "a"], kvar := "host" } }

/-- regression for F-C16a: the rule is not indexed; both loads read the loop variable (`"a".name`
    raises) and reject the configuration -/
example : targetedNames cexShadowRule = none ∧
    indexed cexWorld [(0, cexShadowRule)] ⟨["h0"], []⟩ = .rejected ∧
    plain cexWorld [(0, cexShadowRule)] ⟨["h0"], []⟩ = .rejected := by decide +kernel

/-- `apply Service "x-" for (k in host.vars.mix) to Host { assign where host.name == "h0" }` where
    `vars.mix` is an array on h0 and a dictionary on h1 -/
def cexKindRule : Rule :=
  { src := .service, tgt := .host, name := "x-", assign := [hostNameIs "h0"], ignore := [],
    loop := some { term := fun t => if t = .host "h0" then .arr [.str "a"] else .dict [("x", .str "a")], kvar := "k" } }

/-- regression for F-C16b: both loads raise "Array iterator requires value to be an array" on h1 -/
example : indexed cexWorld [(0, cexKindRule)] ⟨["h0", "h1"], []⟩ = .rejected ∧
    plain cexWorld [(0, cexKindRule)] ⟨["h0", "h1"], []⟩ = .rejected := by decide +kernel

/-- not vacuous: a rule without `for` is indexed under the names of its filter and creates its object through
    the index; the same rule with `for` is evaluated on every host -/
example :
    let r : Rule := { src := .service, tgt := .host, name := "x", assign := [.or (hostNameIs "h0") (hostNameIs "h9")],
                      ignore := [], loop := none }
    let rf : Rule := { r with loop := some { term := fun _ => .arr [.str "a", .str "b"], kvar := "k" } }
    targetedNames r = some [.host "h0", .host "h9"] ∧ targetedNames rf = none ∧
      indexed cexWorld [(0, r), (1, rf)] ⟨["h0", "h1"], []⟩
        = .accepted [mkCreated 1 rf (.host "h0") ⟨"a", [("k", .str "a")]⟩, mkCreated 1 rf (.host "h0") ⟨"b", [("k", .str "b")]⟩,
                     mkCreated 0 r (.host "h0") ⟨"", []⟩] := by
  decide +kernel

/-- When the configuration loads, an object exists for rule `p`, target `t` and instance `i` exactly when `t` is a
    target of the rule's type, `i` is an element of the rule's `for` set on `t` (one instance `""` without `for`), some
    `assign where` is true (or there is none) and no `ignore where` is — evaluated with the target and the instance's
    loop variables in scope. -/
theorem apply_exactly_matching (w : World) (rules : Rules) (inv : Inventory) (objs : List Created)
    (hacc : plain w rules inv = .accepted objs) (c : Created) :
    c ∈ objs ↔ ∃ p ∈ rules, ∃ t ∈ targets inv p.2.tgt, ∃ is, instances p.2 t = some is ∧ ∃ i ∈ is,
      c = mkCreated p.1 p.2 t i ∧ Matches (instEnv w p.2 t i) p.2 := by
  obtain ⟨hne, rfl⟩ := loadResult_eq_accepted.mp hacc
  rw [mem_created, mem_plainOutcomes]
  refine exists_congr fun p => and_congr_right fun hp => exists_congr fun t => and_congr_right fun ht => ?_
  simp only [mem_evalRule, reduceCtorEq, and_false, false_or]
  refine exists_congr fun is => and_congr_right fun his => exists_congr fun i => and_congr_right fun hi => ?_
  -- the load was accepted, so this instance did not raise
  exact evalInstance_create_iff fun he =>
    hne (mem_plainOutcomes.mpr ⟨p, hp, t, ht, mem_evalRule.mpr (.inr ⟨is, his, i, hi, he⟩)⟩)

/-- not vacuous: `assign where host.name == "h0" || true; ignore where host.name == "h1"` on two hosts -/
example :
    let r : Rule := { src := .notification, tgt := .host, name := "n", loop := none,
                      assign := [hostNameIs "h0", .lit (.bool true)], ignore := [hostNameIs "h1"] }
    plain cexWorld [(7, r)] ⟨["h0", "h1"], []⟩ = .accepted [mkCreated 7 r (.host "h0") ⟨"", []⟩] := by decide +kernel

/-- Permuting the rules, the hosts or the services changes neither whether the configuration loads nor the set of
    created objects — with and without the index.  (Parallel evaluation is an interleaving of the same per-target
    evaluations; the harness runs Concurrency 1 and 16.) -/
theorem order_independent (w : World) (r₁ r₂ : Rules) (i₁ i₂ : Inventory) (hr : r₁.Perm r₂)
    (hh : i₁.hosts.Perm i₂.hosts) (hs : i₁.services.Perm i₂.services) :
    (plain w r₁ i₁).Equiv (plain w r₂ i₂) ∧ (indexed w r₁ i₁).Equiv (indexed w r₂ i₂) :=
  ⟨loadResult_congr (plainOutcomes_congr w (fun _ => hr.mem_iff) (invEquiv_of_perm hh hs)),
   loadResult_congr (indexedOutcomes_congr w (fun _ => hr.mem_iff) (invEquiv_of_perm hh hs))⟩

/-! Before commit 77a9c63 `api_fast_path_eq_plain` held only when no `filter_vars` key is one of the names the evaluator
  binds itself (`obj`, `host`, `service`, the navigation fields; F-C16c); since then the fast path is not taken on such
  a collision (filterutility.cpp:119-141,318).  As *lists* the two still differ: the fast path returns one entry per
  disjunct (F-C16d, below); this theorem speaks of sets. -/

/-- `GetFilterTargets` returns the same set of objects (or raises alike) whether or not the filter takes the name-index
    fast path, for every set of navigation fields the types may have — provided only that `host`/`service` denote the
    target (`NavOk`, checked on the implementation's type reflection in every run). -/
theorem api_fast_path_eq_plain (w : World) (fvars : Option (List (String × Val))) (ty : TgtType) (e : Expr)
    (inv : Inventory) (hnav : NavOk w ty) : ApiEquiv (apiTargets w fvars ty e inv) (apiSlow w fvars ty e inv) := by
  rw [apiTargets_eq_match]
  cases hn : fastPathNames w fvars ty e with
  | none => exact ApiEquiv.refl _
  | some names =>
    -- both are the looked-up names that exist, in the order of the filter resp. of the inventory
    rw [apiSlow_of_names hnav hn]
    exact fun _ => mem_filter_contains_swap

/-- `NavOk` holds of today's types (`defaultNavNames`) -/
example : NavOk cexWorld .host ∧ NavOk cexWorld .service := by
  refine ⟨?_, ?_⟩ <;> simp [NavOk, cexWorld, defaultNavNames]

/-- regression for F-C16c — `filter = host.name == obj`, `filter_vars = { obj = "h0" }`: evaluation sees `obj`
    bound to the target object and returns nothing; so does `GetFilterTargets` -/
example :
    apiTargets cexWorld (some [("obj", .str "h0")]) .host
      (.eq (.idx (.var "host") (.lit (.str "name"))) (.var "obj")) ⟨["h0"], []⟩ = some [] ∧
    apiSlow cexWorld (some [("obj", .str "h0")]) .host
      (.eq (.idx (.var "host") (.lit (.str "name"))) (.var "obj")) ⟨["h0"], []⟩ = some [] := by decide +kernel

/-- not vacuous, with a constant: `host.name == c || host.name == c`, `filter_vars = {c = "h1"}` —
    the fast path returns h1 twice (F-C16d), evaluation once; the same set. -/
example :
    let e := Expr.or (.eq (.idx (.var "host") (.lit (.str "name"))) (.var "c"))
                     (.eq (.idx (.var "host") (.lit (.str "name"))) (.var "c"))
    apiTargets cexWorld (some [("c", .str "h1")]) .host e ⟨["h0", "h1"], []⟩ = some [.host "h1", .host "h1"] ∧
    apiSlow cexWorld (some [("c", .str "h1")]) .host e ⟨["h0", "h1"], []⟩ = some [.host "h1"] := by decide +kernel

/-- `indexed_eq_plain` for the whole load, both rounds: the services created by `apply Service` rules are targets of the
    `to Service` rules (`extend`). -/
theorem indexed_full_eq_plain_full (w : World) (rules : Rules) (inv : Inventory) :
    (indexedFull w rules inv).Equiv (plainFull w rules inv) :=
  loadResult_congr (indexedFullOutcomes_equiv_plainOutcomes_extend w rules inv)

/-- the services that are targets in the second round: the declared ones and, for every `apply Service` object
    created on a host in the first round, that host with the object's name -/
theorem extended_services (inv : Inventory) (os : List Outcome) (p : String × String) :
    p ∈ (extend inv os).services ↔
      (p ∈ inv.services ∨ ∃ c, Outcome.create c ∈ os ∧ c.src = .service ∧ p = (targetHostName c.target, c.name)) :=
  mem_extend_services

/-- `apply_exactly_matching` for the whole load: the targets are those of the second round (`extended_services`). -/
theorem apply_exactly_matching_full (w : World) (rules : Rules) (inv : Inventory) (objs : List Created)
    (hacc : plainFull w rules inv = .accepted objs) (c : Created) :
    c ∈ objs ↔ ∃ p ∈ rules, ∃ t ∈ targets (extend inv (plainOutcomes w rules inv)) p.2.tgt, ∃ is,
      instances p.2 t = some is ∧ ∃ i ∈ is, c = mkCreated p.1 p.2 t i ∧ Matches (instEnv w p.2 t i) p.2 :=
  apply_exactly_matching w rules _ objs hacc c

theorem order_independent_full (w : World) (r₁ r₂ : Rules) (i₁ i₂ : Inventory) (hr : r₁.Perm r₂)
    (hh : i₁.hosts.Perm i₂.hosts) (hs : i₁.services.Perm i₂.services) :
    (plainFull w r₁ i₁).Equiv (plainFull w r₂ i₂) ∧ (indexedFull w r₁ i₁).Equiv (indexedFull w r₂ i₂) :=
  ⟨plainFull_congr w (fun _ => hr.mem_iff) (invEquiv_of_perm hh hs),
   indexedFull_congr w (fun _ => hr.mem_iff) (invEquiv_of_perm hh hs)⟩

/-- the cascade, concretely: `apply Service "s-" for (k in ["a"]) to Host` on h0, and a Notification targeted at
    the created service `h0!s-a` by name -/
example :
    let rs : Rule := { src := .service, tgt := .host, name := "s-", assign := [hostNameIs "h0"], ignore := [],
                       loop := some { term := fun _ => .arr [.str "a"], kvar := "k" } }
    let rn : Rule := { src := .notification, tgt := .service, name := "n", loop := none, ignore := [],
                       assign := [.and (hostNameIs "h0") (.eq (.idx (.var "service") (.lit (.str "name"))) (.lit (.str "s-a")))] }
    indexedFull cexWorld [(0, rs), (1, rn)] ⟨["h0", "h1"], []⟩
      = .accepted [mkCreated 0 rs (.host "h0") ⟨"a", [("k", .str "a")]⟩, mkCreated 1 rn (.service "h0" "s-a") ⟨"", []⟩] ∧
    plainFull cexWorld [(0, rs), (1, rn)] ⟨["h0", "h1"], []⟩
      = .accepted [mkCreated 0 rs (.host "h0") ⟨"a", [("k", .str "a")]⟩, mkCreated 1 rn (.service "h0" "s-a") ⟨"", []⟩] := by
  decide +kernel

/-! `order_independent(_full)` permute whole rules and objects.  The statements INSIDE a rule body can be permuted as
  well: the parser collects the `assign where` and the `ignore where` expressions separately and combines them at
  the end of the rule (`collectStmts`, `Rule.filter`), so the filters of `assign a1; ignore i; assign a2` and of
  `assign a2; assign a1; ignore i` differ only in the order of the operands of `||`.  Because `||` short-circuits,
  that order decides whether an operand that raises is reached at all; the property's reading ("the assign expression
  is true and the ignore expression is not") is defined exactly where every expression has a value, and there the order
  is immaterial. -/

/-- Two ways of writing the same configuration — the rules in any order, each rule's `assign where` / `ignore where`
    statements in any order, hosts and services in any order — load alike and create the same set of objects, with and
    without the name index, wherever the property's reading is defined (every assign and ignore expression has a value
    on every target and `for` instance, in both rounds of the load). -/
theorem statement_order_independent (w : World) (rs rs' : Rules) (inv inv' : Inventory)
    (hr : RulesStmtEquiv rs rs') (hi : InvEquiv inv inv') (hdef : (expectedCreated w rs inv).isSome = true) :
    (plainFull w rs inv).Equiv (plainFull w rs' inv') ∧ (indexedFull w rs inv).Equiv (indexedFull w rs' inv') := by
  obtain ⟨exp, hexp⟩ := Option.isSome_iff_exists.mp hdef
  obtain ⟨exp', hexp', hmem⟩ := expectedCreated_congr hr hi hexp
  have hp := ((expectedCreated_equiv_plainFull hexp).symm.trans hmem).trans (expectedCreated_equiv_plainFull hexp')
  exact ⟨hp, ((indexed_full_eq_plain_full w rs inv).trans hp).trans (indexed_full_eq_plain_full w rs' inv').symm⟩

/-- Permuting the statements of a rule body yields the same rule up to the order of its two expression lists (what
    `statement_order_independent` asks of each pair of rules, through `RulesStmtEquiv`), however the two kinds
    interleave. -/
theorem statement_permutation (r : Rule) (ss ss' : List Stmt) (h : ss.Perm ss') :
    RuleStmtEquiv (r.withStmts ss) (r.withStmts ss') :=
  ⟨rfl, rfl, rfl, rfl, rfl, fun _ => ((h.filterMap _).mem_iff).symm, fun _ => ((h.filterMap _).mem_iff).symm⟩

/-- not vacuous: `assign where host.name == "h0"; ignore where host.name == "h1"; assign where true` and the same
    statements in reverse order, on h0 and h1 (listed in either order): defined, and only `h0!n` is created -/
example :
    let r : Rule := { src := .notification, tgt := .host, name := "n", loop := none, assign := [], ignore := [] }
    let ss := [Stmt.assign (hostNameIs "h0"), .ignore (hostNameIs "h1"), .assign (.lit (.bool true))]
    (expectedCreated cexWorld [(0, r.withStmts ss)] ⟨["h0", "h1"], []⟩).isSome = true ∧
    indexedFull cexWorld [(0, r.withStmts ss)] ⟨["h0", "h1"], []⟩
      = .accepted [mkCreated 0 (r.withStmts ss) (.host "h0") ⟨"", []⟩] ∧
    indexedFull cexWorld [(0, r.withStmts ss.reverse)] ⟨["h1", "h0"], []⟩
      = .accepted [mkCreated 0 (r.withStmts ss.reverse) (.host "h0") ⟨"", []⟩] := by decide +kernel

/-- the hypothesis is needed, in the model as in the code: `assign where true; assign where nosuchvar` loads (the second
    operand of `||` is never evaluated), `assign where nosuchvar; assign where true` is rejected -/
theorem statement_order_counterexample :
    let r : Rule := { src := .notification, tgt := .host, name := "n", loop := none, assign := [], ignore := [] }
    let ss := [Stmt.assign (.lit (.bool true)), .assign (.var "nosuchvar")]
    plainFull cexWorld [(0, r.withStmts ss)] ⟨["h0"], []⟩ = .accepted [mkCreated 0 (r.withStmts ss) (.host "h0") ⟨"", []⟩] ∧
    plainFull cexWorld [(0, r.withStmts ss.reverse)] ⟨["h0"], []⟩ = .rejected ∧
    expectedCreated cexWorld [(0, r.withStmts ss)] ⟨["h0"], []⟩ = none := by decide +kernel

/-! F-C16d.  FULL STATEMENT (violated by the unchanged code): for every filter, `filter_vars`, type and inventory
  `specApi … (modelApiObs …) = none`, i.e. also the NUMBER of entries `GetFilterTargets` returns — hence how often the
  object query lists an object and how often an action is run on it — is the same with and without the fast path.
  The fast path pushes one entry per name the recogniser collected (filterutility.cpp:333-339,349-355): a filter that names an
  existing object twice (`host.name == "h1" || host.name == "h1"`, typical for generated filters) returns it twice, the
  evaluation of the same filter once.  Proved below: the statement holds whenever the looked-up names are pairwise
  distinct (and object names are unique, `hinv`); the counterexample is the duplicate. -/

/-- When the names the fast path looks up are pairwise distinct (and object names are unique), `GetFilterTargets`
    returns the same number of entries with and without the fast path. -/
theorem api_multiplicity_partial (w : World) (fvars : Option (List (String × Val))) (ty : TgtType) (e : Expr)
    (inv : Inventory) (hnav : NavOk w ty) (hinv : (targets inv ty).Nodup)
    (hnd : ∀ names, fastPathNames w fvars ty e = some names → names.Nodup) :
    (apiTargets w fvars ty e inv).map List.length = (apiSlow w fvars ty e inv).map List.length := by
  rw [apiTargets_eq_match]
  cases hn : fastPathNames w fvars ty e with
  | none => rfl
  | some names =>
    -- two duplicate-free lists with the same members
    rw [apiSlow_of_names hnav hn]
    refine congrArg some (List.Perm.length_eq ?_)
    exact (List.perm_ext_iff_of_nodup ((hnd names hn).filter _) (hinv.filter _)).mpr fun _ => mem_filter_contains_swap

/-- hypotheses satisfiable with a fast path that returns something: `host.name == "h1" || host.name == "h0"` -/
example :
    let e := Expr.or (hostNameIs "h1") (hostNameIs "h0")
    fastPathNames cexWorld none .host e = some [.host "h1", .host "h0"] ∧ (targets ⟨["h0", "h1"], []⟩ .host).Nodup ∧
      apiTargets cexWorld none .host e ⟨["h0", "h1"], []⟩ = some [.host "h1", .host "h0"] := by decide +kernel

/-- F-C16d.  `host.name == "h1" || host.name == "h1"` on hosts h0, h1: the fast path returns h1 twice, evaluation once;
    the object query lists it twice and an action runs twice on it. -/
theorem api_multiplicity_counterexample :
    let e := Expr.or (hostNameIs "h1") (hostNameIs "h1")
    let inv : Inventory := ⟨["h0", "h1"], []⟩
    apiTargets cexWorld none .host e inv = some [.host "h1", .host "h1"] ∧
    apiSlow cexWorld none .host e inv = some [.host "h1"] ∧
    specApi cexWorld none .host e inv (modelApiObs cexWorld none .host e inv) = some .apiMultiplicityIndependent := by
  decide +kernel

/-! The rule registry outlives the commit that filled it: an object committed afterwards (runtime object creation through
  the API, `ConfigObjectUtility::CreateObject` → `ConfigItem::CommitItems`) is evaluated against all rules — the regular
  list and the name index — like the objects of the first commit. -/

/-- Committing any part of the inventory (hosts with their services, single services) in a second stage against the same
    rules is accepted exactly when the one commit of everything is, and creates the same set of objects. -/
theorem staged_commit_eq_single (w : World) (rules : Rules) (inv : Inventory) (l : Late) :
    (indexedStaged w rules inv l).Equiv (indexedFull w rules inv) :=
  twoCommits_equiv_indexedFull w rules (invUnion_stages inv l)

/-- … hence the staged commit creates exactly the set of objects `apply_exactly_matching_full` describes. -/
theorem staged_commit_eq_plain (w : World) (rules : Rules) (inv : Inventory) (l : Late) :
    (indexedStaged w rules inv l).Equiv (plainFull w rules inv) :=
  LoadResult.Equiv.trans (staged_commit_eq_single w rules inv l) (indexed_full_eq_plain_full w rules inv)

/-- not vacuous: `assign where host.name == "late"` matches nothing in the first stage (h0 only); the host `late`
    committed in the second stage gets its service through the name index, and a regular rule
    (`assign where host.name != "h0"`) creates its object there too; the created service is a target of the
    `to Service` rule in the second stage's cascade -/
example :
    let r : Rule := { src := .service, tgt := .host, name := "x", loop := none, assign := [hostNameIs "late"], ignore := [] }
    let r2 : Rule := { src := .notification, tgt := .host, name := "n", loop := none,
                       assign := [.ne (.idx (.var "host") (.lit (.str "name"))) (.lit (.str "h0"))], ignore := [] }
    let r3 : Rule := { src := .notification, tgt := .service, name := "m", loop := none, assign := [.lit (.bool true)], ignore := [] }
    let inv : Inventory := ⟨["h0", "late"], []⟩
    targetedNames r = some [.host "late"] ∧ targetedNames r2 = none ∧
    (earlyInv inv ⟨["late"], []⟩).hosts = ["h0"] ∧ (lateInv inv ⟨["late"], []⟩).hosts = ["late"] ∧
    indexedFullOutcomes cexWorld [(0, r), (1, r2), (2, r3)] (earlyInv inv ⟨["late"], []⟩) = [.skip] ∧
    indexedStaged cexWorld [(0, r), (1, r2), (2, r3)] inv ⟨["late"], []⟩
      = .accepted [mkCreated 1 r2 (.host "late") ⟨"", []⟩, mkCreated 0 r (.host "late") ⟨"", []⟩,
                   mkCreated 2 r3 (.service "late" "x") ⟨"", []⟩] := by
  decide +kernel

/-- For every configuration the model's observable trace satisfies the executable specification of the property:
    fast-path independence, commit-stage independence, and — wherever the property's reading is defined — independence
    of the order of rules, statements and objects and exactly the matching objects with the target in scope (whatever
    cases `silentIf` excludes).  The clause for parallel independence holds of the model for an empty reason: the model
    has no threads, `modelObs` reports the same load for 1 and 16. -/
theorem model_load_meets_spec (w : World) (rules : Rules) (inv : Inventory) (silentIf : List ObjObs → Bool)
    (l : Late) : specLoad w rules inv silentIf (modelObs w rules inv l) = none := by
  -- `plain1` (the filters as written) is the indexed load, `wrap1` (every filter wrapped) is `plainFull`
  -- `heq`: fast-path independence; `hst`: commit-stage independence; parallel independence by `sameObs_refl`
  have heq := indexed_full_eq_plain_full w rules inv
  have hst := sameObs_of_equiv (staged_commit_eq_single w rules inv l).symm
  unfold specLoad modelObs
  simp only [sameObs_of_equiv heq, hst, Option.map_some, sameObs_refl, Option.getD_some, Bool.and_self, Bool.not_true,
    Bool.false_eq_true, if_false]
  cases hexp : expectedCreated w rules inv with
  | none => simp only [expectedObjs, hexp, Option.map_none]
  | some exp =>
    have hdef : (expectedCreated w rules inv).isSome = true := by rw [hexp]; rfl
    -- `ho`: order independence, wrapped and as written; `hs`: exactly the expected objects, target in scope
    have ho := statement_order_independent w rules _ inv _ (rulesStmtEquiv_permRules rules) (invEquiv_permInv inv) hdef
    simp only [expectedObjs, hexp, Option.map_some, sameObs_of_equiv ho.1, sameObs_of_equiv ho.2, Bool.and_self,
      Bool.not_true, Bool.false_eq_true, if_false]
    split
    -- the driver declares the property silent
    · rfl
    · have hs := expectedCreated_equiv_plainFull hexp
      rw [checkExact_of_equiv (hs.trans heq.symm), checkExact_of_equiv hs]

/-- The API model satisfies the set-valued clauses of `specApi` for every query. -/
theorem model_api_meets_spec (w : World) (fvars : Option (List (String × Val))) (ty : TgtType) (e : Expr)
    (inv : Inventory) (hnav : NavOk w ty) :
    specApiSets w fvars ty e inv (modelApiObs w fvars ty e inv) = none :=
  specApiSets_of_equiv rfl (api_fast_path_eq_plain w fvars ty e inv hnav)

/-- … and the whole of `specApi`, including the multiplicity clause, when the names the fast path looks up are pairwise
    distinct and object names are unique (see `api_multiplicity_counterexample` for the other case). -/
theorem model_api_meets_spec_partial (w : World) (fvars : Option (List (String × Val))) (ty : TgtType) (e : Expr)
    (inv : Inventory) (hnav : NavOk w ty) (hinv : (targets inv ty).Nodup)
    (hnd : ∀ names, fastPathNames w fvars ty e = some names → names.Nodup) :
    specApi w fvars ty e inv (modelApiObs w fvars ty e inv) = none := by
  have hlen := api_multiplicity_partial w fvars ty e inv hnav hinv hnd
  unfold specApi
  rw [model_api_meets_spec w fvars ty e inv hnav]
  simp only [specApiMult, modelApiObs, queryResults, actionResults_eq_bind_length, hlen, beq_self_eq_true, Bool.and_self, if_true]

/-! `EvaluateApplyRule` sets up a fresh `ScriptFrame` per rule and target (service-apply.cpp:64-67): the rule's closure
  variables, `host`/`service`, then - per instance - its loop variables. -/

/-- In the frame a rule's filter is evaluated in, every name that is not one of the rule's own loop variables (of this
    instance), `host`, `service` or one of its own closure variables is the global of that name (or undefined).  (That
    nothing another rule bound is visible is not part of the statement: the model's `instEnv` is built from one rule, as
    `EvaluateApplyRule` builds a fresh frame.) -/
theorem rule_scope_only_own (w : World) (r : Rule) (t : Val) (i : Inst) (x : String)
    (hb : ∀ p ∈ i.binds, p.1 ≠ x) (hs : ∀ p ∈ r.scope, p.1 ≠ x) (hh : x ≠ "host") (hsv : x ≠ "service") :
    (instEnv w r t i).vars x = w.globals x := by
  rw [instEnv_vars_of_not_mem w r t hb]
  unfold baseVars
  split <;> simp only [bind, if_neg hh, if_neg hsv] <;> exact bindAll_of_not_mem hs

/-- What a rule creates (and whether it raises) on the objects of a commit does not depend on which other rules are
    loaded with it, for regular and indexed rules alike. -/
theorem rule_isolation (w : World) (rules : Rules) (inv : Inventory) (o : Outcome) :
    o ∈ indexedOutcomes w rules inv ↔ ∃ p ∈ rules, o ∈ indexedOutcomes w [p] inv := by
  simp only [mem_indexedOutcomes, List.mem_singleton, exists_eq_left]

/-- not vacuous: `const k = "h0"`; `apply Service "a-" for (k in ["x", "y"])` next to
    `apply Service "b" { assign where host.name == k }`: the second rule reads the global `k` whatever the first one bound,
    in either order of the rules -/
example :
    let w : World := { cexWorld with globals := fun x => if x = "k" then some (.str "h0") else none }
    let ra : Rule := { src := .service, tgt := .host, name := "a-", assign := [], ignore := [],
                       loop := some { term := fun _ => .arr [.str "x", .str "y"], kvar := "k" } }
    let rb : Rule := { src := .service, tgt := .host, name := "b", loop := none, ignore := [],
                       assign := [.eq (.idx (.var "host") (.lit (.str "name"))) (.var "k")] }
    (instEnv w rb (.host "h0") ⟨"", []⟩).vars "k" = some (.str "h0") ∧
    (instEnv w ra (.host "h0") ⟨"y", [("k", .str "y")]⟩).vars "k" = some (.str "y") ∧
    indexed w [(0, ra), (1, rb)] ⟨["h0"], []⟩
      = .accepted [mkCreated 0 ra (.host "h0") ⟨"x", [("k", .str "x")]⟩, mkCreated 0 ra (.host "h0") ⟨"y", [("k", .str "y")]⟩,
                   mkCreated 1 rb (.host "h0") ⟨"", []⟩] ∧
    indexed w [(1, rb), (0, ra)] ⟨["h0"], []⟩
      = .accepted [mkCreated 1 rb (.host "h0") ⟨"", []⟩, mkCreated 0 ra (.host "h0") ⟨"x", [("k", .str "x")]⟩,
                   mkCreated 0 ra (.host "h0") ⟨"y", [("k", .str "y")]⟩] := by
  decide +kernel

/-! F-C16e.  FULL STATEMENT (violated by the unchanged code): for every permission filter of an ApiUser
  `perm : Val → Option Bool` (`none`: it raises on that object), filter, `filter_vars`, type and inventory
  `ApiEquiv (apiTargetsP … perm) (apiSlowP … perm)` and `specApiPerm … perm (modelApiObsP … perm) = none`.
  Evaluation runs the permission filter on EVERY object of the type (`FilteredAddTarget`, filterutility.cpp:158-166) and
  the query fails when it raises on any of them; the fast path runs it only on the objects the filter names
  (filterutility.cpp:362-368).  Proved below: the statement holds for every permission filter that raises on no object;
  the counterexample is a permission filter that raises on an object the query does not name. -/

/-- For an ApiUser whose permission filter admits the objects `perm` (any predicate that raises on no object),
    `GetFilterTargets` returns the same set of objects (or raises alike) on either path: in both the query ranges over
    the admitted objects only. -/
theorem api_permission_fast_path_partial (w : World) (fvars : Option (List (String × Val))) (ty : TgtType) (e : Expr)
    (inv : Inventory) (perm : Val → Bool) (hnav : NavOk w ty) :
    ApiEquiv (apiTargetsP w fvars ty e inv (totalPerm perm)) (apiSlowP w fvars ty e inv (totalPerm perm)) := by
  rw [apiTargetsP_total, apiSlowP_total]
  exact api_fast_path_eq_plain w fvars ty e (restrictInv inv perm) hnav

/-- No object the permission filter does not admit is ever returned, on either path, for every permission filter
    (raising or not). -/
theorem api_permission_respected (w : World) (fvars : Option (List (String × Val))) (ty : TgtType) (e : Expr)
    (inv : Inventory) (perm : Val → Option Bool) (l : List Val) (t : Val)
    (h : apiTargetsP w fvars ty e inv perm = some l ∨ apiSlowP w fvars ty e inv perm = some l) (ht : t ∈ l) :
    perm t = some true := by
  rcases h with h | h
  · rw [apiTargetsP_eq_match] at h
    split at h
    · exact ((mem_permFilter h).mp ht).2
    · exact of_mem_apiSlowP h t ht
  · exact of_mem_apiSlowP h t ht

/-- The model of a restricted user's query satisfies the set-valued clauses of the specification (the same set with and
    without the fast path, exactly the admitted objects the filter is true of) for every permission predicate that raises
    on no object.  The multiplicity clause is not examined: `modelApiObsP` reports no counts. -/
theorem model_api_perm_meets_spec_partial (w : World) (fvars : Option (List (String × Val))) (ty : TgtType) (e : Expr)
    (inv : Inventory) (perm : Val → Bool) (hnav : NavOk w ty) :
    specApiPerm w fvars ty e inv (totalPerm perm) (modelApiObsP w fvars ty e inv (totalPerm perm)) = none := by
  have hall : ((targets inv ty).all fun t => (totalPerm perm t).isSome) = true := by simp [totalPerm]
  have hp : (fun t => totalPerm perm t == some true) = perm := by
    funext t; cases h : perm t <;> simp [totalPerm, h]
  unfold specApiPerm
  rw [if_pos hall, hp]
  unfold specApi
  rw [specApiSets_of_equiv (o := modelApiObsP w fvars ty e inv (totalPerm perm)) (apiSlowP_total w fvars ty e inv perm)
    (api_permission_fast_path_partial w fvars ty e inv perm hnav)]
  rfl

/-- not vacuous: `host.name == "red" || host.name == "blue"` asked by a user who may only see `blue`: the fast path
    looks both up and the permission filter drops `red`; evaluation never gets to see `red`; a fast path that skips the
    permission filter is rejected by the spec -/
example :
    let e := Expr.or (hostNameIs "red") (hostNameIs "blue")
    let inv : Inventory := ⟨["red", "blue"], []⟩
    let perm : Val → Option Bool := totalPerm fun t => t == .host "blue"
    apiTargetsP cexWorld none .host e inv perm = some [.host "blue"] ∧
    apiSlowP cexWorld none .host e inv perm = some [.host "blue"] ∧
    apiTargets cexWorld none .host e inv = some [.host "red", .host "blue"] ∧
    specApiPerm cexWorld none .host e inv perm { fast := some [.host "red", .host "blue"], slow := some [.host "blue"] }
      = some .apiFastpathIndependent ∧
    specApiPerm cexWorld none .host e inv perm { fast := some [.host "red", .host "blue"], slow := some [.host "red", .host "blue"] }
      = some .apiNoExtra := by decide +kernel

/-- F-C16e.  A permission filter that raises on `h0` (say `host.vars.os.foo == "x"` where `vars.os` is a string on h0
    only) and the query `host.name == "h1"`: the fast path looks up h1 alone and returns it; evaluation runs the
    permission filter on h0 first and the query fails. -/
theorem api_permission_fast_path_counterexample :
    let e := hostNameIs "h1"
    let inv : Inventory := ⟨["h0", "h1"], []⟩
    let perm : Val → Option Bool := fun t => if t = .host "h0" then none else some true
    apiTargetsP cexWorld none .host e inv perm = some [.host "h1"] ∧
    apiSlowP cexWorld none .host e inv perm = none ∧
    specApiPerm cexWorld none .host e inv perm (modelApiObsP cexWorld none .host e inv perm) = some .apiFastpathIndependent := by
  decide +kernel

/-- the specification predicate is not vacuous: an object on a host the filter does not name, a missing object, a
    body that saw another host, a fast-path dependence, a wrong or fast-path dependent API answer, a dependence on the
    order of the text, on the commit stage and on how often the fast path returns an object are each rejected; the
    right observation is accepted -/
example :
    let r : Rule := { src := .service, tgt := .host, name := "x", loop := none, assign := [hostNameIs "h0"], ignore := [] }
    let good : ObjObs := { src := .service, name := "h0!x", k := .empty, v := .empty, hn := some "h0", sn := none }
    let bad : ObjObs := { good with name := "h1!x", hn := some "h1" }
    let inv : Inventory := ⟨["h0", "h1"], []⟩
    specLoad cexWorld [(0, r)] inv (fun _ => false) { plain1 := some [good], wrap1 := some [good] } = none ∧
    specLoad cexWorld [(0, r)] inv (fun _ => false) { plain1 := some [good, bad], wrap1 := some [good, bad] }
      = some .noExtraObject ∧
    specLoad cexWorld [(0, r)] inv (fun _ => false) { plain1 := some [], wrap1 := some [] } = some .noMissingObject ∧
    specLoad cexWorld [(0, r)] inv (fun _ => false)
      { plain1 := some [{ good with hn := some "h1" }], wrap1 := some [{ good with hn := some "h1" }] }
      = some .targetInScope ∧
    specLoad cexWorld [(0, r)] inv (fun _ => false) { plain1 := some [good], wrap1 := none }
      = some .fastpathIndependent ∧
    specApi cexWorld none .host (hostNameIs "h0") inv { fast := some [.host "h0"], slow := some [.host "h0"] } = none ∧
    specApi cexWorld none .host (hostNameIs "h0") inv { fast := some [.host "h0"], slow := some [] }
      = some .apiFastpathIndependent ∧
    specApi cexWorld none .host (hostNameIs "h0") inv { fast := some [.host "h1"], slow := some [.host "h1"] }
      = some .apiNoMissing ∧
    specLoad cexWorld [(0, r)] inv (fun _ => false) { plain1 := some [good], wrap1 := some [good], perm1 := some (some []) }
      = some .orderIndependent ∧
    specLoad cexWorld [(0, r)] inv (fun _ => false) { plain1 := some [good], wrap1 := some [good], late1 := some (some []) }
      = some .stageIndependent ∧
    specApi cexWorld none .host (hostNameIs "h0") inv
        { fast := some [.host "h0"], slow := some [.host "h0"], counts := some ⟨some 2, some 1, some 2, some 1, some 2, some 1⟩ }
      = some .apiMultiplicityIndependent := by decide +kernel

end Icinga.C16
