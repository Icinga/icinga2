/-
  C01 — property theorems.  Every `theorem` in this file is a proof obligation of the check:
  `./check C01` lists them, runs `#print axioms` on each and fails if a required one is missing.
-/
import IcingaProofs.C01.Lemmas
import IcingaProofs.C01.Hist
import IcingaProofs.C01.Pair

namespace Icinga.C01

/-- The first sentence of the property.  From *any* start state, after a
    history `pre ++ [o] ++ tail` in which `o` is OK/Up and `tail` consists of `n` non-OK results
    (none of them dropped as stale): hard with attempt 1 iff `n = 0 ∨ n ≥ max`, otherwise soft with
    attempt `n`. -/
theorem streak_characterisation (c : Cfg) (hmax : 1 ≤ c.max) (s0 : St) (pre tail : List Res) (o : Res)
    (ho : isOK c.kind o.state = true) (ht : ∀ r ∈ tail, isOK c.kind r.state = false) :
    let s := runCore c s0 (pre ++ [o] ++ tail)
    let n := tail.length
    ((n = 0 ∨ c.max ≤ n) → s.stype = .hard ∧ s.attempt = 1) ∧
    ((0 < n ∧ n < c.max) → s.stype = .soft ∧ s.attempt = n) := by
  intro s n
  exact (inv_after_ok c s0 pre tail o ho ht).shape

/-- In a state that represents a streak of `n` non-OK results, the event emitted for
    the next result is the one the property prescribes from `(n, n', projected old/new state,
    volatile)` alone — or the property leaves it open (volatile object in or entering a soft state); `event_inv`
    says which event the model emits then. -/
theorem event_spec (c : Cfg) (hmax : 1 ≤ c.max) (s : St) (n : Nat) (hi : Inv c s n) (r : Res) :
    specEvent c n (if isOK c.kind r.state then 0 else n + 1) s.state r.state = none ∨
    specEvent c n (if isOK c.kind r.state then 0 else n + 1) s.state r.state = some (stepCore c s r).2 := by
  rw [event_inv c hmax s n hi r]
  cases specEvent c n (if isOK c.kind r.state then 0 else n + 1) s.state r.state
  · exact .inl rfl
  · exact .inr rfl

/-- The whole property as one statement.  For every configuration with
    `max_check_attempts ≥ 1`, every start state with `attempt ≥ 1` (and a two-slot history word below
    10000, as every word the code writes is) — the never-checked state, any state the machine produces,
    any other state a state file may hold — and every finite sequence of results with arbitrary
    timestamps, the model's *whole* trace (accepted and dropped results) satisfies the executable
    specification `specFull`: universal invariants from the first result on; the exact streak
    characterisation and the event rule from the start state on when it has the shape of a reachable
    state (`specStart`), else from the first OK/Up result on; as the API shows them (the raw state of a
    service, Up/Down of a host), `last_hard_state` is the state of the result at the latest hard event and
    changes with hard events only, `previous_hard_state` is the hard state before that, `last_state` is the
    state of the previous result; the API-visible states are the projections of the raw ones; `vars_after`
    is the state after the result; a dropped result is strictly older than the latest accepted one, reports
    nothing and changes nothing. -/
theorem model_trace_meets_spec (c : Cfg) (hmax : 1 ≤ c.max) (s0 : St) (h0 : 1 ≤ s0.attempt)
    (hh : s0.hist < 10000) (rs : List Res) :
    specFull c (specStart c s0) (histStart c s0) (trace c s0 rs) = none :=
  full_trace_rel c hmax rs _ _ s0 (rel_start c hmax s0 h0) (hrel_start c s0 hh)

/-- A never-checked checkable satisfies the specification from its very first
    result, with nothing assumed about its start (`specInit`, `histInit`: only the universal invariants
    until the first OK/Up result, the clauses that compare with the previous observation from the second
    observation on). -/
theorem pending_invariants (c : Cfg) (hmax : 1 ≤ c.max) (rs : List Res) :
    specFull c specInit histInit (trace c pending rs) = none :=
  full_trace_rel c hmax rs _ _ pending (rel_init c pending (by decide)) (hrel_init c pending (by decide) rfl)

/-- A hard event records the result's state as `last_hard_state` and moves the old current slot of the two-slot
    history to the previous slot; without a hard event a non-volatile object keeps both. -/
theorem hard_state_bookkeeping (c : Cfg) (s : St) (r : Res) (hh : s.hist < 10000) :
    ((stepCore c s r).2 = .hard →
        (stepCore c s r).1.lastHard = r.state ∧ (stepCore c s r).1.hist / 100 = r.state.toNat ∧
        (stepCore c s r).1.hist % 100 = s.hist / 100) ∧
    ((stepCore c s r).2 ≠ .hard → c.volatile = false →
        (stepCore c s r).1.lastHard = s.lastHard ∧ (stepCore c s r).1.hist = s.hist) := by
  rcases lastHard_written_or_kept c s r with ⟨fl, fh, fe⟩ | ⟨fl, fh, fe, _⟩
  · obtain ⟨hm, hd⟩ := slot_shift 100 s.hist r.state.toNat hh
    rw [← fh] at hm hd
    exact ⟨fun _ => ⟨fl, hd, hm⟩, fun hne hv => nomatch (fe hne).1.symm.trans hv⟩
  · exact ⟨fun he => absurd he fe, fun _ _ => ⟨fl, fh⟩⟩

/-- A result whose execution start is older than the stored one (which is
    not in the future) leaves the state unchanged and emits nothing. -/
theorem stale_result_ignored (c : Cfg) (s : St) (r : Res) (cur : Int)
    (h1 : s.lastExec = some cur) (h2 : cur ≤ r.now) (h3 : r.execStart < cur) :
    step c s r = (s, .none, false) :=
  step_of_stale c (stale_iff.mpr ⟨cur, h1, h2, h3⟩)

/-- With non-decreasing execution-start timestamps no result is dropped. -/
theorem nondecreasing_never_stale (c : Cfg) (s : St) (r : Res)
    (h : ∀ cur, s.lastExec = some cur → cur ≤ r.execStart) :
    (step c s r).2.2 = true ∧ (step c s r).1.lastExec = some r.execStart := by
  rw [step_of_not_stale c (not_stale_of_le h)]
  exact ⟨rfl, rfl⟩

/-- Non-decreasing execution-start timestamps along a history (the quantifier's input class), relative
    to the timestamp of the stored result. -/
def NonDecr : Option Int → List Res → Prop
  | _, [] => True
  | last, r :: rs => (∀ cur, last = some cur → cur ≤ r.execStart) ∧ NonDecr (some r.execStart) rs

theorem run_eq_runCore (c : Cfg) (rs : List Res) :
    ∀ s : St, NonDecr s.lastExec rs → run c s rs = runCore c s rs := by
  induction rs with
  | nil => intro s _; rfl
  | cons r rs ih =>
    intro s ⟨h1, h2⟩
    show run c (step c s r).1 rs = runCore c (stepCore c s r).1 rs
    rw [step_of_not_stale c (not_stale_of_le h1)]
    exact ih _ h2

/-- The first sentence of the property for the production step function including the stale-result filter, on
    histories with non-decreasing timestamps. -/
theorem streak_characterisation_run (c : Cfg) (hmax : 1 ≤ c.max) (s0 : St) (pre tail : List Res) (o : Res)
    (ho : isOK c.kind o.state = true) (ht : ∀ r ∈ tail, isOK c.kind r.state = false)
    (hts : NonDecr s0.lastExec (pre ++ [o] ++ tail)) :
    let s := run c s0 (pre ++ [o] ++ tail)
    let n := tail.length
    ((n = 0 ∨ c.max ≤ n) → s.stype = .hard ∧ s.attempt = 1) ∧
    ((0 < n ∧ n < c.max) → s.stype = .soft ∧ s.attempt = n) := by
  intro s n
  simp only [s, run_eq_runCore c _ s0 hts]
  exact streak_characterisation c hmax s0 pre tail o ho ht

/-- The model drops a result only when the specification allows it (`mayDrop`): it is strictly older
    than the latest accepted one. -/
theorem dropped_only_if_older (c : Cfg) (s : St) (r : Res) (h : (step c s r).2.2 = false) :
    mayDrop s.lastExec r.execStart = true :=
  mayDrop_of_stale (stale_of_dropped h)

/-- A result the model does not process leaves the state as it was,
    reports no event, and the specification's clause for dropped results accepts the observation. -/
theorem dropped_changes_nothing (c : Cfg) (s : St) (r : Res) (h : (step c s r).2.2 = false) :
    (step c s r).1 = s ∧ (step c s r).2.1 = .none ∧
    dropStep { last := some (stObs c s), hardAt := none, lastExec := s.lastExec } r (obsOf c (step c s r)) = none := by
  have hst := stale_of_dropped h
  rw [step_of_stale c hst]
  exact ⟨rfl, rfl, dropStep_model c _ s r rfl (fun lo hl => Option.some.inj hl ▸ sameState_obsOf ..) hst⟩

/-- For hosts the state type, attempt, event and the recorded hard state depend on the old state and the result only
    through Up/Down. -/
theorem host_projection (c : Cfg) (hk : c.kind = .host) (s1 s2 : St) (r1 r2 : Res)
    (hs : hostUp s1.state = hostUp s2.state) (ht : s1.stype = s2.stype) (ha : s1.attempt = s2.attempt)
    (hl : hostUp s1.lastHard = hostUp s2.lastHard)
    (hr : hostUp r1.state = hostUp r2.state) :
    hostUp (stepCore c s1 r1).1.state = hostUp (stepCore c s2 r2).1.state ∧
    (stepCore c s1 r1).1.stype = (stepCore c s2 r2).1.stype ∧
    (stepCore c s1 r1).1.attempt = (stepCore c s2 r2).1.attempt ∧
    hostUp (stepCore c s1 r1).1.lastHard = hostUp (stepCore c s2 r2).1.lastHard ∧
    (stepCore c s1 r1).2 = (stepCore c s2 r2).2 := by
  -- for a host every test of the step reads a state through `hostUp`: rewrite those of `s1`, `r1` into those
  -- of `s2`, `r2`
  simp only [stepCore, nextTypeAttempt, eventOf, hardChangeOf, stateChange, isOK, hk, hs, ht, ha, hr,
    apply_ite hostUp, hl]
  simp

/-- What the property sees of a host's observation: everything through Up/Down. -/
def hostView (o : Obs) : Bool × Bool × SType × Nat × Bool × Ev :=
  (o.accepted, hostUp o.state, o.stype, o.attempt, hostUp o.lastHard, o.ev)

/-- Two host states the property cannot tell apart. -/
def HostSim (s1 s2 : St) : Prop :=
  hostUp s1.state = hostUp s2.state ∧ s1.stype = s2.stype ∧ s1.attempt = s2.attempt ∧
  hostUp s1.lastHard = hostUp s2.lastHard ∧ s1.lastExec = s2.lastExec

/-- "Hosts treat OK/WARNING as Up and CRITICAL/UNKNOWN as Down *throughout*".  Two histories of a host whose
    results agree pairwise after the Up/Down mapping (same timestamps), from start states that agree after the
    mapping, produce traces that agree after the mapping at every position (`hostView`). -/
theorem host_projection_trace (c : Cfg) (hk : c.kind = .host) (rs : List (Res × Res))
    (hr : ∀ p ∈ rs, hostUp p.1.state = hostUp p.2.state ∧ p.1.execStart = p.2.execStart ∧ p.1.now = p.2.now) :
    ∀ s1 s2, HostSim s1 s2 →
      (trace c s1 (rs.map Prod.fst)).map (fun q => hostView q.2) =
      (trace c s2 (rs.map Prod.snd)).map (fun q => hostView q.2) := by
  induction rs with
  | nil => intro _ _ _; rfl
  | cons p rs ih =>
    intro s1 s2 ⟨hs, ht, ha, hl, he⟩
    obtain ⟨h1, h2, h3⟩ := hr p (List.mem_cons_self ..)
    have ih' := ih (fun q hq => hr q (List.mem_cons_of_mem _ hq))
    have hst : stale s1 p.1 = stale s2 p.2 := by unfold stale; rw [he, h2, h3]
    simp only [List.map_cons, trace]
    cases hq : stale s2 p.2
    · obtain ⟨g1, g2, g3, g4, g5⟩ := host_projection c hk s1 s2 p.1 p.2 hs ht ha hl h1
      rw [step_of_not_stale c hq, step_of_not_stale c (hst.trans hq)]
      congr 1
      · simp only [hostView, obsOf, g1, g2, g3, g4, g5]
      · exact ih' _ _ ⟨g1, g2, g3, g4, congrArg some h2⟩
    · rw [step_of_stale c hq, step_of_stale c (hst.trans hq)]
      congr 1
      · simp only [hostView, obsOf, hs, ht, ha, hl]
      · exact ih' _ _ ⟨hs, ht, ha, hl, he⟩

/-- Preserved by one result, for a non-volatile object in a state that represents a streak: whenever the state is
    soft (or OK/Up) its last hard state is OK/Up. -/
theorem soft_implies_last_hard_ok (c : Cfg) (hv : c.volatile = false) (s : St) (r : Res) (n : Nat)
    (hi : Inv c s n) (hl : s.stype = .soft ∨ isOK c.kind s.state = true → isOK c.kind s.lastHard = true) :
    let s' := (stepCore c s r).1
    (s'.stype = .soft ∨ isOK c.kind s'.state = true → isOK c.kind s'.lastHard = true) := by
  intro s' h
  have hlh : s'.lastHard = if hardChangeOf c s r.state s'.stype then r.state else s.lastHard := by
    simp [s', stepCore, hv]
  rw [hlh]
  split
  · next hc =>
    -- a hard change leaves `s'` hard, so the premise says that the result is OK/Up
    simp only [hardChangeOf, Bool.or_eq_true, Bool.and_eq_true, beq_iff_eq] at hc
    have ht : s'.stype = .hard := hc.elim (·.1) (·.2)
    exact h.resolve_left (by rw [ht]; nofun)
  · next hc =>
    apply hl
    rcases inv_iff.mp hi with ⟨_, a, _⟩ | ⟨_, _, _, b, _⟩ | ⟨_, hge, a, b, _⟩
    · exact .inr a
    · exact .inl b
    · -- from hard non-OK the next state is hard, and an OK/Up result is a hard change
      have ht : s'.stype = .hard :=
        ((inv_step c s r n hi).shape.1 (by split; exact .inl rfl; exact .inr (Nat.le_succ_of_le hge))).1
      have hok : isOK c.kind r.state = true := h.resolve_left (by rw [ht]; nofun)
      have hp := proj_ne_of_ok' c.kind s.state r.state a hok
      simp [hardChangeOf, stateChange_eq_proj, b, ht, hp] at hc

/-- The configuration of the F-C01a witness. -/
def exampleCfgO : Cfg := { kind := .service, max := 3, volatile := false }

/-- "After ANY sequence of check results": results processed at the same time still count as a sequence.
    After every history from every start state with attempt ≥ 1, two further results
    processed one after the other — what an implementation shows that takes the object lock before it
    reads the state it computes from — satisfy the clause for concurrent pairs: the final state, type and
    attempt are those of the streak after both results, and each result carries a hard event exactly when
    the rule demands one at its place. -/
theorem concurrent_pair_meets_spec (c : Cfg) (hmax : 1 ≤ c.max) (s0 : St) (h0 : 1 ≤ s0.attempt)
    (rs : List Res) (a b : Res) :
    specPair c (specAfter c (specStart c s0) (trace c s0 rs)) a.state b.state
      (pairObsOf c (run c s0 rs) a b) = none :=
  specPair_model c hmax _ _ a b (rel_after c rs _ _ (rel_start c hmax s0 h0))

/-- The same for the production step with the stale-result filter, as the
    driver runs it: two results with one execution start, from any state related to the reader's bookkeeping —
    either the first is strictly older than the stored result (then dropping is allowed), or both are
    processed and the pair clause holds. -/
theorem concurrent_pair_step_meets_spec (c : Cfg) (hmax : 1 ≤ c.max) (sp : SpecSt) (s : St) (a b : Res)
    (hr : Rel c sp s) (he : b.execStart = a.execStart) :
    pairStep c sp s.lastExec a.state b.state a.execStart (pairObsStep c s a b) = none := by
  cases hst : stale s a
  · -- the second result carries the execution start the first has just stored
    have hb : stale (stepCore c s a).1 b = false := not_stale_of_le fun cur hc => by
      rw [he, ← Option.some.inj hc]; exact Int.le_refl _
    have hobs : pairObsStep c s a b = pairObsOf c s a b := by
      simp [pairObsStep, pairObsOf, step_of_not_stale c hst, step_of_not_stale c hb]
    rw [hobs]
    exact specPair_model c hmax sp s a b hr
  · simp [pairStep, pairObsStep, step_of_stale c hst, mayDrop_of_stale hst]

/-- State type and attempt are a function of the streak. -/
theorem inv_determines (c : Cfg) (s1 s2 : St) (n : Nat) (h1 : Inv c s1 n) (h2 : Inv c s2 n) :
    s1.stype = s2.stype ∧ s1.attempt = s2.attempt := by
  by_cases h : n = 0 ∨ c.max ≤ n
  · obtain ⟨x, y⟩ := h1.shape.1 h
    obtain ⟨x', y'⟩ := h2.shape.1 h
    exact ⟨x.trans x'.symm, y.trans y'.symm⟩
  · obtain ⟨x, y⟩ := h1.shape.2 (by omega)
    obtain ⟨x', y'⟩ := h2.shape.2 (by omega)
    exact ⟨x.trans x'.symm, y.trans y'.symm⟩

/-- From a state that represents a streak, the order in which two concurrent calls with non-OK results get the
    object lock does not matter for state type and attempt: both orders count two more results. -/
theorem concurrent_nonok_order_irrelevant (c : Cfg) (hmax : 1 ≤ c.max) (s : St) (n : Nat) (hi : Inv c s n)
    (a b : Res) (ha : isOK c.kind a.state = false) (hb : isOK c.kind b.state = false) :
    (stepCore c (stepCore c s a).1 b).1.stype = (stepCore c (stepCore c s b).1 a).1.stype ∧
    (stepCore c (stepCore c s a).1 b).1.attempt = (stepCore c (stepCore c s b).1 a).1.attempt :=
  inv_determines c _ _ (n + 1 + 1)
    (step_nonok c _ b (n + 1) (step_nonok c s a n hi ha) hb)
    (step_nonok c _ a (n + 1) (step_nonok c s b n hi hb) ha)

/-! ## A result whose state-change report is overtaken by the next result (F-C01a, repaired by b75b8e7)

The emission site used to re-read `GetStateType()` after the locked sections and after `OnNewCheckResult`; a
result held there reported according to what the NEXT result had written (witness kept in
corpus/C01/witnesses.ops).  The repaired code reports from the state type it computed itself, and
`overtaken_meets_spec` holds of it. -/

/-- The modelling decision for the repaired code, by definition of `stepOvertaken`: the overtaken result reports
    the event of its own step, and the overtaking result is an ordinary next step. -/
theorem overtaken_event (c : Cfg) (s : St) (a b : Res) :
    (stepOvertaken c s a b).1 = stepCore c s a ∧
    (stepOvertaken c s a b).2 = stepCore c (stepCore c s a).1 b := ⟨rfl, rfl⟩

/-- Both halves of an overtaken pair satisfy the whole specification for their line of the trace (state,
    attempt, event, hard-state bookkeeping), from every state related to the reader's bookkeeping — the first
    under the clause name of F-C01a. -/
theorem overtaken_meets_spec (c : Cfg) (hmax : 1 ≤ c.max) (sp : SpecSt) (h : HistSt) (s : St) (a b : Res)
    (hr : Rel c sp s) (hh : HRel c h s) :
    let oa := obsOf c ((stepOvertaken c s a b).1.1, (stepOvertaken c s a b).1.2, true)
    let ob := obsOf c ((stepOvertaken c s a b).2.1, (stepOvertaken c s a b).2.2, true)
    (overtakenStep c sp h a oa).1 = none ∧
    (fullStep c (overtakenStep c sp h a oa).2.1 (overtakenStep c sp h a oa).2.2 b ob).1 = none := by
  intro oa ob
  have e1 := fullStep_model c hmax sp h s a hr hh
  have e2 := fullStep_model c hmax _ _ _ b (rel_step c sp s a hr) (hrel_step c h s a hh)
  have hoa : overtakenStep c sp h a oa = (none, specNext c sp a.state, histNext h a oa) := by
    unfold overtakenStep
    rw [show fullStep c sp h a oa = _ from e1]
    rfl
  rw [hoa]
  exact ⟨rfl, congrArg Prod.fst e2⟩

def exampleHistory : List Res :=
  [⟨.ok, 1, 1⟩, ⟨.critical, 2, 2⟩, ⟨.critical, 3, 3⟩, ⟨.critical, 4, 4⟩, ⟨.warning, 5, 5⟩, ⟨.ok, 6, 6⟩]

def exampleCfg : Cfg := { kind := .service, max := 3, volatile := false }

example : (trace exampleCfg pending exampleHistory).map (fun p => (p.2.stype, p.2.attempt, p.2.ev, p.2.lastHard, p.2.prevHard)) =
    [(.hard, 1, .hard, .ok, 99), (.soft, 1, .soft, .ok, 99), (.soft, 2, .soft, .ok, 99),
     (.hard, 1, .hard, .critical, 0), (.hard, 1, .hard, .warning, 2), (.hard, 1, .hard, .ok, 1)] := by
  decide +kernel

/-- An observation of a service as the harness reports it: `vars_after` and the API fields follow the others. -/
def svcObs (acc : Bool) (st : SState) (ty : SType) (at_ : Nat) (lh : SState) (e : Ev) (ph : Nat) (ls : SState) : Obs :=
  { accepted := acc, state := st, stype := ty, attempt := at_, lastHard := lh, ev := e, prevHard := ph,
    vaState := st.toNat, vaType := ty.toNat, vaAttempt := at_,
    apiState := st.toNat, apiLastState := ls.toNat, apiLastHard := lh.toNat }

/-- The specification is not trivially true: an observation with the wrong attempt is rejected. -/
example : specFull exampleCfg specInit histInit
    [(⟨.ok, 1, 1⟩, svcObs true .ok .hard 1 .ok .hard 99 .unknown),
     (⟨.critical, 2, 2⟩, svcObs true .critical .soft 2 .ok .soft 99 .ok)]
    = some .streakSoft := by decide +kernel

/-- … and so is a missing hard event at the last retry. -/
example : specFull { exampleCfg with max := 2 } specInit histInit
    [(⟨.ok, 1, 1⟩, svcObs true .ok .hard 1 .ok .hard 99 .unknown),
     (⟨.critical, 2, 2⟩, svcObs true .critical .soft 1 .ok .soft 99 .ok),
     (⟨.unknown, 3, 3⟩, svcObs true .unknown .hard 1 .unknown .soft 99 .critical)]
    = some .event := by decide +kernel

/-- The volatile exemption is narrow: a volatile object that reports a *soft* event at the last retry is
    rejected (it is hard after that result) … -/
example : specFull { exampleCfg with volatile := true } specInit histInit
    [(⟨.ok, 1, 1⟩, svcObs true .ok .hard 1 .ok .hard 99 .unknown),
     (⟨.critical, 2, 2⟩, svcObs true .critical .soft 1 .critical .hard 0 .ok),
     (⟨.critical, 3, 3⟩, svcObs true .critical .soft 2 .critical .hard 2 .critical),
     (⟨.critical, 4, 4⟩, svcObs true .critical .hard 1 .critical .soft 2 .critical)]
    = some .event := by decide +kernel

/-- … and so is one that reports nothing when it returns from a soft state to OK. -/
example : specFull { exampleCfg with volatile := true } specInit histInit
    [(⟨.ok, 1, 1⟩, svcObs true .ok .hard 1 .ok .hard 99 .unknown),
     (⟨.critical, 2, 2⟩, svcObs true .critical .soft 1 .critical .hard 0 .ok),
     (⟨.ok, 3, 3⟩, svcObs true .ok .hard 1 .critical .none 0 .critical)]
    = some .event := by decide +kernel

/-- A hard event that does not record the new hard state is rejected … -/
example : specFull { exampleCfg with max := 1 } specInit histInit
    [(⟨.ok, 1, 1⟩, svcObs true .ok .hard 1 .ok .hard 99 .unknown),
     (⟨.critical, 2, 2⟩, svcObs true .critical .hard 1 .ok .hard 99 .ok)]
    = some .lastHardAtHardEvent := by decide +kernel

/-- … so is a hard state that moves without a hard event … -/
example : specFull exampleCfg specInit histInit
    [(⟨.ok, 1, 1⟩, svcObs true .ok .hard 1 .ok .hard 99 .unknown),
     (⟨.critical, 2, 2⟩, svcObs true .critical .soft 1 .critical .soft 99 .ok)]
    = some .lastHardUnchanged := by decide +kernel

/-- … a `previous_hard_state` that shows the current instead of the previous hard state (the two slots
    swapped) … -/
example : specFull { exampleCfg with max := 1 } specInit histInit
    [(⟨.ok, 1, 1⟩, svcObs true .ok .hard 1 .ok .hard 99 .unknown),
     (⟨.critical, 2, 2⟩, svcObs true .critical .hard 1 .critical .hard 2 .ok)]
    = some .previousHardState := by decide +kernel

/-- … and a dropped result that is not older, or that changes something. -/
example : specFull exampleCfg specInit histInit
    [(⟨.ok, 5, 5⟩, svcObs true .ok .hard 1 .ok .hard 99 .unknown),
     (⟨.critical, 5, 6⟩, svcObs false .ok .hard 1 .ok .none 99 .unknown)]
    = some .droppedAlthoughNotOlder := by decide +kernel

example : specFull exampleCfg specInit histInit
    [(⟨.ok, 5, 5⟩, svcObs true .ok .hard 1 .ok .hard 99 .unknown),
     (⟨.critical, 4, 6⟩, svcObs false .critical .hard 1 .ok .none 99 .unknown)]
    = some .droppedChangesSomething := by decide +kernel

/-- A lost update is rejected: after OK, CRITICAL (max 3) two concurrent CRITICAL results must leave the
    service hard — soft with attempt 2 (both computed from the same old state) is no sequence … -/
example : specPair exampleCfg { everOk := true, streak := 1, prev := .critical } .critical .critical
    { accA := true, accB := true, state := .critical, stype := .soft, attempt := 2, lastHard := .ok, hardA := 0, hardB := 0 }
    = some .concurrentSerial := by decide +kernel

/-- … the serialised outcome is accepted also when B got the lock first (the final state and the hard
    event are A's) … -/
example : specPair exampleCfg { everOk := true, streak := 1, prev := .critical } .critical .warning
    { accA := true, accB := true, state := .critical, stype := .hard, attempt := 1, lastHard := .critical, hardA := 1, hardB := 0 }
    = none := by decide +kernel

/-- … and a pair none of which may be dropped is rejected when one is. -/
example : pairStep exampleCfg specInit (some 5) .ok .critical 5
    { accA := true, accB := false, state := .ok, stype := .hard, attempt := 1, lastHard := .ok, hardA := 1, hardB := 0 }
    = some .droppedAlthoughNotOlder := by decide +kernel

/-- The specification is not vacuous there: the report the unrepaired code gave in the witness of F-C01a (service,
    max 3, OK, CRITICAL, then CRITICAL overtaken by CRITICAL: no event for the soft re-check) is rejected under
    the clause's own name. -/
example : (overtakenStep exampleCfgO { everOk := true, streak := 1, prev := .critical }
      { last := none, hardAt := none, lastExec := some 2 } ⟨.critical, 3, 3⟩
      (svcObs true .critical .soft 2 .ok .none 99 .critical)).1 = some .eventOvertaken := by decide +kernel

/-- `NonDecr` holds of the example history from the pending state (premise of
    `streak_characterisation_run`). -/
example : NonDecr pending.lastExec exampleHistory := by
  simp [NonDecr, exampleHistory, pending]

/-- `Inv` is satisfiable in the middle of a retry series (premise of `event_spec`). -/
example : Inv exampleCfg { pending with state := .critical, attempt := 2, lastHard := .ok } 2 := by
  simp [Inv, exampleCfg, isOK, pending]

/-- A restored start state in the middle of a retry series is held to the whole property at once:
    `specStart` reads streak 2 from (CRITICAL, soft, 2). -/
example : specStart exampleCfg { pending with state := .critical, attempt := 2, lastHard := .ok, hist := 99 } =
    { everOk := true, streak := 2, prev := .critical } := by decide +kernel

/-- Premises of `host_projection_trace` on a non-trivial pair: OK, CRITICAL against WARNING, UNKNOWN. -/
example : HostSim pending pending ∧
    ∀ p ∈ [((⟨.ok, 1, 1⟩ : Res), (⟨.warning, 1, 1⟩ : Res)), (⟨.critical, 2, 2⟩, ⟨.unknown, 2, 2⟩)],
      hostUp p.1.state = hostUp p.2.state ∧ p.1.execStart = p.2.execStart ∧ p.1.now = p.2.now := by
  refine ⟨⟨rfl, rfl, rfl, rfl, rfl⟩, ?_⟩
  intro p hp
  simp at hp
  rcases hp with rfl | rfl <;> decide

end Icinga.C01
