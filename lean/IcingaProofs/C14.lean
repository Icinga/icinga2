/-
  C14 — state and modified attributes survive restart; files old-or-new at any crash.
  Property theorems (every `theorem` here is a proof obligation the check audits).
-/
import IcingaProofs.C14.ModifyRestoreLemmas
import IcingaProofs.C14.SerialLemmas
import IcingaProofs.C14.FsLemmas
import IcingaProofs.C14.DumpLemmas
import IcingaProofs.C20

namespace Icinga.C14

open Icinga.C20 (JValue NumCodec Bytes nsReadAll json_roundtrip_int intCodec frames_split_regardless_of_chunking
  bufLimitExceeded depth jsonMaxNestingDepth)

/-! Modify / restore.  Full statement (what the property says, **false of the pinned code**):

      theorem modify_restore_identity (o : Obj N) (p : Path) (v : JValue N) (o1 o2 : Obj N)
          (hm : modify o p v = .ok o1) (hr : restore o1 p = .ok o2) :
          o2.fields = o.fields

  It fails (1) when `p` did not exist (`Dictionary::Get` yields Empty, which is recorded and written
  back as an explicit null: F-C14a), (2) when something at or below an already modified path is
  modified (the members of the *intermediate* dictionary are recorded as originals: F-C14b), (3) when
  the old value is an empty dictionary (flattening records nothing, the modification can neither be
  restored nor is it persisted: F-C14d).  Proved instead: the identity for existing paths holding a
  non-dictionary (or any top-level attribute) with nothing recorded at or below the path. -/

/-- **modify_restore_partial.**  For every object, every path `p` that currently holds a value `old`
    (`getPath`), where `old` is not a dictionary or `p` is a top-level attribute, with no original
    entry at or below `p`, and every new value `v`: `ModifyAttribute(p, v)` succeeds, the following
    `RestoreAttribute(p)` succeeds, and the object — attribute tree *and* original attributes — is
    exactly what it was (a null `original_attributes` pointer having become the empty dictionary). -/
theorem modify_restore_partial {N : Type} (o : Obj N) (p : Path) (v old : JValue N)
    (hex : getPath o.fields p = some old)
    (hleaf : p.length = 1 ∨ isDict old = false)
    (hfresh : ∀ e ∈ origOf o, isPrefix p e.1 = false) :
    ∃ o1, modify o p v = .ok o1 ∧ restore o1 p = .ok { fields := o.fields, original := some (origOf o) } :=
  ⟨_, modify_restore o p v old hex hleaf fun e he => usedUp_of_not_isPrefix (hfresh e he)⟩

section Examples

private def k (s : String) : Key := s.toList

/-- `vars = { a = "s", d = { k = 1 }, e = {} }`, never modified. -/
def sampleObj : Obj Int :=
  { fields := [(['n', 'o', 't', 'e', 's'], .str ['x']),
               (['v', 'a', 'r', 's'], .obj [(['a'], .str ['s']), (['d'], .obj [(['k'], .num 1)]), (['e'], .obj [])])],
    original := none }

def vars : Key := ['v', 'a', 'r', 's']

-- the hypotheses of `modify_restore_partial` are satisfiable on a nested leaf, and the conclusion is what evaluation gives
example : getPath sampleObj.fields [vars, ['d'], ['k']] = some (.num 1) := by decide +kernel
example : (match modify sampleObj [vars, ['d'], ['k']] (.obj [(['z'], .null)]) with
    | .ok o1 => restore o1 [vars, ['d'], ['k']]
    | .error e => .error e) = .ok { sampleObj with original := some [] } := by decide +kernel

end Examples

/-- **modify_restore_absent_counterexample** (F-C14a).  Modifying `vars.x`, which does not exist, and
    restoring it leaves `"x": null` behind: the full identity is false. -/
theorem modify_restore_absent_counterexample :
    ∃ (o o1 o2 : Obj Int) (p : Path) (v : JValue Int),
      modify o p v = .ok o1 ∧ restore o1 p = .ok o2 ∧ o2.fields ≠ o.fields ∧
        getPath o.fields p = none ∧ getPath o2.fields p = some .null := by
  refine ⟨sampleObj, _, _, [vars, ['x']], .num 5, rfl, rfl, ?_⟩
  decide +kernel

/-- **modify_restore_below_counterexample** (F-C14b).  `vars.a` ("s" → `{k = 1}`), then `vars.a.k`
    (1 → 2), then restore `vars.a`: the attribute comes back as the intermediate dictionary `{k = 1}`
    instead of "s", and no original entry is left to repair it. -/
theorem modify_restore_below_counterexample :
    ∃ (o1 o2 o3 : Obj Int),
      modify sampleObj [vars, ['a']] (.obj [(['k'], .num 1)]) = .ok o1 ∧
      modify o1 [vars, ['a'], ['k']] (.num 2) = .ok o2 ∧
      restore o2 [vars, ['a']] = .ok o3 ∧
      getPath sampleObj.fields [vars, ['a']] = some (.str ['s']) ∧
      getPath o3.fields [vars, ['a']] = some (.obj [(['k'], .num 1)]) ∧ o3.original = some [] := by
  refine ⟨_, _, _, rfl, rfl, rfl, ?_⟩
  decide +kernel

/-- **modify_restore_emptydict_counterexample** (F-C14d).  `vars.e` holds the empty dictionary; after
    `ModifyAttribute("vars.e", 5)` nothing at all is recorded (`IsAttributeModified` is false, nothing
    would be written to modified-attributes.conf) and `RestoreAttribute` changes nothing. -/
theorem modify_restore_emptydict_counterexample :
    ∃ (o1 o2 : Obj Int),
      modify sampleObj [vars, ['e']] (.num 5) = .ok o1 ∧ o1.original = some [] ∧
      isModified o1 [vars, ['e']] = false ∧
      restore o1 [vars, ['e']] = .ok o2 ∧ getPath o2.fields [vars, ['e']] = some (.num 5) ∧
      getPath sampleObj.fields [vars, ['e']] = some (.obj []) := by
  refine ⟨_, _, rfl, ?_, ?_, rfl, ?_⟩ <;> decide +kernel

/-- **restore_clears_original.**  After a successful `RestoreAttribute(p)` the attribute `p` is no longer
    recorded as modified, and for a nested path nothing at or below `p` is (configobject.cpp:303-304,
    315).  (For a top-level attribute only the exact entry goes: entries below it stay; restoring an
    unmodified top-level attribute is a no-op, configobject.cpp:309-310.) -/
theorem restore_clears_original {N : Type} (o o' : Obj N) (p : Path) (h : restore o p = .ok o') (g : Orig N)
    (hg : o.original = some g) :
    ∃ g', o'.original = some g' ∧ (∀ e ∈ g', e.1 ≠ p) ∧ (1 < p.length → ∀ e ∈ g', isPrefix p e.1 = false) := by
  refine ⟨_, restore_original h hg, fun e he heq => ?_, fun hl e he => ?_⟩
  · simpa [usedUp_of_eq heq] using (List.mem_filter.1 he).2
  · simpa [usedUp_of_one_lt hl] using (List.mem_filter.1 he).2

example : restore { sampleObj with original := some [([vars, ['a']], .str ['t']), ([vars, ['a'], ['z']], .num 0)] } [vars, ['a']] =
    .ok { fields := [(['n', 'o', 't', 'e', 's'], .str ['x']),
                     (vars, .obj [(['a'], .obj [(['z'], .num 0)]), (['d'], .obj [(['k'], .num 1)]), (['e'], .obj [])])],
          original := some [] } := by decide +kernel

-- regression for F-C14f (fixed in /repo by fff98fc): restoring a top-level attribute that is not modified, on an
-- object that has other modifications, changes nothing (before the fix `vars` became Empty)
example : restore { sampleObj with original := some [([['n', 'o', 't', 'e', 's']], .str ['y'])] } [vars] =
    .ok { sampleObj with original := some [([['n', 'o', 't', 'e', 's']], .str ['y'])] } := by decide +kernel

/-- **modify_restore_meets_spec_partial.**  Under the hypotheses of `modify_restore_partial` the model's
    two-step trace `modify p v; restore p` from a never-modified object satisfies the executable
    specification `specM` that the driver evaluates on the implementation's observations. -/
theorem modify_restore_meets_spec_partial {N : Type} [DecidableEq N] (o : Obj N) (p : Path) (v old : JValue N)
    (hnone : o.original = none)
    (hex : getPath o.fields p = some old)
    (hleaf : p.length = 1 ∨ isDict old = false) :
    ∃ o1 o2, modify o p v = .ok o1 ∧ restore o1 p = .ok o2 ∧
      specM {} o.fields [(.modify p v, true, o1.fields), (.restore p, true, o2.fields)] = none := by
  obtain ⟨o1, hm, hr⟩ := modify_restore_partial o p v old hex hleaf (by simp [origOf_none hnone])
  refine ⟨o1, _, hm, hr, ?_⟩
  -- the tracker records the value found at `p` before the modification and compares the restore with it; the fields after
  -- the restore are `o.fields` again, so the comparison is between equal terms
  simp [specM, specStepM, gLookup, dormantOf]

-- the specification is not vacuous: the trace the pinned code produces for F-C14a is rejected
example : specM (N := Int) {} sampleObj.fields
    [(.modify [vars, ['x']] (.num 5), true,
        [(['n', 'o', 't', 'e', 's'], .str ['x']),
         (vars, .obj [(['a'], .str ['s']), (['d'], .obj [(['k'], .num 1)]), (['e'], .obj []), (['x'], .num 5)])]),
     (.restore [vars, ['x']], true,
        [(['n', 'o', 't', 'e', 's'], .str ['x']),
         (vars, .obj [(['a'], .str ['s']), (['d'], .obj [(['k'], .num 1)]), (['e'], .obj []), (['x'], .null)])])]
    = some .restoreIdentity := by decide +kernel

/-! ### a whole attribute modified and restored while a modification below it is outstanding

  "A modified attribute restored through the API returns exactly to its original value" also after the attribute
  above it was modified as a whole and restored in between: the value `restore [f]` returns to still contains the
  nested modification, which therefore must remain recorded (restorable, written to modified-attributes.conf). -/

/-- **whole_modify_restore_identity.**  For every object with any recorded modifications `orig` that do not include
    the (existing) top-level attribute `f` itself — in particular with modifications outstanding *below* `f` — and
    every value `w`: `ModifyAttribute(f, w)` followed by `RestoreAttribute(f)` gives back exactly the same object: the
    attribute tree **and every original entry**, including those of the nested modifications. -/
theorem whole_modify_restore_identity {N : Type} (o : Obj N) (f : Key) (w x : JValue N) (orig : Orig N)
    (hf : dGet? f o.fields = some x) (ho : o.original = some orig) (hnot : oHas [f] orig = false) :
    ∃ o2, modify o [f] w = .ok o2 ∧ o2.fields = dSet f w o.fields ∧ restore o2 [f] = .ok o := by
  obtain ⟨fields, original⟩ := o
  obtain rfl : original = some orig := ho
  have h := modify_restore { fields := fields, original := some orig } [f] w x (by simp [getPath, hf, getIn])
    (Or.inl rfl) (oHas_single_eq_false.1 hnot)
  exact ⟨_, h.1, rfl, h.2⟩

-- the hypotheses are satisfiable with a nested modification outstanding, and the conclusion is what evaluation gives
example : (match modify sampleObj [vars, ['a']] (.num 7) with
    | .ok o1 => (match modify o1 [vars] (.obj [(['z'], .null)]) with
      | .ok o2 => decide (restore o2 [vars] = .ok o1) && decide (isModified o1 [vars, ['a']])
      | .error _ => false)
    | .error _ => false) = true := by decide +kernel

/-- **nested_whole_restore_meets_spec** (whole four-step trace).  For every never-modified object, every nested path
    `f.k.…` holding a non-dictionary and all values `v`, `w`: the model's trace
    `modify f.k.… v; modify f w; restore f; restore f.k.…` succeeds step by step, `restore f` returns to exactly the
    object after the first step, the last restore returns to the initial attribute tree, and the trace satisfies the
    executable specification `specM` — whose clause for the last step is live: after `restore f` brought the nested
    modification back it is tracked again (`Track.dormant`), so a `restore f.k.…` that leaves the modified value is
    rejected (example below; that is the trace of a RestoreAttribute which drops the nested records). -/
theorem nested_whole_restore_meets_spec {N : Type} [DecidableEq N] (o : Obj N) (f k : Key) (ks : Path) (v w old : JValue N)
    (hnone : o.original = none)
    (hex : getPath o.fields (f :: k :: ks) = some old)
    (hleaf : isDict old = false) :
    ∃ o1 o2, modify o (f :: k :: ks) v = .ok o1 ∧ modify o1 [f] w = .ok o2 ∧ restore o2 [f] = .ok o1 ∧
      restore o1 (f :: k :: ks) = .ok { fields := o.fields, original := some [] } ∧
      specM {} o.fields [(.modify (f :: k :: ks) v, true, o1.fields), (.modify [f] w, true, o2.fields),
        (.restore [f], true, o1.fields), (.restore (f :: k :: ks), true, o.fields)] = none := by
  have horig := origOf_none hnone
  obtain ⟨hm, hr⟩ := modify_restore o (f :: k :: ks) v old hex (Or.inr hleaf) (by simp [horig])
  rw [horig] at hm hr
  obtain ⟨_, _, c, hp, hf, _⟩ := getPath_eq_some hex
  cases hp
  -- `f` is still a field after the first step: read off the value `putPath` writes
  have hf1 : dGet? f (putPath o.fields (f :: k :: ks) (some v)) = some (putIn (k :: ks) (some v) c) := by
    rw [putPath_cons_cons hf, dGet_dSet_self]
  obtain ⟨o2, hm2, _, hr2⟩ := whole_modify_restore_identity
    { fields := putPath o.fields (f :: k :: ks) (some v), original := some [(f :: k :: ks, old)] } f w _
    [(f :: k :: ks, old)] hf1 rfl (by simp [oHas])
  refine ⟨_, o2, hm, hm2, hr2, hr, ?_⟩
  -- how the tracker goes: step 1 records the nested path with the value before; step 2 finds that entry strictly below
  -- `[f]`, keeps it dormant under `[f]` and records `[f]`; step 3 sees `[f]` back as it was, so the dormant entry is tracked
  -- again; step 4 compares with the value before step 1, and the fields are `o.fields` again
  simp [specM, specStepM, gLookup, strictBelow, isPrefix, dormantOf, getPath, hf1, getIn]

private def varsA7 : Dict Int := [(['n', 'o', 't', 'e', 's'], .str ['x']),
  (vars, .obj [(['a'], .num 7), (['d'], .obj [(['k'], .num 1)]), (['e'], .obj [])])]

-- the clause is live: the same trace with a last step that reports success but leaves `vars.a = 7` is rejected …
example : specM (N := Int) {} sampleObj.fields
    [(.modify [vars, ['a']] (.num 7), true, varsA7),
     (.modify [vars] (.obj [(['z'], .null)]), true, [(['n', 'o', 't', 'e', 's'], .str ['x']), (vars, .obj [(['z'], .null)])]),
     (.restore [vars], true, varsA7),
     (.restore [vars, ['a']], true, varsA7)] = some .restoreIdentity := by decide +kernel
-- … and accepted when it returns to the initial tree
example : specM (N := Int) {} sampleObj.fields
    [(.modify [vars, ['a']] (.num 7), true, varsA7),
     (.modify [vars] (.obj [(['z'], .null)]), true, [(['n', 'o', 't', 'e', 's'], .str ['x']), (vars, .obj [(['z'], .null)])]),
     (.restore [vars], true, varsA7),
     (.restore [vars, ['a']], true, sampleObj.fields)] = none := by decide +kernel

private def v0 : Key := ['v', 'a', 'r', 's']
private def objJ : Obj Int := { fields := [(v0, .obj [(['a'], .num 0), (['b'], .str ['x'])])], original := none }

/-! ### F-C14j: the other order leaves a stale original behind

  `modify vars W; modify vars.a v; restore vars`: the entry `vars.a ↦ W.a` recorded while `vars` was already modified
  survives `RestoreAttribute("vars")` (configobject.cpp:307-315 removes only the entry `vars`).  The attribute tree is
  back at the configured value, yet `vars.a` still counts as modified (IsAttributeModified, written to
  modified-attributes.conf with the configured value, so after a restart its recorded original is another one), and
  `RestoreAttribute("vars.a")` moves the *unmodified* `vars.a` to `W.a`, a value of the discarded dictionary. -/

/-- **stale_nested_original_counterexample** (F-C14j), by evaluation of the model (diffed against the real code by the
    corpus witness f_c14j_*.ops on every run). -/
theorem stale_nested_original_counterexample :
    ∃ o1 o2 o3 o4 : Obj Int,
      modify objJ [v0] (.obj [(['a'], .num 5), (['c'], .num 1)]) = .ok o1 ∧
      modify o1 [v0, ['a']] (.num 7) = .ok o2 ∧
      restore o2 [v0] = .ok o3 ∧
      o3.fields = objJ.fields ∧ isModified o3 [v0, ['a']] = true ∧
      restore o3 [v0, ['a']] = .ok o4 ∧
      getPath o4.fields [v0, ['a']] = some (.num 5) ∧ getPath objJ.fields [v0, ['a']] = some (.num 0) := by
  refine ⟨_, _, _, _, rfl, rfl, rfl, ?_, ?_, rfl, ?_, ?_⟩ <;> decide +kernel

/-- **modifications_survive_restart.**  A list of modifications of a never-modified object, each satisfying the
    hypotheses of `modify_restore_partial`: every path exists and holds a non-dictionary (or is a top-level attribute),
    no two paths are prefix-related (distinct outermost paths), and the modifications are made in the order of their
    attribute strings (the order in which `original_attributes` iterates; independence of the order is not
    proved).  Then all of them succeed, `DumpModifiedAttributes` writes exactly the list — one
    `modify_attribute(p, v)` each — and the replay at start-up onto the freshly loaded object reproduces the object
    exactly: attribute tree and original attributes. -/
theorem modifications_survive_restart {N : Type} (o : Obj N) (ms : List (Path × JValue N))
    (hnone : o.original = none)
    (hex : ∀ e ∈ ms, ∃ old, getPath o.fields e.1 = some old ∧ (e.1.length = 1 ∨ isDict old = false))
    (hpw : ms.Pairwise (fun a b => Unrel a.1 b.1 ∧ keyLt (joinPath b.1) (joinPath a.1) = false)) :
    ∃ o', applyAll o ms = some o' ∧ dumpModified o' = ms ∧ replayModified o (dumpModified o') = o' := by
  have horig := origOf_none hnone
  obtain ⟨o', happly, hdump⟩ := dump_applyAll ms o (by simp [horig]) hex (by simp [horig]) hpw
  have hd : dumpModified o' = ms := by simpa [dumpModified, horig] using hdump
  exact ⟨o', happly, hd, by rw [hd]; exact replay_of_applyAll ms o o' happly⟩

/-- **modification_survives_restart.**  The case of a single modification: it survives the stop/start cycle
    unchanged. -/
theorem modification_survives_restart {N : Type} (o : Obj N) (p : Path) (v old : JValue N)
    (hnone : o.original = none)
    (hex : getPath o.fields p = some old)
    (hleaf : p.length = 1 ∨ isDict old = false) :
    ∃ o1, modify o p v = .ok o1 ∧ dumpModified o1 = [(p, v)] ∧ replayModified o (dumpModified o1) = o1 := by
  obtain ⟨o1, happly, hd, hr⟩ := modifications_survive_restart o [(p, v)] hnone (by simpa using ⟨old, hex, hleaf⟩) (by simp)
  refine ⟨o1, ?_, hd, hr⟩
  cases hm : modify o p v with
  | error e => simp [applyAll, hm] at happly
  | ok o2 => simpa [applyAll, hm] using happly

-- on a list that meets the hypotheses (a top-level attribute and two nested leaves, in key order) evaluation gives the list as the dump
example : (applyAll sampleObj [([['n', 'o', 't', 'e', 's']], .str ['y']), ([vars, ['a']], .num 7), ([vars, ['d'], ['k']], .obj [])]).map dumpModified
    = some [([['n', 'o', 't', 'e', 's']], .str ['y']), ([vars, ['a']], .num 7), ([vars, ['d'], ['k']], .obj [])] := by decide +kernel
-- regressions for F-C14e / F-C14h (fixed in /repo by 999361f, 1d70162): stale nested entries are not dumped
example : (applyAll sampleObj [([vars, ['a']], .obj [(['x'], .num 1)]), ([vars, ['a']], .num 5)]).map dumpModified
    = some [([vars, ['a']], .num 5)] := by decide +kernel
example : (applyAll sampleObj [([vars, ['a']], .obj [(['x'], .num 1)]), ([vars, ['a']], .obj [(['y'], .num 2)])]).map dumpModified
    = some [([vars, ['a']], .obj [(['y'], .num 2)]), ([vars, ['a'], ['y']], .num 2)] := by decide +kernel

/-- **serialize_id.**  On value trees `Serialize` is the identity (a deep copy). -/
theorem serialize_id {N : Type} (v : JValue N) : serialize v = v := serialize_eq v

/-- **deserialize_id_partial.**  `Deserialize` returns the tree unchanged provided every dictionary with
    a `type` key in it names a registered type (the hypothesis is necessary: `state_roundtrip_counterexample`). -/
theorem deserialize_id_partial {N : Type} (known : Key → Bool) (v : JValue N) (h : onlyKnownTypes known v = true) :
    deserialize known v = v := deserialize_eq known v h

/-- **state_roundtrip_partial.**  Full statement: for all objects.  Proved: for every lawful number
    codec, every list of objects satisfying `StateOK` (frames below 10^9 bytes — the netstring reader refuses a length of
    more than nine digits, C20 `frames_split_regardless_of_chunking` —, nested at most 1000 deep — the
    limit of the real JsonDecode since 24727c0; a frame nested deeper is refused) and **every chunking** of
    the file `DumpObjects` writes, the read loop of `RestoreObjects` yields exactly the frames, in
    order, then EOF, and `RestoreObject` of each frame onto a freshly created object with the same fields
    sets every field to exactly the dumped value — any nesting, any strings and keys, empty values. -/
theorem state_roundtrip_partial {N : Type} (c : NumCodec N) (hc : c.Lawful) (known : Key → Bool)
    (objs : List (SObj N)) (fresh : SObj N → SObj N) (chunks : List Bytes)
    (hok : ∀ o ∈ objs, StateOK known o)
    (hfresh : ∀ o ∈ objs, (fresh o).fields.map Prod.fst = o.fields.map Prod.fst)
    (hlen : ∀ o ∈ objs, (frameBody c o).length < 10 ^ 9)
    (hdepth : ∀ o ∈ objs, depth (persistent o) ≤ jsonMaxNestingDepth)
    (hchunks : chunks.flatten = stateFile c objs) :
    (nsReadAll none chunks).items = objs.map (frameBody c) ∧ (nsReadAll none chunks).final = .eof ∧
      ∀ o ∈ objs, restoreMessage c known (fresh o) (frameBody c o) = some { fresh o with fields := o.fields } := by
  obtain ⟨hi, hf⟩ := frames_split_regardless_of_chunking none (objs.map (frameBody c)) chunks
    (List.forall_mem_map.2 fun o ho => ⟨hlen o ho, by simp [bufLimitExceeded]⟩) hchunks
  exact ⟨hi, hf, fun o ho => restoreMessage_frameBody c hc known o (fresh o) (hok o ho) (hfresh o ho) (hdepth o ho)⟩

/-- An object whose attribute `ex` (think of `executions`) holds `{ d = { type = "ext4" } }`. -/
def sampleState : SObj Int :=
  { typeName := ['H', 'o', 's', 't'], name := ['h'],
    fields := [(['e', 'x'], .obj [(['d'], .obj [(typeKey, .str ['e', 'x', 't', '4'])])]), (['n'], .num 3)] }

example : StateOK (fun _ => false) { sampleState with fields := [(['e', 'x'], .obj [(['d'], .obj [(['t'], .str ['x'])])]), (['n'], .num 3)] } := by
  refine ⟨by decide +kernel, ?_⟩
  intro e he
  simp at he
  rcases he with rfl | rfl <;> decide +kernel

/-- **state_roundtrip_counterexample** (F-C14c).  A dictionary with a `type` key inside a state
    attribute does not survive the state file: it comes back as Empty. -/
theorem state_roundtrip_counterexample :
    restoreMessage intCodec (fun _ => false) { sampleState with fields := [(['e', 'x'], .null), (['n'], .null)] }
        (frameBody intCodec sampleState) =
      some { sampleState with fields := [(['e', 'x'], .obj [(['d'], .null)]), (['n'], .num 3)] } := by
  unfold restoreMessage frameBody
  rw [json_roundtrip_int _ (by decide +kernel)]
  decide +kernel

/-- **restart_meets_spec** (whole restart, state side).  For every lawful number codec, every list of objects
    satisfying `StateOK` and the size/depth bounds of `state_roundtrip_partial`, and **every chunking** of the file
    `DumpObjects` writes: the read loop yields the frames, and for each object the model's restart — `RestoreObject`
    of its frame onto the freshly created object — produces observations on which the specification predicates the
    driver evaluates on the implementation's S lines hold: `specRestartState` (serialised state identical) and
    `specRestartPinned` (every attribute the statement names is in the record and has the identical value).  The
    hypothesis `hinv` — every pinned attribute of the object's type is among the fields `DumpObjects` writes — is what
    the clause `stateInventory` checks against the type reflection of the running binary on every run (I lines). -/
theorem restart_meets_spec {N : Type} [DecidableEq N] (c : NumCodec N) (hc : c.Lawful) (known : Key → Bool)
    (objs : List (SObj N)) (fresh : SObj N → SObj N) (chunks : List Bytes)
    (hok : ∀ o ∈ objs, StateOK known o)
    (hfresh : ∀ o ∈ objs, (fresh o).fields.map Prod.fst = o.fields.map Prod.fst)
    (hlen : ∀ o ∈ objs, (frameBody c o).length < 10 ^ 9)
    (hdepth : ∀ o ∈ objs, depth (persistent o) ≤ jsonMaxNestingDepth)
    (hinv : ∀ o ∈ objs, ∀ a ∈ pinnedState o.typeName, dHas a o.fields = true)
    (hchunks : chunks.flatten = stateFile c objs) :
    (nsReadAll none chunks).items = objs.map (frameBody c) ∧
      ∀ o ∈ objs, ∃ o', restoreMessage c known (fresh o) (frameBody c o) = some o' ∧
        specRestartState (JValue.obj o.fields) (JValue.obj o'.fields) = none ∧
        specRestartPinned o.typeName o.fields o'.fields = none := by
  obtain ⟨hi, _, hr⟩ := state_roundtrip_partial c hc known objs fresh chunks hok hfresh hlen hdepth hchunks
  refine ⟨hi, ?_⟩
  intro o ho
  refine ⟨_, hr o ho, ?_, ?_⟩
  · simp [specRestartState, specRoundtrip]
  · exact specRestartPinned_self o.typeName o.fields (hinv o ho)

/-- A Downtime as the state file sees it (all three pinned attributes among its fields). -/
def sampleDowntime : SObj Int :=
  { typeName := "Downtime".toList, name := ['d'],
    fields := [("legacy_id".toList, .num 3), ("remove_time".toList, .num 0), ("trigger_time".toList, .num 1700000000),
               ("triggers".toList, .arr [.str ['x']])] }

-- the inventory hypothesis is satisfiable, and the inventory clause accepts / rejects
example : ∀ a ∈ pinnedState sampleDowntime.typeName, dHas a sampleDowntime.fields = true := by decide +kernel
example : specInventory "Downtime".toList [("trigger_time".toList, 4), ("triggers".toList, 4), ("legacy_id".toList, 4), ("remove_time".toList, 4)] = none := by decide +kernel
-- `[state]` dropped from trigger_time (flags 0), or the attribute gone: rejected
example : specInventory "Downtime".toList [("trigger_time".toList, 0), ("triggers".toList, 4), ("remove_time".toList, 4)] = some .stateInventory := by decide +kernel
example : specInventory "Downtime".toList [("triggers".toList, 4), ("remove_time".toList, 4)] = some .stateInventory := by decide +kernel
example : specInventory "Host".toList [("acknowledgement".toList, 2)] = some .stateInventory := by decide +kernel
-- the getter comparison rejects a trigger time that came back as 0, and a record that lacks a pinned attribute
example : specRestartPinned (N := Int) "Downtime".toList sampleDowntime.fields
    [("legacy_id".toList, .num 3), ("remove_time".toList, .num 0), ("trigger_time".toList, .num 0), ("triggers".toList, .arr [.str ['x']])]
    = some .stateRoundtrip := by decide +kernel
example : specRestartPinned (N := Int) "Downtime".toList [("remove_time".toList, .num 0), ("triggers".toList, .arr [])]
    [("remove_time".toList, .num 0), ("triggers".toList, .arr [])] = some .stateRoundtrip := by decide +kernel
example : specRestartPinned (N := Int) "Downtime".toList sampleDowntime.fields sampleDowntime.fields = none := by decide +kernel

/-! ### typed objects nested in state values come back as objects

  "identical values after a stop/start cycle, whatever their content (any nesting of dictionaries/arrays)": a
  `PerfdataValue` inside the `performance_data` array of `last_check_result` must be a `PerfdataValue` again, not a
  dictionary with the same members (`Serialize` shows both alike; `FormatPerfdata`, the perfdata writers and macros do not). -/

/-- **typed_objects_roundtrip.**  For every getter-view tree — typed objects (tagged) and plain dictionaries nested in
    arrays and dictionaries to any depth, every object's type registered — `Deserialize(Serialize(t), safe_mode = false)`
    is `t` again: every object comes back as an object of its type at the same place, every dictionary as a dictionary. -/
theorem typed_objects_roundtrip {N : Type} (known : Key → Bool) (t : JValue N) (h : wellTagged known t = true) :
    deserializeT known false (stripTag t) = t :=
  typed_roundtrip_aux known t h

private def pdvKnown : Key → Bool := fun s => s = "PerfdataValue".toList || s = "CheckResult".toList
/-- `last_check_result` = a CheckResult whose performance_data holds a string and a PerfdataValue. -/
private def sampleCr : JValue Int :=
  .obj [(objectTag, .bool true), ("output".toList, .str ['o', 'k']),
        ("performance_data".toList, .arr [.str ['a', '=', '1'],
           .obj [(objectTag, .bool true), ("label".toList, .str ['l']), (typeKey, .str "PerfdataValue".toList), ("value".toList, .num 7)]]),
        (typeKey, .str "CheckResult".toList),
        ("vars_after".toList, .obj [("attempt".toList, .num 1)])]

-- the hypothesis is satisfiable on a non-trivial tree (object in array in object), and the conclusion is what evaluation gives
example : wellTagged pdvKnown sampleCr = true := by decide +kernel
example : deserializeT pdvKnown false (stripTag sampleCr) = sampleCr := by decide +kernel

/-- **typed_model_refines_tree_model.**  The typed model and the tree model of `Deserialize` (the one
    `state_roundtrip_partial` and `restart_meets_spec` are about) agree on everything `Serialize` shows: for every value
    without `@object` members — everything read from a state file — serialising the getter view that
    `deserializeT … false` produces gives exactly `deserialize`'s tree.  (The typed model only adds which of the
    dictionaries are objects.) -/
theorem typed_model_refines_tree_model {N : Type} (known : Key → Bool) (v : JValue N) (h : noTagKey v = true) :
    stripTag (deserializeT known false v) = deserialize known v :=
  stripTag_deserializeT_aux known v h

example : noTagKey (stripTag sampleCr) = true := by decide +kernel

/-- **restart_getters_meet_spec** (getter view).  For every getter record `getters` (the attributes read one by one, typed
    objects tagged) that is well-formed and holds every attribute the statement names for its type `t`: `Serialize` of
    every attribute (`stripTagM`) followed by `Deserialize` with `safe_mode = false` (`deserializeTM`) — the two ends of
    the restart; the state file, its codec and the fresh object are not in this statement — satisfies
    `specRestartPinned`, the clause the driver evaluates on the implementation's getter records before and after the
    restart: every pinned attribute is there with the identical value, nested objects being objects of their type again. -/
theorem restart_getters_meet_spec {N : Type} [DecidableEq N] (known : Key → Bool) (t : Key) (getters : Dict N)
    (hwt : wellTaggedM known getters = true) (hno : dHas objectTag getters = false)
    (hinv : ∀ a ∈ pinnedState t, dHas a getters = true) :
    specRestartPinned t getters (deserializeTM known false (stripTagM getters)) = none := by
  rw [typed_roundtrip_auxM known getters hwt hno]
  exact specRestartPinned_self t getters hinv

-- non-vacuity: a User record whose pinned attribute holds the sample CheckResult (objects two levels deep) satisfies the
-- hypotheses; and the clause rejects the record that safe-mode deserialisation would produce
example : wellTaggedM pdvKnown [("last_notification".toList, sampleCr)] = true ∧
    (∀ a ∈ pinnedState "User".toList, dHas a [("last_notification".toList, sampleCr)] = true) := by decide +kernel
example : specRestartPinned "User".toList [("last_notification".toList, sampleCr)]
    (deserializeTM pdvKnown true (stripTagM [("last_notification".toList, sampleCr)])) = some .stateRoundtrip := by decide +kernel

/-- **typed_objects_safe_mode_counterexample.**  The round trip depends on `safe_mode = false` reaching every level:
    in safe mode the same state comes back with both objects degraded to dictionaries (what a DeserializeArray that
    forces safe mode for its elements does to the PerfdataValue), and that is a different value. -/
theorem typed_objects_safe_mode_counterexample :
    deserializeT pdvKnown true (stripTag sampleCr) ≠ sampleCr ∧
    stripTag (deserializeT pdvKnown true (stripTag sampleCr)) = stripTag sampleCr := by decide +kernel

/-- **crash_old_or_new_conforming.**  Start from a quiescent file system (`past = []`, nothing unsynced) in which
    `path` holds `old` (or does not exist), with the temp name different from `path` and a fresh inode.  Take any
    calls on the temp file only (create, chmod or fchmod, any number of writes and fsyncs, close, in any order) after
    which the temp file is clean and holds `new`, followed by the rename: the temp-file phase and the rename of the
    words the protocol predicate `protocolWord` accepts.  For **every prefix** of this sequence and **every crash
    view** of the resulting state — the directory as it is or as it was before any of the directory operations,
    files with unsynced writes holding arbitrary bytes — reading `path` yields exactly what it yielded before the
    write began, or exactly the complete new content: never a mixture, a truncation, or (when a previous version
    existed) a missing file.  (Hence `fchmod` for `chmod`, split writes, an additional fsync or a different temp
    name are all covered; a rename before the last write is synced is not.) -/
theorem crash_old_or_new_conforming (s0 : FS) (path tmp : FName) (ino : Ino) (bodyOps : List Sys) (new : Bytes)
    (hq : s0.past = [] ∧ s0.dirty = [])
    (htmp : tmp ≠ path)
    (hino : ∀ i, dirLookup s0.dir path = some i → i ≠ ino)
    (hbody : ∀ op ∈ bodyOps, TmpOnly tmp ino op)
    (hstate : dirLookup (run bodyOps s0).dir tmp = some ino ∧ dataLookup (run bodyOps s0).data ino = some new ∧
      ino ∉ (run bodyOps s0).dirty)
    (pre : List Sys) (hpre : pre <+: bodyOps ++ [Sys.rename tmp path])
    (d : Dir) (content : Ino → Option Bytes) (hcv : CrashView (run pre s0) d content) :
    readFile d content path = readNow s0 path ∨ readFile d content path = some new := by
  rw [List.prefix_concat_iff] at hpre
  rcases hpre with rfl | hpre
  · -- the rename has happened: the crash finds the directory after it, or one of the temp-file phase
    have hframe := untouched_run hq.1 bodyOps hbody
    obtain ⟨htd, hdat, hclean⟩ := hstate
    rw [run_append] at hcv
    generalize run bodyOps s0 = s1 at hcv hframe htd hdat hclean
    obtain ⟨hdir, hc⟩ := hcv
    simp only [run, List.foldl, step, htd] at hdir hc
    rcases hdir with rfl | hmem
    · exact Or.inr (by simp [readFile, dirLookup, hc ino hclean, hdat])
    · exact Or.inl (crash_reads_old hframe hq.2 htmp hino ⟨mem_dirs.1 hmem, hc⟩)
  · exact Or.inl (crash_reads_old (untouched_run hq.1 pre fun op hop => hbody op (hpre.subset hop)) hq.2 htmp hino hcv)

/-- **crash_old_or_new.**  The system calls of `AtomicFile` (any content, any split into writes) are such a
    sequence. -/
theorem crash_old_or_new (s0 : FS) (path tmp : FName) (ino : Ino) (mode : Nat) (chunks : List Bytes)
    (hq : s0.past = [] ∧ s0.dirty = [])
    (htmp : tmp ≠ path)
    (hino : ∀ i, dirLookup s0.dir path = some i → i ≠ ino)
    (pre : List Sys) (hpre : pre <+: atomicWrite path tmp ino mode chunks)
    (d : Dir) (content : Ino → Option Bytes) (hcv : CrashView (run pre s0) d content) :
    readFile d content path = readNow s0 path ∨ readFile d content path = some chunks.flatten := by
  rw [atomicWrite_eq] at hpre
  exact crash_old_or_new_conforming s0 path tmp ino (tmpPhase tmp ino mode chunks) chunks.flatten hq htmp hino
    (tmpPhase_tmpOnly tmp ino mode chunks) (tmpPhase_state s0 tmp ino mode chunks) pre hpre d content hcv

/-- **complete_write_reads_new.**  When the sequence ran to the end, the loader finds the new content (the
    hypotheses, those of `crash_old_or_new`, are not used: `readNow_atomicWrite` holds from any starting state). -/
theorem complete_write_reads_new (s0 : FS) (path tmp : FName) (ino : Ino) (mode : Nat) (chunks : List Bytes)
    (hq : s0.past = [] ∧ s0.dirty = [])
    (htmp : tmp ≠ path)
    (hino : ∀ i, dirLookup s0.dir path = some i → i ≠ ino) :
    readNow (run (atomicWrite path tmp ino mode chunks) s0) path = some chunks.flatten :=
  readNow_atomicWrite s0 path tmp ino mode chunks

/-- **crash_leaves_only_tmp.**  Whatever prefix of the sequence ran and whichever directory state the
    crash leaves (the current one or any earlier one), the only name that was not there before — apart
    from the target itself once renamed — is the temp file `path.tmp.XXXXXX`: the loader, which opens
    `path` only, ignores it, and `DumpObjects`/`DumpModifiedAttributes` glob and remove it before the next
    write (configobject.cpp:471, icingaapplication.cpp:173; checked by the harness's `L` lines). -/
theorem crash_leaves_only_tmp (s0 : FS) (path tmp : FName) (ino : Ino) (mode : Nat) (chunks : List Bytes)
    (hq : s0.past = [])
    (pre : List Sys) (hpre : pre <+: atomicWrite path tmp ino mode chunks)
    (d : Dir) (hd : d = (run pre s0).dir ∨ d ∈ (run pre s0).past) (n : FName) (hn : dirLookup d n ≠ none) :
    n = tmp ∨ n = path ∨ dirLookup s0.dir n ≠ none := by
  by_cases hnt : n = tmp
  · exact Or.inl hnt
  by_cases hnp : n = path
  · exact Or.inr (Or.inl hnp)
  refine Or.inr (Or.inr fun h => hn ?_)
  have hbody := tmpPhase_tmpOnly tmp ino mode chunks
  have hd := mem_dirs.2 hd
  rw [atomicWrite_eq, List.prefix_concat_iff] at hpre
  rcases hpre with rfl | hpre
  · rw [run_append] at hd
    exact (untouched_rename (untouched_run hq _ hbody) d hd n hnt hnp).trans h
  · exact ((untouched_run hq pre fun op hop => hbody op (hpre.subset hop)).names d hd n hnt).trans h

/-- What a `K` line of the harness reports, computed on the file-system model: the bytes a reader of `path` finds,
    classified against the new version first (when old and new coincide the write is indistinguishable from its
    absence) and then against what was there before. -/
def classifyRead (old : Option Bytes) (new : Bytes) (r : Option Bytes) : Found :=
  if r = some new then .new else if r = none then .absent else if r = old then .old else .other

/-- **kill_meets_spec** (whole kill-point trace).  For **every prefix** of the system calls of `AtomicFile` (the
    process is killed after them — the view the harness injects: current directory, current contents), what a reader
    of `path` then finds, classified as the harness classifies it, satisfies the specification predicate `specCrash`
    that the driver evaluates on the implementation's K lines — with `completed` true exactly for the full sequence:
    never `other`, never `absent` when a previous version existed, and not `old`/`absent` after a complete write. -/
theorem kill_meets_spec (s0 : FS) (path tmp : FName) (ino : Ino) (mode : Nat) (chunks : List Bytes)
    (hq : s0.past = [] ∧ s0.dirty = [])
    (htmp : tmp ≠ path)
    (hino : ∀ i, dirLookup s0.dir path = some i → i ≠ ino)
    (pre : List Sys) (hpre : pre <+: atomicWrite path tmp ino mode chunks) :
    specCrash (readNow s0 path).isSome (decide (pre = atomicWrite path tmp ino mode chunks))
      (classifyRead (readNow s0 path) chunks.flatten (readNow (run pre s0) path)) = none := by
  have h := crash_old_or_new s0 path tmp ino mode chunks hq htmp hino pre hpre (run pre s0).dir
    (dataLookup (run pre s0).data) ⟨Or.inl rfl, fun _ _ => rfl⟩
  have hfull : pre = atomicWrite path tmp ino mode chunks → readNow (run pre s0) path = some chunks.flatten :=
    fun e => e ▸ readNow_atomicWrite s0 path tmp ino mode chunks
  change readNow (run pre s0) path = _ ∨ readNow (run pre s0) path = _ at h
  generalize readNow (run pre s0) path = r at h hfull
  generalize readNow s0 path = old at h
  by_cases hn : r = some chunks.flatten
  · simp [classifyRead, hn, specCrash]
  · -- not the new content: then the old one, and the sequence did not run to the end
    obtain rfl : r = old := h.resolve_right hn
    have hnf : ¬ pre = atomicWrite path tmp ino mode chunks := fun e => hn (hfull e)
    cases r <;> simp [classifyRead, hn, hnf, specCrash]

-- killed after the second write: the directory holds the old file and the temp file, nothing else
example : (run ((atomicWrite ['s'] ['t'] 2 384 [[110], [101], [119]]).take 4) { dir := [(['s'], 1)], past := [], data := [(1, [111])], dirty := [] }).dir
    = [(['t'], 2), (['s'], 1)] := by decide +kernel

/-- The logged form of a call: everything but the final rename names the temp file. -/
def evOf : Sys → SysEv
  | .mkstemp _ _ => ⟨.mkstemp, false⟩
  | .chmod _ _ => ⟨.chmod, false⟩
  | .write _ _ => ⟨.write, false⟩
  | .fsync _ => ⟨.fsync, false⟩
  | .close _ => ⟨.close, false⟩
  | .rename _ _ => ⟨.rename, true⟩
  | .unlink _ => ⟨.unlink, false⟩

/-- **atomic_write_conforms.**  The sequence the theorems above are about is a word of the protocol
    predicate `protocolWord` that the driver evaluates on the calls the harness intercepted
    (`mkstemp chmod write* fsync close rename`, fsync before rename, rename last, nothing but the rename
    names the target) — for any content and any number of writes. -/
theorem atomic_write_conforms (path tmp : FName) (ino : Ino) (mode : Nat) (chunks : List Bytes) :
    protocolWord ((atomicWrite path tmp ino mode chunks).map evOf) = true := by
  have h := protocolWord_of_phases
    (⟨.chmod, false⟩ :: chunks.map (fun _ => (⟨.write, false⟩ : SysEv)) ++ [⟨.fsync, false⟩, ⟨.close, false⟩]) []
    (by simp) (by simp [syncedAtEnd]) rfl
  simpa [atomicWrite, evOf, Function.comp_def] using h

-- the predicate rejects a writer that renames before fsync, or writes to the target
example : protocolWord [⟨.mkstemp, false⟩, ⟨.chmod, false⟩, ⟨.write, false⟩, ⟨.close, false⟩, ⟨.rename, true⟩, ⟨.fsync, false⟩] = false := by decide +kernel
example : protocolWord [⟨.mkstemp, false⟩, ⟨.chmod, false⟩, ⟨.write, true⟩, ⟨.fsync, false⟩, ⟨.close, false⟩, ⟨.rename, true⟩] = false := by decide +kernel
-- rename before the last write is synced (flush/close moved after the rename)
example : protocolWord [⟨.mkstemp, false⟩, ⟨.chmod, false⟩, ⟨.write, false⟩, ⟨.rename, true⟩, ⟨.write, false⟩, ⟨.fsync, false⟩, ⟨.close, false⟩] = false := by decide +kernel
example : protocolWord [⟨.mkstemp, false⟩, ⟨.write, false⟩, ⟨.fsync, false⟩, ⟨.write, false⟩, ⟨.close, false⟩, ⟨.rename, true⟩] = false := by decide +kernel
-- harmless variations are accepted: no chmod / fchmod later, split writes with intermediate fsyncs, close before fsync is not
-- required, an fsync after the rename
example : protocolWord [⟨.unlink, false⟩, ⟨.mkstemp, false⟩, ⟨.write, false⟩, ⟨.fsync, false⟩, ⟨.write, false⟩, ⟨.chmod, false⟩,
    ⟨.fsync, false⟩, ⟨.close, false⟩, ⟨.rename, true⟩, ⟨.fsync, false⟩] = true := by decide +kernel

section FsExamples

def fs0 : FS := { dir := [(['s'], 1)], past := [], data := [(1, [111, 108, 100])], dirty := [] }

-- killed after the second write: the loader still reads "old"; the temp file is litter
example : readNow (run ((atomicWrite ['s'] ['t'] 2 384 [[110], [101], [119]]).take 4) fs0) ['s'] = some [111, 108, 100] := by decide +kernel
example : readNow (run (atomicWrite ['s'] ['t'] 2 384 [[110], [101], [119]]) fs0) ['s'] = some [110, 101, 119] := by decide +kernel
-- a writer that replaced the target in place would be caught: after its first call (here an `unlink`) there is no file
example : readNow (run [Sys.unlink ['s']] fs0) ['s'] = none := by decide +kernel
example : specCrash true false .absent = some .crashOldOrNew := by decide +kernel
example : specCrash true false .other = some .crashOldOrNew := by decide +kernel
example : specCrash true true .old = some .writeLost := by decide +kernel
example : specCrash true false .old = none := by decide +kernel
-- the classification of the model's kill points: old after 4 calls, new after all 8; a truncated file would be `other`
example : classifyRead (readNow fs0 ['s']) [110, 101, 119] (readNow (run ((atomicWrite ['s'] ['t'] 2 384 [[110], [101], [119]]).take 4) fs0) ['s']) = .old := by decide +kernel
example : classifyRead (readNow fs0 ['s']) [110, 101, 119] (readNow (run (atomicWrite ['s'] ['t'] 2 384 [[110], [101], [119]]) fs0) ['s']) = .new := by decide +kernel
example : classifyRead (some [111, 108, 100]) [110, 101, 119] (some [110]) = .other := by decide +kernel

end FsExamples

end Icinga.C14
