/-
  C06 — property theorems (acknowledgements: normal vs sticky clearing, expiry, suppression).
  Every `theorem` in this file is a proof obligation of the check: `./check C06` lists them, runs
  `#print axioms` on each and fails if a required one is missing.

  The single-operation statements are about `step`: one operation through its entry point, followed by a look at the
  object at the same virtual time (`GetAcknowledgement()`, which performs the lazy expiry) — exactly what the
  correspondence harness does with the real code.  The statements about whole histories speak of `trace`, `totals`
  and `run`, which iterate `step`.

  F-C06a (fixed in /repo by commit 6eaa5f1).  ACKNOWLEDGE_{HOST,SVC}_PROBLEM_EXPIRE passed its expire time as the sixth
  argument of `Checkable::AcknowledgeProblem`, which is `changeTime`, so that `expiry` kept its default 0 and such an
  acknowledgement never expired.  This check found it (clause `expiry_clears` on the implementation's trace).  The model
  is of the repaired code (`stored_expiry_is_requested`); the former witness is kept as a regression case in
  corpus/C06/f_c06a_ext_expire.ops and as the `example` on `regressionOps` below.
-/
import IcingaProofs.C06.Lemmas

namespace Icinga.C06

open Icinga.C01

/-- An accepted result that changes the state (raw for services, Up/Down for
    hosts) clears a normal acknowledgement that has not run out, and reports it once. -/
theorem normal_cleared_by_state_change (c : Cfg) (s : MSt) (new : SState) (es ee now : Int)
    (hst : stale s.base ⟨new, es, now⟩ = false) (ha : s.ack = .normal) (he : expired s now = false)
    (hsc : stateChange c.kind s.base.state new = true) :
    (step c s (.result new es ee now)).1.ack = .none ∧ (step c s (.result new es ee now)).2.nClr = 1 := by
  rw [step_result hst]
  simp [ackNow_of_not_expired s now he, ackAfterResult, clearsOnChange, ha, he, hsc]

/-- An accepted result leaves a sticky acknowledgement that has not run out
    in place unless it is a recovery (state change to OK/Up); a recovery clears it; the cleared event fires
    exactly in that case. -/
theorem sticky_cleared_only_by_recovery (c : Cfg) (s : MSt) (new : SState) (es ee now : Int)
    (hst : stale s.base ⟨new, es, now⟩ = false) (ha : s.ack = .sticky) (he : expired s now = false) :
    let p := step c s (.result new es ee now)
    let recovery := stateChange c.kind s.base.state new && isOK c.kind new
    (p.1.ack = .none ↔ recovery = true) ∧ (recovery = false → p.1.ack = .sticky ∧ p.1.expiry = s.expiry) ∧
    p.2.nClr = (if recovery then 1 else 0) := by
  rw [step_result hst]
  cases hsc : stateChange c.kind s.base.state new <;> cases hok : isOK c.kind new <;>
    simp [ackNow_of_not_expired s now he, ackAfterResult, expiryAfterResult, clearsOnChange, ha, he, hsc, hok]

/-- A result that does not change the state — or that is dropped as outdated —
    never clears an acknowledgement that has not run out: type and expiry stay, no cleared event. -/
theorem unchanged_state_keeps_ack (c : Cfg) (s : MSt) (new : SState) (es ee now : Int) (he : expired s now = false)
    (h : stale s.base ⟨new, es, now⟩ = true ∨ stateChange c.kind s.base.state new = false) :
    (step c s (.result new es ee now)).1.ack = s.ack ∧ (step c s (.result new es ee now)).1.expiry = s.expiry ∧
    (step c s (.result new es ee now)).2.nClr = 0 := by
  cases hst : stale s.base ⟨new, es, now⟩
  · rcases h with h | h
    · simp [hst] at h
    · rw [step_result hst]
      cases ha : s.ack <;> simp [ackNow_of_not_expired s now he, ackAfterResult, expiryAfterResult, he, h, ha]
  · rw [step_result_stale hst]
    simp [ackNow_of_not_expired s now he, he]

/-- Whatever the operation: once the stored expiry has passed, the first look sees the old
    acknowledgement gone and the cleared event fired for it; if the operation did not set a new one, nothing is
    acknowledged any more and exactly one cleared event fired. -/
theorem expiry_clears (c : Cfg) (s : MSt) (op : Op) (he : expired s op.now = true) :
    1 ≤ (step c s op).2.nClr ∧
    ((step c s op).2.nSet = 0 → (step c s op).1.ack = .none ∧ (step c s op).1.expiry = 0 ∧ (step c s op).2.nClr = 1) := by
  have hne := expired_ack_ne s op.now he
  rcases step_look_or c s op with ⟨s', out, h, ha, hx, -, hc⟩ | ⟨new, es, ee, now, rfl, hst⟩ |
    ⟨via, sticky, notify, persistent, expiry, now, rfl, hc⟩ | ⟨via, now, rfl⟩
  · -- the look finds an acknowledgement that has run out
    have he' : expired s' op.now = true := (expired_congr ha hx _).trans he
    rw [h, look_eq, ackNow_of_expired s' _ he', he']
    exact ⟨Nat.le_add_left 1 _, fun _ => ⟨rfl, rfl, congrArg (· + 1) hc⟩⟩
  · have he' : expired s now = true := he
    rw [step_result hst]
    simp [ackAfterResult, expiryAfterResult, ackNow_of_expired s now he, he', hne]
  · have he' : expired s now = true := he
    rw [step_ack_accepted hc]
    by_cases hg : (¬ requestedExpiry via expiry = 0 ∧ requestedExpiry via expiry < now) <;> simp [he', hg]
  · rw [step_remove]
    simp [Ack.ind_eq, hne]

/-- Every entry point stores the expiry the operation asked for (the plain
    external command has no such argument and stores none). -/
theorem stored_expiry_is_requested (via : Via) (expiry : Int) :
    storedExpiry via expiry = requestedExpiry via expiry :=
  storedExpiry_eq via expiry

/-- … hence an accepted acknowledgement whose expiry has not already passed carries exactly the requested expiry. -/
theorem accepted_ack_stores_requested_expiry (c : Cfg) (s : MSt) (via : Via) (sticky notify persistent : Bool)
    (expiry now : Int) (hacc : (step c s (.ack via sticky notify persistent expiry now)).2.acc = true)
    (hng : ¬ (requestedExpiry via expiry ≠ 0 ∧ requestedExpiry via expiry < now)) :
    (step c s (.ack via sticky notify persistent expiry now)).1.expiry = requestedExpiry via expiry ∧
    (step c s (.ack via sticky notify persistent expiry now)).1.ack = ackTypeOf sticky := by
  rw [step_ack_acc, Bool.not_eq_true'] at hacc
  rw [step_ack_accepted hacc]
  simp [hng]

/-- Whichever reader looks first after an operation — `GetHandled()`, `GetSeverity()` or
    `GetAcknowledgement()` — it sees the acknowledgement as the lazy expiry leaves it, not the raw attribute: with `p` the
    state the operation itself left (raw attribute `p.ack`, possibly still set although its expiry has passed), the object
    counts as handled iff it is a problem and in a downtime or acknowledged *with an expiry that has not passed*; the
    severity class says "acknowledged" iff it is a problem and so acknowledged (a downtime does not count there); it is a
    problem iff a result has been accepted and the state is not OK/Up. -/
theorem handled_iff (c : Cfg) (s : MSt) (op : Op) :
    let p := (opStep c s op).1
    let o := obsOf c (step c s op)
    o.raw = p.ack ∧ o.ack = ackNow p op.now ∧
    o.handled = (problemOf c p && (p.inDowntime || ackNow p op.now != .none)) ∧
    o.sevAck = (problemOf c p && ackNow p op.now != .none) ∧
    (expired p op.now = true → o.handled = (problemOf c p && p.inDowntime) ∧ o.sevAck = false) ∧
    o.handled = (o.problem && ((step c s op).1.inDowntime || o.ack != .none)) ∧
    o.problem = ((step c s op).1.base.lastExec.isSome && !isOK c.kind o.state) := by
  refine ⟨rfl, ?_, ?_, ?_, ?_, ?_, ?_⟩
  · simp [obsOf, step_eq_look]
  · simp [obsOf, step_eq_look, handledOf, problemOf]
  · simp [obsOf, step_eq_look, sevAckOf, problemOf]
  · intro he
    simp [obsOf, step_eq_look, handledOf, sevAckOf, problemOf, ackNow, he]
  · simp [obsOf, handledOf, problemOf]
  · simp [obsOf, problemOf]

/-- After every operation the raw attribute differs from what the first reader sees only
    by the lazy expiry: either they agree, or the expiry stored in the raw state has passed and the reader sees none. -/
theorem raw_attribute_consistent (c : Cfg) (s : MSt) (op : Op) :
    let o := obsOf c (step c s op)
    o.raw = o.ack ∨ (expired (opStep c s op).1 op.now = true ∧ o.ack = .none) := by
  cases he : expired (opStep c s op).1 op.now
  · left; simp [obsOf, step_eq_look, ackNow, he]
  · right; simp [obsOf, step_eq_look, ackNow, he]

theorem downtime_bit (c : Cfg) (s : MSt) (op : Op) :
    (step c s op).1.inDowntime = (match op with
      | .downtime on _ => on
      | _ => s.inDowntime) := by
  cases op with
  | result new es ee now =>
    cases hst : stale s.base ⟨new, es, now⟩
    · rw [step_result hst]
    · rw [step_result_stale hst]; simp
  | ack via sticky notify persistent expiry now =>
    cases hc : (preRefuse c s via expiry now || ackNow s now != .none) <;>
      simp [step_ack_accepted, step_ack_refused, hc]
  | remove via now => rw [step_remove]
  | remind now => rw [step_remind]; simp
  | fire now => rw [step_fire]; simp
  | _ => simp [step_eq_look, opStep]

theorem problem_after_result (c : Cfg) (s : MSt) (new : SState) (es ee now : Int)
    (hst : stale s.base ⟨new, es, now⟩ = false) :
    (obsOf c (step c s (.result new es ee now))).problem = !isOK c.kind new ∧
    (obsOf c (step c s (.result new es ee now))).state = new := by
  rw [step_result hst]
  simp only [obsOf, problemOf, stepCore_state_lastExec, Option.isSome_some, Bool.true_and, and_self]

/-- An acknowledge operation requests exactly one Acknowledgement notification if it is accepted,
    `notify` is set and the object is not paused (on a paused object — HA: it is active on the other zone member, which
    receives the same acknowledgement as a cluster event — none), none otherwise; it fires OnAcknowledgementSet exactly
    once iff it is accepted, paused or not; no other operation requests an Acknowledgement notification or fires the set
    event. -/
theorem ack_notify_once (c : Cfg) (s : MSt) (op : Op) :
    (step c s op).2.nAckN = (match op with
      | .ack _ _ notify _ _ _ => if (step c s op).2.acc && notify && !s.paused then 1 else 0
      | _ => 0) ∧
    (step c s op).2.nSet = (match op with
      | .ack _ _ _ _ _ _ => if (step c s op).2.acc then 1 else 0
      | _ => 0) := by
  cases op with
  | result new es ee now =>
    cases hst : stale s.base ⟨new, es, now⟩
    · rw [step_result hst]; simp
    · rw [step_result_stale hst]; simp
  | ack via sticky notify persistent expiry now =>
    cases hc : (preRefuse c s via expiry now || ackNow s now != .none) <;>
      simp [step_ack_accepted, step_ack_refused, hc]
  | remind now => rw [step_remind]; simp
  | fire now => rw [step_fire]; simp
  | _ => exact ⟨rfl, rfl⟩

/-- The API action and the external commands refuse an object that is OK/Up; every entry
    point — the cluster handler included — refuses an object whose acknowledgement has not run out.  A refused
    operation sets nothing, requests no notification, adds no comment and leaves the acknowledgement as the look
    finds it. -/
theorem refuse_ok_or_acked (c : Cfg) (s : MSt) (via : Via) (sticky notify persistent : Bool) (expiry now : Int)
    (h : (via ≠ .cluster ∧ isOK c.kind s.base.state = true) ∨ ackNow s now ≠ .none) :
    let p := step c s (.ack via sticky notify persistent expiry now)
    p.2.acc = false ∧ p.2.nSet = 0 ∧ p.2.nAckN = 0 ∧ p.1.ack = ackNow s now ∧ p.1.comments = s.comments ∧
    p.1.base = s.base := by
  have hc : (preRefuse c s via expiry now || ackNow s now != .none) = true := by
    rcases h with ⟨hv, hok⟩ | h
    · simp [preRefuse_eq, hv, hok]
    · simp [h]
  rw [step_ack_refused hc]
  simp

/-- The cluster handler does *not* refuse an OK/Up object (the anchors list no such test). -/
theorem cluster_accepts_ok (c : Cfg) (s : MSt) (sticky notify persistent : Bool) (expiry now : Int)
    (h : ackNow s now = .none) :
    (step c s (.ack .cluster sticky notify persistent expiry now)).2.acc = true := by
  rw [step_ack_accepted (by simp [preRefuse, h])]

/-- The converse: an acknowledge operation is refused only for a reason the property names — the
    object is OK/Up (not asked by the cluster handler), it is acknowledged with an expiry that has not passed, or (API
    action, `_EXPIRE` command) the requested expiry is not in the future. -/
theorem refusal_justified (c : Cfg) (s : MSt) (via : Via) (sticky notify persistent : Bool) (expiry now : Int)
    (h : (step c s (.ack via sticky notify persistent expiry now)).2.acc = false) :
    (via ≠ .cluster ∧ isOK c.kind s.base.state = true) ∨ ackNow s now ≠ .none ∨
    ((via = .api ∨ via = .extExpire) ∧ expiry ≠ 0 ∧ expiry ≤ now) := by
  simp only [step_ack_acc, Bool.not_eq_false', preRefuse_eq, Bool.or_eq_true, Bool.and_eq_true, bne_iff_ne, beq_iff_eq,
    decide_eq_true_eq] at h
  rcases h with (⟨hv, hok⟩ | ⟨⟨hv, he⟩, hle⟩) | ha
  · exact Or.inl ⟨hv, hok⟩
  · exact Or.inr (Or.inr ⟨hv, he, hle⟩)
  · exact Or.inr (Or.inl ha)

/-- An accepted acknowledgement through the API action or an external command adds exactly
    one acknowledgement comment, entered now, persistent iff the operation asked for a persistent one (not: iff it is
    sticky), expiring with the acknowledgement; the cluster handler adds none (comments travel as objects of their own);
    a refused one adds none. -/
theorem ack_comment_as_requested (c : Cfg) (s : MSt) (via : Via) (sticky notify persistent : Bool) (expiry now : Int) :
    let p := step c s (.ack via sticky notify persistent expiry now)
    p.1.comments = (if p.2.acc && via != .cluster then insertCmt ⟨now, persistent, requestedExpiry via expiry⟩ s.comments
                    else s.comments) := by
  cases hc : (preRefuse c s via expiry now || ackNow s now != .none)
  · rw [step_ack_accepted hc]
    simp
  · rw [step_ack_refused hc]
    simp

/-- Remove-acknowledgement through the API action or the external command leaves exactly
    the persistent acknowledgement comments; the cluster handler leaves the comments alone (their removal is
    synchronised separately); either way nothing is acknowledged afterwards and the clearing is reported iff something
    was set. -/
theorem removal_removes_comments (c : Cfg) (s : MSt) (via : RVia) (now : Int) :
    let p := step c s (.remove via now)
    p.1.ack = .none ∧ p.2.nClr = s.ack.ind ∧
    (via ≠ .cluster → p.1.comments = s.comments.filter (·.persistent) ∧ ∀ cm ∈ p.1.comments, cm.persistent = true) ∧
    (via = .cluster → p.1.comments = s.comments) := by
  rw [step_remove]
  refine ⟨by simp, by simp, ?_, ?_⟩
  · intro hv
    have : (via != .cluster) = true := by simpa using hv
    simp [this]
  · intro hv; simp [hv]

/-- One operation: the cleared events it reports are the set→none transitions it caused. -/
theorem cleared_event_once_step (c : Cfg) (s : MSt) (op : Op) :
    s.ack.ind + (step c s op).2.nSet = (step c s op).2.nClr + (step c s op).1.ack.ind := by
  rcases step_look_or c s op with ⟨s', out, h, ha, -, hs, hc⟩ | ⟨new, es, ee, now, rfl, hst⟩ |
    ⟨via, sticky, notify, persistent, expiry, now, rfl, hc⟩ | ⟨via, now, rfl⟩
  · -- the look reports cleared what was set and is no longer
    rw [h, ← look_balance s' op.now out, hc, ← ha]
    exact congrArg (s'.ack.ind + ·) hs
  · rw [step_result hst, ackNow_balance s now, result_balance _ _ (ackAfterResult_cases c s new now)]
    simp [Nat.add_assoc]
  · have hn : ackNow s now = .none := by simpa using (Bool.or_eq_false_iff.mp hc).2
    rw [step_ack_accepted hc, ackNow_balance s now]
    by_cases hg : (¬ requestedExpiry via expiry = 0 ∧ requestedExpiry via expiry < now) <;>
      simp [hg, hn, Ack.ind_eq, ackTypeOf_ne_none]
  · rw [step_remove]; simp [Ack.ind]

/-- Ghost counters over a whole history, from any start state: the number of
    acknowledgement-cleared events equals the number of acknowledgement-set events (plus one if the history started
    acknowledged) minus one if an acknowledgement is still set at the end.  Since an acknowledgement is only set on
    an object that has none (`refuse_ok_or_acked`), set and cleared events alternate: every clearing — by state
    change, recovery, expiry or removal — is reported exactly once, and nothing else is. -/
theorem cleared_event_once (c : Cfg) (s : MSt) (ops : List Op) :
    s.ack.ind + (totals c s ops).1 = (totals c s ops).2 + (run c s ops).ack.ind := by
  induction ops generalizing s with
  | nil => simp [totals, run]
  | cons op ops ih =>
    have h1 := cleared_event_once_step c s op
    have h2 := ih (step c s op).1
    simp only [totals, run, List.foldl] at *
    omega

/-- After an accepted result that leaves no acknowledgement, the acknowledgement comments
    are exactly the former ones that are persistent or were entered after the result's execution end: no
    non-persistent one from before remains, later ones and persistent ones do.  A result after which the object is
    still acknowledged removes none. -/
theorem ack_comments_removed (c : Cfg) (s : MSt) (new : SState) (es ee now : Int)
    (hst : stale s.base ⟨new, es, now⟩ = false) :
    let p := step c s (.result new es ee now)
    (p.1.ack = .none →
      (∀ cm ∈ p.1.comments, cm.persistent = true ∨ cm.entry > ee) ∧
      (∀ cm ∈ s.comments, cm.persistent = true ∨ cm.entry > ee → cm ∈ p.1.comments) ∧
      (∀ cm ∈ p.1.comments, cm ∈ s.comments)) ∧
    (p.1.ack ≠ .none → p.1.comments = s.comments) := by
  rw [step_result hst]
  constructor
  · intro h
    simp only at h
    simp only [h, beq_self_eq_true, if_true, List.mem_filter, keepsComment, Bool.or_eq_true, decide_eq_true_eq]
    exact ⟨fun _ hcm => hcm.2, fun _ hcm hk => ⟨hcm, hk⟩, fun _ hcm => hcm.1⟩
  · intro h
    simp only at h
    simp [h]

/-- The comment-expiry timer, when it runs, removes exactly the expired acknowledgement comments that are not
    persistent, and never touches the acknowledgement itself beyond what the look does anyway. -/
theorem comment_expiry_timer (c : Cfg) (s : MSt) (now : Int) :
    (step c s (.pump now true)).1.comments = s.comments.filter (survivesExpiry now) ∧
    (step c s (.pump now false)).1.comments = s.comments ∧
    ∀ fired, (step c s (.pump now fired)).1.ack = (step c s (.advance now)).1.ack ∧
             (step c s (.pump now fired)).2 = (step c s (.advance now)).2 := by
  refine ⟨?_, ?_, ?_⟩
  · rw [step_pump]; simp
  · rw [step_pump]; simp
  · intro fired
    rw [step_pump, step_advance]
    simp [ackNow, expired]

/-- Problem notifications are withheld while acknowledged: a result after which the object is acknowledged requests
    no Problem notification (whether one was due, and that it is then stashed, is `withheld_problem_is_stashed`). -/
theorem problem_withheld_while_acked (c : Cfg) (s : MSt) (new : SState) (es ee now : Int)
    (h : (step c s (.result new es ee now)).1.ack ≠ .none) :
    (step c s (.result new es ee now)).2.nProbN = 0 := by
  cases hst : stale s.base ⟨new, es, now⟩
  · rw [step_result hst] at h ⊢
    simp only at h
    -- acknowledged after the result: whatever is due is stashed
    simp only [bne_iff_ne.mpr h, Bool.true_or, Bool.and_true, Bool.and_not_self, Bool.false_and]
    rfl
  · rw [step_result_stale hst]; rfl

/-- The state notification of an accepted result, in closed form: with `due` = a
    notification is due by the state machine's rule (C01/C02) and the object is not paused, and `withheld` = the object is
    acknowledged after the result, or in a downtime, or a state notification is already stashed — the notification is
    *either* requested (exactly one, of its own type, stash untouched) *or* stashed under its own type (Problem for a
    problem, Recovery for a recovery; nothing requested) — never both, never neither.  In particular a due Problem
    notification for an acknowledged object ends up in the stash (for C02's suppressed-notification handling), and
    without acknowledgement, downtime and stash it is requested. -/
theorem withheld_problem_is_stashed (c : Cfg) (s : MSt) (new : SState) (es ee now : Int)
    (hst : stale s.base ⟨new, es, now⟩ = false) :
    let p := step c s (.result new es ee now)
    let due := sendNotification c s.base new && !s.paused
    let recovery := isOK c.kind new && !isOK c.kind s.base.state
    let withheld := p.1.ack != .none || s.inDowntime || s.suppProblem || s.suppRecovery
    p.2.nProbN = (if due && !withheld && !recovery then 1 else 0) ∧
    p.2.nRecN = (if due && !withheld && recovery then 1 else 0) ∧
    p.1.suppProblem = (s.suppProblem || (due && withheld && !recovery)) ∧
    p.1.suppRecovery = (s.suppRecovery || (due && withheld && recovery)) ∧
    (due = true → recovery = false → p.1.ack ≠ .none → p.1.suppProblem = true ∧ p.2.nProbN = 0) := by
  rw [step_result hst]
  simp only [and_not_and_self, true_and]
  intro hd hr hk
  simp [hd, hr, hk]

/-- A paused object neither requests nor stashes a state notification (the zone member it is active on does). -/
theorem paused_result_is_silent (c : Cfg) (s : MSt) (new : SState) (es ee now : Int) (hp : s.paused = true) :
    let p := step c s (.result new es ee now)
    p.2.nProbN = 0 ∧ p.2.nRecN = 0 ∧ p.1.suppProblem = s.suppProblem ∧ p.1.suppRecovery = s.suppRecovery := by
  cases hst : stale s.base ⟨new, es, now⟩
  · rw [step_result hst]; simp [hp]
  · rw [step_result_stale hst]; simp

/-- Reminders are Problem notifications too: a due reminder is attempted iff the
    object is in a hard not-OK/Up state, its first Problem notification is not still stashed, it is not in a downtime and
    — after the lazy expiry, which this reader performs like any other — not acknowledged.  In particular no reminder
    goes out while an acknowledgement whose expiry has not passed is set, and reminders resume with the first due one
    after it has passed.  That no other operation attempts a reminder is `reminder_only_from_remind`. -/
theorem reminder_withheld_while_acked (c : Cfg) (s : MSt) (now : Int) :
    let p := step c s (.remind now)
    p.2.nRem = (if s.base.stype == .hard && !isOK c.kind s.base.state && !s.suppProblem && !s.inDowntime &&
                   ackNow s now == .none then 1 else 0) ∧
    (ackNow s now ≠ .none → p.2.nRem = 0) ∧ p.1.ack = ackNow s now ∧ p.2.nSet = 0 ∧ p.2.nAckN = 0 ∧ p.2.nProbN = 0 ∧
    p.1.comments = s.comments ∧ p.1.suppProblem = s.suppProblem := by
  rw [step_remind]
  refine ⟨?_, ?_, ?_, ?_⟩
  · simp [remindable]
  · intro h; simp [h]
  · simp
  · simp

theorem reminder_only_from_remind (c : Cfg) (s : MSt) (op : Op) (h : ∀ now, op ≠ .remind now) :
    (step c s op).2.nRem = 0 := by
  cases op with
  | result new es ee now =>
    cases hst : stale s.base ⟨new, es, now⟩
    · rw [step_result hst]
    · rw [step_result_stale hst]; rfl
  | ack via sticky notify persistent expiry now =>
    cases hc : (preRefuse c s via expiry now || ackNow s now != .none) <;>
      simp [step_ack_accepted, step_ack_refused, hc]
  | remind now => exact absurd rfl (h now)
  | fire now => rw [step_fire]; rfl
  | _ => rfl

/-- "Problem notifications are withheld (to be handled by C02 afterwards)" — also by the
    handler that does the handling: a run of `Checkable::FireSuppressedNotifications` on an object whose acknowledgement
    has not run out (or that is in a downtime, or paused) requests nothing and leaves the stash as it is; it sets nothing,
    touches no comment, and the acknowledgement is what the lazy expiry leaves. -/
theorem stash_kept_while_acked (c : Cfg) (s : MSt) (now : Int)
    (h : ackNow s now ≠ .none ∨ s.inDowntime = true ∨ s.paused = true) :
    let p := step c s (.fire now)
    p.2.nProbN = 0 ∧ p.2.nRecN = 0 ∧ p.1.suppProblem = s.suppProblem ∧ p.1.suppRecovery = s.suppRecovery ∧
    p.1.ack = ackNow s now ∧ p.2.nSet = 0 ∧ p.2.nAckN = 0 ∧ p.1.comments = s.comments ∧ p.1.stateBefore = s.stateBefore := by
  have hrel : fireRelease s now = false := by
    rcases h with h | h | h
    · simp [fireRelease, h]
    · simp [fireRelease, h]
    · simp [fireRelease, fireConsiders, h]
  rw [step_fire]
  simp [hrel]

/-- Once the acknowledgement is gone — removed, cleared by a result, or run out: this
    reader performs the lazy expiry like any other — and the object is neither in a downtime nor paused and in a hard
    state, the next run empties the stash and requests the notification that is still owed exactly once: none if the
    state is back to what it was before the suppression (Up/Down for hosts), otherwise one of the type of the *current*
    state (Problem for a problem, Recovery for OK/Up) — never both. -/
theorem stash_released_after_clearing (c : Cfg) (s : MSt) (now : Int) (hp : s.paused = false) (hd : s.inDowntime = false)
    (ha : ackNow s now = .none) (hh : s.base.stype = .hard) (hs : s.suppProblem = true ∨ s.suppRecovery = true) :
    let p := step c s (.fire now)
    let owed := stateChange c.kind s.stateBefore s.base.state
    p.1.suppProblem = false ∧ p.1.suppRecovery = false ∧
    p.2.nProbN = (if owed && !isOK c.kind s.base.state then 1 else 0) ∧
    p.2.nRecN = (if owed && isOK c.kind s.base.state then 1 else 0) ∧ p.2.nProbN + p.2.nRecN ≤ 1 ∧ p.1.ack = .none := by
  have hrel : fireRelease s now = true := by
    rcases hs with hs | hs <;> simp [fireRelease, fireConsiders, hp, hd, ha, hh, hs]
  rw [step_fire]
  cases stateChange c.kind s.stateBefore s.base.state <;> cases isOK c.kind s.base.state <;> simp [hrel, ha]

/-- Whatever the operation: if the object is acknowledged after it, the operation requested no Problem notification and
    attempted no reminder. -/
theorem no_problem_notification_while_acked (c : Cfg) (s : MSt) (op : Op) (h : (step c s op).1.ack ≠ .none) :
    (step c s op).2.nProbN = 0 ∧ (step c s op).2.nRem = 0 := by
  cases op with
  | result new es ee now =>
    exact ⟨problem_withheld_while_acked c s new es ee now h, reminder_only_from_remind c s _ (fun _ => nofun)⟩
  | ack via sticky notify persistent expiry now =>
    cases hc : (preRefuse c s via expiry now || ackNow s now != .none) <;>
      simp [step_ack_accepted, step_ack_refused, hc]
  | remind now =>
    rw [step_remind] at h ⊢
    simp only [look_eq] at h ⊢
    simp [h]
  | fire now =>
    rw [step_fire] at h ⊢
    simp only [look_eq, ackNow_update] at h
    simp [fireRelease, h]
  | _ => exact ⟨rfl, rfl⟩

/-- … over whole histories: at no look of any history, from any start state, is the object acknowledged while the
    operation before the look requested a Problem notification or attempted a reminder. -/
theorem trace_no_problem_notification_while_acked (c : Cfg) (ops : List Op) :
    ∀ (s : MSt), ∀ p ∈ trace c s ops, p.2.ack ≠ .none → p.2.nProbN = 0 ∧ p.2.nRem = 0 := by
  induction ops with
  | nil => intro s p hp; simp [trace] at hp
  | cons op ops ih =>
    intro s p hp
    simp only [trace, List.mem_cons] at hp
    rcases hp with hp | hp
    · subst hp
      intro h
      exact no_problem_notification_while_acked c s op h
    · exact ih _ p hp

/-- What was withheld is not lost: no operation but a run of the suppressed-notification
    handler that finds the object unacknowledged, out of downtime, unpaused and in a hard state takes a state notification
    out of the stash. -/
theorem stash_only_emptied_by_handler (c : Cfg) (s : MSt) (op : Op)
    (h : ∀ now, op = .fire now → fireRelease s now = false) :
    (s.suppProblem = true → (step c s op).1.suppProblem = true) ∧
    (s.suppRecovery = true → (step c s op).1.suppRecovery = true) := by
  cases op with
  | result new es ee now =>
    cases hst : stale s.base ⟨new, es, now⟩
    · rw [step_result hst]
      constructor <;> (intro hs; simp [hs])
    · rw [step_result_stale hst]; simp
  | ack via sticky notify persistent expiry now =>
    cases hc : (preRefuse c s via expiry now || ackNow s now != .none) <;>
      simp [step_ack_accepted, step_ack_refused, hc]
  | remove via now => rw [step_remove]; simp
  | remind now => rw [step_remind]; simp
  | fire now =>
    rw [step_fire]
    simp [h now rfl]
  | _ => simp [step_eq_look, opStep]

/-- A change between two not-OK/Up states of an object in a hard state is a hard state change for which a Problem
    notification is due (C01/C02's rule), and leaves the object in a hard state. -/
theorem send_hard_problem_change (c : Cfg) (b : St) (new : SState) (es now : Int) (hh : b.stype = .hard)
    (hno : isOK c.kind b.state = false) (hnn : isOK c.kind new = false) (hsc : stateChange c.kind b.state new = true) :
    sendNotification c b new = true ∧ (stepCore c b ⟨new, es, now⟩).1.stype = .hard ∧ (stepCore c b ⟨new, es, now⟩).1.state = new := by
  simp [sendNotification, nextTypeAttempt, hardChangeOf, stepCore, hh, hno, hnn, hsc]

/-- End to end.  A hard problem with a sticky acknowledgement that has not
    run out changes to another not-OK/Up state: the Problem notification is withheld and stashed, the acknowledgement stays.
    (1) Remove-acknowledgement through any entry point, then a run of the suppressed-notification handler: one cleared
    event, then exactly one Problem notification and an empty stash.  (2) No removal, but the handler runs after the
    expiry: it notices the expiry itself (one cleared event) and requests the one Problem notification.  (3) The handler
    runs while the acknowledgement has not run out: nothing is requested, the stash stays. -/
theorem withheld_problem_delivered_after_clearing (c : Cfg) (s : MSt) (new : SState) (es ee now : Int) (via : RVia)
    (t1 t2 : Int) (hst : stale s.base ⟨new, es, now⟩ = false)
    (hh : s.base.stype = .hard) (hno : isOK c.kind s.base.state = false) (hnn : isOK c.kind new = false)
    (hsc : stateChange c.kind s.base.state new = true)
    (ha : s.ack = .sticky) (he : expired s now = false)
    (hP : s.suppProblem = false) (hR : s.suppRecovery = false) (hpa : s.paused = false) (hdt : s.inDowntime = false) :
    (trace c s [.result new es ee now, .remove via t1, .fire t2]).map
        (fun p => (p.2.ack, p.2.nProbN, p.2.nRecN, p.2.suppP, p.2.nClr)) =
      [(.sticky, 0, 0, true, 0), (.none, 0, 0, true, 1), (.none, 1, 0, false, 0)] ∧
    ((s.expiry ≠ 0 ∧ s.expiry < t2) →
      (trace c s [.result new es ee now, .fire t2]).map (fun p => (p.2.ack, p.2.nProbN, p.2.nRecN, p.2.suppP, p.2.nClr)) =
        [(.sticky, 0, 0, true, 0), (.none, 1, 0, false, 1)]) ∧
    (¬ (s.expiry ≠ 0 ∧ s.expiry < t2) →
      (trace c s [.result new es ee now, .fire t2]).map (fun p => (p.2.ack, p.2.nProbN, p.2.nRecN, p.2.suppP, p.2.nClr)) =
        [(.sticky, 0, 0, true, 0), (.sticky, 0, 0, true, 0)]) := by
  have hs := send_hard_problem_change c s.base new es now hh hno hnn hsc
  -- the result: the acknowledgement stays, the Problem notification is stashed, the state before it remembered
  -- (the bits known by hypothesis are written out, so that the steps after it compute)
  have h1 : step c s (.result new es ee now) =
      ({ s with base := (stepCore c s.base ⟨new, es, now⟩).1, ack := .sticky, suppProblem := true, suppRecovery := false,
                inDowntime := false, paused := false, stateBefore := s.base.state },
       { acc := true, raw := .sticky }) := by
    rw [step_result hst]
    simp [ackNow_of_not_expired s now he, ackAfterResult, expiryAfterResult, clearsOnChange, hs, hh, hno, hnn, hsc, ha, he, hP, hR, hpa, hdt]
  -- the handler then owes `stateChange s.base.state new` (`hsc`), a Problem by `hnn`; in (2)/(3) `hx` is `expired` at `t2`
  refine ⟨?_, ?_⟩
  · simp [trace, obsOf, h1, step_remove, step_fire, fireRelease, fireConsiders, ackNow, expired_mk, hs, hnn, hsc,
      Ack.ind]
  · constructor <;> intro hx <;>
      simp [trace, obsOf, h1, step_fire, fireRelease, fireConsiders, ackNow, expired_mk, hs, hnn, hsc, hx]

/-- The whole property as one statement.  For every configuration, every start state
    with matching bookkeeping and every finite sequence of acknowledge / remove / result / time-advance operations
    through the API action, the external commands (with and without `_EXPIRE`) and the cluster events, runs of the
    comment-expiry timer, due reminders, runs of the suppressed-notification handler, downtimes and pausing coming and
    going — with arbitrary times, expiry values and flags — the model's trace satisfies the executable specification
    `specTrace` (all 32 clauses). -/
theorem model_trace_meets_spec (c : Cfg) (sp : SpecSt) (s : MSt) (hr : Rel sp s) (ops : List Op) :
    specTrace c sp (trace c s ops) = none := by
  induction ops generalizing sp s with
  | nil => rfl
  | cons op ops ih =>
    obtain ⟨h1, h2⟩ := spec_step c sp s op hr
    simp only [trace, specTrace]
    rw [h1]
    exact ih _ _ h2

theorem model_trace_meets_spec_from_init (c : Cfg) (ops : List Op) :
    specTrace c specInit (trace c init ops) = none :=
  model_trace_meets_spec c specInit init rel_init ops

/-- The former witness of F-C06a: a service goes CRITICAL, is acknowledged at 1050 with
    ACKNOWLEDGE_SVC_PROBLEM_EXPIRE;…;1060, and is looked at at 1070. -/
def regressionOps : List Op :=
  [.result .critical 1010 1010 1010, .ack .extExpire true true false 1060 1050, .advance 1070]

/-! Non-vacuity: the hypotheses of the theorems above have instances, and the specification rejects wrong traces. -/

def exCfg : Cfg := { kind := .service, max := 1, volatile := false }
def exHost : Cfg := { kind := .host, max := 2, volatile := false }

def exBase : St := { pending with state := .critical, stype := .hard, attempt := 1, lastHard := .critical, lastExec := some 1000 }

def exNormal : MSt :=
  { base := exBase, ack := .normal, expiry := 2000,
    comments := [⟨1005, false, 2000⟩, ⟨1005, true, 2000⟩], suppProblem := false, suppRecovery := false,
    inDowntime := false, paused := false, stateBefore := .ok }

def exSticky : MSt := { exNormal with ack := .sticky }

-- hypotheses of `normal_cleared_by_state_change`: CRITICAL → WARNING at 1100
example : stale exNormal.base ⟨.warning, 1100, 1100⟩ = false ∧ exNormal.ack = .normal ∧ expired exNormal 1100 = false ∧
    stateChange exCfg.kind exNormal.base.state .warning = true := by decide +kernel

-- `sticky_cleared_only_by_recovery`: the same change keeps a sticky acknowledgement, a recovery clears it
example : (step exCfg exSticky (.result .warning 1100 1100 1100)).1.ack = .sticky ∧
    (step exCfg exSticky (.result .ok 1100 1100 1100)).1.ack = .none ∧
    (step exCfg exSticky (.result .ok 1100 1100 1100)).2.nClr = 1 := by decide +kernel

-- a host: DOWN(critical) → DOWN(unknown) is no state change and keeps even a normal acknowledgement;
-- UP(warning) clears it
example : stateChange exHost.kind .critical .unknown = false ∧
    (step exHost exNormal (.result .unknown 1100 1100 1100)).1.ack = .normal ∧
    (step exHost exNormal (.result .warning 1100 1100 1100)).1.ack = .none := by decide +kernel

-- `expiry_clears`: a look at 2001 finds the acknowledgement gone, one cleared event
example : expired exNormal (Op.advance 2001).now = true ∧ (step exCfg exNormal (.advance 2001)).1.ack = .none ∧
    (step exCfg exNormal (.advance 2001)).2.nClr = 1 ∧ (step exCfg exNormal (.advance 2000)).1.ack = .normal := by decide +kernel

-- `refuse_ok_or_acked`: both kinds of refusal occur, and an acceptance too
example : (step exCfg exNormal (.ack .api false true false 0 1100)).2.acc = false ∧
    (step exCfg exNormal (.ack .cluster false true false 0 1100)).2.acc = false ∧
    (step exCfg { exNormal with ack := .none, base := { exBase with state := .ok, lastHard := .ok } } (.ack .ext false true false 0 1100)).2.acc = false ∧
    (step exCfg { exNormal with ack := .none } (.ack .ext true true false 0 1100)).2 =
      { acc := true, nSet := 1, nClr := 0, nAckN := 1, nProbN := 0, raw := .sticky } := by decide +kernel

-- `ack_comments_removed`: a late recovery (executed at 1003, processed at 1100) clears the acknowledgement but keeps
-- the comments entered at 1005; a recovery executed at 1100 removes the non-persistent one
example : (step exCfg exNormal (.result .ok 1003 1003 1100)).1.comments = [⟨1005, false, 2000⟩, ⟨1005, true, 2000⟩] ∧
    (step exCfg exNormal (.result .ok 1100 1100 1100)).1.comments = [⟨1005, true, 2000⟩] := by decide +kernel

-- `problem_withheld_while_acked` is not vacuous: without the acknowledgement the same result requests a Problem
-- notification, with a sticky one it does not
example : (step exCfg { exNormal with ack := .none } (.result .warning 1100 1100 1100)).2.nProbN = 1 ∧
    (step exCfg exSticky (.result .warning 1100 1100 1100)).2.nProbN = 0 := by decide +kernel

-- `comment_expiry_timer`: at 2001 the timer removes the expired non-persistent comment and spares the persistent one;
-- at 2000 nothing has expired yet; a timer that did not run removes nothing
example : (step exCfg exNormal (.pump 2001 true)).1.comments = [⟨1005, true, 2000⟩] ∧
    (step exCfg exNormal (.pump 2000 true)).1.comments = [⟨1005, false, 2000⟩, ⟨1005, true, 2000⟩] ∧
    (step exCfg exNormal (.pump 2001 false)).1.comments = [⟨1005, false, 2000⟩, ⟨1005, true, 2000⟩] ∧
    (step exCfg exNormal (.pump 2001 true)).1.ack = .none := by decide +kernel

-- `handled_iff` with the downtime half: an unacknowledged problem is handled exactly while in a downtime, and a
-- result in a downtime requests no Problem notification
example : (obsOf exCfg (step exCfg { exNormal with ack := .none } (.downtime true 1100))).handled = true ∧
    (obsOf exCfg (step exCfg { exNormal with ack := .none, inDowntime := true } (.downtime false 1100))).handled = false ∧
    (step exCfg { exNormal with ack := .none, inDowntime := true } (.result .warning 1100 1100 1100)).2.nProbN = 0 := by
  decide +kernel

-- `handled_iff` / `raw_attribute_consistent`: at 2001 the raw attribute still says normal, but the first reader —
-- whichever it is — finds a problem that is neither handled nor in the acknowledged severity class
example : (opStep exCfg exNormal (.advance 2001)).1.ack = .normal ∧
    (obsOf exCfg (step exCfg exNormal (.advance 2001))).raw = .normal ∧
    (obsOf exCfg (step exCfg exNormal (.advance 2001))).handled = false ∧
    (obsOf exCfg (step exCfg exNormal (.advance 2001))).sevAck = false ∧
    (obsOf exCfg (step exCfg exNormal (.advance 2000))).handled = true ∧
    (obsOf exCfg (step exCfg exNormal (.advance 2000))).sevAck = true := by decide +kernel

-- `ack_notify_once` with the paused bit: a paused object fires the set event but requests no notification
example : (step exCfg { exNormal with ack := .none, paused := true } (.ack .cluster true true false 0 1100)).2 =
      { acc := true, nSet := 1, nClr := 0, nAckN := 0, nProbN := 0, raw := .sticky } := by decide +kernel

-- `refusal_justified`: an acknowledged object and an expiry that is not in the future are refused (an OK object: above);
-- the cluster handler accepts the same expiry
example : (step exCfg exNormal (.ack .api false true false 0 1100)).2.acc = false ∧
    (step exCfg { exNormal with ack := .none } (.ack .api false true false 1100 1100)).2.acc = false ∧
    (step exCfg { exNormal with ack := .none } (.ack .cluster false true false 1100 1100)).2.acc = true := by decide +kernel

-- `ack_comment_as_requested`: sticky and persistent are independent
example : (step exCfg { exNormal with ack := .none, comments := [] } (.ack .extExpire true true false 1200 1100)).1.comments =
      [⟨1100, false, 1200⟩] ∧
    (step exCfg { exNormal with ack := .none, comments := [] } (.ack .ext false true true 1200 1100)).1.comments =
      [⟨1100, true, 0⟩] ∧
    (step exCfg { exNormal with ack := .none, comments := [] } (.ack .cluster false true true 1200 1100)).1.comments = [] := by
  decide +kernel

-- `removal_removes_comments`
example : (step exCfg exNormal (.remove .ext 1100)).1.comments = [⟨1005, true, 2000⟩] ∧
    (step exCfg exNormal (.remove .cluster 1100)).1.comments = [⟨1005, false, 2000⟩, ⟨1005, true, 2000⟩] := by decide +kernel

-- `withheld_problem_is_stashed`: sticky, CRITICAL → WARNING (hard): stashed as Problem, not requested; the same result
-- without acknowledgement is requested and leaves the stash empty; with a stash pending it is stashed again; in a
-- downtime a recovery is stashed as Recovery; a paused object does neither
example : (step exCfg exSticky (.result .warning 1100 1100 1100)).1.suppProblem = true ∧
    (step exCfg exSticky (.result .warning 1100 1100 1100)).1.suppRecovery = false ∧
    (step exCfg exSticky (.result .warning 1100 1100 1100)).2.nProbN = 0 ∧
    (step exCfg { exNormal with ack := .none } (.result .warning 1100 1100 1100)).2.nProbN = 1 ∧
    (step exCfg { exNormal with ack := .none } (.result .warning 1100 1100 1100)).1.suppProblem = false ∧
    (step exCfg { exNormal with ack := .none, suppRecovery := true } (.result .warning 1100 1100 1100)).2.nProbN = 0 ∧
    (step exCfg { exNormal with ack := .none, inDowntime := true } (.result .ok 1100 1100 1100)).1.suppRecovery = true ∧
    (step exCfg { exNormal with ack := .none } (.result .ok 1100 1100 1100)).2.nRecN = 1 ∧
    (step exCfg { exSticky with paused := true } (.result .warning 1100 1100 1100)).1.suppProblem = false ∧
    (step exCfg { exNormal with ack := .none, paused := true } (.result .warning 1100 1100 1100)).2.nProbN = 0 := by decide +kernel

-- `reminder_withheld_while_acked`: acknowledged until 2000 — no reminder at 1500, one at 2001 (the reminder's own
-- `IsAcknowledged()` notices the expiry: one cleared event), none in a downtime, none for a soft state
example : (step exCfg exNormal (.remind 1500)).2.nRem = 0 ∧ (step exCfg exNormal (.remind 2001)).2.nRem = 1 ∧
    (step exCfg exNormal (.remind 2001)).2.nClr = 1 ∧ (step exCfg exNormal (.remind 2001)).2.raw = .none ∧
    (step exCfg { exNormal with ack := .none } (.remind 1500)).2.nRem = 1 ∧
    (step exCfg { exNormal with ack := .none, inDowntime := true } (.remind 1500)).2.nRem = 0 ∧
    (step exCfg { exNormal with ack := .none, base := { exBase with stype := .soft } } (.remind 1500)).2.nRem = 0 := by decide +kernel

-- `stash_kept_while_acked` / `stash_released_after_clearing`: a hard CRITICAL service, sticky acknowledgement until 2000,
-- goes WARNING at 1100 (Problem stashed, state before: CRITICAL).  The handler at 1500 keeps the stash and requests
-- nothing; at 2001 it notices the expiry (one cleared event), requests the one Problem notification and empties the stash;
-- had the service gone back to CRITICAL meanwhile, nothing would be owed; a recovery to OK is announced as a Recovery
def exStashed : MSt := (step exCfg exSticky (.result .warning 1100 1100 1100)).1

example : exStashed.suppProblem = true ∧ exStashed.stateBefore = .critical ∧ exStashed.ack = .sticky ∧
    (step exCfg exStashed (.fire 1500)).2.nProbN = 0 ∧ (step exCfg exStashed (.fire 1500)).1.suppProblem = true ∧
    (step exCfg exStashed (.fire 2001)).2.nProbN = 1 ∧ (step exCfg exStashed (.fire 2001)).2.nClr = 1 ∧
    (step exCfg exStashed (.fire 2001)).1.suppProblem = false ∧
    (step exCfg (step exCfg exStashed (.remove .api 1200)).1 (.fire 1201)).2.nProbN = 1 ∧
    (step exCfg (step exCfg exStashed (.result .critical 1200 1200 1200)).1 (.fire 2001)).2.nProbN = 0 ∧
    (step exCfg (step exCfg exStashed (.result .critical 1200 1200 1200)).1 (.fire 2001)).1.suppProblem = false ∧
    (step exCfg (step exCfg exStashed (.result .ok 1200 1200 1200)).1 (.fire 1201)).2.nRecN = 1 ∧
    (step exCfg { exStashed with inDowntime := true } (.fire 2001)).2.nProbN = 0 ∧
    (step exCfg { exStashed with inDowntime := true } (.fire 2001)).2.raw = .sticky ∧
    (step exCfg { exStashed with paused := true } (.fire 2001)).1.suppProblem = true := by decide +kernel

-- the hypotheses of `withheld_problem_delivered_after_clearing` are satisfiable: `exSticky` going CRITICAL → WARNING at 1100
example : stale exSticky.base ⟨.warning, 1100, 1100⟩ = false ∧ exSticky.base.stype = .hard ∧
    isOK exCfg.kind exSticky.base.state = false ∧ isOK exCfg.kind .warning = false ∧
    stateChange exCfg.kind exSticky.base.state .warning = true ∧ exSticky.ack = .sticky ∧ expired exSticky 1100 = false ∧
    exSticky.suppProblem = false ∧ exSticky.suppRecovery = false ∧ exSticky.paused = false ∧ exSticky.inDowntime = false := by
  decide +kernel

/-- A history through every acknowledge entry point and the API and external-command removals that exercises every
    kind of clearing. -/
def exOps : List Op :=
  [.result .critical 1010 1010 1010, .ack .api false true false 1100 1020, .result .critical 1030 1030 1030,
   .result .warning 1040 1040 1040, .ack .ext true false true 0 1050, .result .critical 1060 1060 1060,
   .ack .cluster false true false 0 1065, .result .ok 1070 1070 1070, .result .unknown 1080 1080 1080,
   .ack .cluster true true false 1090 1085, .advance 1095, .ack .extExpire false true false 1105 1100, .pump 1104 true,
   .downtime true 1105, .pump 1106 true, .remove .api 1110, .pause true 1111, .ack .cluster true true false 0 1112,
   .pause false 1113, .result .warning 1120 1120 1120, .remind 1125, .fire 1126, .remove .ext 1130, .fire 1131]

example :
    (trace exCfg init exOps).map (fun p => (p.2.acc, p.2.ack, p.2.nSet, p.2.nClr)) =
      [(true, .none, 0, 0), (true, .normal, 1, 0), (true, .normal, 0, 0), (true, .none, 0, 1), (true, .sticky, 1, 0),
       (true, .sticky, 0, 0), (false, .sticky, 0, 0), (true, .none, 0, 1), (true, .none, 0, 0), (true, .sticky, 1, 0),
       (true, .none, 0, 1), (true, .normal, 1, 0), (true, .normal, 0, 0), (true, .normal, 0, 0), (true, .none, 0, 1),
       (true, .none, 0, 0), (true, .none, 0, 0), (true, .sticky, 1, 0), (true, .sticky, 0, 0), (true, .sticky, 0, 0),
       (true, .sticky, 0, 0), (true, .sticky, 0, 0), (true, .none, 0, 1), (true, .none, 0, 0)] := by
  decide +kernel

-- the regression case of F-C06a: the acknowledgement set by the `_EXPIRE` command stores its expiry and has run out at
-- the look at 1070, with one cleared event
example : (trace exCfg init regressionOps).map (fun p => (p.2.ack, p.2.expiry, p.2.nSet, p.2.nClr)) =
    [(.none, 0, 0, 0), (.sticky, 1060, 1, 0), (.none, 0, 0, 1)] := by
  decide +kernel

/-- … and the behaviour before the repair (acknowledgement still there at 1070) is what the specification rejects. -/
example : specTrace exCfg { state := .critical, ack := .sticky, expiry := 1060, comments := [⟨1050, false, 0⟩] }
    [(.advance 1070,
      { acc := true, ack := .sticky, expiry := 0, handled := true, problem := true, state := .critical, stype := .hard,
        attempt := 1, nSet := 0, nClr := 0, nAckN := 0, nProbN := 0, comments := [⟨1050, false, 0⟩],
        raw := .sticky, sevAck := true, suppP := false, suppR := false, nRecN := 0, nRem := 0 })]
    = some .expiryClears := by decide +kernel

/-- The specification is not trivially true: a sticky acknowledgement that vanishes on CRITICAL → WARNING is rejected … -/
example : specTrace exCfg { state := .critical, ack := .sticky, expiry := 0, comments := [] }
    [(.result .warning 1100 1100 1100,
      { acc := true, ack := .none, expiry := 0, handled := false, problem := true, state := .warning, stype := .hard,
        attempt := 1, nSet := 0, nClr := 1, nAckN := 0, nProbN := 0, comments := [],
        raw := .none, sevAck := false, suppP := false, suppR := false, nRecN := 0, nRem := 0 })]
    = some .stickyKept := by decide +kernel

/-- … so is a cleared event that is missing when an acknowledgement runs out … -/
example : specTrace exCfg { state := .critical, ack := .normal, expiry := 1050, comments := [] }
    [(.advance 1100,
      { acc := true, ack := .none, expiry := 0, handled := false, problem := true, state := .critical, stype := .hard,
        attempt := 1, nSet := 0, nClr := 0, nAckN := 0, nProbN := 0, comments := [],
        raw := .none, sevAck := false, suppP := false, suppR := false, nRecN := 0, nRem := 0 })]
    = some .clearedEventOnce := by decide +kernel

/-- … an accepted acknowledgement of an OK service … -/
example : specTrace exCfg { state := .ok, ack := .none, expiry := 0, comments := [] }
    [(.ack .api false true false 0 1100,
      { acc := true, ack := .normal, expiry := 0, handled := false, problem := false, state := .ok, stype := .hard,
        attempt := 1, nSet := 1, nClr := 0, nAckN := 1, nProbN := 0, comments := [⟨1100, false, 0⟩],
        raw := .normal, sevAck := false, suppP := false, suppR := false, nRecN := 0, nRem := 0 })]
    = some .refuseOk := by decide +kernel

/-- … a second acknowledgement accepted on top of one that has not run out (cluster handler) … -/
example : specTrace exCfg { state := .critical, ack := .normal, expiry := 2000, comments := [] }
    [(.ack .cluster true true false 0 1100,
      { acc := true, ack := .sticky, expiry := 0, handled := true, problem := true, state := .critical, stype := .hard,
        attempt := 1, nSet := 1, nClr := 0, nAckN := 1, nProbN := 0, comments := [],
        raw := .sticky, sevAck := true, suppP := false, suppR := false, nRecN := 0, nRem := 0 })]
    = some .refuseAcked := by decide +kernel

/-- … a second Acknowledgement notification for one acknowledge operation … -/
example : specTrace exCfg { state := .critical, ack := .none, expiry := 0, comments := [] }
    [(.ack .api false true false 0 1100,
      { acc := true, ack := .normal, expiry := 0, handled := true, problem := true, state := .critical, stype := .hard,
        attempt := 1, nSet := 1, nClr := 0, nAckN := 2, nProbN := 0, comments := [⟨1100, false, 0⟩],
        raw := .normal, sevAck := true, suppP := false, suppR := false, nRecN := 0, nRem := 0 })]
    = some .ackNotifyOnce := by decide +kernel

/-- … and a comment entered after the clearing result's execution end that disappears. -/
example : specTrace exCfg { state := .critical, ack := .normal, expiry := 0, comments := [⟨1050, false, 0⟩] }
    [(.result .ok 1040 1040 1100,
      { acc := true, ack := .none, expiry := 0, handled := false, problem := false, state := .ok, stype := .hard,
        attempt := 1, nSet := 0, nClr := 1, nAckN := 0, nProbN := 0, comments := [],
        raw := .none, sevAck := false, suppP := false, suppR := false, nRecN := 1, nRem := 0 })]
    = some .commentsRemoved := by decide +kernel

/-- … a problem that still counts as handled (or sits in the "acknowledged" severity class) although the first reader
    after the expiry found the acknowledgement gone (`GetHandled()` reading the raw attribute) … -/
example : specTrace exCfg { state := .critical, ack := .normal, expiry := 1050, comments := [] }
    [(.advance 1100,
      { acc := true, ack := .none, expiry := 0, handled := true, problem := true, state := .critical, stype := .hard,
        attempt := 1, nSet := 0, nClr := 1, nAckN := 0, nProbN := 0, comments := [],
        raw := .normal, sevAck := false, suppP := false, suppR := false, nRecN := 0, nRem := 0 })]
    = some .handledIff := by decide +kernel

/-- … a raw attribute that changed although nothing but a look happened … -/
example : specTrace exCfg { state := .critical, ack := .normal, expiry := 0, comments := [] }
    [(.advance 1100,
      { acc := true, ack := .normal, expiry := 0, handled := true, problem := true, state := .critical, stype := .hard,
        attempt := 1, nSet := 0, nClr := 0, nAckN := 0, nProbN := 0, comments := [],
        raw := .sticky, sevAck := true, suppP := false, suppR := false, nRecN := 0, nRem := 0 })]
    = some .rawConsistent := by decide +kernel

/-- … a sticky, non-persistent acknowledgement whose comment comes out persistent (flags swapped) … -/
example : specTrace exCfg { state := .critical, ack := .none, expiry := 0, comments := [] }
    [(.ack .extExpire true true false 1200 1100,
      { acc := true, ack := .sticky, expiry := 1200, handled := true, problem := true, state := .critical, stype := .hard,
        attempt := 1, nSet := 1, nClr := 0, nAckN := 1, nProbN := 0, comments := [⟨1100, true, 1200⟩],
        raw := .sticky, sevAck := true, suppP := false, suppR := false, nRecN := 0, nRem := 0 })]
    = some .ackComment := by decide +kernel

/-- … a remove-acknowledgement that leaves the non-persistent comment behind … -/
example : specTrace exCfg { state := .critical, ack := .normal, expiry := 0, comments := [⟨1050, false, 0⟩] }
    [(.remove .api 1100,
      { acc := true, ack := .none, expiry := 0, handled := false, problem := true, state := .critical, stype := .hard,
        attempt := 1, nSet := 0, nClr := 1, nAckN := 0, nProbN := 0, comments := [⟨1050, false, 0⟩],
        raw := .none, sevAck := false, suppP := false, suppR := false, nRecN := 0, nRem := 0 })]
    = some .removalComments := by decide +kernel

/-- … a refusal without reason (CRITICAL, not acknowledged, no expiry) … -/
example : specTrace exCfg { state := .critical, ack := .none, expiry := 0, comments := [] }
    [(.ack .api false true false 0 1100,
      { acc := false, ack := .none, expiry := 0, handled := false, problem := true, state := .critical, stype := .hard,
        attempt := 1, nSet := 0, nClr := 0, nAckN := 0, nProbN := 0, comments := [],
        raw := .none, sevAck := false, suppP := false, suppR := false, nRecN := 0, nRem := 0 })]
    = some .refusalJustified := by decide +kernel

/-- … an Acknowledgement notification from a paused object … -/
example : specTrace exCfg { state := .critical, ack := .none, expiry := 0, comments := [], paused := true }
    [(.ack .cluster false true false 0 1100,
      { acc := true, ack := .normal, expiry := 0, handled := true, problem := true, state := .critical, stype := .hard,
        attempt := 1, nSet := 1, nClr := 0, nAckN := 1, nProbN := 0, comments := [],
        raw := .normal, sevAck := true, suppP := false, suppR := false, nRecN := 0, nRem := 0 })]
    = some .ackNotifyOnce := by decide +kernel

/-- … a due Problem notification for an acknowledged object (sticky, CRITICAL → WARNING, hard) that is neither
    requested nor stashed, or stashed under both types … -/
example : specTrace exCfg { state := .critical, ack := .sticky, expiry := 0, comments := [] }
    [(.result .warning 1100 1100 1100,
      { acc := true, ack := .sticky, expiry := 0, handled := true, problem := true, state := .warning, stype := .hard,
        attempt := 1, nSet := 0, nClr := 0, nAckN := 0, nProbN := 0, comments := [],
        raw := .sticky, sevAck := true, suppP := false, suppR := false, nRecN := 0, nRem := 0 })]
    = some .withheldStashed := by decide +kernel

example : specTrace exCfg { state := .critical, ack := .sticky, expiry := 0, comments := [] }
    [(.result .warning 1100 1100 1100,
      { acc := true, ack := .sticky, expiry := 0, handled := true, problem := true, state := .warning, stype := .hard,
        attempt := 1, nSet := 0, nClr := 0, nAckN := 0, nProbN := 0, comments := [],
        raw := .sticky, sevAck := true, suppP := true, suppR := true, nRecN := 0, nRem := 0 })]
    = some .stashFrame := by decide +kernel

/-- … and a Problem notification that stays away although nothing withholds it. -/
example : specTrace exCfg { state := .critical, ack := .none, expiry := 0, comments := [] }
    [(.result .warning 1100 1100 1100,
      { acc := true, ack := .none, expiry := 0, handled := false, problem := true, state := .warning, stype := .hard,
        attempt := 1, nSet := 0, nClr := 0, nAckN := 0, nProbN := 0, comments := [],
        raw := .none, sevAck := false, suppP := false, suppR := false, nRecN := 0, nRem := 0 })]
    = some .notifIffDue := by decide +kernel

/-- … a stashed Problem notification that the suppressed-notification handler sends although the object is still
    acknowledged … -/
example : specTrace exCfg { state := .warning, ack := .sticky, expiry := 0, comments := [], suppP := true, before := .critical }
    [(.fire 1100,
      { acc := true, ack := .sticky, expiry := 0, handled := true, problem := true, state := .warning, stype := .hard,
        attempt := 1, nSet := 0, nClr := 0, nAckN := 0, nProbN := 1, comments := [],
        raw := .sticky, sevAck := true, suppP := false, suppR := false, nRecN := 0, nRem := 0 })]
    = some .problemWithheld := by decide +kernel

/-- … a stash that is dropped while the object is acknowledged (the notification would never be sent) … -/
example : specTrace exCfg { state := .warning, ack := .sticky, expiry := 0, comments := [], suppP := true, before := .critical }
    [(.fire 1100,
      { acc := true, ack := .sticky, expiry := 0, handled := true, problem := true, state := .warning, stype := .hard,
        attempt := 1, nSet := 0, nClr := 0, nAckN := 0, nProbN := 0, comments := [],
        raw := .sticky, sevAck := true, suppP := false, suppR := false, nRecN := 0, nRem := 0 })]
    = some .stashWithheld := by decide +kernel

/-- … a stash that is emptied after the clearing without the owed Problem notification … -/
example : specTrace exCfg { state := .warning, ack := .none, expiry := 0, comments := [], suppP := true, before := .critical }
    [(.fire 1100,
      { acc := true, ack := .none, expiry := 0, handled := false, problem := true, state := .warning, stype := .hard,
        attempt := 1, nSet := 0, nClr := 0, nAckN := 0, nProbN := 0, comments := [],
        raw := .none, sevAck := false, suppP := false, suppR := false, nRecN := 0, nRem := 0 })]
    = some .stashReleased := by decide +kernel

/-- … and a reminder for an acknowledged problem. -/
example : specTrace exCfg { state := .critical, ack := .sticky, expiry := 0, comments := [] }
    [(.remind 1100,
      { acc := true, ack := .sticky, expiry := 0, handled := true, problem := true, state := .critical, stype := .hard,
        attempt := 1, nSet := 0, nClr := 0, nAckN := 0, nProbN := 0, comments := [],
        raw := .sticky, sevAck := true, suppP := false, suppR := false, nRecN := 0, nRem := 1 })]
    = some .reminderWithheld := by decide +kernel

end Icinga.C06
