/-
  C18 — the variant before bce4be0 (`shared = true`: one permission frame for the whole request).  As long as `IsoVisit`
  holds every object is still judged as if alone, so the variant returns what the code as it is returns
  (`filterTargetsWith_iso`): the two runs are compared step by step, the frame of the shared run kept within `StInv`.
-/
import IcingaProofs.C18.Lemmas

namespace Icinga.C18

/-- The frame is empty unless the request can visit a Service (only that binds `service`). -/
def StInv (types : List String) (st : Option Obj) : Prop :=
  st = none ∨ "Service" ∈ types

theorem StInv_none (types : List String) : StInv types none :=
  .inl rfl

theorem bindSvc_service {st : Option Obj} {o : Obj} (h : o.type = "Service") : bindSvc st o = some o := by
  simp [bindSvc, h]

theorem bindSvc_other {st : Option Obj} {o : Obj} (h : o.type ≠ "Service") : bindSvc st o = st := by
  simp [bindSvc, h]

theorem StInv_frameFor {types : List String} {shared : Bool} {st : Option Obj} {o : Obj}
    (hst : StInv types st) (ho : o.type ∈ types) : StInv types (frameFor shared st o) := by
  unfold frameFor
  by_cases hs : o.type = "Service"
  · exact .inr (hs ▸ ho)
  · rw [bindSvc_other hs]
    cases shared with
    | true => exact hst
    | false => exact StInv_none types

theorem orAny_congr : ∀ (fs : List PFilter) {b b' : Option Obj} {o : Obj},
    (∀ f ∈ fs, f b o = f b' o) → orAny fs b o = orAny fs b' o
  | [], _, _, _, _ => rfl
  | f :: fs, _, _, _, h => by
    simp only [orAny]
    rw [h f List.mem_cons_self, orAny_congr fs fun g hg => h g (List.mem_cons_of_mem _ hg)]

theorem pfVal_iso {u : User} {perm : String} {shared : Bool} {types : List String} {st : Option Obj} {o : Obj}
    (hiso : IsoVisit shared types u) (hst : StInv types st) (ho : o.type ∈ types) :
    pfVal (permissionFilters u perm) (frameFor shared st o) o = pfIso (permissionFilters u perm) o := by
  unfold pfIso
  rcases hiso with h | h | h | h
  · simp [frameFor, h]
  · unfold frameFor pfVal
    split
    · rfl
    · apply orAny_congr
      intro f hf
      obtain ⟨_, p, hpu, _, hpf⟩ := mem_permissionFilters_iff.1 hf
      exact h p hpu f hpf _ o
  · -- no Service can be visited: the frame stays empty
    have hnone : st = none := hst.resolve_right fun hm => h "Service" hm rfl
    subst hnone
    cases shared <;> simp [frameFor]
  · -- only Services are visited, and each rebinds `service` to itself
    have hs : o.type = "Service" := h _ ho
    simp [frameFor, bindSvc_service hs]

section
-- `hpf`: a visit within `StInv` judges the object as if alone; `pfVal_iso` provides it under `IsoVisit`
variable {fs : List PFilter} {shared : Bool} {types : List String}
  (hpf : ∀ {st o}, StInv types st → o.type ∈ types → pfVal fs (frameFor shared st o) o = pfIso fs o)
include hpf

/-- `st'`, the frame of the run with a namespace per object, is arbitrary: that run never reads it (`frameFor false`
    discards it), and the two runs' frames differ after the first step, so the induction needs it free. -/
theorem runNamed_iso (inv : Inventory) :
    ∀ (steps : List Step) (st st' : Option Obj),
      (∀ t n, Step.get t n ∈ steps → t ∈ types) → StInv types st →
      (runNamed shared fs inv steps st).result = (runNamed false fs inv steps st').result ∧
      StInv types (runNamed shared fs inv steps st).frame
  | [], _, _, _, hst => ⟨rfl, hst⟩
  | .plural t :: rest, st, st', hty, hst =>
    runNamed_iso inv rest st st' (fun t n hm => hty t n (List.mem_cons_of_mem _ hm)) hst
  | .get t n :: rest, st, st', hty, hst => by
    simp only [runNamed]
    cases hl : lookup inv t n with
    | none => exact ⟨rfl, hst⟩
    | some o =>
      have ho : o.type ∈ types := (lookup_type_name hl).1 ▸ hty t n List.mem_cons_self
      have hst' : StInv types (frameFor shared st o) := StInv_frameFor hst ho
      have ih := runNamed_iso inv rest _ (frameFor false st' o)
        (fun t n hm => hty t n (List.mem_cons_of_mem _ hm)) hst'
      -- both runs now branch on `pfIso fs o`
      simp only [hpf hst ho, pfVal_frameFor_false]
      cases pfIso fs o with
      | none => exact ⟨rfl, hst'⟩
      | some b =>
        cases b with
        | false => exact ⟨rfl, hst'⟩
        | true => exact ⟨by simp only [ih.1], ih.2⟩

/-- `st'` is arbitrary for the same reason as in `runNamed_iso`. -/
theorem visitAll_iso (uf : Obj → Option Bool) :
    ∀ (l : List Obj) (st st' : Option Obj), (∀ o ∈ l, o.type ∈ types) → StInv types st →
      visitAll shared fs uf l st = visitAll false fs uf l st'
  | [], _, _, _, _ => rfl
  | x :: rest, st, st', hty, hst => by
    have hx : x.type ∈ types := hty x List.mem_cons_self
    simp only [visitAll, hpf hst hx, pfVal_frameFor_false]
    rw [visitAll_iso uf rest _ (frameFor false st' x) (fun o ho => hty o (List.mem_cons_of_mem _ ho))
      (StInv_frameFor (shared := shared) hst hx)]

end

theorem filterTargetsWith_iso {shared : Bool} {u : User} {qd : QD} (q : Query) (inv : Inventory)
    (hiso : IsoVisit shared qd.types u) :
    (filterTargetsWith shared u qd q inv).result = (filterTargets u qd q inv).result := by
  obtain ⟨hres, hfr⟩ := runNamed_iso (pfVal_iso hiso) inv (namedSteps qd.types q) none none
    (fun _ _ => mem_namedSteps_type) (StInv_none _)
  rw [filterTargetsWith_result, filterTargets_result, hres,
    withFound_of_visitAll (st' := none) fun uf l hl =>
      visitAll_iso (pfVal_iso hiso) uf l _ _ (fun o ho => (hl o ho).2) hfr]

end Icinga.C18
