/-
  C18 — the matcher.  `matchToks` decides `Denotes` on token lists; `tokenize` (the escapes `\*`, `\?` of mmatch.c) carries
  that over to raw masks and `DenotesMask`.
-/
import IcingaModel.C18.Spec

namespace Icinga.C18

theorem starAux_iff (k : List Char → Bool) (s : List Char) :
    starAux k s = true ↔ ∃ suf, suf <:+ s ∧ k suf = true := by
  induction s with
  | nil => simp [starAux]
  | cons c s ih => simp [starAux, ih, List.suffix_cons_iff, or_and_right, exists_or]

theorem matchToks_sound : ∀ (ts : List Tok) (s : List Char), matchToks ts s = true → Denotes ts s
  | [], s, h => by
    cases s with
    | nil => exact .nil
    | cons _ _ => simp [matchToks] at h
  | .star :: ts, s, h => by
    simp only [matchToks] at h
    obtain ⟨suf, ⟨pre, rfl⟩, hk⟩ := (starAux_iff _ _).1 h
    exact .star pre (matchToks_sound ts suf hk)
  | .any :: ts, [], h => by simp [matchToks] at h
  | .any :: ts, d :: s, h => by
    simp only [matchToks] at h
    exact .any d (matchToks_sound ts s h)
  | .lit c :: ts, [], h => by simp [matchToks] at h
  | .lit c :: ts, d :: s, h => by
    simp only [matchToks, Bool.and_eq_true, litEq, beq_iff_eq] at h
    exact .lit h.1 (matchToks_sound ts s h.2)

theorem matchToks_complete {ts : List Tok} {s : List Char} (h : Denotes ts s) : matchToks ts s = true := by
  induction h with
  | nil => rfl
  | star pre _ ih =>
    simp only [matchToks]
    exact (starAux_iff _ _).2 ⟨_, List.suffix_append pre _, ih⟩
  | any d _ ih => simpa [matchToks] using ih
  | lit hc _ ih => simp [matchToks, litEq, hc, ih]

/-- 97 is `a`: `toLower` changes nothing but A–Z, and those into a–z, so below `a` a character is the lower-case form of
    itself only — in particular only `*` lower-cases to `*` and only `?` to `?`. -/
theorem eq_of_toLower_eq {c d : Char} (hc : c.val.toNat < 97) (h : d.toLower = c) : d = c := by
  unfold Char.toLower at h
  split at h
  · rename_i hr
    exfalso
    have h1 : d.val.toNat ≥ 65 := hr.1
    have h2 : d.val.toNat ≤ 90 := hr.2
    have h3 : (d.val + ('a'.val - 'A'.val)).toNat = c.val.toNat := by rw [← h]
    have h4 : ('a'.val - 'A'.val) = 32 := by decide
    rw [h4, UInt32.toNat_add] at h3
    have : (32 : UInt32).toNat = 32 := rfl
    rw [this] at h3
    omega
  · exact h

/-- The last equation of `tokenize` (`tokenize.eq_6`, generated): it applies when none of the four patterns before it
    does — `c :: m` is not `\*…`, not `\?…`, and `c` is neither `*` nor `?` — which is what `Ordinary c m` says. -/
theorem tokenize_ordinary {c : Char} {m : List Char} (h : Ordinary c m) : tokenize (c :: m) = .lit c :: tokenize m :=
  tokenize.eq_6 c m (fun r hc hm => h.2.2 ⟨hc, _, r, hm, .inl rfl⟩) (fun r hc hm => h.2.2 ⟨hc, _, r, hm, .inr rfl⟩)
    h.1 h.2.1

theorem denotes_tokenize_of_mask {m s : List Char} (h : DenotesMask m s) : Denotes (tokenize m) s := by
  induction h with
  | nil => exact .nil
  | escStar _ ih => rw [tokenize]; exact .lit rfl ih
  | escAny _ ih => rw [tokenize]; exact .lit rfl ih
  | star pre _ ih => rw [tokenize]; exact .star pre ih
  | any d _ ih => rw [tokenize]; exact .any d ih
  | lit ho hd _ ih => rw [tokenize_ordinary ho]; exact .lit hd ih

theorem mask_of_denotes_tokenize : ∀ (m s : List Char), Denotes (tokenize m) s → DenotesMask m s := by
  intro m
  induction m using tokenize.induct with
  | case1 => intro s h; rw [tokenize] at h; cases h; exact .nil
  | case2 rest ih => -- `\*`
    intro s h; rw [tokenize] at h
    cases h with
    | lit hd ht => cases eq_of_toLower_eq (by decide) hd; exact .escStar (ih _ ht)
  | case3 rest ih => -- `\?`
    intro s h; rw [tokenize] at h
    cases h with
    | lit hd ht => cases eq_of_toLower_eq (by decide) hd; exact .escAny (ih _ ht)
  | case4 rest ih => intro s h; rw [tokenize] at h; cases h with | star pre ht => exact .star pre (ih _ ht)
  | case5 rest ih => intro s h; rw [tokenize] at h; cases h with | any d ht => exact .any d (ih _ ht)
  | case6 c rest hNotEscStar hNotEscAny hNotStar hNotAny ih => -- an ordinary character: none of the four patterns above
    intro s h
    have ho : Ordinary c rest := by
      refine ⟨fun e => hNotStar e, fun e => hNotAny e, ?_⟩
      rintro ⟨hc, x, r, hm, hx | hx⟩
      · exact hNotEscStar r hc (hx ▸ hm)
      · exact hNotEscAny r hc (hx ▸ hm)
    rw [tokenize_ordinary ho] at h
    cases h with | lit hd ht => exact .lit ho hd (ih _ ht)

theorem denotes_tokenize_iff {m s : List Char} : Denotes (tokenize m) s ↔ DenotesMask m s :=
  ⟨mask_of_denotes_tokenize m s, denotes_tokenize_of_mask⟩

end Icinga.C18
