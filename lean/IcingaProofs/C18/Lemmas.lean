/-
  C18 — lemmas about the model.  GetFilterTargets is split into its by-name part (`runNamed`) and what is made of the objects
  found there (`withFound`).  The code as it is (`shared = false`) judges every object alone: its by-name part is characterised
  outright (`runNamed_ok_iff`); of its enumerating part only this is needed, that whatever it returns passed the permission
  filter (`visitAll_obtained`).  The entry points act on a function of what they obtain (`obtained`).
-/
import IcingaModel.C18.Model
import IcingaModel.C18.Spec
import IcingaProofs.Gen.Permissions

namespace Icinga.C18


/-- for the `decide`d examples, which compare results -/
instance instDecEqResult : DecidableEq (Except Err (List Obj))
  | .ok x, .ok y => if h : x = y then isTrue (h ▸ rfl) else isFalse (fun h' => by cases h'; exact h rfl)
  | .error x, .error y => if h : x = y then isTrue (h ▸ rfl) else isFalse (fun h' => by cases h'; exact h rfl)
  | .ok _, .error _ => isFalse (fun h => by cases h)
  | .error _, .ok _ => isFalse (fun h => by cases h)

theorem map_eq_ok {ε α β : Type} {r : Except ε α} {f : α → β} {b : β} :
    r.map f = .ok b ↔ ∃ a, r = .ok a ∧ b = f a := by
  cases r with
  | error e => simp [Except.map]
  | ok a => simp [Except.map, eq_comm]

theorem allowedB_iff (u : User) (perm : String) (o : Obj) : allowedB u perm o = true ↔ Allowed u perm o := by
  simp only [allowedB, Allowed, List.any_eq_true, permAllows, Bool.and_eq_true]
  refine exists_congr fun p => and_congr_right fun _ => and_congr_right fun _ => ?_
  cases p.filter <;> simp

theorem someMatch_of_allowed {u : User} {perm : String} {o : Obj} (h : Allowed u perm o) : someMatch u perm = true := by
  obtain ⟨p, hp, hw, _⟩ := h
  exact List.any_eq_true.2 ⟨p, hp, hw⟩

theorem hasPermission_eq_someMatch {u : User} {perm : String} (hne : perm ≠ "") :
    hasPermission u perm = someMatch u perm := by
  unfold hasPermission
  rw [beq_eq_false_iff_ne.2 hne]
  rfl

theorem mem_permissionFilters_iff {u : User} {perm : String} {f : PFilter} :
    f ∈ permissionFilters u perm ↔ perm ≠ "" ∧ ∃ p ∈ u, wildMatch p.pattern perm = true ∧ p.filter = some f := by
  unfold permissionFilters
  split
  · exact ⟨nofun, fun h => absurd (beq_iff_eq.1 ‹_›) h.1⟩
  · simp only [List.mem_filterMap, List.mem_filter, permMatches, and_assoc]
    exact ⟨fun h => ⟨fun he => ‹¬_› (beq_iff_eq.2 he), h⟩, And.right⟩

theorem exists_of_orAny_true : ∀ (fs : List PFilter) (b : Option Obj) (o : Obj), orAny fs b o = some true →
    ∃ f ∈ fs, f b o = some true
  | [], _, _, h => by cases h
  | f :: fs, b, o, h => by
    rw [orAny] at h
    split at h
    · cases h
    · exact ⟨f, List.mem_cons_self, ‹_›⟩
    · obtain ⟨g, hg, hgo⟩ := exists_of_orAny_true fs b o h
      exact ⟨g, List.mem_cons_of_mem _ hg, hgo⟩

theorem accessGranted_iff {u : User} {perm : String} {o : Obj} :
    accessGranted u perm o = true ↔ hasPermission u perm = true ∧ pfIso (permissionFilters u perm) o = some true := by
  simp [accessGranted]

theorem allowed_of_accessGranted {u : User} {perm : String} {o : Obj} (hne : perm ≠ "")
    (h : accessGranted u perm o = true) : Allowed u perm o := by
  rw [accessGranted_iff, hasPermission_eq_someMatch hne, pfIso, pfVal] at h
  obtain ⟨hm, hpf⟩ := h
  split at hpf
  · -- no matching entry carries a filter: any matching entry grants
    rename_i hfs
    obtain ⟨p, hp, hpm⟩ := List.any_eq_true.1 hm
    refine ⟨p, hp, hpm, Or.inl ?_⟩
    cases hpf' : p.filter with
    | none => rfl
    | some f =>
      have := mem_permissionFilters_iff.2 ⟨hne, p, hp, hpm, hpf'⟩
      rw [List.isEmpty_iff.1 hfs] at this
      cases this
  · obtain ⟨f, hf, hfo⟩ := exists_of_orAny_true _ _ _ hpf
    obtain ⟨_, p, hpu, hpm, hpf'⟩ := mem_permissionFilters_iff.1 hf
    exact ⟨p, hpu, hpm, Or.inr ⟨f, hpf', hfo⟩⟩

theorem lookup_mem {inv : Inventory} {t n : String} {o : Obj} (h : lookup inv t n = some o) : o ∈ inv :=
  List.mem_of_find?_eq_some h

theorem lookup_type_name {inv : Inventory} {t n : String} {o : Obj} (h : lookup inv t n = some o) :
    o.type = t ∧ o.name = n := by
  simpa using List.find?_some h

theorem mem_ofType {inv : Inventory} {t : String} {o : Obj} : o ∈ ofType inv t ↔ o ∈ inv ∧ o.type = t := by
  simp [ofType]

theorem mem_namedSteps_type {types : List String} {q : Query} {t n : String}
    (h : Step.get t n ∈ namedSteps types q) : t ∈ types := by
  obtain ⟨t', ht', hmem⟩ := List.mem_flatMap.1 h
  suffices t = t' from this ▸ ht'
  simp only [List.mem_append, List.mem_cons, List.not_mem_nil, or_false] at hmem
  rcases hmem with (hm | hm) | hm
  · split at hm <;> simp at hm
    exact hm.1
  · cases hm
  · split at hm <;> simp at hm
    exact hm.2.symm ▸ rfl

theorem mem_namedSteps_of_request {types : List String} {q : Query} {t n : String}
    (h : (t, n) ∈ namedRequests types q) : Step.get t n ∈ namedSteps types q := by
  unfold namedRequests at h
  obtain ⟨st, hst, hs⟩ := List.mem_filterMap.1 h
  cases st with
  | get t' n' => simp at hs; obtain ⟨rfl, rfl⟩ := hs; exact hst
  | plural _ => simp at hs

/-- `hs` holds of `lookupQuery`, and of `handlerQuery` with a path name, which it puts in front of `q.single`. -/
theorem namedSteps_first_name {t n : String} (ts : List String) {q : Query} {s : List (String × String)}
    (hs : q.single = (t, n) :: s) : ∃ rest, namedSteps (t :: ts) q = .get t n :: rest := by
  simp [namedSteps, hs, List.lookup]

/-- :295-390 what becomes of the objects found by name: the enumerating part is entered when the query has a
    `filter` or nothing was addressed by name; `frame` is the frame the by-name part left behind. -/
def withFound (shared : Bool) (fs : List PFilter) (qd : QD) (q : Query) (inv : Inventory) (frame : Option Obj)
    (named : List Obj) : Except Err (List Obj) :=
  if q.filter.isSome || named.isEmpty then (phase2 shared fs qd q inv frame).1.map (named ++ ·) else .ok named

theorem filterTargetsWith_result (shared : Bool) (u : User) (qd : QD) (q : Query) (inv : Inventory) :
    (filterTargetsWith shared u qd q inv).result =
      if hasPermission u qd.permission then
        (runNamed shared (permissionFilters u qd.permission) inv (namedSteps qd.types q) none).result.bind
          (withFound shared (permissionFilters u qd.permission) qd q inv
            (runNamed shared (permissionFilters u qd.permission) inv (namedSteps qd.types q) none).frame)
      else .error .permission := by
  unfold filterTargetsWith withFound
  cases hasPermission u qd.permission with
  | false => rfl
  | true =>
    simp only [Bool.not_true, Bool.false_eq_true, if_false, if_true]
    cases (runNamed shared (permissionFilters u qd.permission) inv (namedSteps qd.types q) none).result with
    | error e => rfl
    | ok named =>
      simp only [Except.bind]
      split
      · cases (phase2 shared (permissionFilters u qd.permission) qd q inv _).1 <;> rfl
      · rfl

theorem filterTargetsWith_rejected {u : User} {qd : QD} (shared : Bool) (q : Query) (inv : Inventory)
    (h : hasPermission u qd.permission = false) : filterTargetsWith shared u qd q inv = ⟨.error .permission, []⟩ := by
  simp [filterTargetsWith, h]

/-- `uf` and `l` are chosen before `shared` and the frame: both variants visit the same list with the same user filter
    (`withFound_of_visitAll` rests on that). -/
theorem phase2_cases (fs : List PFilter) (qd : QD) (q : Query) (inv : Inventory) :
    (∃ e, ∀ shared st, (phase2 shared fs qd q inv st).1 = .error e) ∨
    ∃ uf l, (∀ o ∈ l, o ∈ inv ∧ o.type ∈ qd.types) ∧
      ∀ shared st, (phase2 shared fs qd q inv st).1 = visitAll shared fs uf l st := by
  unfold phase2
  cases q.type with
  | none => exact .inl ⟨_, fun _ _ => rfl⟩
  | some t =>
    dsimp only
    cases q.typeValid with
    | false => exact .inl ⟨_, fun _ _ => rfl⟩
    | true =>
      cases hc : qd.types.contains t with
      | false => exact .inl ⟨_, fun _ _ => rfl⟩
      | true =>
        have hc : t ∈ qd.types := List.contains_iff_mem.1 hc
        have hof : ∀ o ∈ ofType inv t, o ∈ inv ∧ o.type ∈ qd.types := fun o ho =>
          ⟨(mem_ofType.1 ho).1, (mem_ofType.1 ho).2 ▸ hc⟩
        cases q.filter with
        | none => exact .inr ⟨_, _, hof, fun _ _ => rfl⟩
        | some uf =>
          dsimp only
          cases fastNames qd t uf with
          | none => exact .inr ⟨_, _, hof, fun _ _ => rfl⟩
          | some names =>
            refine .inr ⟨_, names.filterMap (lookup inv t), fun o ho => ?_, fun _ _ => rfl⟩
            obtain ⟨n, _, hn⟩ := List.mem_filterMap.1 ho
            exact ⟨lookup_mem hn, (lookup_type_name hn).1 ▸ hc⟩

/-- An equality of functions of the objects found by name, so that it rewrites under the `bind` of
    `filterTargetsWith_result`. -/
theorem withFound_of_visitAll {shared shared' : Bool} {fs : List PFilter} {qd : QD} {q : Query} {inv : Inventory}
    {st st' : Option Obj}
    (h : ∀ uf l, (∀ o ∈ l, o ∈ inv ∧ o.type ∈ qd.types) → visitAll shared fs uf l st = visitAll shared' fs uf l st') :
    withFound shared fs qd q inv st = withFound shared' fs qd q inv st' := by
  funext named
  unfold withFound
  rcases phase2_cases fs qd q inv with ⟨e, he⟩ | ⟨uf, l, hl, heq⟩
  · rw [he, he]
  · rw [heq, heq, h uf l hl]

theorem withFound_ok_prefix {shared : Bool} {fs : List PFilter} {qd : QD} {q : Query} {inv : Inventory} {st : Option Obj}
    {named objs : List Obj} (h : withFound shared fs qd q inv st named = .ok objs) : named <+: objs := by
  unfold withFound at h
  split at h
  · obtain ⟨found, -, rfl⟩ := map_eq_ok.1 h
    exact List.prefix_append named found
  · exact Except.ok.inj h ▸ List.prefix_refl named

@[simp] theorem pfVal_frameFor_false (fs : List PFilter) (st : Option Obj) (o : Obj) :
    pfVal fs (frameFor false st o) o = pfIso fs o := rfl

/-- Whether `runNamed false` gets past the step (otherwise it ends the request there). -/
def stepOk (fs : List PFilter) (inv : Inventory) : Step → Bool
  | .plural _ => true
  | .get t n => match lookup inv t n with | some o => pfIso fs o == some true | none => false

def stepObj (inv : Inventory) : Step → Option Obj
  | .plural _ => none
  | .get t n => lookup inv t n

theorem stepObj_passed {fs : List PFilter} {inv : Inventory} {s : Step} {o : Obj} (hs : stepOk fs inv s = true)
    (ho : stepObj inv s = some o) : pfIso fs o = some true ∧ o ∈ inv := by
  cases s with
  | plural t => cases ho
  | get t n =>
    simp only [stepObj] at ho
    simp only [stepOk, ho, beq_iff_eq] at hs
    exact ⟨hs, lookup_mem ho⟩

/-- Which error it is when the by-name part does not succeed is not said here; for a refused first name see
    `filterTargets_first_name_refused`. -/
theorem runNamed_ok_iff {fs : List PFilter} {inv : Inventory} {steps : List Step} {st : Option Obj} {named : List Obj} :
    (runNamed false fs inv steps st).result = .ok named ↔
      steps.all (stepOk fs inv) = true ∧ named = steps.filterMap (stepObj inv) := by
  induction steps generalizing st named with
  | nil => simp [runNamed, eq_comm]
  | cons s rest ih =>
    cases s with
    | plural t => simpa only [runNamed, List.all_cons, stepOk, Bool.true_and, List.filterMap_cons, stepObj] using ih
    | get t n =>
      cases hl : lookup inv t n with
      | none => simp [runNamed, stepOk, hl]
      | some o =>
        cases hp : pfIso fs o with
        | none => simp [runNamed, stepOk, hl, hp]
        | some b =>
          cases b with
          | false => simp [runNamed, stepOk, hl, hp]
          | true =>
            simp only [runNamed, hl, pfVal_frameFor_false, hp, map_eq_ok, ih, List.all_cons, stepOk, stepObj,
              List.filterMap_cons, beq_self_eq_true, Bool.true_and]
            -- left: `named = o :: a` for the result `a` of the remaining steps, which `ih` has characterised
            constructor
            · rintro ⟨l', ⟨ha, rfl⟩, rfl⟩; exact ⟨ha, rfl⟩
            · rintro ⟨ha, rfl⟩; exact ⟨_, ⟨ha, rfl⟩, rfl⟩

/-- The first visit replaces the frame handed in. -/
theorem visitAll_false_frame (fs : List PFilter) (uf : Obj → Option Bool) (l : List Obj) (st st' : Option Obj) :
    visitAll false fs uf l st = visitAll false fs uf l st' := by
  cases l <;> rfl

theorem filterTargets_result (u : User) (qd : QD) (q : Query) (inv : Inventory) :
    (filterTargets u qd q inv).result =
      if hasPermission u qd.permission then
        (runNamed false (permissionFilters u qd.permission) inv (namedSteps qd.types q) none).result.bind
          (withFound false (permissionFilters u qd.permission) qd q inv none)
      else .error .permission := by
  rw [filterTargets, filterTargetsWith_result,
    withFound_of_visitAll (st' := none) fun uf l _ => visitAll_false_frame _ uf l _ _]

theorem filterTargets_ok_iff {u : User} {qd : QD} {q : Query} {inv : Inventory} {objs : List Obj} :
    (filterTargets u qd q inv).result = .ok objs ↔
      hasPermission u qd.permission = true ∧
      (namedSteps qd.types q).all (stepOk (permissionFilters u qd.permission) inv) = true ∧
      withFound false (permissionFilters u qd.permission) qd q inv none
        ((namedSteps qd.types q).filterMap (stepObj inv)) = .ok objs := by
  rw [filterTargets_result]
  split
  · rename_i hp
    cases hr : (runNamed false (permissionFilters u qd.permission) inv (namedSteps qd.types q) none).result with
    | error e =>
      simp only [Except.bind, hp, true_and]
      constructor
      · intro h; cases h
      · rintro ⟨hall, _⟩
        rw [runNamed_ok_iff.2 ⟨hall, rfl⟩] at hr; cases hr
    | ok named =>
      obtain ⟨hall, rfl⟩ := runNamed_ok_iff.1 hr
      simp only [Except.bind, hp, hall, true_and]
  · rename_i hp
    simp [hp]

/-- The objects a request got to act on, none when it failed: the handlers' effects (`modifyChanged`, `deleteGone`,
    `downtimeActed`) are functions of this list. -/
def obtained : Except Err (List Obj) → List Obj
  | .ok objs => objs
  | .error _ => []

theorem mem_obtained_iff {r : Except Err (List Obj)} {o : Obj} : o ∈ obtained r ↔ ∃ l, r = .ok l ∧ o ∈ l := by
  cases r <;> simp [obtained]

theorem mem_obtained_map {f : List Obj → List Obj} {r : Except Err (List Obj)} {o : Obj}
    (h : o ∈ obtained (r.map f)) : o ∈ f (obtained r) := by
  cases r with
  | error e => cases h
  | ok l => exact h

theorem visitAll_obtained (fs : List PFilter) (uf : Obj → Option Bool) :
    ∀ (l : List Obj) (st : Option Obj), ∀ o ∈ obtained (visitAll false fs uf l st), pfIso fs o = some true ∧ o ∈ l
  | [], _, _, ho => nomatch ho
  | x :: rest, st, o, ho => by
    have ih := fun h => (visitAll_obtained fs uf rest (frameFor false st x) o h).imp_right (List.mem_cons_of_mem x)
    simp only [visitAll, pfVal_frameFor_false] at ho
    split at ho
    · cases ho
    · exact ih ho
    · rename_i hp
      split at ho
      · cases ho
      · rename_i b _
        cases b with
        | false => exact ih (mem_obtained_map ho)
        | true =>
          rcases List.mem_cons.1 (mem_obtained_map ho) with rfl | ho
          · exact ⟨hp, List.mem_cons_self⟩
          · exact ih ho

theorem withFound_obtained {fs : List PFilter} {qd : QD} {q : Query} {inv : Inventory} {st : Option Obj} {named : List Obj}
    (hnamed : ∀ o ∈ named, pfIso fs o = some true ∧ o ∈ inv) :
    ∀ o ∈ obtained (withFound false fs qd q inv st named), pfIso fs o = some true ∧ o ∈ inv := by
  intro o ho
  unfold withFound at ho
  split at ho
  · rcases List.mem_append.1 (mem_obtained_map ho) with h | h
    · exact hnamed o h
    · rcases phase2_cases fs qd q inv with ⟨e, he⟩ | ⟨uf, l, hl, heq⟩
      · rw [he] at h; cases h
      · rw [heq] at h
        obtain ⟨hp, hin⟩ := visitAll_obtained fs uf l st o h
        exact ⟨hp, (hl o hin).1⟩
  · exact hnamed o ho

/-- Whatever GetFilterTargets hands out passed the decision ObjectQueryHandler takes for a joined object. -/
theorem filterTargets_obtained {u : User} {qd : QD} {q : Query} {inv : Inventory} :
    ∀ o ∈ obtained (filterTargets u qd q inv).result, accessGranted u qd.permission o = true ∧ o ∈ inv := by
  intro o ho
  obtain ⟨objs, hr, ho⟩ := mem_obtained_iff.1 ho
  obtain ⟨hp, hall, hw⟩ := filterTargets_ok_iff.1 hr
  suffices pfIso (permissionFilters u qd.permission) o = some true ∧ o ∈ inv from
    this.imp_left fun hpf => accessGranted_iff.2 ⟨hp, hpf⟩
  refine withFound_obtained (fun o ho => ?_) o (mem_obtained_iff.2 ⟨objs, hw, ho⟩)
  obtain ⟨s, hs, hso⟩ := List.mem_filterMap.1 ho
  exact stepObj_passed (List.all_eq_true.1 hall s hs) hso

theorem obtained_allowed (u : User) (qd : QD) (q : Query) (inv : Inventory) (hperm : qd.permission ≠ "") :
    ∀ o ∈ obtained (filterTargets u qd q inv).result, Allowed u qd.permission o ∧ o ∈ inv :=
  fun o ho => (filterTargets_obtained o ho).imp_left (allowed_of_accessGranted hperm)

theorem named_allowed {u : User} {qd : QD} {q : Query} {inv : Inventory} {objs : List Obj} {t n : String} {o : Obj}
    (hperm : qd.permission ≠ "") (h : (filterTargets u qd q inv).result = .ok objs)
    (hreq : (t, n) ∈ namedRequests qd.types q) (hl : lookup inv t n = some o) : Allowed u qd.permission o := by
  obtain ⟨hp, hall, -⟩ := filterTargets_ok_iff.1 h
  exact allowed_of_accessGranted hperm (accessGranted_iff.2
    ⟨hp, (stepObj_passed (List.all_eq_true.1 hall _ (mem_namedSteps_of_request hreq)) hl).1⟩)

theorem filterTargets_first_name {u : User} {qd : QD} {q : Query} {inv : Inventory} {objs : List Obj} {t n : String}
    {ts : List String} {s : List (String × String)} (h : (filterTargets u qd q inv).result = .ok objs)
    (hty : qd.types = t :: ts) (hs : q.single = (t, n) :: s) :
    ∃ o objs', objs = o :: objs' ∧ lookup inv t n = some o := by
  obtain ⟨-, hall, hw⟩ := filterTargets_ok_iff.1 h
  obtain ⟨rest, hs⟩ := namedSteps_first_name ts hs
  rw [hty, hs] at hall hw
  cases hl : lookup inv t n with
  | none => simp [stepOk, hl] at hall
  | some o =>
    simp only [List.filterMap_cons, stepObj, hl] at hw
    obtain ⟨found, rfl⟩ := withFound_ok_prefix hw
    exact ⟨o, _, rfl, rfl⟩

theorem filterTargets_first_name_refused {u : User} {qd : QD} {q : Query} {inv : Inventory} {t n : String} {o : Obj}
    {ts : List String} {s : List (String × String)} (hp : hasPermission u qd.permission = true)
    (hty : qd.types = t :: ts) (hs : q.single = (t, n) :: s)
    (hl : lookup inv t n = some o) (hno : accessGranted u qd.permission o ≠ true) :
    ((filterTargets u qd q inv).result = .error .denied ∨ (filterTargets u qd q inv).result = .error .other) ∧
      (filterTargets u qd q inv).log = [.byName t n] := by
  obtain ⟨rest, hs⟩ := namedSteps_first_name ts hs
  simp only [filterTargets, filterTargetsWith, hp, hty, hs, runNamed, hl, pfVal_frameFor_false]
  cases hv : pfIso (permissionFilters u qd.permission) o with
  | none => simp
  | some b =>
    cases b with
    | false => simp
    | true => exact absurd (accessGranted_iff.2 ⟨hp, hv⟩) hno

theorem runNamed_perm (fs : List PFilter) (inv : Inventory) {s₁ s₂ : List Step} (st₁ st₂ : Option Obj) (h : s₁.Perm s₂) :
    (∃ e₁ e₂, (runNamed false fs inv s₁ st₁).result = .error e₁ ∧ (runNamed false fs inv s₂ st₂).result = .error e₂) ∨
    ∃ l₁ l₂, (runNamed false fs inv s₁ st₁).result = .ok l₁ ∧ (runNamed false fs inv s₂ st₂).result = .ok l₂ ∧ l₁.Perm l₂ := by
  cases h₁ : (runNamed false fs inv s₁ st₁).result with
  | ok l₁ =>
    obtain ⟨ha, rfl⟩ := runNamed_ok_iff.1 h₁
    exact .inr ⟨_, _, rfl, runNamed_ok_iff.2 ⟨h.all_eq.symm.trans ha, rfl⟩, h.filterMap _⟩
  | error e₁ =>
    cases h₂ : (runNamed false fs inv s₂ st₂).result with
    | error e₂ => exact .inl ⟨_, _, rfl, rfl⟩
    | ok l₂ =>
      obtain ⟨ha, rfl⟩ := runNamed_ok_iff.1 h₂
      rw [runNamed_ok_iff.2 ⟨h.all_eq.trans ha, rfl⟩] at h₁
      cases h₁

theorem withFound_congr {shared : Bool} {fs : List PFilter} {qd : QD} {q₁ q₂ : Query} {inv : Inventory} {st : Option Obj}
    {named : List Obj} (ht : q₁.type = q₂.type) (hv : q₁.typeValid = q₂.typeValid) (hf : q₁.filter = q₂.filter) :
    withFound shared fs qd q₁ inv st named = withFound shared fs qd q₂ inv st named := by
  unfold withFound phase2
  rw [ht, hv, hf]

theorem withFound_of_perm {fs : List PFilter} {qd : QD} {q : Query} {inv : Inventory} {st : Option Obj}
    {l₁ l₂ : List Obj} (hl : l₁.Perm l₂) :
    sameOutcome (withFound false fs qd q inv st l₁) (withFound false fs qd q inv st l₂) = true := by
  unfold withFound
  rw [hl.isEmpty_eq]
  split
  · cases (phase2 false fs qd q inv st).1 with
    | error e => rfl
    | ok found => exact List.isPerm_iff.2 (hl.append_right found)
  · exact List.isPerm_iff.2 hl

theorem append_ne_empty {a : String} (b : String) (h : a ≠ "") : a ++ b ≠ "" :=
  fun h0 => h (String.append_eq_empty_iff.1 h0).1

theorem handlerQD_permission_ne (verb type : String) : (handlerQD verb type).permission ≠ "" :=
  append_ne_empty _ (append_ne_empty _ (append_ne_empty _ (by decide)))

theorem actionQDT_permission_ne (action : String) (types : List String) : (actionQDT action types).permission ≠ "" :=
  append_ne_empty _ (by decide)

/-! The permissions of the three object handlers as the specification spells them (`handlerQD` builds
    `"objects/" ++ verb ++ "/" ++ type`). -/

theorem handlerQD_permission_query (type : String) : (handlerQD "query" type).permission = "objects/query/" ++ type :=
  congrArg (· ++ type) (by decide +kernel : "objects/" ++ "query" ++ "/" = "objects/query/")

theorem handlerQD_permission_modify (type : String) : (handlerQD "modify" type).permission = "objects/modify/" ++ type :=
  congrArg (· ++ type) (by decide +kernel : "objects/" ++ "modify" ++ "/" = "objects/modify/")

theorem handlerQD_permission_delete (type : String) : (handlerQD "delete" type).permission = "objects/delete/" ++ type :=
  congrArg (· ++ type) (by decide +kernel : "objects/" ++ "delete" ++ "/" = "objects/delete/")

theorem actionQDT_permission_downtime (types : List String) :
    (actionQDT "schedule-downtime" types).permission = "actions/schedule-downtime" :=
  (by decide +kernel : "actions/" ++ "schedule-downtime" = "actions/schedule-downtime")

theorem handlerTargets_allowed (u : User) (verb type : String) (pathName : Option String) (q : Query) (inv : Inventory)
    {perm : String} (hp : (handlerQD verb type).permission = perm) :
    ∀ o ∈ obtained (handlerTargets u verb type pathName q inv), Allowed u perm o ∧ o ∈ inv :=
  hp ▸ obtained_allowed u _ _ inv (handlerQD_permission_ne verb type)

/-- The `flatMap` is what a cascading delete and `all_services` act on: the targets and their dependents. -/
theorem forall_with_deps {P : Obj → Prop} {deps : Obj → List Obj} {l : List Obj}
    (hl : ∀ t ∈ l, P t) (hdeps : ∀ t, P t → ∀ s ∈ deps t, P s) : ∀ o ∈ l.flatMap (fun t => t :: deps t), P o := by
  intro o ho
  obtain ⟨t, ht, hot⟩ := List.mem_flatMap.1 ho
  rcases List.mem_cons.1 hot with rfl | hs
  · exact hl _ ht
  · exact hdeps t (hl t ht) o hs

theorem modifyChanged_eq_obtained (u : User) (type : String) (pathName : Option String) (q : Query) (inv : Inventory) :
    modifyChanged u type pathName q inv = obtained (handlerTargets u "modify" type pathName q inv) := by
  unfold modifyChanged
  cases handlerTargets u "modify" type pathName q inv <;> rfl

theorem deleteGone_eq_obtained (u : User) (type : String) (pathName : Option String) (q : Query) (inv : Inventory)
    (deps : Obj → List Obj) (cascade : Bool) :
    deleteGone u type pathName q inv deps cascade =
      if cascade then (obtained (handlerTargets u "delete" type pathName q inv)).flatMap (fun o => o :: deps o)
      else (obtained (handlerTargets u "delete" type pathName q inv)).filter (fun o => (deps o).isEmpty) := by
  unfold deleteGone
  cases handlerTargets u "delete" type pathName q inv <;> cases cascade <;> rfl

theorem downtimeActed_eq_obtained (u : User) (types : List String) (q : Query) (inv : Inventory) (deps : Obj → List Obj) :
    downtimeActed u types q inv deps =
      (obtained (filterTargets u (actionQDT "schedule-downtime" types) q inv).result).flatMap (fun o => o :: deps o) := by
  unfold downtimeActed
  cases (filterTargets u (actionQDT "schedule-downtime" types) q inv).result <;> rfl

theorem any_not_contains {l inv : List Obj} (h : ∀ o ∈ l, o ∈ inv) : (l.any fun o => !inv.contains o) = false := by
  simpa using h

theorem any_and_not_allowedB {u : User} {perm : String} {l : List Obj} (hall : ∀ o ∈ l, Allowed u perm o)
    (g : Obj → Bool) : (l.any fun o => g o && !allowedB u perm o) = false :=
  List.any_eq_false.2 fun o ho => by simp [(allowedB_iff u perm o).2 (hall o ho)]

theorem any_not_allowedB {u : User} {perm : String} {l : List Obj} (hall : ∀ o ∈ l, Allowed u perm o) :
    (l.any fun o => !allowedB u perm o) = false :=
  any_and_not_allowedB hall fun _ => true

theorem forbiddenNamed_eq_false {u : User} {qd : QD} {q : Query} {inv : Inventory} {objs : List Obj}
    (hperm : qd.permission ≠ "") (h : (filterTargets u qd q inv).result = .ok objs) :
    forbiddenNamed u qd.permission qd.types q inv = false := by
  refine List.any_eq_false.2 fun ⟨t, n⟩ hreq => ?_
  cases hl : lookup inv t n with
  | none => simp
  | some o => simp [(allowedB_iff _ _ _).2 (named_allowed hperm h hreq hl)]

/-- `targets` and `deps` are arbitrary: they decide under which clause a forbidden object is reported, not whether one is. -/
theorem specActed_eq_none {u : User} {perm : String} {deps : Obj → List Obj} {targets acted : List Obj}
    (hall : ∀ o ∈ acted, Allowed u perm o) : specActed u perm deps targets acted = none := by
  unfold specActed
  simp only [any_and_not_allowedB hall]
  cases hm : someMatch u perm with
  | false =>
    -- an allowed object has a matching entry, so nothing was acted on
    cases acted with
    | nil => cases perm == "" <;> rfl
    | cons o _ =>
      rw [someMatch_of_allowed (hall o List.mem_cons_self)] at hm
      cases hm
  | true => cases perm == "" <;> rfl

/-- `specChanged` is `specActed` without targets. -/
theorem specChanged_eq_none {u : User} {perm : String} {changed : List Obj}
    (hall : ∀ o ∈ changed, Allowed u perm o) : specChanged u perm changed = none := by
  rw [show specChanged u perm changed = specActed u perm (fun _ => []) [] changed by simp [specChanged, specActed]]
  exact specActed_eq_none hall

theorem permissionTable_ok : permissionTableOk Gen.handlerPermissions = true := by decide +kernel

end Icinga.C18
