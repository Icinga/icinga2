/-
  C13 — property theorems; everything `./check C13` asks for (checks/c13.py) is in this file.

  Everything of the form accept ⇒ entitled below is a corollary of one theorem, `accepted_is_entitledB_or_fc13a`,
  through `entitledB_sound`.

  THE FULL STATEMENT (what properties.jsonl asks for) is

      theorem accept_implies_entitled (f : Forest) (m : Method) (c : Ctx) :
          accepts f m c = true → Entitled f m c

  It is FALSE of the unchanged code, hence of the model (`accept_implies_entitled_counterexample`):
    F-C13a  a sender in the receiver's own zone is never checked against the object's zone: `FromZone`
            is then taken from the message's own `originZone` field (absent ⇒ null ⇒ guard skipped;
            present ⇒ any zone the sender cares to name).  Known finding, not repaired.
  What is proved instead is the full statement for every method class that has it, and for the update
  classes the statement under a hypothesis that excludes the counterexample
  (`accept_implies_entitled_partial`: sender not in the receiver's own zone, which sets aside the own-zone updates
  that ARE entitled as well); without hypothesis,
  `accept_implies_entitled_or_claimed`: accepted ⇒ entitled, or exactly the shape of F-C13a.
  On traces the same pair is `model_trace_satisfies_spec_partial` (the specification predicate the driver evaluates
  finds nothing in the model's observations, provided no message lies in the class F-C13a) and
  `model_trace_failure_is_fc13a` (without proviso); `model_trace_counterexample` is the excluded case.

  COMPLETENESS: on the forests of configurations that loaded (`LoadedSrc`; bound regenerated from
  Zone::OnAllConfigLoaded by gen/c13_zonelevels.py) the guards of `config::UpdateObject`, of `config::DeleteObject`
  (given an object of package `_api`) and, for a sender of another zone and an existing object, of the state updates but
  `event::SetRemovalInfo` are neither laxer nor stricter than the statement (`*_accept_iff_entitled`; other rows ARE
  stricter: `event::ExecuteCommand` admits only the direct parent, and an own-zone peer is judged by the zone it names
  in `originZone`), and the executable predicate IS the proposition (`entitledB_iff_entitled_loaded`); the forests of
  the correspondence runs are such forests (`driver_forests_are_loaded`).

  F-C13b (`pki::UpdateCertificate` had no endpoint test; /repo ba4edd4) and F-C13c (`event::SetRemovalInfo` did not
  look at the object's zone; /repo cc1e22f) were found by this check and are repaired in /repo: the theorems about
  these two rows hold in full.
-/
import IcingaProofs.C13.Lemmas
import IcingaProofs.C13.Table
import IcingaProofs.C13.Trace
import IcingaProofs.C13.Complete
import IcingaProofs.Gen.ApiFunctions
import IcingaProofs.Gen.ZoneLevels

namespace Icinga.C13

/-- The rows of the decision table are exactly the methods the
    source registers (list regenerated from `REGISTER_APIFUNCTION` on every run). -/
theorem table_covers_registered_methods : Method.all.map Method.name = Icinga.Gen.apiFunctions := rfl

/-- So `Method.all` is not a subset chosen to fit `table_covers_registered_methods`. -/
theorem all_methods_listed (m : Method) : m ∈ Method.all := by
  cases m <;> decide +kernel

/-- The driver finds the row of a method by its registered name. -/
theorem ofName_name (m : Method) : Method.ofName? m.name = some m := by
  -- one evaluation over the whole table, so that every name is unfolded once
  have h : ∀ m ∈ Method.all, Method.ofName? m.name = some m := by decide +kernel
  exact h m (all_methods_listed m)

theorem entitledB_sound (f : Forest) (m : Method) (c : Ctx) (h : entitledB f m c = true) : Entitled f m c :=
  entitled_iff.mpr ((entitledB_iff.mp h).imp id fun ⟨s, he, hz⟩ => ⟨s, he, entitledZoneB_sound hz⟩)

/-- A message that gets past its guards satisfies the executable entitlement predicate the driver evaluates, or it
    lies in the class F-C13a (own-zone sender, update class, `originZone` absent or naming a zone that is itself
    entitled). -/
theorem accepted_is_entitledB_or_fc13a (f : Forest) (m : Method) (c : Ctx) (h : accepts f m c = true) :
    entitledB f m c = true ∨ inFC13a f m c = true := by
  have hg := accepts_classGuard h
  by_cases hm : m.cls = .stateUpdate ∨ m.cls = .checkResult ∨ m.cls = .execResult
  · -- judged by `FromZone`: the sender's zone if that is another zone, else whatever `originZone` names
    obtain ⟨ez, he⟩ := classGuard_endpoint hg fun hc => by simp [hc] at hm
    by_cases hown : ez = c.localZone
    · subst hown
      obtain ⟨ha, hz⟩ := endpoint_eq_some_iff.mp he
      exact Or.inr (inFC13a_iff.mpr ⟨hm, ha, hz, fun z horg => accepts_fromZone hm h (by rw [fromZone_own he, horg])⟩)
    · exact Or.inl (entitledB_iff.mpr (Or.inr ⟨ez, he, accepts_fromZone hm h (fromZone_foreign he hown)⟩))
  · exact Or.inl (entitledB_iff.mpr (classGuard_sender hm hg))

/-- `accepted_is_entitledB_or_fc13a` as a proposition; the second disjunct is the exact shape of F-C13a (`originZone`
    absent/unknown or naming a zone that IS entitled).  Nothing else escapes: no other class, no foreign sender, no
    claim of a zone that is not entitled. -/
theorem accept_implies_entitled_or_claimed (f : Forest) (m : Method) (c : Ctx) (h : accepts f m c = true) :
    Entitled f m c ∨
    ((m.cls = .stateUpdate ∨ m.cls = .checkResult ∨ m.cls = .execResult) ∧ c.authenticated = true ∧
     c.endpointZone = some c.localZone ∧
     (c.originZone = none ∨ ∃ z, c.originZone = some z ∧ EntitledZone f m.cls z c)) := by
  rcases accepted_is_entitledB_or_fc13a f m c h with h | h
  · exact Or.inl (entitledB_sound f m c h)
  · obtain ⟨hm, ha, hz, ho⟩ := inFC13a_iff.mp h
    refine Or.inr ⟨hm, ha, hz, ?_⟩
    cases horg : c.originZone with
    | none => exact Or.inl rfl
    | some z => exact Or.inr ⟨z, rfl, entitledZoneB_sound (ho z horg)⟩

/-- The boundary of F-C13a from the other side: an own-zone peer that names in `originZone` a zone which is NOT entitled
    to the message is refused. -/
theorem own_zone_claim_not_entitled_is_refused (f : Forest) (m : Method) (c : Ctx) (z : Zone)
    (hm : m.cls = .stateUpdate ∨ m.cls = .checkResult ∨ m.cls = .execResult)
    (hown : c.endpoint = some c.localZone) (horg : c.originZone = some z)
    (hne : ¬ EntitledZone f m.cls z c) : accepts f m c = false :=
  Bool.eq_false_iff.mpr fun hacc =>
    have hfz : c.fromZone = some z := by rw [fromZone_own hown, horg]
    hne (entitledZoneB_sound (accepts_fromZone hm hacc hfz))

/-- The whole table in one statement: an accepted message comes from an entitled sender, *provided* it is not an
    update-class message from a sender in the receiver's own zone (where F-C13a lies). -/
theorem accept_implies_entitled_partial (f : Forest) (m : Method) (c : Ctx)
    (ha : (m.cls = .stateUpdate ∨ m.cls = .checkResult ∨ m.cls = .execResult) →
          c.endpointZone ≠ some c.localZone)
    (h : accepts f m c = true) : Entitled f m c :=
  (accept_implies_entitled_or_claimed f m c h).elim id fun ⟨hm, _, hz, _⟩ => absurd hz (ha hm)

/-- Zone-internal bookkeeping (suppression state, last-notified state, notification events) is applied
    only from an authenticated endpoint of the receiver's own zone. -/
theorem accept_implies_entitled_zone_internal (f : Forest) (m : Method) (c : Ctx)
    (hm : m.cls = .zoneInternal) (h : accepts f m c = true) : Entitled f m c :=
  accept_implies_entitled_partial f m c (by simp [hm]) h

/-- Configuration files and runtime objects are applied only from an authenticated endpoint of the
    receiver's own zone or a zone above it, and only with `accept_config`. -/
theorem accept_implies_entitled_config (f : Forest) (m : Method) (c : Ctx)
    (hm : m.cls = .config) (h : accepts f m c = true) : Entitled f m c :=
  accept_implies_entitled_partial f m c (by simp [hm]) h

/-- A command is executed — or forwarded towards the node it names — only for an authenticated endpoint of
    the receiver's own zone or a zone above it (the code admits only the direct parent), and executed only
    with `accept_commands`. -/
theorem accept_implies_entitled_command (f : Forest) (m : Method) (c : Ctx)
    (hm : m.cls = .command) (h : accepts f m c = true) : Entitled f m c :=
  accept_implies_entitled_partial f m c (by simp [hm]) h

/-- A command is forwarded only towards the receiver's own zone or a zone below it. -/
theorem forwarded_only_downwards (f : Forest) (c : Ctx) (tz : Zone) (hf : c.forwardZone = some tz)
    (h : accepts f .executeCommand c = true) : Below f tz c.localZone := by
  simp only [accepts, hf, Bool.and_eq_true] at h
  exact isChildOf_sound h.2

/-- Version/capabilities/log position/heartbeat: only for an authenticated, configured endpoint. -/
theorem accept_implies_entitled_session (f : Forest) (m : Method) (c : Ctx)
    (hm : m.cls = .session) (h : accepts f m c = true) : Entitled f m c :=
  accept_implies_entitled_partial f m c (by simp [hm]) h

-- `hm` only names the rows meant: a sender of another zone is judged by its own zone in every class
set_option linter.unusedVariables false in
/-- State and event updates, check results and execution results **from another zone** are applied only
    for objects in the sender's zone or below it (check results: or from the command endpoint;
    execution results: for executions on endpoints of the sender's zone or below). -/
theorem accept_implies_entitled_update_from_other_zone (f : Forest) (m : Method) (c : Ctx)
    (hm : m.cls = .stateUpdate ∨ m.cls = .checkResult ∨ m.cls = .execResult)
    (hforeign : c.endpointZone ≠ some c.localZone)
    (h : accepts f m c = true) : Entitled f m c :=
  accept_implies_entitled_partial f m c (fun _ => hforeign) h

/-- `event::SetRemovalInfo` additionally requires the sender's zone to be the receiver's own zone or a
    zone above it (clusterevents.cpp:1597). -/
theorem removal_info_only_from_own_zone_or_above (f : Forest) (c : Ctx)
    (h : accepts f .setRemovalInfo c = true) :
    c.authenticated = true ∧ ∃ s, c.endpointZone = some s ∧ Below f c.localZone s :=
  (accepts_senderAbove (.inr (.inr (.inr rfl))) h).sound

/-- `pki::UpdateCertificate` is applied only from an
    authenticated, configured endpoint of the receiver's own zone or a zone above it. -/
theorem accept_implies_entitled_cert_update (f : Forest) (m : Method) (c : Ctx)
    (hm : m.cls = .certUpdate) (h : accepts f m c = true) : Entitled f m c :=
  accept_implies_entitled_partial f m c (by simp [hm]) h

/-- A connection without authenticated, configured endpoint gets nothing but the certificate request past the
    guards. -/
theorem anonymous_only_certificate (f : Forest) (m : Method) (c : Ctx)
    (hanon : c.endpoint = none) (h : accepts f m c = true) : m = .requestCertificate := by
  have hcls : m.cls = .certRequest := Decidable.byContradiction fun hnc => by
    obtain ⟨ez, he⟩ := classGuard_endpoint (accepts_classGuard h) hnc
    rw [hanon] at he
    cases he
  cases m <;> cases hcls
  rfl

/-- F-C13a in general: for the nine rows of the class `stateUpdate` a sender in the receiver's own zone that
    sends no `originZone` is accepted for an object of ANY zone, in every forest. -/
theorem own_zone_sender_is_not_checked (f : Forest) (m : Method) (c : Ctx)
    (hm : m.cls = .stateUpdate)
    (hauth : c.authenticated = true) (hown : c.endpointZone = some c.localZone)
    (hno : c.originZone = none) (hobj : c.objExists = true) : accepts f m c = true := by
  have he : c.endpoint = some c.localZone := endpoint_eq_some_iff.mpr ⟨hauth, hown⟩
  -- `FromZone` is the absent `originZone`: there is no zone to be tested
  have hfz : c.fromZone = none := by rw [fromZone_own he, hno]
  simp [accepts_stateUpdate_iff hm, he, hobj, hfz]

/-- Not only refusals: a state/event update from a zone other than the receiver's that may access the object IS
    accepted (so the table is not trivially `false`; `event::SetRemovalInfo` additionally wants the sender above). -/
theorem entitled_foreign_update_is_accepted (f : Forest) (m : Method) (c : Ctx) (s : Zone)
    (hm : m.cls = .stateUpdate) (hnr : m ≠ .setRemovalInfo)
    (ha : c.authenticated = true) (hz : c.endpointZone = some s) (hne : s ≠ c.localZone)
    (hobj : c.objExists = true) (hacc : canAccessObject f c.localZone s c.objZone = true) :
    accepts f m c = true := by
  have he : c.endpoint = some s := endpoint_eq_some_iff.mpr ⟨ha, hz⟩
  simp [accepts_stateUpdate_iff hm, hnr, fromZone_foreign he hne, he, hobj, hacc]

/-- `config::UpdateObject` needs `accept_config` in BOTH of its branches — creating an object that does not exist
    yet and modifying one that does. -/
theorem update_object_needs_accept_config (f : Forest) (c : Ctx)
    (h : applies f .configUpdateObject c = true) :
    c.acceptConfig = true ∧ (if c.objExists then c.versionNewer = true else c.configEmpty = false) := by
  simp only [applies, accepts, effective, Bool.and_eq_true] at h
  refine ⟨h.1.2, ?_⟩
  cases hx : c.objExists <;> simp [hx] at h ⊢ <;> exact h.2

/-- `config::DeleteObject` deletes nothing the API did not create. -/
theorem delete_object_only_api_package (f : Forest) (c : Ctx)
    (h : applies f .configDeleteObject c = true) :
    c.acceptConfig = true ∧ c.objExists = true ∧ c.apiPackage = true := by
  simp only [applies, accepts, effective, Bool.and_eq_true, and_true] at h
  exact ⟨h.1.1.2, h.1.2, h.2⟩

/-- master (0) ← satellite (1) ← agent (2); zone 3 is unrelated, zone 4 is global. -/
def exForest : Forest :=
  { parent := fun z => if z = 1 then some 0 else if z = 2 then some 1 else none,
    isGlobal := fun z => z == 4 }

theorem not_below_master_satellite : ¬ Below exForest 0 1 :=
  fun h => absurd (h.eq_of_root rfl) (by decide)

/-- A satellite (zone 1) receives `event::SetForceNextCheck` for a host of the *master* zone (0) from its
    HA peer (zone 1), no `originZone` in the message. -/
def exPeerNoOrigin : Ctx :=
  { authenticated := true, endpointZone := some 1, originZone := none, localZone := 1, objExists := true,
    objZone := some 0, senderIsCommandEndpoint := false, execEndpointZone := none, forwardZone := none,
    acceptConfig := false, acceptCommands := false }

/-- **F-C13a.**  The full statement fails: accepted, although the object is in the parent zone of the
    sender's zone.  (corpus/C13/f-c13a-own-zone-peer.ops replays this on the real code.) -/
theorem accept_implies_entitled_counterexample :
    ¬ (∀ (f : Forest) (m : Method) (c : Ctx), accepts f m c = true → Entitled f m c) :=
  fun hall => not_entitled_stateUpdate_root_object (s := 1) (z := 0) rfl rfl rfl rfl rfl (by decide)
    (hall exForest .setForceNextCheck exPeerNoOrigin (by decide +kernel))

/-- F-C13a, second form: the own-zone peer names the master zone in `originZone`; the claim is taken at
    face value. -/
theorem accept_implies_entitled_counterexample_claimed_origin :
    accepts exForest .setAcknowledgement { exPeerNoOrigin with originZone := some 0 } = true ∧
    ¬ Entitled exForest .setAcknowledgement { exPeerNoOrigin with originZone := some 0 } :=
  ⟨by decide +kernel, not_entitled_stateUpdate_root_object (s := 1) (z := 0) rfl rfl rfl rfl rfl (by decide)⟩

/-- An anonymous connection (certificate not verified) sends `pki::UpdateCertificate`. -/
def exAnonymous : Ctx :=
  { authenticated := false, endpointZone := none, originZone := none, localZone := 1, objExists := true,
    objZone := none, senderIsCommandEndpoint := false, execEndpointZone := none, forwardZone := none,
    acceptConfig := false, acceptCommands := false }

/-- The agent (local zone 2) receives `event::SetRemovalInfo` from the satellite zone for a comment that belongs to the
    master zone (refused since cc1e22f). -/
def exRemoval : Ctx :=
  { authenticated := true, endpointZone := some 1, originZone := none, localZone := 2, objExists := true,
    objZone := some 0, senderIsCommandEndpoint := false, execEndpointZone := none, forwardZone := none,
    acceptConfig := false, acceptCommands := false }

/-- On the level of the model only: that the *code's* refuse branches do the same is what the harness's before/after
    snapshot checks. -/
theorem refused_is_noop {σ μ : Type} (f : Forest) (m : Method) (c : Ctx) (effect : σ → σ × List μ) (s : σ)
    (h : accepts f m c = false) : handle f m c effect s = (s, []) := by
  simp [handle, h]

/-- `event::Heartbeat` has no effect; the table renders that as a row that is never accepted. -/
theorem heartbeat_is_noop (f : Forest) (c : Ctx) : accepts f .heartbeat c = false := rfl

/-- `refused_is_noop` for `observe`, the model's whole step (the connection-bookkeeping confinement included). -/
theorem refused_observes_nothing (f : Forest) (m : Method) (c : Ctx) (eff : Obs)
    (h : accepts f m c = false) : (observe f m c eff).applied = false :=
  (Bool.not_eq_true _).mp fun hv => by rw [accepts_of_observe_applied hv] at h; cases h

/-- The hypotheses of the per-class theorems are satisfiable on non-trivial contexts: the master (zone 0)
    sends `event::SetAcknowledgement` for a host of the agent zone (2) to the satellite (1) … -/
def exFromMaster : Ctx :=
  { authenticated := true, endpointZone := some 0, originZone := none, localZone := 1, objExists := true,
    objZone := some 2, senderIsCommandEndpoint := false, execEndpointZone := some 2, forwardZone := none,
    acceptConfig := true, acceptCommands := true }

example : accepts exForest .setAcknowledgement exFromMaster = true := by decide +kernel
example : accepts exForest .configUpdateObject exFromMaster = true := by decide +kernel
example : accepts exForest .executeCommand exFromMaster = true := by decide +kernel
example : accepts exForest .executedCommand exFromMaster = true := by decide +kernel
example : accepts exForest .setRemovalInfo exFromMaster = true := by decide +kernel
example : exFromMaster.endpointZone ≠ some exFromMaster.localZone := by decide +kernel
/-- … the same from the agent zone (2) is refused for a satellite-zone host, and zone-internal
    bookkeeping is refused from the master. -/
example : accepts exForest .setAcknowledgement { exFromMaster with endpointZone := some 2, objZone := some 1 } = false := by decide +kernel
example : accepts exForest .setSuppressedNotifications exFromMaster = false := by decide +kernel
example : accepts exForest .setSuppressedNotifications { exFromMaster with endpointZone := some 1 } = true := by decide +kernel
example : accepts exForest .configUpdateObject { exFromMaster with acceptConfig := false } = false := by decide +kernel
example : accepts exForest .executeCommand { exFromMaster with endpointZone := some 2 } = false := by decide +kernel
/-- forwarding: from the master towards the agent zone yes (also without accept_commands), from the agent zone
    towards anything no, towards the master zone no -/
example : accepts exForest .executeCommand { exFromMaster with forwardZone := some 2, acceptCommands := false } = true := by decide +kernel
example : accepts exForest .executeCommand { exFromMaster with endpointZone := some 2, forwardZone := some 2 } = false := by decide +kernel
example : accepts exForest .executeCommand { exFromMaster with forwardZone := some 0 } = false := by decide +kernel
example : specStep exForest .executeCommand { exFromMaster with endpointZone := some 2, forwardZone := some 2 } ⟨false, false, true, false, false⟩ = some .appliedOnlyIfEntitled := by decide +kernel
/-- the two repaired guards refuse their former witnesses; the legitimate senders are still accepted -/
example : accepts exForest .updateCertificate exAnonymous = false := by decide +kernel
example : accepts exForest .updateCertificate exFromMaster = true := by decide +kernel
example : accepts exForest .setRemovalInfo exRemoval = false := by decide +kernel
example : accepts exForest .setRemovalInfo { exRemoval with objZone := some 2 } = true := by decide +kernel
example : exAnonymous.endpoint = none := by decide +kernel
/-- objects of a global zone are everybody's -/
example : accepts exForest .setNextCheck { exFromMaster with endpointZone := some 2, objZone := some 4 } = true := by decide +kernel

/-- The specification predicate is not vacuous: it rejects an applied update from an unentitled zone,
    an applied message on an anonymous connection, and accepts the entitled one. -/
example : specStep exForest .setForceNextCheck exPeerNoOrigin ⟨true, false, false, false, true⟩ = some .appliedOnlyIfEntitled := by decide +kernel
example : specStep exForest .updateCertificate exAnonymous ⟨false, true, false, false, false⟩ = some .anonymousOnlyCertificate := by decide +kernel
example : specStep exForest .setForceNextCheck exPeerNoOrigin ⟨false, false, false, false, false⟩ = none := by decide +kernel
example : specStep exForest .setAcknowledgement exFromMaster ⟨true, false, true, false, true⟩ = none := by decide +kernel
example : specStep exForest .requestCertificate exAnonymous ⟨false, true, false, false, false⟩ = none := by decide +kernel

/-- Sufficient; that it is also necessary is not proved. -/
theorem specStep_none_of (f : Forest) (m : Method) (c : Ctx) (o : Obs)
    (hent : o.applied = true → entitledB f m c = true)
    (hsess : m.cls = .session → o.foreign = false ∧ o.files = false ∧ o.relayed = false ∧ o.executed = false) :
    specStep f m c o = none := by
  refine Option.eq_none_iff_forall_ne_some.mpr fun cl hs => ?_
  rcases specStep_some hs with ⟨_, happ, hno, hnc⟩ | ⟨_, happ, hne⟩ | ⟨_, hcls, hx⟩
  · -- an entitled sender has an endpoint, or the method is the certificate request
    rcases entitledB_iff.mp (hent happ) with hc | ⟨s, he, _⟩
    · exact hnc hc
    · cases he.symm.trans hno
  · rw [hent happ] at hne; cases hne
  · obtain ⟨h1, h2, h3, h4⟩ := hsess hcls
    simp [h1, h2, h3, h4] at hx

theorem touchesOnlySenderEndpoint_iff (m : Method) : touchesOnlySenderEndpoint m = true ↔ m.cls = .session := by
  cases m <;> decide +kernel

/-- If the specification finds anything at all in the model's observation of a message, it is the clause
    `applied_only_if_entitled`, the message got past its guards and lies in the class F-C13a.  (No other clause can
    fail, no other class of message.) -/
theorem model_step_failure_is_fc13a (f : Forest) (m : Method) (c : Ctx) (eff : Obs) (cl : Clause)
    (h : specStep f m c (observe f m c eff) = some cl) :
    cl = .appliedOnlyIfEntitled ∧ inFC13a f m c = true ∧ accepts f m c = true := by
  rcases specStep_some h with ⟨_, happ, hno, hnc⟩ | ⟨hcl, happ, hne⟩ | ⟨_, hs, hx⟩
  · cases anonymous_only_certificate f m c hno (accepts_of_observe_applied happ)
    exact absurd rfl hnc
  · have hacc := accepts_of_observe_applied happ
    rcases accepted_is_entitledB_or_fc13a f m c hacc with h | h
    · rw [h] at hne; cases hne
    · exact ⟨hcl, h, hacc⟩
  · unfold observe at hx
    by_cases ha : applies f m c = true
    · simp [ha, (touchesOnlySenderEndpoint_iff m).mpr hs] at hx
    · simp [ha, Obs.nothing] at hx

theorem model_step_satisfies_spec (f : Forest) (m : Method) (c : Ctx) (eff : Obs)
    (hk : inFC13a f m c = false) : specStep f m c (observe f m c eff) = none :=
  Option.eq_none_iff_forall_ne_some.mpr fun cl h => by
    rw [(model_step_failure_is_fc13a f m c eff cl h).2.1] at hk; cases hk

/-- In the input the third component is what the method's effect WOULD show if it ran (any value); in the output it is
    what the model lets be seen of it (`observe`). -/
def modelTrace (f : Forest) (msgs : List (Method × Ctx × Obs)) : List (Method × Ctx × Obs) :=
  msgs.map (fun s => (s.1, s.2.1, observe f s.1 s.2.1 s.2.2))

/-- The whole-trace theorem without proviso: whatever the specification predicate reports on the model's trace is the
    clause `applied_only_if_entitled` at a message that was accepted and lies in the class F-C13a — exactly what the
    check files under the known finding; every other report of the predicate on the implementation's trace is a
    deviation from the model. -/
theorem model_trace_failure_is_fc13a (f : Forest) (msgs : List (Method × Ctx × Obs)) (i k : Nat) (cl : Clause)
    (h : specTrace f (modelTrace f msgs) i = some (k, cl)) :
    cl = .appliedOnlyIfEntitled ∧ ∃ j s, k = i + j ∧ msgs[j]? = some s ∧
      inFC13a f s.1 s.2.1 = true ∧ accepts f s.1 s.2.1 = true := by
  obtain ⟨j, s, hkj, hj, hs⟩ := specTrace_some h
  simp only [modelTrace, List.getElem?_map, Option.map_eq_some_iff] at hj
  obtain ⟨t, ht, rfl⟩ := hj
  obtain ⟨h1, h2, h3⟩ := model_step_failure_is_fc13a f t.1 t.2.1 t.2.2 cl hs
  exact ⟨h1, j, t, hkj, ht, h2, h3⟩

/-- The whole-trace theorem: the specification predicate that the driver evaluates on the implementation's observations
    finds no violation in the model's observations — provided no message of the sequence lies in the class F-C13a.
    (The full statement, without the proviso, is false of the unchanged code: `model_trace_counterexample`.) -/
theorem model_trace_satisfies_spec_partial (f : Forest) (msgs : List (Method × Ctx × Obs))
    (hk : ∀ s ∈ msgs, inFC13a f s.1 s.2.1 = false) (i : Nat) :
    specTrace f (modelTrace f msgs) i = none := by
  refine Option.eq_none_iff_forall_ne_some.mpr fun r h => ?_
  obtain ⟨_, j, s, _, hj, hin, _⟩ := model_trace_failure_is_fc13a f msgs i r.1 r.2 h
  rw [hk s (List.mem_of_getElem? hj)] at hin
  cases hin

/-- F-C13a on the trace level: an entitled message followed by the own-zone
    peer's update for a master-zone host; the specification fails at index 1. -/
theorem model_trace_counterexample :
    specTrace exForest (modelTrace exForest
      [(.setAcknowledgement, exFromMaster, { objects := true, files := false, relayed := true, executed := false }),
       (.setForceNextCheck, exPeerNoOrigin, { objects := true, files := false, relayed := false, executed := false })]) 0
      = some (1, .appliedOnlyIfEntitled) := by
  decide +kernel

/-- The satellite's own-zone peer names the AGENT zone (2) for a master-zone host: outside F-C13a, and refused. -/
def exPeerClaimsAgent : Ctx := { exPeerNoOrigin with originZone := some 2 }

/-- both disjuncts of `accepted_is_entitledB_or_fc13a` occur, and the class excludes the unentitled claim -/
example : accepts exForest .setAcknowledgement exFromMaster = true ∧ entitledB exForest .setAcknowledgement exFromMaster = true ∧
    inFC13a exForest .setAcknowledgement exFromMaster = false := by decide +kernel
example : accepts exForest .setForceNextCheck exPeerNoOrigin = true ∧ entitledB exForest .setForceNextCheck exPeerNoOrigin = false ∧
    inFC13a exForest .setForceNextCheck exPeerNoOrigin = true := by decide +kernel
example : inFC13a exForest .setAcknowledgement { exPeerNoOrigin with originZone := some 0 } = true := by decide +kernel
example : inFC13a exForest .setForceNextCheck exPeerClaimsAgent = false ∧ accepts exForest .setForceNextCheck exPeerClaimsAgent = false := by decide +kernel
/-- hypotheses of `own_zone_claim_not_entitled_is_refused` on that context -/
example : exPeerClaimsAgent.endpoint = some exPeerClaimsAgent.localZone ∧ exPeerClaimsAgent.originZone = some 2 := by decide +kernel
example : ¬ EntitledZone exForest Method.setForceNextCheck.cls 2 exPeerClaimsAgent :=
  fun h => absurd (ObjWithin.eq_of_root (l := 1) rfl rfl h) (by decide)
/-- a spec failure for the unentitled claim would NOT be excused: the predicate rejects it like any other -/
example : specStep exForest .setForceNextCheck exPeerClaimsAgent { objects := true, files := false, relayed := false, executed := false } = some .appliedOnlyIfEntitled := by decide +kernel

/-- `model_step_satisfies_spec` / `model_trace_satisfies_spec_partial`: hypothesis satisfiable on a trace with accepted,
    refused and connection-bookkeeping messages (and the model really applies the first and the third) -/
def exMsgs : List (Method × Ctx × Obs) :=
  [(.setAcknowledgement, exFromMaster, { objects := true, files := false, relayed := true, executed := false }),
   (.setSuppressedNotifications, exFromMaster, { objects := true, files := false, relayed := false, executed := false }),
   (.hello, exFromMaster, { objects := true, files := true, relayed := true, executed := true }),
   (.configUpdateObject, { exFromMaster with acceptConfig := false, objExists := true }, { objects := true, files := false, relayed := true, executed := false }),
   (.updateCertificate, exAnonymous, { objects := false, files := true, relayed := false, executed := false })]
example : ∀ s ∈ exMsgs, inFC13a exForest s.1 s.2.1 = false := by decide +kernel
example : (modelTrace exForest exMsgs).map (fun s => s.2.2.applied) = [true, false, true, false, false] := by decide +kernel
example : specTrace exForest (modelTrace exForest exMsgs) 0 = none := by decide +kernel
/-- the same messages as an implementation without the guards would show them (every effect applied): all four refused
    or confined ones are reported — bookkeeping from the master, Hello touching other objects, accept_config ignored,
    the anonymous certificate update -/
example : specTrace exForest exMsgs 0 = some (1, .appliedOnlyIfEntitled) := by decide +kernel
example : specTrace exForest (exMsgs.drop 2) 0 = some (0, .sessionOnlyOwnEndpoint) := by decide +kernel
example : specTrace exForest (exMsgs.drop 3) 0 = some (0, .appliedOnlyIfEntitled) := by decide +kernel
example : specTrace exForest (exMsgs.drop 4) 0 = some (0, .anonymousOnlyCertificate) := by decide +kernel

/-- `session_only_own_endpoint`: rejects a Hello that changes another object; accepts one that changes the sender's
    Endpoint object only -/
example : specStep exForest .hello exFromMaster { objects := true, files := false, relayed := false, executed := false, foreign := true } = some .sessionOnlyOwnEndpoint := by decide +kernel
example : specStep exForest .hello exFromMaster { objects := true, files := false, relayed := false, executed := false, foreign := false } = none := by decide +kernel

/-- config::UpdateObject / DeleteObject: every branch (`update_object_needs_accept_config`, `delete_object_only_api_package`) -/
example : applies exForest .configUpdateObject { exFromMaster with objExists := false } = true := by decide +kernel
example : applies exForest .configUpdateObject { exFromMaster with objExists := false, configEmpty := true } = false := by decide +kernel
example : applies exForest .configUpdateObject { exFromMaster with objExists := true } = true := by decide +kernel
example : applies exForest .configUpdateObject { exFromMaster with objExists := true, versionNewer := false } = false := by decide +kernel
example : applies exForest .configUpdateObject { exFromMaster with objExists := true, acceptConfig := false } = false := by decide +kernel
example : applies exForest .configDeleteObject exFromMaster = true := by decide +kernel
example : applies exForest .configDeleteObject { exFromMaster with apiPackage := false } = false := by decide +kernel
/-- the spec rejects a modification of an existing object that went through without accept_config -/
example : specStep exForest .configUpdateObject { exFromMaster with objExists := true, acceptConfig := false }
    { objects := true, files := false, relayed := true, executed := false } = some .appliedOnlyIfEntitled := by decide +kernel

/-- check results: the command endpoint's zone mate is NOT the command endpoint — the agent (zone 2) sends a result for a
    master-zone host whose command endpoint is the agent's HA partner -/
example : specStep exForest .checkResult { exFromMaster with endpointZone := some 2, localZone := 0, objZone := some 0, senderIsCommandEndpoint := false }
    { objects := true, files := false, relayed := true, executed := false } = some .appliedOnlyIfEntitled := by decide +kernel
example : accepts exForest .checkResult { exFromMaster with endpointZone := some 2, localZone := 0, objZone := some 0, senderIsCommandEndpoint := false } = false := by decide +kernel
example : accepts exForest .checkResult { exFromMaster with endpointZone := some 2, localZone := 0, objZone := some 0, senderIsCommandEndpoint := true } = true := by decide +kernel

/-- forwarding error notices: towards the agent zone (2) from the master (local 0): the satellite zone is the child on
    the way; the notice goes to the own zone and the parent zone — the master has no parent, so if the sender is the
    master's own peer nobody else hears of it -/
example : forwardErrorNotice exForest { exFromMaster with localZone := 0, childLacksCapability := true } 2 = true := by decide +kernel
example : forwardErrorNotice exForest { exFromMaster with localZone := 0, hostInaccessibleToChild := true } 2 = true := by decide +kernel
example : forwardErrorNotice exForest { exFromMaster with localZone := 0, hostInaccessibleToChild := true } 1 = false := by decide +kernel
example : applies exForest .executeCommand { exFromMaster with localZone := 0, forwardZone := some 2, childLacksCapability := true } = false := by decide +kernel
example : applies exForest .executeCommand { exFromMaster with forwardZone := some 2, childLacksCapability := true } = true := by decide +kernel

/-- `entitled_foreign_update_is_accepted`: its hypotheses hold for the master's acknowledgement -/
example : exFromMaster.authenticated = true ∧ exFromMaster.endpointZone = some 0 ∧ (0 : Zone) ≠ exFromMaster.localZone ∧
    exFromMaster.objExists = true ∧ canAccessObject exForest exFromMaster.localZone 0 exFromMaster.objZone = true := by decide +kernel

/-- A zone forest within the bound that `Zone::OnAllConfigLoaded` enforces (constant regenerated from zone.cpp on every
    run): every zone has at most `maxLevels` proper ancestors; no cycles. -/
abbrev LoadedSrc (f : Forest) : Prop := Loaded f Icinga.Gen.ZoneLevels.maxLevels

/-- The walk of the model's `IsChildOf` is longer than every chain of parents of a
    configuration the source admits. -/
theorem fuel_covers_source_level_limit : Icinga.Gen.ZoneLevels.maxLevels < maxDepth := by decide

/-- On every loaded forest `Zone::IsChildOf` as modelled (fuel 40) is complete, not merely sound. -/
theorem isChildOf_iff_below_loaded (f : Forest) (hl : LoadedSrc f) (a z : Zone) :
    isChildOf f a z = true ↔ Below f a z :=
  isChildOfFuel_iff_below_of_bound_lt_fuel hl fuel_covers_source_level_limit a z

/-- `config::UpdateObject` gets past its guards IF AND ONLY IF the
    property entitles the sender (authenticated, configured, own zone or above, accept_config): the guard is neither
    laxer nor stricter than the statement. -/
theorem config_update_object_accept_iff_entitled (f : Forest) (hl : LoadedSrc f) (c : Ctx) :
    accepts f .configUpdateObject c = true ↔ Entitled f .configUpdateObject c := by
  constructor
  · exact accept_implies_entitled_config f _ c rfl
  · intro h
    obtain h | ⟨s, he, hb, hc⟩ := entitled_iff.mp h
    · cases h
    · have hg : guardConfigSender f c = true :=
        guardConfigSender_iff.mpr ⟨s, he, (isChildOf_iff_below_loaded f hl _ _).mpr hb⟩
      simp [accepts, hg, hc]

/-- The same for `config::DeleteObject`, which additionally wants an existing object of package `_api`. -/
theorem config_delete_object_accept_iff_entitled (f : Forest) (hl : LoadedSrc f) (c : Ctx) :
    accepts f .configDeleteObject c = true ↔
      (Entitled f .configDeleteObject c ∧ c.objExists = true ∧ c.apiPackage = true) := by
  -- the row is that of `config::UpdateObject` with two more tests, and `Entitled` sees a method only through its class
  have h : accepts f .configDeleteObject c = (accepts f .configUpdateObject c && c.objExists && c.apiPackage) := rfl
  rw [h, Bool.and_eq_true, Bool.and_eq_true, and_assoc, config_update_object_accept_iff_entitled f hl c]
  exact Iff.rfl

/-- A state/event update from a sender of ANOTHER zone is applied if and only
    if the property entitles the sender (the object lies in the sender's zone or below it, or in a global zone) and the
    object exists.  (`event::SetRemovalInfo` is stricter: `removal_info_only_from_own_zone_or_above`.) -/
theorem foreign_update_accept_iff_entitled (f : Forest) (hl : LoadedSrc f) (m : Method) (c : Ctx) (s : Zone)
    (hm : m.cls = .stateUpdate) (hnr : m ≠ .setRemovalInfo)
    (hz : c.endpointZone = some s) (hne : s ≠ c.localZone) :
    accepts f m c = true ↔ (Entitled f m c ∧ c.objExists = true) := by
  constructor
  · intro h
    exact ⟨accept_implies_entitled_update_from_other_zone f m c (Or.inl hm) (endpointZone_ne_local hz hne) h,
      ((accepts_stateUpdate_iff hm).mp h).2.1⟩
  · rintro ⟨h, ho⟩
    obtain ⟨ha, he⟩ := (entitled_iff_of_zone hz hm nofun).mp h
    exact entitled_foreign_update_is_accepted f m c s hm hnr ha hz hne ho
      ((canAccessObject_iff_of_complete (isChildOf_iff_below_loaded f hl)).mpr he)

/-- On every loaded forest: configuration (files, runtime objects, deletions),
    command execution/forwarding, the node's certificate and removal information are NEVER applied for a sender whose
    zone lies strictly below the receiver's — whatever the message says (`originZone` included), whatever the
    accept_* settings. -/
theorem sender_strictly_below_is_refused (f : Forest) (hl : LoadedSrc f) (m : Method) (c : Ctx) (s : Zone)
    (hm : m.cls = .config ∨ m.cls = .command ∨ m.cls = .certUpdate ∨ m = .setRemovalInfo)
    (hz : c.endpointZone = some s) (hbelow : Below f s c.localZone) (hne : s ≠ c.localZone) :
    accepts f m c = false := by
  refine Bool.eq_false_iff.mpr fun hacc => ?_
  -- an accepted sender of these is above the receiver; above and below exclude each other
  obtain ⟨_, s', hz', hb⟩ := (accepts_senderAbove hm hacc).sound
  rw [hz] at hz'; cases hz'
  exact hne (Below.antisymm_of_loaded hl hbelow hb)

theorem belowB_complete {f : Forest} {d : Zone → Nat} (hd : ∀ a p, f.parent a = some p → d p < d a)
    {a z : Zone} (h : Below f a z) : ∀ n, d a - d z < n → belowB f n a z = true :=
  belowB_of_below hd h

theorem specDepth_covers_source_level_limit : Icinga.Gen.ZoneLevels.maxLevels < specDepth := by decide

theorem belowB_iff_below_loaded (f : Forest) (hl : LoadedSrc f) (a z : Zone) :
    belowB f specDepth a z = true ↔ Below f a z :=
  belowB_iff_below_of_bound_lt_fuel hl specDepth_covers_source_level_limit a z

/-- On every loaded forest the predicate the driver evaluates on the
    implementation's observations (`entitledB`, walk length 64) is EQUIVALENT to the proposition `Entitled` the theorems
    are about: a `SPECFAIL applied_only_if_entitled` is never an artefact of the executable walk, and no unentitled
    message slips through it. -/
theorem entitledB_iff_entitled_loaded (f : Forest) (hl : LoadedSrc f) (m : Method) (c : Ctx) :
    entitledB f m c = true ↔ Entitled f m c := by
  -- the two have one shape (`entitledB_iff`, `entitled_iff`), and what they ask of the sender's zone is equivalent
  rw [entitledB_iff, entitled_iff]
  simp only [entitledZoneB_iff_of_complete (belowB_iff_below_loaded f hl)]

/-- The context in which the receiver sees a message that its own-zone peer received under `c1` and relayed:
    `ApiListener::SyncRelayMessage` (apilistener.cpp:1337-1338) writes the name of `origin->FromZone` into `originZone`
    when there is one; the connection is the peer's (authenticated, own zone).  The peer is TAKEN not to be the object's
    command endpoint: a check result relayed by a peer that is (checkable.cpp:70 allows a command endpoint in the
    checkable's own zone) is outside this definition. -/
def relayedByPeer (c1 : Ctx) : Ctx :=
  { c1 with authenticated := true, endpointZone := some c1.localZone, originZone := c1.fromZone,
            senderIsCommandEndpoint := false }

/-- What honest relaying keeps, hop after hop. -/
theorem relayedByPeer_fromZone (c1 : Ctx) : (relayedByPeer c1).fromZone = c1.fromZone :=
  fromZone_own rfl

/-- What F-C13a leaves intact.  If the own-zone peer relays honestly — i.e. puts
    the zone of the endpoint IT received the message from into `originZone` — then an update-class message the receiver
    accepts from the peer is one the FIRST-HOP sender (of another zone) is entitled to: the `originZone` detour loses
    nothing as long as the peer does not lie and is not itself the command endpoint (`relayedByPeer`). -/
theorem relayed_update_entitles_first_hop (f : Forest) (m : Method) (c1 : Ctx) (s : Zone)
    (hm : m.cls = .stateUpdate ∨ m.cls = .checkResult ∨ m.cls = .execResult)
    (he : c1.endpoint = some s) (hne : s ≠ c1.localZone)
    (h : accepts f m (relayedByPeer c1) = true) : Entitled f m c1 := by
  have hfz2 : (relayedByPeer c1).fromZone = some s := (relayedByPeer_fromZone c1).trans (fromZone_foreign he hne)
  have hz := entitledZoneB_sound (accepts_fromZone hm h hfz2)
  refine entitled_iff.mpr (Or.inr ⟨s, he, ?_⟩)
  -- the relayed context differs from the first hop's only in the sender; the peer is not the command endpoint
  rcases hm with hm | hm | hm <;> rw [hm] at hz ⊢
  · exact hz
  · exact Or.inl (hz.resolve_right (by simp [relayedByPeer]))
  · exact hz

example : accepts exForest .setAcknowledgement (relayedByPeer exFromMaster) = true := by decide +kernel
example : (relayedByPeer exFromMaster).originZone = some 0 ∧ exFromMaster.endpoint = some 0 := by decide +kernel

theorem depthOf_lt (f : Forest) : ∀ (n : Nat) (a : Zone) (d : Nat), depthOf f n a = some d → d < n :=
  fun _ _ _ h => (depthOf_some h).1

theorem depthOf_succ (f : Forest) : ∀ (n : Nat) (a : Zone) (d : Nat), depthOf f n a = some d → depthOf f (n + 1) a = some d :=
  fun _ _ _ h => (depthOf_some h).2

/-- What the driver's test `loadedB` establishes: the counts it found are a rank as `Loaded` asks for. -/
theorem loadedB_sound (f : Forest) (n bound : Nat) (hout : ∀ a, n ≤ a → f.parent a = none)
    (h : loadedB f n bound = true) : Loaded f bound := by
  -- the rank: the proper ancestors `loadedB` counted; 0 for the zones it did not look at, which have no parent
  refine ⟨fun a => (depthOf f (bound + 1) a).getD 0, fun a p hp => ?_, fun a => ?_⟩
  · -- `a` has a parent, so it is one of the zones `loadedB` looked at; its parent's chain is one shorter
    have han : a < n := Nat.lt_of_not_le fun hc => by rw [hout a hc] at hp; cases hp
    obtain ⟨k, hk⟩ := Option.isSome_iff_exists.mp (List.all_eq_true.mp h a (List.mem_range.mpr han))
    have hk' := hk
    unfold depthOf at hk'
    simp only [hp, Option.map_eq_some_iff] at hk'
    obtain ⟨k', hk2, rfl⟩ := hk'
    have hpar : depthOf f (bound + 1) p = some k' := depthOf_succ f bound p k' hk2
    simp [hk, hpar]
  · show (depthOf f (bound + 1) a).getD 0 ≤ bound
    cases hd : depthOf f (bound + 1) a with
    | none => exact Nat.zero_le _
    | some d => exact Nat.le_of_lt_succ (depthOf_lt f _ a d hd)

/-- Every forest the driver lets pass (`loadedB … harnessLevelBound`, zones outside the
    table have no parent) is a forest the SOURCE admits: the completeness theorems apply to every case of every run. -/
theorem driver_forests_are_loaded (f : Forest) (n : Nat) (hout : ∀ a, n ≤ a → f.parent a = none)
    (h : loadedB f n harnessLevelBound = true) : LoadedSrc f :=
  (loadedB_sound f n harnessLevelBound hout h).mono (by decide)

example : loadedB exForest 5 harnessLevelBound = true := by decide +kernel
/-- a cycle 0 → 1 → 0 is not loadable -/
example : loadedB { parent := fun z => if z = 0 then some 1 else if z = 1 then some 0 else none, isGlobal := fun _ => false } 2 harnessLevelBound = false := by decide +kernel

/-- The `originZone` field — an unauthenticated claim inside the message
    body — has NO influence on whether a message is applied unless the connection is an authenticated endpoint of the
    receiver's own zone: for anonymous, unconfigured and foreign-zone senders, every method, every forest. -/
theorem origin_claim_matters_only_for_own_zone_peer (f : Forest) (m : Method) (c : Ctx) (o : Option Zone)
    (h : c.endpoint ≠ some c.localZone) :
    applies f m { c with originZone := o } = applies f m c := by
  -- the guards read `originZone` through `FromZone` only, and that is the same
  unfold applies accepts effective guardAccess guardLocal guardParent guardExecEndpoint
  rw [fromZone_ignores_originZone h o]
  rfl

/-- The origin the model's `MessageHandler` builds (`Ctx.endpoint`, `Ctx.fromZone`) satisfies the origin clauses of the
    specification — an endpoint only for an authenticated, configured identity; no zone without endpoint; a foreign
    sender's zone is its endpoint's zone, never the claimed one. -/
theorem model_origin_satisfies_spec (c : Ctx) :
    specOrigin c { hasEndpoint := c.endpoint.isSome, fromZone := c.fromZone } = none := by
  -- the specification spells `Ctx.endpoint` out; its clauses are the facts about `FromZone`, case by case
  unfold specOrigin
  rw [endpoint_isSome_eq]
  change (if _ then _ else match c.endpoint with | none => _ | some ez => _) = none
  cases he : c.endpoint with
  | none => simp [fromZone_anonymous he]
  | some ez =>
    by_cases hne : ez = c.localZone
    · simp [hne]
    · simp [fromZone_foreign he hne]

/-- the origin clauses are not vacuous: an unverified certificate with an endpoint's name treated as that endpoint; a
    child-zone sender judged by the zone it claims -/
example : specOrigin { exFromMaster with authenticated := false } { hasEndpoint := true, fromZone := none } = some .endpointOnlyIfAuthenticated := by decide +kernel
example : specOrigin { exFromMaster with endpointZone := some 2, originZone := some 0 } { hasEndpoint := true, fromZone := some 0 } = some .judgedBySendersZone := by decide +kernel
example : specOrigin exAnonymous { hasEndpoint := false, fromZone := some 1 } = some .judgedBySendersZone := by decide +kernel
example : specOrigin exPeerClaimsAgent { hasEndpoint := true, fromZone := some 2 } = none := by decide +kernel

theorem exForest_loaded : LoadedSrc exForest :=
  driver_forests_are_loaded exForest 5
    (fun a ha => by
      have h1 : a ≠ 1 := by omega
      have h2 : a ≠ 2 := by omega
      simp [exForest, h1, h2])
    (by decide +kernel)

/-- hypotheses of the completeness theorems on the example forest: the agent zone (2) lies strictly below the satellite
    (1); a config/command/certificate message from there is refused, from the master (0) it is accepted -/
example : Below exForest 2 1 ∧ (2 : Zone) ≠ exFromMaster.localZone := ⟨Below.step (by decide) (Below.refl _), by decide⟩
example : accepts exForest .configUpdateObject { exFromMaster with endpointZone := some 2 } = false := by decide +kernel
example : accepts exForest .configUpdateObject exFromMaster = true := by decide +kernel
example : Method.cls .setAcknowledgement = .stateUpdate ∧ exFromMaster.endpointZone = some 0 ∧ (0 : Zone) ≠ exFromMaster.localZone := by decide +kernel
/-- `model_trace_failure_is_fc13a`: its hypothesis is satisfiable (`model_trace_counterexample` is such a report), and the
    conclusion names the message at index 1 -/
example : inFC13a exForest .setForceNextCheck exPeerNoOrigin = true ∧ accepts exForest .setForceNextCheck exPeerNoOrigin = true := by decide +kernel
/-- the executable predicate and the proposition agree on the refused side too -/
example : entitledB exForest .configUpdateObject { exFromMaster with endpointZone := some 2 } = false := by decide +kernel

end Icinga.C13
