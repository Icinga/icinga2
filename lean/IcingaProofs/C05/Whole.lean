/-
  Every well-formed operation keeps the invariant `TInv` and meets every clause of the specification but the two
  that are false of the code; one induction over the run gives the whole-trace theorem and the invariant at its end.
-/
import IcingaProofs.C05.Flex

namespace Icinga.C05

/-- The clauses of the specification that are proved of every trace of the model: all of them except
    `fixed_started_when_triggered` and `fixed_end_has_start` — a DowntimeStart request for every *fixed*
    downtime that took effect —, which are false of the code (F-C05c).  Their flexible counterparts
    `started_when_triggered` and `end_has_start` are proved. -/
def coreMask : Clause → Bool
  | .fixedStartedWhenTriggered | .fixedEndHasStart => false
  | _ => true

theorem tinv_init (k : Kind) : TInv 990 (specInit k) (initSt k) where
  rel := ⟨rfl, rfl, fun h => by simp [specInit] at h, fun _ => rfl, rfl, rfl, Pw.nil⟩
  linv := linv_init k
  nodup := by simp [initSt, idsOf]
  newer := by simp [initSt, Newer]
  link := fun d hd => by simp [initSt] at hd
  chained := fun d hd => by simp [initSt] at hd
  qinv := fun d hd => by simp [initSt] at hd
  started := Pw.nil

theorem tinv_step {T : Int} {sp : SpecSt} {st : St} {op : Op} (c : Ctx T sp st op) :
    TInv op.now (specNext sp op (stepObs st op).2) (step st op).1 where
  rel := relS_step sp st op c.rel c.nodup
  linv := linv_step c.linv op c.time c.ok
  nodup := nodup_step st op c.nodup
  newer := (casc_step st op c.wfl c.now_pos c.ok).wfl.newer
  link := link_step st op c.link
  chained := triggersChained_step st op c.newer c.chained
  qinv := qinv_step st op c.qinv
  started := startedInv_step c

theorem specStep_core {T : Int} {sp : SpecSt} {st : St} {op : Op} (c : Ctx T sp st op) :
    specStepM coreMask sp op (stepObs st op).2 = none := by
  have hrel := c.rel
  have hnd := c.nodup
  simp only [specStepM, specChecks, firstFailM, coreMask, existence_model sp st op hrel hnd,
    chkDropped_model sp st op hrel hnd, chkInDt_model sp st op hrel hnd, chkDepth_model sp st op hrel hnd,
    chkWriteOnce_model c, chkWindow_model c, chkWindowGone_model c, chkFlexible_model c,
    chkCascade_model c, chkStartOnce_model c, chkStarted_model c, chkFixedStarted_model c,
    chkEndOnce_model c, chkEndHasStart_model c, chkRemovedEvent_model c, chkExpired_model c,
    chkOwner_model sp st op hrel, chkTrigStart_model c, chkStartEffect_model c]
  simp

theorem trace_core {ops : List Op} {sp : SpecSt} {st : St} {T : Int} (h : TInv T sp st) (hw : WF T ops) :
    specTraceM coreMask sp (trace st ops) = none ∧ ∃ sp', TInv (endTime T ops) sp' (run st ops) := by
  induction ops generalizing sp st T with
  | nil => exact ⟨rfl, sp, h⟩
  | cons op ops ih =>
    have c : Ctx T sp st op := ⟨h, hw.1, hw.2.1⟩
    simp only [trace, specTraceM]
    rw [specStep_core c]
    exact ih (tinv_step c) hw.2.2

theorem tinv_run_at {ops : List Op} {sp : SpecSt} {st : St} {T : Int} (h : TInv T sp st) (hw : WF T ops) :
    ∃ sp', TInv (endTime T ops) sp' (run st ops) :=
  (trace_core h hw).2

theorem tinv_run_last {ops : List Op} {sp : SpecSt} {st : St} {T : Int} (h : TInv T sp st) {op : Op}
    (hw : WF T (ops ++ [op])) : ∃ T' sp', Ctx T' sp' (run st ops) op :=
  let ⟨hw', hT, hop⟩ := wf_snoc hw
  let ⟨sp', h'⟩ := tinv_run_at h hw'
  ⟨_, sp', h', hT, hop⟩

end Icinga.C05
