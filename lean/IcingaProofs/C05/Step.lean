/-
  Every operation relates the downtimes it works on (`preModel`: the existing ones, plus the one an accepted `add`
  creates) to the resulting ones position by position, by any relation that contains the primitive updates
  (`pw_step`).
-/
import IcingaProofs.C05.AddShape

namespace Icinga.C05

section
variable {now : Int} {tOK : Int → Prop} {C : Dt → Prop} {R : Dt → Dt → Prop}

/-- What the operation must supply for `tOK`/`C`: the context of the new downtime, and the trigger times it hands to
    `TriggerDowntime` — the execution end of a result, and for `add` the time `Downtime::Start` uses for a flexible
    downtime on a problem, `max(max(start_time, entry_time), last_state_change)`. -/
def OpT (st : St) (tOK : Int → Prop) (C : Dt → Prop) : Op → Prop
  | .add p now => C (newDt st p now) ∧
      (canBeTriggered now (newDt st p now) = true → tOK (max (max p.start now) st.lastStateChange))
  | .result _ te _ => tOK te
  | _ => True

theorem pw_add_tail (sr : AddRel now tOK C R) (st : St) (p : AddP)
    (h : st.dts.any (fun d => d.id == p.id) = false) (ha : AllC C st.dts)
    (hop : OpT st tOK C (.add p now)) :
    Pw R (st.dts ++ [newDt st p now]) (addOp st p now).1.dts := by
  rw [addOp_shape st p now h]
  refine pw_append (pw_map _ _ fun d hd => ?_) ?_
  · unfold noteChild
    split
    · rename_i hl
      simp only [Bool.and_eq_true] at hl
      exact sr.addTrig _ d (ha d hd) (live_not_removed hl.2)
    · exact sr.refl d
  · -- `Start` on a flexible, then on a fixed downtime, then `Resume`
    have k1 := kept_flexStart st now (newDt st p now)
    have r1 : R (newDt st p now) (flexStart st now (newDt st p now)) := by
      unfold flexStart trigSelfG
      split
      · split
        · rename_i hc; exact sr.trig _ _ (hop.2 hc) hop.1 hc rfl
        · exact sr.refl _
      · exact sr.refl _
    have c1 := sr.ctx _ _ r1 hop.1
    have r2 : R (flexStart st now (newDt st p now)) (startSelfG now (flexStart st now (newDt st p now))) := by
      unfold startSelfG
      split
      · rename_i hg
        simp only [Bool.and_eq_true] at hg
        exact sr.start _ c1 hg.1 hg.2 k1.removed
      · exact sr.refl _
    exact sr.trans _ _ _ (sr.trans _ _ _ r1 r2)
      (sr.setup _ (sr.ctx _ _ r2 c1) ((kept_startSelfG now _).removed.trans k1.removed))

/-- Asked of `setPaused` only, so that a relation that holds across the other operations only can still be lifted. -/
def PauseOK (op : Op) (C : Dt → Prop) (R : Dt → Dt → Prop) : Prop :=
  ∀ b now, op = .setPaused b now → ∀ d, C d → R d (setQuiet b d)

def preModel (st : St) : Op → List Dt
  | .add p now => if st.dts.any (fun d => d.id == p.id) then st.dts else st.dts ++ [newDt st p now]
  | _ => st.dts

theorem mem_preModel {st : St} {op : Op} {d : Dt} :
    d ∈ preModel st op ↔ d ∈ st.dts ∨
      ∃ p now, op = .add p now ∧ st.dts.any (fun d => d.id == p.id) = false ∧ d = newDt st p now := by
  cases op with
  | add p now =>
    simp only [preModel]
    split
    · rename_i h
      exact ⟨Or.inl, fun h' => h'.elim id (fun ⟨q, _, hq, hf, _⟩ => by cases hq; rw [h] at hf; cases hf)⟩
    · rename_i h
      rw [List.mem_append, List.mem_singleton]
      exact ⟨fun h' => h'.imp id (fun e => ⟨p, now, rfl, Bool.of_not_eq_true h, e⟩),
        fun h' => h'.imp id (fun ⟨q, _, hq, _, e⟩ => by cases hq; exact e)⟩
  | _ => exact ⟨Or.inl, fun h' => h'.elim id (fun ⟨_, _, hq, _⟩ => nomatch hq)⟩

theorem stepObs_fst (st : St) (op : Op) : (stepObs st op).1 = (step st op).1 := rfl

theorem stepObs_rc (st : St) (op : Op) : (stepObs st op).2.rc = (step st op).2 := rfl

theorem step_add_dup {st : St} {p : AddP} {now : Int} (h : st.dts.any (fun d => d.id == p.id) = true) :
    step st (.add p now) = (st, 0) := by
  simp only [step, addOp, h, if_true]

theorem rc_add {st : St} {p : AddP} {now : Int} (h : st.dts.any (fun d => d.id == p.id) = false) :
    (stepObs st (.add p now)).2.rc = 1 := by
  simp only [stepObs_rc, step, addOp, h, Bool.false_eq_true, if_false]

theorem step_result_stale {st : St} {s : Nat} {te now : Int} (h : stale st te now = true) :
    step st (.result s te now) = (st, 0) := by
  simp only [step, resultOp, h, if_true]

theorem step_result_fresh {st : St} {s : Nat} {te now : Int} (h : stale st te now = false) :
    step st (.result s te now) =
      ({ st with state := s, lastExec := some te,
                 lastStateChange := if stateChange st.kind st.state s then te else st.lastStateChange,
                 dts := if !isOK st.kind s then triggerAll now te st.dts else st.dts }, 1) := by
  simp only [step, resultOp, h, Bool.false_eq_true, if_false]

theorem rc_result {st : St} {s : Nat} {te now : Int} (h : stale st te now = false) :
    (stepObs st (.result s te now)).2.rc = 1 := by
  rw [stepObs_rc, step_result_fresh h]

theorem step_remove_none {st : St} {id : Nat} {u : Bool} {now : Int} (h : findDt st.dts id = none) :
    step st (.remove id u now) = (st, 0) := by
  simp only [step, removeOp, h]

theorem step_remove_refused {st : St} {id : Nat} {u : Bool} {now : Int} {d : Dt} (h : findDt st.dts id = some d)
    (ho : (d.owner && u) = true) : step st (.remove id u now) = (st, 2) := by
  simp only [step, removeOp, h, ho, if_true]

theorem step_remove_ok {st : St} {id : Nat} {u : Bool} {now : Int} {d : Dt} (h : findDt st.dts id = some d)
    (ho : (d.owner && u) = false) :
    step st (.remove id u now) = ({ st with dts := updateDt st.dts id (removeDt now) }, 1) := by
  simp only [step, removeOp, h, ho, Bool.false_eq_true, if_false]

theorem pw_step (st : St) (op : Op) (sr : StepRel op.now tOK C R) (ha : AllC C st.dts)
    (hop : OpT st tOK C op) (hq : PauseOK op C R) : Pw R (preModel st op) (step st op).1.dts := by
  cases op with
  | add p now =>
    by_cases hany : st.dts.any (fun d => d.id == p.id) = true
    · simp only [step_add_dup hany, preModel, hany, if_true]
      exact pw_refl sr.refl _
    · simp only [preModel, step]
      rw [if_neg hany]
      exact pw_add_tail sr.toAddRel st p (Bool.of_not_eq_true hany) ha hop
  | result s te now => exact pw_result sr.toAddRel.toTrigRel st s te hop ha
  | pump now f => exact pw_pump sr st f ha
  | remove id u now => exact pw_remove sr.refl sr.remove st id u ha
  | setPaused b now => exact pw_map _ _ (fun d hd => hq b now rfl d (ha d hd))

theorem step_succ {st : St} {op : Op} (h : Pw R (preModel st op) (step st op).1.dts) :
    ∀ d ∈ st.dts, ∃ d' ∈ (step st op).1.dts, R d d' :=
  fun _ hd => mem_of_pw_left h (mem_preModel.mpr (Or.inl hd))

theorem step_pred {st : St} {op : Op} (h : Pw R (preModel st op) (step st op).1.dts) :
    ∀ d' ∈ (step st op).1.dts, (∃ d ∈ st.dts, R d d') ∨
      (∃ p now, op = .add p now ∧ st.dts.any (fun d => d.id == p.id) = false ∧ R (newDt st p now) d') := by
  intro d' hd'
  obtain ⟨d, hd, r⟩ := mem_of_pw_right h hd'
  rcases mem_preModel.mp hd with h | ⟨p, now, hp, hany, rfl⟩
  · exact Or.inl ⟨d, h, r⟩
  · exact Or.inr ⟨p, now, hp, hany, r⟩

end

theorem opT_trivial (st : St) (op : Op) : OpT st (fun _ => True) (fun _ => True) op := by
  cases op <;> simp [OpT]

theorem step_dts_only (st : St) (op : Op) (h1 : ∀ s te now, op ≠ .result s te now)
    (h2 : ∀ b now, op ≠ .setPaused b now) : (step st op).1 = { st with dts := (step st op).1.dts } := by
  cases op with
  | add p now => simp only [step, addOp]; split <;> rfl
  | pump now f => simp only [step, pumpOp]; split <;> rfl
  | remove id u now => simp only [step, removeOp]; split <;> (try split) <;> rfl
  | result s te now => exact absurd rfl (h1 s te now)
  | setPaused b now => exact absurd rfl (h2 b now)

theorem step_lsc (st : St) (op : Op) :
    (step st op).1.lastStateChange = st.lastStateChange ∨
      ∃ s te now, op = .result s te now ∧ (step st op).1.lastStateChange = te := by
  cases op with
  | result s te now =>
    cases hs : stale st te now
    · rw [step_result_fresh hs]
      dsimp only
      split
      · exact Or.inr ⟨s, te, now, rfl, rfl⟩
      · exact Or.inl rfl
    · rw [step_result_stale hs]
      exact Or.inl rfl
  | setPaused b now => exact Or.inl rfl
  | _ => rw [step_dts_only st _ (fun _ _ _ h => by cases h) (fun _ _ h => by cases h)]; exact Or.inl rfl

theorem run_snoc (st : St) (ops : List Op) (op : Op) : run st (ops ++ [op]) = (step (run st ops) op).1 := by
  simp [run, List.foldl_append]

theorem run_inv {P : St → Prop} (hstep : ∀ st op, P st → P (step st op).1) (ops : List Op) :
    ∀ st, P st → P (run st ops) := by
  induction ops with
  | nil => exact fun _ h => h
  | cons op ops ih => exact fun st h => ih _ (hstep st op h)

end Icinga.C05
