/-
  A relation between the old and the new version of one downtime that is a preorder and contains every primitive
  update (`StepRel`) lifts through every list transformer of the model (`updateDt`, `map`, the recursion of
  `triggerDt`, the folds of `triggerAll`/`startTimer`): none of them reorders, drops or inserts, so the old and
  the new list are related position by position (`Pw`).
-/
import IcingaModel.C05.Model

namespace Icinga.C05

def AllC (C : Dt → Prop) (l : List Dt) : Prop := ∀ d ∈ l, C d

/-- `tOK` restricts the trigger times the relation has to cope with; `C` is a context predicate known of every
    downtime of the list and carried along by `R`. -/
structure TrigRel (now : Int) (tOK : Int → Prop) (C : Dt → Prop) (R : Dt → Dt → Prop) : Prop where
  refl : ∀ d, R d d
  trans : ∀ a b c, R a b → R b c → R a c
  ctx : ∀ d d', R d d' → C d → C d'
  trig : ∀ t d, tOK t → C d → canBeTriggered now d = true → d.removed = false → R d (trigSelf t d)

structure AddRel (now : Int) (tOK : Int → Prop) (C : Dt → Prop) (R : Dt → Dt → Prop) : Prop
    extends TrigRel now tOK C R where
  startT : ∀ d, C d → d.fixed = true → canBeTriggered now d = true → d.removed = false → tOK (max d.start d.entry)
  start : ∀ d, C d → d.fixed = true → canBeTriggered now d = true → d.removed = false → R d (startSelf d)
  setup : ∀ d, C d → d.removed = false → R d (setupCleanup d)
  addTrig : ∀ c d, C d → d.removed = false → R d (addTrigger c d)

structure StepRel (now : Int) (tOK : Int → Prop) (C : Dt → Prop) (R : Dt → Dt → Prop) : Prop
    extends AddRel now tOK C R where
  remove : ∀ d, C d → d.removed = false → R d (removeDt now d)
  disarm : ∀ d, C d → d.removed = false → cleanupDue now d = true → isExpired now d = false →
    R d { d with cleanup := none }

/-! `trigSelf` and `startSelf` are compositions of record updates; stated flat, every field of the result can be
read off by `rfl` after rewriting (unfolding the nested updates at each use is slow to check). -/

theorem trigSelf_eq (t : Int) (d : Dt) : trigSelf t d =
    { d with trigger := if d.trigger = 0 then max t d.start else d.trigger,
             cleanup := (markTriggered t d).cleanup,
             trigEv := d.trigEv + 1,
             starts := if d.fixed || d.quiet then d.starts else d.starts + 1 } := by
  unfold trigSelf noteTriggered markTriggered
  simp only [beq_iff_eq]

/-- The two notifications of a start (`OnDowntimeStarted` for fixed, `OnDowntimeTriggered` for flexible
    downtimes) make one DowntimeStart request between them. -/
theorem startSelf_eq (d : Dt) : startSelf d =
    { d with trigger := if d.trigger = 0 then max d.start d.entry else d.trigger,
             cleanup := (markTriggered (max d.start d.entry) d).cleanup,
             trigEv := d.trigEv + 1,
             starts := if d.quiet then d.starts else d.starts + 1 } := by
  have hm : max (max d.start d.entry) d.start = max d.start d.entry := Int.max_eq_left (Int.le_max_left _ _)
  rw [startSelf, trigSelf_eq]
  unfold noteStarted markTriggered
  cases d.fixed <;> cases d.quiet <;> simp only [hm] <;> rfl

theorem addTrigger_eq (c : Nat) (d : Dt) :
    addTrigger c d = { d with triggers := if d.triggers.contains c then d.triggers else d.triggers ++ [c] } := by
  unfold addTrigger
  split <;> rfl

theorem setQuiet_eq (b : Bool) (d : Dt) : setQuiet b d = { d with quiet := if d.removed then d.quiet else b } := by
  unfold setQuiet
  split <;> rfl

theorem setQuiet_id (b : Bool) (d : Dt) : (setQuiet b d).id = d.id := by rw [setQuiet_eq]

theorem setQuiet_removed (b : Bool) (d : Dt) : (setQuiet b d).removed = d.removed := by rw [setQuiet_eq]

theorem rel_setQuiet {R : Dt → Dt → Prop} (hrefl : ∀ d, R d d) (b : Bool) (d : Dt)
    (h : d.removed = false → R d { d with quiet := b }) : R d (setQuiet b d) := by
  unfold setQuiet
  split
  · exact hrefl d
  · rename_i hr
    exact h (by simpa using hr)

inductive Pw {α β : Type} (R : α → β → Prop) : List α → List β → Prop
  | nil : Pw R [] []
  | cons {a : α} {b : β} {l : List α} {l' : List β} : R a b → Pw R l l' → Pw R (a :: l) (b :: l')

theorem mem_of_pw_left {α β : Type} {R : α → β → Prop} {l : List α} {l' : List β} (h : Pw R l l') {a : α}
    (ha : a ∈ l) : ∃ b ∈ l', R a b := by
  induction h with
  | nil => cases ha
  | cons hr _ ih =>
    rcases List.mem_cons.mp ha with rfl | ha'
    · exact ⟨_, List.mem_cons_self, hr⟩
    · obtain ⟨b, hb, r⟩ := ih ha'
      exact ⟨b, List.mem_cons_of_mem _ hb, r⟩

theorem mem_of_pw_right {α β : Type} {R : α → β → Prop} {l : List α} {l' : List β} (h : Pw R l l') {b : β}
    (hb : b ∈ l') : ∃ a ∈ l, R a b := by
  induction h with
  | nil => cases hb
  | cons hr _ ih =>
    rcases List.mem_cons.mp hb with rfl | hb'
    · exact ⟨_, List.mem_cons_self, hr⟩
    · obtain ⟨a, ha, r⟩ := ih hb'
      exact ⟨a, List.mem_cons_of_mem _ ha, r⟩

/-- The membership form of `Pw`.  It occurs in the statement of `wfl_cascade` only; the proofs work with `Pw`. -/
def Both (R : Dt → Dt → Prop) (l l' : List Dt) : Prop :=
  (∀ d ∈ l, ∃ d' ∈ l', R d d') ∧ (∀ d' ∈ l', ∃ d ∈ l, R d d')

theorem both_of_pw {R : Dt → Dt → Prop} {l l' : List Dt} (h : Pw R l l') : Both R l l' :=
  ⟨fun _ hd => mem_of_pw_left h hd, fun _ hd => mem_of_pw_right h hd⟩

theorem pw_refl {R : Dt → Dt → Prop} (h : ∀ d, R d d) (l : List Dt) : Pw R l l := by
  induction l with
  | nil => exact Pw.nil
  | cons a l ih => exact Pw.cons (h a) ih

theorem pw_trans {R : Dt → Dt → Prop} (ht : ∀ a b c, R a b → R b c → R a c) {l1 l2 l3 : List Dt}
    (h12 : Pw R l1 l2) (h23 : Pw R l2 l3) : Pw R l1 l3 := by
  induction h12 generalizing l3 with
  | nil => exact h23
  | cons hr _ ih =>
    cases h23 with
    | cons hs h23' => exact Pw.cons (ht _ _ _ hr hs) (ih h23')

theorem pw_append {α β : Type} {R : α → β → Prop} {l1 : List α} {l1' : List β} (h : Pw R l1 l1')
    {a : α} {b : β} (hab : R a b) : Pw R (l1 ++ [a]) (l1' ++ [b]) := by
  induction h with
  | nil => exact Pw.cons hab Pw.nil
  | cons hr _ ih => exact Pw.cons hr ih

theorem pw_mono_mem {α β : Type} {R S : α → β → Prop} {l : List α} {l' : List β} (hp : Pw R l l')
    (h : ∀ a ∈ l, ∀ b ∈ l', R a b → S a b) : Pw S l l' := by
  induction hp with
  | nil => exact Pw.nil
  | cons hr _ ih =>
    exact Pw.cons (h _ List.mem_cons_self _ List.mem_cons_self hr)
      (ih fun a ha b hb => h a (List.mem_cons_of_mem _ ha) b (List.mem_cons_of_mem _ hb))

theorem pw_mono {α β : Type} {R S : α → β → Prop} (h : ∀ a b, R a b → S a b) {l : List α} {l' : List β}
    (hp : Pw R l l') : Pw S l l' :=
  pw_mono_mem hp fun a _ b _ => h a b

theorem pw_and {α β : Type} {R S : α → β → Prop} {l : List α} {l' : List β}
    (h1 : Pw R l l') (h2 : Pw S l l') : Pw (fun a b => R a b ∧ S a b) l l' := by
  induction h1 with
  | nil => cases h2; exact Pw.nil
  | cons hr _ ih =>
    cases h2 with
    | cons hs h2' => exact Pw.cons ⟨hr, hs⟩ (ih h2')

theorem pw_any_eq {α β : Type} {S : α → β → Prop} {p : α → Bool} {q : β → Bool} (h : ∀ a b, S a b → p a = q b)
    {l : List α} {l' : List β} (hp : Pw S l l') : l.any p = l'.any q := by
  induction hp with
  | nil => rfl
  | cons hr _ ih => simp only [List.any_cons, h _ _ hr, ih]

theorem pw_filter_len {α β : Type} {S : α → β → Prop} {p : α → Bool} {q : β → Bool} (h : ∀ a b, S a b → p a = q b)
    {l : List α} {l' : List β} (hp : Pw S l l') : (l.filter p).length = (l'.filter q).length := by
  induction hp with
  | nil => rfl
  | cons hr _ ih =>
    simp only [List.filter_cons, h _ _ hr]
    split <;> simp [ih]

theorem allc_of_pw {R : Dt → Dt → Prop} {C : Dt → Prop} (hc : ∀ d d', R d d' → C d → C d')
    {l l' : List Dt} (hb : Pw R l l') (ha : AllC C l) : AllC C l' := by
  intro d' hd'
  obtain ⟨d, hd, r⟩ := mem_of_pw_right hb hd'
  exact hc d d' r (ha d hd)

theorem pw_map {R : Dt → Dt → Prop} (f : Dt → Dt) (l : List Dt) (h : ∀ d ∈ l, R d (f d)) :
    Pw R l (l.map f) := by
  induction l with
  | nil => exact Pw.nil
  | cons a l ih => exact Pw.cons (h a List.mem_cons_self) (ih fun d hd => h d (List.mem_cons_of_mem _ hd))

theorem live_iff {id : Nat} {d : Dt} : live id d = true ↔ d.id = id ∧ d.removed = false := by
  simp [live]

theorem live_not_removed {id : Nat} {d : Dt} (h : live id d = true) : d.removed = false := (live_iff.mp h).2

theorem live_id {id : Nat} {d : Dt} (h : live id d = true) : d.id = id := (live_iff.mp h).1

theorem mem_updateDt_live {l : List Dt} {id : Nat} {z : Dt} (hz : z ∈ l) (hl : live id z = true) (f : Dt → Dt) :
    f z ∈ updateDt l id f :=
  List.mem_map.mpr ⟨z, hz, by simp only [hl, if_true]⟩

theorem mem_updateDt_self {l : List Dt} {id : Nat} {e : Dt} (he : e ∈ l) {f : Dt → Dt}
    (h : live id e = true → f e = e) : e ∈ updateDt l id f := by
  refine List.mem_map.mpr ⟨e, he, ?_⟩
  split
  · rename_i hl; exact h hl
  · rfl

theorem pw_updateDt {R : Dt → Dt → Prop} (hr : ∀ d, R d d) (f : Dt → Dt) (l : List Dt) (id : Nat)
    (h : ∀ d ∈ l, d.removed = false → R d (f d)) :
    Pw R l (updateDt l id f) := by
  unfold updateDt
  apply pw_map
  intro d hd
  by_cases hl : live id d = true
  · simp only [hl, if_true]; exact h d hd (live_not_removed hl)
  · simp only [hl]; exact hr d

theorem pw_foldl {R : Dt → Dt → Prop} {C : Dt → Prop} (hr : ∀ d, R d d)
    (ht : ∀ a b c, R a b → R b c → R a c) (hc : ∀ d d', R d d' → C d → C d')
    {α : Type} {g : List Dt → α → List Dt} (hg : ∀ acc x, AllC C acc → Pw R acc (g acc x))
    {xs : List α} {l : List Dt} (ha : AllC C l) :
    Pw R l (xs.foldl g l) := by
  induction xs generalizing l with
  | nil => exact pw_refl hr l
  | cons x xs ih =>
    have h1 := hg l x ha
    exact pw_trans ht h1 (ih (allc_of_pw hc h1 ha))

section
variable {now : Int} {tOK : Int → Prop} {C : Dt → Prop} {R : Dt → Dt → Prop}

theorem pw_trigG (tr : TrigRel now tOK C R) (t : Int) (ht : tOK t) (l : List Dt) (id : Nat)
    (ha : AllC C l) : Pw R l (updateDt l id (trigSelfG now t)) := by
  apply pw_updateDt tr.refl
  intro d hd hr
  unfold trigSelfG
  by_cases hc : canBeTriggered now d = true
  · simp only [hc, if_true]; exact tr.trig t d ht (ha d hd) hc hr
  · simp only [hc]; exact tr.refl d

theorem pw_triggerDt (tr : TrigRel now tOK C R) (fuel : Nat) (t : Int) (ht : tOK t) :
    ∀ (id : Nat) (l : List Dt), AllC C l → Pw R l (triggerDt fuel now t id l) := by
  induction fuel with
  | zero => intro id l _; simp only [triggerDt]; exact pw_refl tr.refl l
  | succ n ih =>
    intro id l ha
    simp only [triggerDt]
    split
    · exact pw_refl tr.refl l
    · split
      · exact pw_refl tr.refl l
      · rename_i d _ _
        have h1 := pw_trigG tr t ht l id ha
        have h2 : Pw R (updateDt l id (trigSelfG now t))
            (d.triggers.foldl (fun acc c => triggerDt n now t c acc) (updateDt l id (trigSelfG now t))) :=
          pw_foldl tr.refl tr.trans tr.ctx (fun acc c hacc => ih c acc hacc)
            (allc_of_pw tr.ctx h1 ha)
        exact pw_trans tr.trans h1 h2

theorem pw_cascade (tr : TrigRel now tOK C R) (fuel : Nat) (t : Int) (ht : tOK t) (cs : List Nat)
    (l : List Dt) (ha : AllC C l) :
    Pw R l (cs.foldl (fun acc c => triggerDt fuel now t c acc) l) :=
  pw_foldl tr.refl tr.trans tr.ctx (fun acc c hacc => pw_triggerDt tr fuel t ht c acc hacc) ha

theorem pw_triggerAll (tr : TrigRel now tOK C R) (t : Int) (ht : tOK t) (l : List Dt) (ha : AllC C l) :
    Pw R l (triggerAll now t l) := by
  unfold triggerAll
  exact pw_foldl tr.refl tr.trans tr.ctx (fun acc i hacc => pw_triggerDt tr _ t ht i acc hacc) ha

theorem pw_startG (sr : AddRel now tOK C R) (l : List Dt) (id : Nat) (ha : AllC C l) :
    Pw R l (updateDt l id (startSelfG now)) := by
  apply pw_updateDt sr.refl
  intro d hd hr
  unfold startSelfG
  by_cases hc : (d.fixed && canBeTriggered now d) = true
  · simp only [hc, if_true]
    simp at hc
    exact sr.start d (ha d hd) hc.1 hc.2 hr
  · simp only [hc]; exact sr.refl d

theorem mem_of_findDt {l : List Dt} {id : Nat} {d : Dt} (h : findDt l id = some d) :
    d ∈ l ∧ live id d = true := by
  unfold findDt at h
  exact ⟨List.mem_of_find?_eq_some h, List.find?_some h⟩

theorem mem_liveIds {l : List Dt} {d : Dt} (hd : d ∈ l) (hr : d.removed = false) : d.id ∈ liveIds l :=
  List.mem_map.mpr ⟨d, List.mem_filter.mpr ⟨hd, by simp [hr]⟩, rfl⟩

theorem findDt_of_mem {l : List Dt} {id : Nat} {y : Dt} (hy : y ∈ l) (hl : live id y = true) :
    ∃ z, findDt l id = some z := by
  cases hf : findDt l id with
  | some z => exact ⟨z, rfl⟩
  | none =>
    unfold findDt at hf
    exact absurd hl (List.find?_eq_none.mp hf y hy)

theorem pw_startAt (sr : AddRel now tOK C R) (fuel : Nat) (l : List Dt) (id : Nat) (ha : AllC C l) :
    Pw R l (startAt now fuel l id) := by
  unfold startAt
  split
  · exact pw_refl sr.refl l
  · rename_i d hf
    split
    · rename_i hg
      simp at hg
      obtain ⟨hm, hl⟩ := mem_of_findDt hf
      have ht := sr.startT d (ha d hm) hg.1 hg.2 (live_not_removed hl)
      have h1 := pw_startG sr l id ha
      exact pw_trans sr.trans h1
        (pw_cascade sr.toTrigRel fuel _ ht _ _ (allc_of_pw sr.ctx h1 ha))
    · exact pw_refl sr.refl l

theorem pw_startTimer (sr : AddRel now tOK C R) (l : List Dt) (ha : AllC C l) :
    Pw R l (startTimer now l) := by
  unfold startTimer
  exact pw_foldl sr.refl sr.trans sr.ctx (fun acc i hacc => pw_startAt sr _ acc i hacc) ha

theorem fireCleanup_cases (now : Int) (d : Dt) :
    (cleanupDue now d = false ∧ fireCleanup now d = d) ∨
    (d.removed = false ∧ cleanupDue now d = true ∧ isExpired now d = true ∧ fireCleanup now d = removeDt now d) ∨
    (d.removed = false ∧ cleanupDue now d = true ∧ isExpired now d = false ∧
      fireCleanup now d = { d with cleanup := none }) := by
  unfold fireCleanup
  cases hc : cleanupDue now d with
  | false => exact Or.inl ⟨rfl, rfl⟩
  | true =>
    have hr : d.removed = false := by simp [cleanupDue] at hc; exact hc.1
    cases he : isExpired now d with
    | true => exact Or.inr (Or.inl ⟨hr, rfl, rfl, rfl⟩)
    | false => exact Or.inr (Or.inr ⟨hr, rfl, rfl, rfl⟩)

theorem rel_fireCleanup (sr : StepRel now tOK C R) (d : Dt) (hc : C d) : R d (fireCleanup now d) := by
  rcases fireCleanup_cases now d with ⟨_, h⟩ | ⟨hr, _, _, h⟩ | ⟨hr, hdue, he, h⟩ <;> rw [h]
  · exact sr.refl d
  · exact sr.remove d hc hr
  · exact sr.disarm d hc hr hdue he

theorem pw_fireCleanup (sr : StepRel now tOK C R) (l : List Dt) (ha : AllC C l) :
    Pw R l (l.map (fireCleanup now)) :=
  pw_map _ l fun d hd => rel_fireCleanup sr d (ha d hd)

theorem pw_pump (sr : StepRel now tOK C R) (st : St) (f : Bool) (ha : AllC C st.dts) :
    Pw R st.dts (pumpOp st now f).dts := by
  unfold pumpOp
  simp only
  have h1 := pw_fireCleanup sr st.dts ha
  have a1 := allc_of_pw sr.ctx h1 ha
  split
  · have h2 := pw_startTimer sr.toAddRel _ a1
    have a2 := allc_of_pw sr.ctx h2 a1
    exact pw_trans sr.trans h1 (pw_trans sr.trans h2 (pw_fireCleanup sr _ a2))
  · exact h1

theorem pw_result (sr : TrigRel now tOK C R) (st : St) (s : Nat) (te : Int) (ht : tOK te)
    (ha : AllC C st.dts) :
    Pw R st.dts (resultOp st s te now).1.dts := by
  unfold resultOp
  split
  · exact pw_refl sr.refl _
  · simp only
    split
    · exact pw_triggerAll sr te ht _ ha
    · exact pw_refl sr.refl _

theorem pw_remove (hr : ∀ d, R d d) (hrem : ∀ d, C d → d.removed = false → R d (removeDt now d)) (st : St) (id : Nat)
    (u : Bool) (ha : AllC C st.dts) : Pw R st.dts (removeOp st id u now).1.dts := by
  unfold removeOp
  split
  · exact pw_refl hr _
  · split
    · exact pw_refl hr _
    · exact pw_updateDt hr _ _ _ (fun d hd => hrem d (ha d hd))

end

theorem fresh_ids {st : St} {p : AddP} (h : st.dts.any (fun d => d.id == p.id) = false) :
    ∀ d ∈ st.dts, d.id ≠ p.id := by
  intro d hd he
  have := List.any_eq_false.mp h d hd
  simp [he] at this

theorem findDt_append_fresh {l : List Dt} {i : Nat} (hl : ∀ d ∈ l, d.id ≠ i) {z : Dt} (hz : live i z = true) :
    findDt (l ++ [z]) i = some z := by
  unfold findDt
  rw [List.find?_append]
  have : l.find? (live i) = none := by
    apply List.find?_eq_none.mpr
    intro x hx hlx
    exact hl x hx (live_id hlx)
  simp [this, hz]

theorem allc_trivial (l : List Dt) : AllC (fun _ => True) l := fun _ _ => trivial

end Icinga.C05
