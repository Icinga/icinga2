/-
  Closed form of an accepted `add`: the existing downtimes are untouched (only the named trigger
  downtime gets the new id appended to its `triggers`), and the new downtime is the fresh object after
  `Start` (flexible on a problem / fixed inside its window) and `Resume`.
-/
import IcingaProofs.C05.Lemmas

namespace Icinga.C05

theorem updateDt_append_new {l : List Dt} {i : Nat} (hl : ∀ d ∈ l, d.id ≠ i) {z : Dt} (hz : live i z = true)
    (f : Dt → Dt) : updateDt (l ++ [z]) i f = l ++ [f z] := by
  unfold updateDt
  rw [List.map_append]
  congr 1
  · have : ∀ d ∈ l, (if live i d = true then f d else d) = d := by
      intro d hd
      have : live i d = false := by simp [live, hl d hd]
      simp [this]
    rw [List.map_congr_left this]; simp
  · simp [hz]

theorem triggerDt_new {l : List Dt} {i : Nat} (hl : ∀ d ∈ l, d.id ≠ i) {z : Dt} (hz : live i z = true)
    (hzt : z.triggers = []) (n : Nat) (now t : Int) :
    triggerDt (n + 1) now t i (l ++ [z]) = l ++ [trigSelfG now t z] := by
  simp only [triggerDt, findDt_append_fresh hl hz]
  by_cases hc : canBeTriggered now z = true
  · simp only [hc, Bool.not_true, Bool.false_eq_true, if_false, hzt, List.foldl_nil]
    exact updateDt_append_new hl hz _
  · have hc' : canBeTriggered now z = false := Bool.of_not_eq_true hc
    simp [hc', trigSelfG]

theorem startAt_new {l : List Dt} {i : Nat} (hl : ∀ d ∈ l, d.id ≠ i) {z : Dt} (hz : live i z = true)
    (hzt : z.triggers = []) (F : Nat) (now : Int) :
    startAt now F (l ++ [z]) i = l ++ [startSelfG now z] := by
  simp only [startAt, findDt_append_fresh hl hz]
  by_cases hc : (z.fixed && canBeTriggered now z) = true
  · simp only [hc, if_true, hzt, List.foldl_nil]
    exact updateDt_append_new hl hz _
  · simp [hc, startSelfG]

/-- What `Start` does to the fresh object when it is flexible. -/
def flexStart (st : St) (now : Int) (d : Dt) : Dt :=
  if !d.fixed && st.problem then trigSelfG now (max (max d.start d.entry) st.lastStateChange) d else d

theorem flexStart_fixed (st : St) (now : Int) {d : Dt} (h : d.fixed = true) : flexStart st now d = d := by
  simp [flexStart, h]

def addedDt (st : St) (p : AddP) (now : Int) : Dt :=
  setupCleanup (startSelfG now (flexStart st now (newDt st p now)))

/-- The parameters a downtime is created with: nothing ever changes them. -/
structure Params (d d' : Dt) : Prop where
  id : d'.id = d.id
  fixed : d'.fixed = d.fixed
  start : d'.start = d.start
  fin : d'.fin = d.fin
  duration : d'.duration = d.duration
  owner : d'.owner = d.owner
  trigBy : d'.trigBy = d.trigBy
  entry : d'.entry = d.entry

theorem Params.trans {a b c : Dt} (h : Params a b) (g : Params b c) : Params a c :=
  ⟨g.id.trans h.id, g.fixed.trans h.fixed, g.start.trans h.start, g.fin.trans h.fin, g.duration.trans h.duration,
    g.owner.trans h.owner, g.trigBy.trans h.trigBy, g.entry.trans h.entry⟩

/-- What `TriggerDowntime`, `Start` and `Resume` leave alone on the downtime they work on. -/
structure Kept (d d' : Dt) : Prop extends Params d d' where
  removed : d'.removed = d.removed
  triggers : d'.triggers = d.triggers

theorem Kept.refl (d : Dt) : Kept d d := ⟨⟨rfl, rfl, rfl, rfl, rfl, rfl, rfl, rfl⟩, rfl, rfl⟩

theorem Kept.trans {a b c : Dt} (h : Kept a b) (g : Kept b c) : Kept a c :=
  ⟨h.toParams.trans g.toParams, g.removed.trans h.removed, g.triggers.trans h.triggers⟩

theorem Kept.live {x x' : Dt} (h : Kept x x') (c : Nat) : live c x' = live c x := by
  unfold Icinga.C05.live; rw [h.id, h.removed]

theorem kept_trigSelf (t : Int) (d : Dt) : Kept d (trigSelf t d) := by
  rw [trigSelf_eq]; exact ⟨⟨rfl, rfl, rfl, rfl, rfl, rfl, rfl, rfl⟩, rfl, rfl⟩

theorem kept_trigSelfG (now t : Int) (d : Dt) : Kept d (trigSelfG now t d) := by
  unfold trigSelfG
  split
  · exact kept_trigSelf t d
  · exact .refl d

theorem kept_startSelfG (now : Int) (d : Dt) : Kept d (startSelfG now d) := by
  unfold startSelfG
  split
  · rw [startSelf_eq]; exact ⟨⟨rfl, rfl, rfl, rfl, rfl, rfl, rfl, rfl⟩, rfl, rfl⟩
  · exact .refl d

theorem kept_flexStart (st : St) (now : Int) (d : Dt) : Kept d (flexStart st now d) := by
  unfold flexStart
  split
  · exact kept_trigSelfG now _ d
  · exact .refl d

theorem kept_setupCleanup (d : Dt) : Kept d (setupCleanup d) := ⟨⟨rfl, rfl, rfl, rfl, rfl, rfl, rfl, rfl⟩, rfl, rfl⟩

theorem kept_addedDt (st : St) (p : AddP) (now : Int) : Kept (newDt st p now) (addedDt st p now) :=
  ((kept_flexStart st now _).trans (kept_startSelfG now _)).trans (kept_setupCleanup _)

/-- The clamp of `TriggerDowntime` to `start_time` changes nothing here: the time `Start` hands over is not
    before it. -/
theorem addedDt_trigger_flexible (st : St) (p : AddP) (now : Int) (hpf : p.fixed = false) :
    (addedDt st p now).trigger =
      if st.problem && canBeTriggered now (newDt st p now) then max (max p.start now) st.lastStateChange else 0 := by
  have hm : max (max (max p.start now) st.lastStateChange) p.start = max (max p.start now) st.lastStateChange :=
    Int.max_eq_left (Int.le_trans (Int.le_max_left _ _) (Int.le_max_left _ _))
  have hs : ∀ z : Dt, z.fixed = false → startSelfG now z = z := fun z hz => by simp [startSelfG, hz]
  unfold addedDt
  rw [hs _ ((kept_flexStart st now _).fixed.trans hpf)]
  show (flexStart st now (newDt st p now)).trigger = _
  unfold flexStart trigSelfG
  have hn : (newDt st p now).fixed = false := hpf
  rw [hn]
  cases st.problem <;> cases canBeTriggered now (newDt st p now)
  · rfl
  · rfl
  · rfl
  · simp only [Bool.not_false, Bool.and_self, if_true, trigSelf_eq]
    exact (if_pos rfl).trans hm

theorem addedDt_trigger_fixed (st : St) (p : AddP) (now : Int) (hpf : p.fixed = true) :
    (addedDt st p now).trigger = if canBeTriggered now (newDt st p now) then max p.start now else 0 := by
  unfold addedDt
  rw [flexStart_fixed st now hpf]
  show (startSelfG now (newDt st p now)).trigger = _
  unfold startSelfG
  have : (newDt st p now).fixed = true := hpf
  rw [this]
  cases hc : canBeTriggered now (newDt st p now)
  · simp [newDt]
  · simp only [Bool.and_self, if_true, startSelf_eq]; simp [newDt]

/-- What an accepted `add` does to an older downtime: the trigger downtime it names gets the new id appended
    to its `triggers` (downtime.cpp:340-346). -/
def noteChild (st : St) (p : AddP) (d : Dt) : Dt :=
  if p.trigBy != 0 && (findDt st.dts p.trigBy).isSome && live p.trigBy d then addTrigger p.id d else d

theorem noteChild_eq (st : St) (p : AddP) (d : Dt) :
    noteChild st p d = { d with triggers :=
      if p.trigBy != 0 && (findDt st.dts p.trigBy).isSome && live p.trigBy d && !d.triggers.contains p.id
      then d.triggers ++ [p.id] else d.triggers } := by
  unfold noteChild
  split
  · rename_i h
    rw [addTrigger_eq, h]
    cases d.triggers.contains p.id <;> rfl
  · rename_i h
    rw [Bool.of_not_eq_true h]
    rfl

theorem noteChild_triggers (st : St) (p : AddP) (d : Dt) :
    ∀ c ∈ (noteChild st p d).triggers, c ∈ d.triggers ∨
      (c = p.id ∧ (p.trigBy != 0 && (findDt st.dts p.trigBy).isSome) = true) := by
  rw [noteChild_eq]
  dsimp only
  split
  · rename_i h
    simp only [Bool.and_eq_true] at h
    intro c hc
    rcases List.mem_append.mp hc with hc | hc
    · exact Or.inl hc
    · exact Or.inr ⟨by simpa using hc, by simp only [Bool.and_eq_true]; exact h.1.1⟩
  · exact fun _ hc => Or.inl hc

theorem noteChild_parent {st : St} {p : AddP} {d : Dt}
    (hp : (p.trigBy != 0 && (findDt st.dts p.trigBy).isSome) = true) (hl : live p.trigBy d = true) :
    p.id ∈ (noteChild st p d).triggers := by
  simp only [noteChild, hp, hl, Bool.and_self, if_true]
  rw [addTrigger_eq]
  dsimp only
  split
  · rename_i h; simpa using h
  · simp

theorem addOp_shape (st : St) (p : AddP) (now : Int) (h : st.dts.any (fun d => d.id == p.id) = false) :
    (addOp st p now).1.dts = st.dts.map (noteChild st p) ++ [addedDt st p now] := by
  have hl := fresh_ids h
  have hnd : live p.id (newDt st p now) = true := live_iff.mpr ⟨rfl, rfl⟩
  have hndt : (newDt st p now).triggers = [] := rfl
  have h1 : startFlexible st now (newDt st p now) (st.dts ++ [newDt st p now]) =
      st.dts ++ [flexStart st now (newDt st p now)] := by
    unfold startFlexible flexStart
    split
    · have : (newDt st p now).id = p.id := rfl
      rw [this, triggerDt_new hl hnd hndt]
    · rfl
  have f1 := kept_flexStart st now (newDt st p now)
  have hz1 : live p.id (flexStart st now (newDt st p now)) = true := (f1.live _).trans hnd
  have hz1t : (flexStart st now (newDt st p now)).triggers = [] := f1.triggers
  have f2 := kept_startSelfG now (flexStart st now (newDt st p now))
  have hz2 : live p.id (startSelfG now (flexStart st now (newDt st p now))) = true := (f2.live _).trans hz1
  simp only [addOp, h, Bool.false_eq_true, if_false, h1, startAt_new hl hz1 hz1t,
    updateDt_append_new hl hz2 setupCleanup]
  split
  · rename_i hpar
    have hnc : ∀ d, noteChild st p d = if live p.trigBy d = true then addTrigger p.id d else d := by
      intro d; simp only [noteChild, hpar, Bool.true_and]
    simp only [Bool.and_eq_true] at hpar
    -- the trigger downtime is an older one
    have hne : p.id ≠ p.trigBy := by
      intro he
      cases hf : findDt st.dts p.trigBy with
      | none => rw [hf] at hpar; simp at hpar
      | some par =>
        obtain ⟨hm, hlv⟩ := mem_of_findDt hf
        exact hl par hm (by rw [live_id hlv, he])
    unfold updateDt
    rw [List.map_append, List.map_congr_left (fun d _ => hnc d)]
    congr 1
    have : live p.trigBy (setupCleanup (startSelfG now (flexStart st now (newDt st p now)))) = false := by
      unfold live
      have : (setupCleanup (startSelfG now (flexStart st now (newDt st p now)))).id = p.id := by
        show (startSelfG now (flexStart st now (newDt st p now))).id = p.id
        rw [f2.id, f1.id]; rfl
      rw [this]; simp [hne]
    simp [this, addedDt]
  · rename_i hpar
    have hnc : ∀ d, noteChild st p d = d := by
      intro d
      have hc : (p.trigBy != 0 && (findDt st.dts p.trigBy).isSome) = false := Bool.of_not_eq_true hpar
      simp only [noteChild, hc, Bool.false_and, Bool.false_eq_true, if_false]
    rw [List.map_congr_left (fun d _ => hnc d), List.map_id']
    rfl

theorem add_new (st : St) (p : AddP) (now : Int) (h : st.dts.any (fun d => d.id == p.id) = false)
    {d' : Dt} (hd' : d' ∈ (addOp st p now).1.dts) (hid : d'.id = p.id) : d' = addedDt st p now := by
  rw [addOp_shape st p now h] at hd'
  rcases List.mem_append.mp hd' with hm | hm
  · obtain ⟨y, hy, rfl⟩ := List.mem_map.mp hm
    rw [noteChild_eq] at hid
    exact absurd hid (fresh_ids h y hy)
  · simpa using hm

theorem add_other (st : St) (p : AddP) (now : Int) (h : st.dts.any (fun d => d.id == p.id) = false)
    {d' : Dt} (hd' : d' ∈ (addOp st p now).1.dts) (hid : d'.id ≠ p.id) :
    ∃ d ∈ st.dts, d' = noteChild st p d := by
  rw [addOp_shape st p now h] at hd'
  rcases List.mem_append.mp hd' with hm | hm
  · obtain ⟨y, hy, rfl⟩ := List.mem_map.mp hm
    exact ⟨y, hy, rfl⟩
  · simp only [List.mem_singleton] at hm
    exact absurd (hm ▸ (kept_addedDt st p now).id) hid

end Icinga.C05
