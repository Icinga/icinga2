/-
  The functions that gen/c05_guards.py translates from the bodies of `Downtime::IsTriggered / IsInEffect / IsExpired /
  CanBeTriggered` (lib/icinga/downtime.cpp) on every run of the check are equal to the hand-written `isTriggered`,
  `isInEffect`, `isExpired`, `canBeTriggered` of IcingaModel/C05/Model.lean.  The proofs are by case split on `fixed`
  and on `trigger_time = 0` and arithmetic only (`guard_arith`), so that every equivalent spelling of the guards goes
  through and every change of a comparison or bound does not.
-/
import IcingaProofs.Gen.DowntimeGuards
import IcingaModel.C05.Model

namespace Icinga.C05
open Icinga.Gen.DowntimeGuards

macro "guard_arith" d:ident : tactic =>
  `(tactic| (
      simp only [isTriggeredSrc, isInEffectSrc, isExpiredSrc, canBeTriggeredSrc,
        isTriggered, isInEffect, isExpired, canBeTriggered] <;>
      (try rw [Bool.eq_iff_iff]) <;>
      by_cases hf : ($d).fixed = true <;> by_cases h0 : ($d).trigger = 0 <;>
      (try simp [hf, h0]) <;>
      first | omega | (split <;> omega) | (split <;> split <;> omega) | (split <;> split <;> split <;> omega)))

theorem isTriggered_src (now : Int) (d : Dt) : isTriggeredSrc now d = isTriggered now d := by guard_arith d

theorem isInEffect_src (now : Int) (d : Dt) : isInEffectSrc now d = isInEffect now d := by guard_arith d

theorem isExpired_src (now : Int) (d : Dt) : isExpiredSrc now d = isExpired now d := by guard_arith d

theorem canBeTriggered_src (now : Int) (d : Dt) : canBeTriggeredSrc now d = canBeTriggered now d := by guard_arith d

end Icinga.C05
