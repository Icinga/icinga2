/-
  `TInv` is what is known of a reachable state and of the reader's bookkeeping, `Ctx` a well-formed operation on such
  a state.  A clause that speaks of every downtime is proved from `Seen`: one downtime before and after such an
  operation, as the model has it and as the reader books it; the clauses on return codes and on which downtimes exist
  are read off the operation.  The two on the DowntimeStart of a flexible downtime rest on `started_after`: requested,
  or excused because it took effect while paused.
-/
import IcingaProofs.C05.Observe

namespace Icinga.C05

theorem or_of_imp {a b : Bool} (h : a = true → b = true) : (!a || b) = true := by
  cases a
  · rfl
  · simpa using h rfl

theorem zip_map_all {α : Type} (f : α → α) (g : α × α → Bool) (l : List α) :
    (l.zip (l.map f)).all g = l.all (fun a => g (a, f a)) := by
  induction l with
  | nil => rfl
  | cons a l ih => simp only [List.map_cons, List.zip_cons_cons, List.all_cons, ih]

theorem gone_pair (st : St) (op : Op) (hnd : (idsOf st.dts).Nodup) {sd : SDt} {d d' : Dt}
    (hd' : d' ∈ (step st op).1.dts) (v : V sd d) (hid : d'.id = d.id) :
    gone (stepObs st op).2 sd = (!d.removed && d'.removed) := by
  simp only [gone, v.id, obsTrig_pair st op hnd hd' hid, v.alive]
  cases d'.removed <;> simp

/-- A flexible downtime that has taken effect has requested DowntimeStart, or the reader has excused it (it took
    effect while the checkable was paused). -/
def StartedOrExcused (sd : SDt) (d : Dt) : Prop :=
  d.fixed = false → d.trigger ≠ 0 → (1 ≤ d.starts ∨ sd.excused = true)

def StartedInv (sp : SpecSt) (st : St) : Prop := Pw StartedOrExcused sp.dts st.dts

/-- `triggers` only name downtimes created later (further back in the list). -/
def Newer : List Dt → Prop
  | [] => True
  | d :: l => (∀ c ∈ d.triggers, c ∈ idsOf l) ∧ Newer l

/-- The list is fit for a cascade: unique ids, `triggers` pointing forward (so the fuel suffices), and positive
    entry times (so that the trigger time a start hands down, `max start_time entry_time`, is positive). -/
def WFL (l : List Dt) : Prop := (idsOf l).Nodup ∧ Newer l ∧ AllC (fun d => 0 < d.entry) l

def LinkInv (l : List Dt) : Prop :=
  ∀ x ∈ l, x.trigBy ≠ 0 → ∃ q ∈ l, q.id = x.trigBy ∧ x.id ∈ q.triggers

/-- An unchained downtime (`triggered_by` empty) is in nobody's `triggers`, so no cascade reaches it. -/
def TriggersChained (l : List Dt) : Prop := ∀ q ∈ l, ∀ c ∈ q.triggers, ∀ x ∈ l, x.id = c → x.trigBy ≠ 0

structure TInv (T : Int) (sp : SpecSt) (st : St) : Prop where
  rel : RelS sp st
  linv : LInv T st
  nodup : (idsOf st.dts).Nodup
  newer : Newer st.dts
  link : LinkInv st.dts
  chained : TriggersChained st.dts
  qinv : QInv st
  started : StartedInv sp st

/-- Positive entry times are part of `Life`, so `WFL` is not carried whole. -/
theorem TInv.wfl {T : Int} {sp : SpecSt} {st : St} (h : TInv T sp st) : WFL st.dts :=
  ⟨h.nodup, h.newer, fun _ hd => (h.linv.life hd).entry.1⟩

structure Ctx (T : Int) (sp : SpecSt) (st : St) (op : Op) : Prop extends TInv T sp st where
  time : T ≤ op.now
  ok : opOK op

/-- One downtime across an operation: `d`, `d'` are the model's versions before and after, `sd` is what the reader
    has booked before; the observation attributes to its id exactly what happened to `d` (`ev1`–`ev4`, `gone`).
    `quietGone`: the pause mirror is the reader's `paused` also at the moment the downtime goes; `flexRequests`
    holds across `setPaused` too, which triggers nothing (`rq_pair`). -/
structure Seen (sp : SpecSt) (st : St) (op : Op) (sd : SDt) (d d' : Dt) : Prop extends Across op.now d d' where
  mem : d ∈ preModel st op
  mem' : d' ∈ (step st op).1.dts
  v : V sd d
  v' : V (SDt.after sp.paused (stepObs st op).2 sd) d'
  started : StartedOrExcused sd d
  ev1 : evCount (stepObs st op).2 1 sd.id = d'.starts - d.starts
  ev2 : evCount (stepObs st op).2 2 sd.id = d'.ends - d.ends
  ev3 : evCount (stepObs st op).2 3 sd.id = d'.trigEv - d.trigEv
  ev4 : evCount (stepObs st op).2 4 sd.id = d'.remEv - d.remEv
  gone : gone (stepObs st op).2 sd = (!d.removed && d'.removed)
  quiet : d.removed = false → d.quiet = sp.paused
  quietGone : d.removed = false → d'.removed = true → d'.quiet = sp.paused
  flexRequests : d.fixed = false → d.quiet = false → d.trigger = 0 → d'.trigger ≠ 0 → d.starts < d'.starts

theorem Seen.live {sp : SpecSt} {st : St} {op : Op} {sd : SDt} {d d' : Dt} (s : Seen sp st op sd d d') :
    d'.removed = false → d.removed = false :=
  live_of_frozen s.frame.frozen

theorem started_after {sp : SpecSt} {st : St} {op : Op} {sd : SDt} {d d' : Dt} (s : Seen sp st op sd d d') :
    StartedOrExcused (SDt.after sp.paused (stepObs st op).2 sd) d' := by
  intro hf ht
  have hfd : d.fixed = false := s.frame.fixed.symm.trans hf
  by_cases h0 : d.trigger = 0
  · have hr := s.frame.live_of_ne fun e => ht (e ▸ h0)
    cases hqd : d.quiet with
    | false => left; have := s.flexRequests hfd hqd h0 ht; omega
    | true =>
      right
      have hp : sp.paused = true := (s.quiet hr).symm.trans hqd
      have := s.frame.setEv h0 ht
      have hpos : 0 < evCount (stepObs st op).2 3 sd.id := by rw [s.ev3]; omega
      simp only [SDt.after, hp, Bool.true_and, Bool.or_eq_true, decide_eq_true_eq]
      right; right; exact hpos
  · rcases s.started hfd h0 with h | h
    · left; have := s.frame.starts; omega
    · right; simp [SDt.after, h]

theorem specNext_dts (sp : SpecSt) (op : Op) (o : Obs) : (specNext sp op o).dts = postDts sp op o := by
  cases op <;> simp only [specNext, postDts] <;> (try split) <;> rfl

namespace Ctx
variable {T : Int} {sp : SpecSt} {st : St} {op : Op} (c : Ctx T sp st op)
include c

theorem now_pos : 0 < op.now := c.linv.now_pos c.time

theorem seen {sd : SDt} {d d' : Dt} (hd : d ∈ preModel st op) (hd' : d' ∈ (step st op).1.dts) (v : V sd d)
    (x : StartedOrExcused sd d) (r : Across op.now d d') : Seen sp st op sd d d' := by
  have hq : d.removed = false → d.quiet = sp.paused :=
    fun hr => (qinv_pre st op c.qinv d hd hr).trans c.rel.paused.symm
  have hp := rq_pair st op c.nodup hd hd' r.frame.id
  have hid := r.frame.id
  refine ⟨r, hd, hd', v, V.after st op c.nodup hd hd' v r.frame sp.paused, x,
    v.id ▸ evCount_pair st op c.nodup 1 hd hd' hid, v.id ▸ evCount_pair st op c.nodup 2 hd hd' hid,
    v.id ▸ evCount_pair st op c.nodup 3 hd hd' hid, v.id ▸ evCount_pair st op c.nodup 4 hd hd' hid,
    gone_pair st op c.nodup hd' v hid, hq, fun hr hr' => ?_, fun hf hqf h0 h1 => ?_⟩
  · rcases hp with ⟨b, rfl⟩ | q
    · rw [setQuiet_removed, hr] at hr'; cases hr'
    · exact q.quiet.trans (hq hr)
  · rcases hp with ⟨b, rfl⟩ | q
    · rw [setQuiet_eq] at h1; exact absurd h0 h1
    · exact q.starts_lt r.frame hf hqf h0 h1

theorem pre : Pw (fun sd d => V sd d ∧ StartedOrExcused sd d) (preDts sp op (stepObs st op).2) (preModel st op) :=
  pw_and (pw_pre sp st op c.rel.dts c.nodup)
    (pw_preDts sp st op c.started fun _ _ _ _ ht => absurd rfl ht)  -- a new downtime is untriggered

theorem all_seen (P : SDt → Bool) (h : ∀ sd d d', Seen sp st op sd d d' → P sd = true) :
    (preDts sp op (stepObs st op).2).all P = true :=
  all_chain P _ _ _ c.pre (pw_stepLife c.linv op c.time c.ok)
    fun sd _ _ hd hd' vx r => h sd _ _ (c.seen hd hd' vx.1 vx.2 r)

theorem zip_seen (g : SDt × SDt → Bool)
    (h : ∀ sd d d', Seen sp st op sd d d' → g (sd, SDt.after sp.paused (stepObs st op).2 sd) = true) :
    ((preDts sp op (stepObs st op).2).zip (postDts sp op (stepObs st op).2)).all g = true := by
  rw [postDts, zip_map_all]
  exact c.all_seen _ h

theorem post_seen (P : SDt → Bool)
    (h : ∀ sd d d', Seen sp st op sd d d' → P (SDt.after sp.paused (stepObs st op).2 sd) = true) :
    (postDts sp op (stepObs st op).2).all P = true := by
  rw [postDts, List.all_map]
  exact c.all_seen _ h

end Ctx

section
variable (sp : SpecSt) (st : St) (op : Op) (hrel : RelS sp st) (hnd : (idsOf st.dts).Nodup)
include hrel hnd


theorem chkInDt_model : chkInDt sp op (stepObs st op).2 = true := by
  simp only [chkInDt, beq_iff_eq]
  rw [pw_any_eq (fun _ _ v => v.inEffect) (pw_post sp st op hrel hnd)]
  rfl

theorem chkDepth_model : chkDepth sp op (stepObs st op).2 = true := by
  simp only [chkDepth, beq_iff_eq]
  rw [pw_filter_len (fun _ _ v => v.inEffect) (pw_post sp st op hrel hnd)]
  rfl

omit hrel hnd in
theorem evsOf_self {l : List Dt} (h : (idsOf l).Nodup) {d : Dt} (hd : d ∈ l) : evsOf l d = [] := by
  unfold evsOf
  rw [find_id_self h hd rfl]
  simp

theorem chkDropped_model : chkDropped sp op (stepObs st op).2 = true := by
  simp only [chkDropped]
  cases op with
  | result s te now =>
    by_cases hs : stale st te now = true
    · have hst : (step st (.result s te now)) = (st, 0) := step_result_stale hs
      have hevs : (stepObs st (.result s te now)).2.evs = [] := by
        simp only [stepObs, obsOf, hst]
        apply List.flatten_eq_nil_iff.mpr
        intro l hl
        obtain ⟨d, hd, rfl⟩ := List.mem_map.mp hl
        exact evsOf_self hnd hd
      simp only [dropped, stepObs_rc, hst, beq_self_eq_true, Bool.not_true, Bool.false_or, hevs,
        List.isEmpty_nil, Bool.true_and, preDts]
      refine List.all_eq_true.mpr fun sd hsd => ?_
      obtain ⟨d, hd, v⟩ := mem_of_pw_left hrel.dts hsd
      refine or_of_imp fun hal => ?_
      have hr := v.live hal
      simp only [stepObs, hst]
      rw [obsTrig_obsOf, v.id, findDt_live hnd hd hr, v.trig hr]
      simp
    · have hs' : stale st te now = false := Bool.of_not_eq_true hs
      simp [dropped, rc_result hs']
  | _ => simp [dropped]

omit hrel hnd in
theorem find_alive_pw {sl : List SDt} {dl : List Dt} (h : Pw V sl dl) (i : Nat) :
    (sl.find? (fun d => d.id == i && d.alive) = none ∧ findDt dl i = none) ∨
    (∃ sd d, sl.find? (fun d => d.id == i && d.alive) = some sd ∧ findDt dl i = some d ∧ V sd d) := by
  induction h with
  | nil => left; exact ⟨rfl, rfl⟩
  | @cons sd d sl' dl' hv _ ih =>
    have hb : (sd.id == i && sd.alive) = live i d := by
      simp only [live, hv.id, hv.alive]
    cases hl : live i d with
    | true =>
      right
      exact ⟨sd, d, by simp [hb, hl], by simp [findDt, hl], hv⟩
    | false =>
      rcases ih with ⟨h1, h2⟩ | ⟨sd', d', h1, h2, h3⟩
      · left
        refine ⟨by simp [hb, hl, h1], ?_⟩
        unfold findDt at h2 ⊢
        simp [hl, h2]
      · right
        refine ⟨sd', d', by simp [hb, hl, h1], ?_, h3⟩
        unfold findDt at h2 ⊢
        simp [hl, h2]

omit hnd in
theorem chkOwner_model : chkOwner sp op (stepObs st op).2 = true := by
  cases op with
  | remove id u now =>
    simp only [chkOwner, preDts]
    rcases find_alive_pw hrel.dts id with ⟨h1, h2⟩ | ⟨sd, d, h1, h2, v⟩
    · rw [h1]
      simp [stepObs_rc, step_remove_none h2]
    · rw [h1]
      simp only
      by_cases ho : (d.owner && u) = true
      · have hst : step st (.remove id u now) = (st, 2) := step_remove_refused h2 ho
        simp only [hst, v.owner, ho, stepObs]
        rw [obsTrig_obsOf, h2]
        simp [obsOf]
      · have ho' : (d.owner && u) = false := Bool.of_not_eq_true ho
        have hrc : (step st (.remove id u now)).2 = 1 := congrArg Prod.snd (step_remove_ok h2 ho')
        simp [stepObs_rc, hrc, v.owner, ho']
  | _ => rfl

end

theorem newly_triggered {sd sd' : SDt} {d d' : Dt} (v : V sd d) (va : V sd' d')
    (hlive : d'.removed = false → d.removed = false) (hg : (sd'.alive && sd.trig == 0 && sd'.trig != 0) = true) :
    d'.removed = false ∧ d.trigger = 0 ∧ d'.trigger ≠ 0 := by
  simp only [Bool.and_eq_true, beq_iff_eq, bne_iff_ne, ne_eq] at hg
  have hr' := va.live hg.1.1
  exact ⟨hr', by rw [← v.trig (hlive hr')]; exact hg.1.2, by rw [← va.trig hr']; exact hg.2⟩

section
variable {T : Int} {sp : SpecSt} {st : St} {op : Op} (c : Ctx T sp st op)
include c

theorem chkWriteOnce_model : chkWriteOnce sp op (stepObs st op).2 = true := by
  unfold chkWriteOnce
  refine c.zip_seen _ fun sd d d' s => or_of_imp fun hg => ?_
  simp only [Bool.and_eq_true, bne_iff_ne, ne_eq] at hg
  have hr' := s.v'.live hg.1
  have hr := s.live hr'
  rw [beq_iff_eq, s.v'.trig hr', s.v.trig hr]
  exact s.frame.once (by rw [← s.v.trig hr]; exact hg.2)

theorem chkWindow_model : chkWindow sp op (stepObs st op).2 = true := by
  unfold chkWindow
  refine c.zip_seen _ fun sd d d' s => or_of_imp fun hg => ?_
  obtain ⟨_, h0, h1⟩ := newly_triggered s.v s.v' s.live hg
  have hw := s.frame.window h0 h1
  rw [s.v'.inWindow, s.frame.start, s.frame.fin]
  exact ⟨hw.1, hw.2.1⟩

theorem chkTrigStart_model : chkTrigStart sp op (stepObs st op).2 = true := by
  unfold chkTrigStart
  refine c.zip_seen _ fun sd d d' s => or_of_imp fun hg => ?_
  obtain ⟨hr', h0, h1⟩ := newly_triggered s.v s.v' s.live hg
  rw [decide_eq_true_eq, s.v'.trig hr', s.v.start]
  exact s.frame.lower h0 h1

theorem chkWindowGone_model : chkWindowGone sp op (stepObs st op).2 = true := by
  unfold chkWindowGone
  refine c.zip_seen _ fun sd d d' s => or_of_imp fun hg => ?_
  simp only [Bool.and_eq_true, decide_eq_true_eq, s.ev3] at hg
  exact (s.v.inWindow _).mpr (s.frame.evWindow (by omega))

theorem chkRemovedEvent_model : chkRemovedEvent sp op (stepObs st op).2 = true := by
  unfold chkRemovedEvent
  refine c.all_seen _ fun sd d d' s => ?_
  simp only [beq_iff_eq, s.gone, s.ev4]
  cases hr : d.removed with
  | true => rw [s.frame.frozen hr]; simp [hr]
  | false =>
    cases hr' : d'.removed with
    | false => rw [s.life'.remEv_live hr', s.life.remEv_live hr]; rfl
    | true => rw [s.life'.remEv_gone hr', s.life.remEv_live hr]; rfl

theorem chkEndOnce_model : chkEndOnce sp op (stepObs st op).2 = true := by
  unfold chkEndOnce
  refine c.zip_seen _ fun sd d d' s => ?_
  simp only [Bool.and_eq_true, s.gone, s.ev2, s.ev3]
  refine ⟨⟨⟨?_, ?_⟩, or_of_imp fun hgo => ?_⟩, or_of_imp fun hgo => ?_⟩
  · rw [decide_eq_true_eq, s.v'.ends]; exact s.life'.ends_le
  · cases hr' : d'.removed with
    | false => rw [s.life'.ends_live hr', Nat.zero_sub]; rfl
    | true =>
      cases hr : d.removed with
      | true => rw [s.frame.frozen hr, Nat.sub_self]; rfl
      | false => exact Bool.or_true _
  · simp only [Bool.and_eq_true, Bool.not_eq_true', decide_eq_true_eq] at hgo
    obtain ⟨⟨⟨hr, hr'⟩, hp⟩, _⟩ := hgo
    rw [s.v.trig hr] at hp
    rw [s.life.ends_live hr, s.life'.ends_gone hr', s.frame.once (Int.ne_of_gt hp), s.quietGone hr hr']
    cases sp.paused <;> simp [hp]
  · simp only [Bool.and_eq_true, Bool.not_eq_true', beq_iff_eq] at hgo
    obtain ⟨⟨⟨hr, hr'⟩, h0⟩, hev⟩ := hgo
    rw [s.v.trig hr] at h0
    have h0' : d'.trigger = 0 := by
      by_cases h : d'.trigger = 0
      · exact h
      · have := s.frame.setEv h0 h; omega
    rw [s.life'.ends_gone hr', h0', if_neg (fun h => absurd h.1 (Int.lt_irrefl 0)), Nat.zero_sub]; rfl

theorem chkStartOnce_model : chkStartOnce sp op (stepObs st op).2 = true := by
  unfold chkStartOnce
  refine c.post_seen _ fun sd d d' s => ?_
  rw [decide_eq_true_eq, s.v'.starts]
  exact s.life'.starts_le

theorem chkStartEffect_model : chkStartEffect sp op (stepObs st op).2 = true := by
  unfold chkStartEffect
  refine c.zip_seen _ fun sd d d' s => ?_
  simp only [s.ev1, s.ev3, s.gone]
  by_cases hlt : d.starts < d'.starts
  · obtain ⟨e1, e2, e3⟩ := s.toAcross.start hlt
    have hr := s.frame.live_of_ne fun e => by rw [e] at hlt; exact Nat.lt_irrefl _ hlt
    have e2' : (decide (0 < d.trigger) && decide (d.trigger ≤ op.now)) = false := e2
    simp only [Bool.or_eq_true, Bool.and_eq_true, decide_eq_true_eq, s.v.trig hr, e2', Bool.not_false, and_true]
    right
    refine ⟨by omega, ?_⟩
    cases hr' : d'.removed with
    | true => left; simp [hr]
    | false => right; rw [s.v'.trig hr']; simpa using e3
  · simp [Nat.sub_eq_zero_of_le (Nat.le_of_not_lt hlt)]

theorem startedInv_step : StartedInv (specNext sp op (stepObs st op).2) (step st op).1 := by
  unfold StartedInv
  rw [specNext_dts]
  exact pw_chain _ _ _ _ c.pre (pw_stepLife c.linv op c.time c.ok) fun _ _ _ hd hd' vx r =>
    started_after (c.seen hd hd' vx.1 vx.2 r)

theorem chkStarted_model : chkStarted sp op (stepObs st op).2 = true := by
  unfold chkStarted
  refine c.post_seen _ fun sd d d' s => or_of_imp fun hg => ?_
  simp only [Bool.and_eq_true, Bool.not_eq_true', bne_iff_ne, ne_eq] at hg
  obtain ⟨⟨⟨ha, hfx⟩, h0⟩, he⟩ := hg
  have hr' := s.v'.live ha
  rcases started_after s (by rw [← s.v'.fixed]; exact hfx) (by rw [← s.v'.trig hr']; exact h0) with h | h
  · rw [decide_eq_true_eq, s.v'.starts]; exact h
  · rw [he] at h; cases h

theorem chkEndHasStart_model : chkEndHasStart sp op (stepObs st op).2 = true := by
  unfold chkEndHasStart
  refine c.post_seen _ fun sd d d' s => or_of_imp fun hg => ?_
  have hid : (SDt.after sp.paused (stepObs st op).2 sd).id = sd.id := rfl
  simp only [Bool.and_eq_true, Bool.not_eq_true', decide_eq_true_eq, hid, s.ev2] at hg
  obtain ⟨⟨hlt, hfx⟩, hex⟩ := hg
  -- a DowntimeEnd was requested, so the downtime had taken effect
  have ht : d'.trigger ≠ 0 := fun h0 => by
    have := s.life'.ends
    rw [h0] at this
    simp at this
    omega
  rcases started_after s (by rw [← s.v'.fixed]; exact hfx) ht with h | h
  · rw [decide_eq_true_eq, s.v'.starts]; exact h
  · rw [hex] at h; cases h

theorem chkExpired_model : chkExpired sp op (stepObs st op).2 = true := by
  cases op with
  | pump now f =>
    simp only [chkExpired, isPump, Bool.not_true, Bool.false_or]
    refine c.post_seen _ fun sd d d' s => or_of_imp fun hal => ?_
    have hr := s.v'.live hal
    have hcp : now ≤ cleanupPoint d' := by
      have hdue := pump_not_due st now f d' s.mem'
      simp [cleanupDue, hr, s.arm' hr] at hdue
      exact hdue
    obtain ⟨h1, h2⟩ := not_over s.life'.trig.1 hcp
    simp only [SDt.over, Op.now, s.v'.fixed, s.v'.fin, s.v'.duration, s.v'.trig hr]
    by_cases hc : d'.fixed = true ∨ d'.trigger = 0
    · have := h1 hc; simp [hc]; omega
    · simp at hc; have := h2 hc.1 hc.2; simp [hc]; omega
  | _ => rfl

end


/-- `removeDt` breaks this, so it is no `StepRel`: through a result it is a projection of `RC`, `add` goes through
    its closed form. -/
def RKeep (d d' : Dt) : Prop := d'.id = d.id ∧ d'.removed = d.removed

theorem pw_keep_add (st : St) (p : AddP) (now : Int) :
    Pw RKeep (preModel st (.add p now)) (step st (.add p now)).1.dts := by
  by_cases h : st.dts.any (fun d => d.id == p.id) = true
  · simp only [step_add_dup h, preModel, h, if_true]
    exact pw_refl (fun _ => ⟨rfl, rfl⟩) _
  · simp only [preModel, step]
    rw [if_neg h, addOp_shape st p now (Bool.of_not_eq_true h)]
    exact pw_append (pw_map _ _ (fun d _ => by rw [noteChild_eq]; exact ⟨rfl, rfl⟩))
      ⟨(kept_addedDt st p now).id, (kept_addedDt st p now).removed⟩

def RRem (rc id : Nat) (d d' : Dt) : Prop :=
  d'.id = d.id ∧ d'.removed = (d.removed || (rc == 1 && d.id == id))

theorem pw_rrem (st : St) (id : Nat) (u : Bool) (now : Int) :
    Pw (RRem (step st (.remove id u now)).2 id) st.dts (step st (.remove id u now)).1.dts := by
  simp only [step, removeOp]
  split
  · exact pw_refl (fun d => ⟨rfl, by simp⟩) _
  · split
    · exact pw_refl (fun d => ⟨rfl, by simp⟩) _
    · unfold updateDt
      apply pw_map
      intro d _
      by_cases hl : live id d = true
      · simp only [hl, if_true]
        refine ⟨rfl, ?_⟩
        simp [removeDt, live_id hl]
      · simp only [hl]
        refine ⟨rfl, ?_⟩
        cases hr : d.removed with
        | true => simp [hr]
        | false =>
          by_cases hid : d.id = id
          · exact absurd (live_iff.mpr ⟨hid, hr⟩) hl
          · simp [hr, hid]

theorem contains_fst {l : List (Nat × Int)} {x : Nat} :
    (l.map (·.1)).contains x = (l.find? (fun p => p.1 == x)).isSome := by
  rw [Bool.eq_iff_iff, List.find?_isSome, List.contains_iff_mem, List.mem_map]
  simp only [beq_iff_eq]

theorem contains_obs (old new : St) (rc : Nat) (now : Int) (x : Nat) :
    ((obsOf old new rc now).dts.map (·.1)).contains x = (findDt new.dts x).isSome := by
  rw [contains_fst]
  have := obsTrig_obsOf old new rc now x
  simp only [obsTrig] at this
  have h2 := congrArg Option.isSome this
  simpa using h2

theorem any_alive_pw {sl : List SDt} {dl : List Dt} (h : Pw V sl dl) (i : Nat) :
    sl.any (fun d => d.id == i && d.alive) = (findDt dl i).isSome := by
  rcases find_alive_pw h i with ⟨h1, h2⟩ | ⟨sd, d, h1, h2, _⟩
  · rw [h2]; simpa using List.find?_eq_none.mp h1
  · rw [h2]
    exact List.any_eq_true.mpr ⟨sd, List.mem_of_find?_eq_some h1,
      List.find?_some (p := fun (d : SDt) => d.id == i && d.alive) h1⟩

section
variable (sp : SpecSt) (st : St) (op : Op) (hrel : RelS sp st) (hnd : (idsOf st.dts).Nodup)
include hrel hnd


theorem existence_known :
    ((stepObs st op).2.dts.map (·.1)).all
      (fun i => (preDts sp op (stepObs st op).2).any (fun d => d.id == i && d.alive)) = true := by
  apply List.all_eq_true.mpr
  intro i hi
  have hc : ((stepObs st op).2.dts.map (·.1)).contains i = true := by simpa using hi
  simp only [stepObs] at hc
  rw [contains_obs] at hc
  cases hf : findDt (step st op).1.dts i with
  | none => rw [hf] at hc; cases hc
  | some d' =>
    obtain ⟨hm, hl⟩ := mem_of_findDt hf
    obtain ⟨d, hd, r⟩ := mem_of_pw_right (pw_stepFrame st op) hm
    obtain ⟨sd, hs, v⟩ := mem_of_pw_right (pw_pre sp st op hrel.dts hnd) hd
    apply List.any_eq_true.mpr
    refine ⟨sd, hs, ?_⟩
    have hr' := live_not_removed hl
    have hr : d.removed = false := live_of_frozen r.frozen hr'
    simp [v.id, ← r.id, live_id hl, v.alive, hr]

theorem existence_model : existenceOK op (stepObs st op).2 sp.dts (preDts sp op (stepObs st op).2) = true := by
  have hA := existence_known sp st op hrel hnd
  have hV := hrel.dts
  have hcont : ∀ {d' : Dt}, d' ∈ (step st op).1.dts →
      ((stepObs st op).2.dts.map (·.1)).contains d'.id = !d'.removed := by
    intro d' hd'
    simp only [stepObs]
    rw [contains_obs, findDt_unique (nodup_step st op hnd) hd']
    cases d'.removed <;> rfl
  -- an operation that removes nothing leaves every known downtime that was alive observed
  have keep : Pw RKeep (preModel st op) (step st op).1.dts → (preDts sp op (stepObs st op).2).all
      (fun sd => !sd.alive || ((stepObs st op).2.dts.map (·.1)).contains sd.id) = true := by
    intro hk
    apply all_chain _ _ _ _ (pw_pre sp st op hV hnd) hk
    intro sd d d' _ hd' v r
    rw [v.id, ← r.1, hcont hd', r.2, v.alive]
    cases d.removed <;> rfl
  cases op with
  | pump now f => simp only [existenceOK, hA, Bool.and_true]
  | result s te now =>
    simp only [existenceOK, hA, Bool.true_and]
    exact keep (pw_mono (fun _ _ h => ⟨h.id, h.removed⟩) (pw_result (trigRel_RC now te) st s te rfl (allc_trivial _)))
  | setPaused b now =>
    simp only [existenceOK, hA, Bool.true_and]
    exact keep (pw_map _ _ (fun d _ => ⟨setQuiet_id b d, setQuiet_removed b d⟩))
  | add p now =>
    have hall := keep (pw_keep_add st p now)
    have hany : sp.dts.any (fun d => d.id == p.id) = st.dts.any (fun d => d.id == p.id) :=
      pw_any_eq (fun _ _ v => by rw [v.id]) hV
    simp only [existenceOK, hA, Bool.true_and, Bool.and_eq_true]
    by_cases ha : st.dts.any (fun d => d.id == p.id) = true
    · have hrc : (stepObs st (.add p now)).2.rc = 0 := congrArg Prod.snd (step_add_dup ha)
      simp only [preDts, hrc] at hall
      refine ⟨⟨⟨hall, ?_⟩, ?_⟩, ?_⟩ <;> simp [hrc, hany, ha]
    · have ha' : st.dts.any (fun d => d.id == p.id) = false := Bool.of_not_eq_true ha
      have hrc : (stepObs st (.add p now)).2.rc = 1 := rc_add ha'
      simp only [preDts, hrc, beq_self_eq_true, if_true, List.all_append, Bool.and_eq_true] at hall
      refine ⟨⟨⟨hall.1, ?_⟩, ?_⟩, ?_⟩
      · simp [hrc, hany, ha']
      · simp [hrc]
      · have h2 := hall.2
        simp only [List.all_cons, List.all_nil, Bool.and_true, newSDt, Bool.not_true, Bool.false_or] at h2
        simp only [Bool.or_eq_true]
        right; exact h2
  | remove id u now =>
    simp only [existenceOK, hA, Bool.true_and, Bool.and_eq_true]
    constructor
    · apply all_chain _ _ _ _ hV (pw_rrem st id u now)
      intro sd d d' _ hd' v r
      rw [v.id, ← r.1, hcont hd', r.2, v.alive, stepObs_rc, r.1]
      cases d.removed <;> simp
    · rw [any_alive_pw hV id]
      simp only [stepObs_rc, step, removeOp]
      cases hf : findDt st.dts id with
      | none => simp
      | some d => simp only [Option.isSome_some]; split <;> simp

end

end Icinga.C05
