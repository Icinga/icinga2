/-
  The trigger cascade at arbitrary depth: `triggers` edges only point to newer downtimes, so the fuel the callers
  pass (the number of downtimes) never runs out, and after any operation every downtime whose `TriggerDowntime`
  guard was passed has all its chained downtimes triggered or untriggerable.
-/
import IcingaProofs.C05.Clauses

namespace Icinga.C05

/-- Rank of a name: how many downtimes are at or after its position (0 if absent).  `triggers` lead to
    strictly smaller ranks (`rank_lt`), so fuel of at least the rank of the root suffices (`casc_triggerDt`). -/
def rank : List Nat → Nat → Nat
  | [], _ => 0
  | i :: is, c => if i = c then is.length + 1 else rank is c

theorem rank_le (ids : List Nat) (c : Nat) : rank ids c ≤ ids.length := by
  induction ids with
  | nil => simp [rank]
  | cons i is ih =>
    simp only [rank, List.length_cons]
    split <;> omega

theorem rank_pos {ids : List Nat} {c : Nat} (h : c ∈ ids) : 1 ≤ rank ids c := by
  induction ids with
  | nil => cases h
  | cons i is ih =>
    simp only [rank]
    split
    · omega
    · rename_i hne
      rcases List.mem_cons.mp h with rfl | h'
      · exact absurd rfl hne
      · exact ih h'

theorem newer_ids {l : List Dt} (hn : Newer l) {d : Dt} (hd : d ∈ l) {c : Nat} (hc : c ∈ d.triggers) :
    c ∈ idsOf l := by
  induction l with
  | nil => cases hd
  | cons a l ih =>
    rcases List.mem_cons.mp hd with rfl | hd'
    · exact List.mem_cons_of_mem _ (hn.1 c hc)
    · exact List.mem_cons_of_mem _ (ih hn.2 hd')

theorem rank_lt {l : List Dt} (hn : Newer l) (hnd : (idsOf l).Nodup) {d : Dt} (hd : d ∈ l) {c : Nat}
    (hc : c ∈ d.triggers) : rank (idsOf l) c < rank (idsOf l) d.id := by
  induction l with
  | nil => cases hd
  | cons a l ih =>
    simp only [idsOf, List.map_cons, List.nodup_cons] at hnd
    obtain ⟨hna, hndl⟩ := hnd
    rcases List.mem_cons.mp hd with rfl | hd'
    · have hcl : c ∈ idsOf l := hn.1 c hc
      have hne : ¬ d.id = c := fun e => hna (by rw [e]; exact hcl)
      simp only [idsOf, List.map_cons, rank, hne, if_false, if_true]
      have := rank_le (List.map (fun x => x.id) l) c
      simp only [List.length_map] at this ⊢
      omega
    · have hda : ¬ a.id = d.id := fun e => hna (List.mem_map.mpr ⟨d, hd', e.symm⟩)
      have hlt := ih hn.2 hndl hd'
      have hcl : c ∈ idsOf l := newer_ids hn.2 hd' hc
      have hca : ¬ a.id = c := fun e => hna (by rw [e]; exact hcl)
      simp only [idsOf, List.map_cons, rank, hda, hca, if_false]
      exact hlt

/-- Name and chain are kept: what every operation except an accepted `add` does to a downtime (`addTrigger` breaks
    it, so it is no `StepRel` and cannot be fed to `pw_step`). -/
structure RSh (d d' : Dt) : Prop where
  id : d'.id = d.id
  triggers : d'.triggers = d.triggers

theorem RSh.refl (d : Dt) : RSh d d := ⟨rfl, rfl⟩

theorem RSh.trans (a b c : Dt) (h : RSh a b) (g : RSh b c) : RSh a c := ⟨g.id.trans h.id, g.triggers.trans h.triggers⟩

theorem RSh.of_kept {d d' : Dt} (h : Kept d d') : RSh d d' := ⟨h.id, h.triggers⟩

theorem pw_sh_triggerDt (now t : Int) (F : Nat) (id : Nat) (l : List Dt) : Pw RSh l (triggerDt F now t id l) :=
  pw_mono (fun _ _ h => .of_kept h.toKept) (pw_triggerDt (trigRel_RC now t) F t rfl id l (allc_trivial _))

theorem pw_sh_cascade (now t : Int) (F : Nat) (cs : List Nat) (l : List Dt) :
    Pw RSh l (cs.foldl (fun acc c => triggerDt F now t c acc) l) :=
  pw_mono (fun _ _ h => .of_kept h.toKept) (pw_cascade (trigRel_RC now t) F t rfl cs l (allc_trivial _))

theorem newer_of_pw {l l' : List Dt} (h : Pw RSh l l') (hn : Newer l) : Newer l' := by
  induction h with
  | nil => trivial
  | cons hab hp ih =>
    refine ⟨fun c hc => ?_, ih hn.2⟩
    rw [hab.triggers] at hc
    rw [ids_of_pw (fun _ _ r => r.id) hp]
    exact hn.1 c hc

/-- Occurs in the statement of `wfl_cascade` only; it is a part of `Frame` (`rd_of_frame`), which is what the
    cascade argument itself reads. -/
def RD (now : Int) (d d' : Dt) : Prop :=
  d'.id = d.id ∧ (∀ c ∈ d.triggers, c ∈ d'.triggers) ∧ d.trigEv ≤ d'.trigEv ∧ (d.removed = true → d' = d) ∧
  (0 < d.entry → 0 < d'.entry) ∧ (d'.removed = false → DoneP now d → DoneP now d') ∧ d'.fixed = d.fixed

theorem rd_of_frame {now : Int} {d d' : Dt} (f : Frame now d d') : RD now d d' :=
  ⟨f.id, f.triggers, f.trigEv, f.frozen, fun h => f.entry ▸ h, fun _ => f.doneP, f.fixed⟩

/-- Every downtime whose guard was passed between `l` and `l'` (its OnDowntimeTriggered count grew) has
    each downtime chained to it — and still existing — triggered or untriggerable in `l'`. -/
def Closed (now : Int) (l l' : List Dt) : Prop :=
  ∀ q ∈ l, ∀ q' ∈ l', q'.id = q.id → q.trigEv < q'.trigEv →
    ∀ c ∈ q.triggers, ∀ x' ∈ l', x'.id = c → x'.removed = false → DoneP now x'

theorem WFL.nodup {l : List Dt} (h : WFL l) : (idsOf l).Nodup := h.1

theorem WFL.newer {l : List Dt} (h : WFL l) : Newer l := h.2.1

theorem WFL.entry {l : List Dt} (h : WFL l) : AllC (fun d => 0 < d.entry) l := h.2.2

theorem closed_same {now : Int} {l l' : List Dt}
    (h : ∀ q ∈ l, ∀ q' ∈ l', q'.id = q.id → q'.trigEv ≤ q.trigEv) : Closed now l l' := by
  intro q hq q' hq' hid hlt
  have := h q hq q' hq' hid
  omega

theorem closed_refl (now : Int) {l : List Dt} (hnd : (idsOf l).Nodup) : Closed now l l := by
  apply closed_same
  intro q hq q' hq' hid
  have : q' = q := eq_of_id hnd hq' hq hid
  subst this; exact Nat.le_refl _

/-- Of a downtime whose `OnDowntimeTriggered` count grew over both transformers, the count grew over the first or
    over the second: in the first case its children were dealt with in the middle list and stay so (`Frame.doneP`),
    in the second they are dealt with by the second (the frame of the first only adds to `triggers`). -/
theorem closed_comp {now : Int} {l l1 l2 : List Dt} (h1 : Closed now l l1) (h2 : Closed now l1 l2)
    (b1 : Pw (Frame now) l l1) (b2 : Pw (Frame now) l1 l2) (hnd : (idsOf l1).Nodup) : Closed now l l2 := by
  intro q hq q2 hq2 hid hlt c hc x2 hx2 hxid hxr
  obtain ⟨q1, hq1, rp⟩ := mem_of_pw_right b2 hq2
  have r1 := pw_pair (fun _ _ r => r.id) b1 hnd hq hq1 (by rw [← rp.id, hid])
  by_cases hl : q.trigEv < q1.trigEv
  · obtain ⟨x1, hx1, rx⟩ := mem_of_pw_right b2 hx2
    have hx1r : x1.removed = false := live_of_frozen rx.frozen hxr
    exact rx.doneP (h1 q hq q1 hq1 r1.id hl c hc x1 hx1 (by rw [← rx.id]; exact hxid) hx1r)
  · have hle := r1.trigEv
    have hlt2 : q1.trigEv < q2.trigEv := by omega
    exact h2 q1 hq1 q2 hq2 rp.id hlt2 c (r1.triggers c hc) x2 hx2 hxid hxr

structure Casc (now : Int) (l l' : List Dt) : Prop where
  closed : Closed now l l'
  frame : Pw (Frame now) l l'
  wfl : WFL l'

theorem ids_frame {now : Int} {l l' : List Dt} (h : Pw (Frame now) l l') : idsOf l' = idsOf l :=
  ids_of_pw (fun _ _ r => r.id) h

namespace Casc
variable {now : Int} {l l1 l2 : List Dt}

theorem refl (hw : WFL l) : Casc now l l :=
  ⟨closed_refl now hw.nodup, pw_refl (stepRel_Frame now).refl l, hw⟩

theorem ids (h : Casc now l l1) : idsOf l1 = idsOf l := ids_frame h.frame

theorem comp (h1 : Casc now l l1) (h2 : Casc now l1 l2) : Casc now l l2 :=
  ⟨closed_comp h1.closed h2.closed h1.frame h2.frame h1.wfl.nodup,
    pw_trans (stepRel_Frame now).trans h1.frame h2.frame, h2.wfl⟩

end Casc

/-- Each transformer of the fold may rely on `WFL` and on the ids being those of `l0` (for its fuel). -/
theorem casc_foldl {now : Int} {α : Type} (g : List Dt → α → List Dt) (xs : List α) (l0 : List Dt)
    (hg : ∀ acc, WFL acc → idsOf acc = idsOf l0 → ∀ x ∈ xs, Casc now acc (g acc x)) :
    ∀ l, WFL l → idsOf l = idsOf l0 → Casc now l (xs.foldl g l) := by
  induction xs with
  | nil => intro l hw _; exact .refl hw
  | cons x xs ih =>
    intro l hw hi
    have c1 := hg l hw hi x List.mem_cons_self
    exact c1.comp (ih (fun acc ha hb y hy => hg acc ha hb y (List.mem_cons_of_mem _ hy)) (g l x) c1.wfl
      (c1.ids.trans hi))

theorem wfl_of_pw {now : Int} {l l' : List Dt} (hw : WFL l) (hb : Pw (Frame now) l l') (hs : Pw RSh l l') : WFL l' :=
  ⟨by rw [ids_frame hb]; exact hw.nodup, newer_of_pw hs hw.newer, 
    allc_of_pw (C := fun d => 0 < d.entry) (fun d d' (r : Frame now d d') h => r.entry ▸ h) hb hw.entry⟩

-- `0 < t` is not used: a cascade keeps `WFL` and the frame whatever time it is given.
theorem wfl_cascade {now t : Int} (ht : 0 < t) (F : Nat) (cs : List Nat) (l : List Dt) (hw : WFL l) :
    WFL (cs.foldl (fun acc c => triggerDt F now t c acc) l) ∧
      Both (RD now) l (cs.foldl (fun acc c => triggerDt F now t c acc) l) ∧
      idsOf (cs.foldl (fun acc c => triggerDt F now t c acc) l) = idsOf l := by
  have hb := pw_cascade (stepRel_Frame now).toAddRel.toTrigRel F t trivial cs l (allc_trivial _)
  exact ⟨wfl_of_pw hw hb (pw_sh_cascade now t F cs l),
    both_of_pw (pw_mono (fun _ _ => rd_of_frame) hb), ids_frame hb⟩

/-- The cascade part shared by `TriggerDowntime` and the start of a fixed downtime: the root `d` is updated by `f`,
    then the cascade runs over its `triggers`.  What is known of a `TriggerDowntime` call with fuel `F` is a parameter
    (`ihF`): for `TriggerDowntime` itself it is the induction hypothesis on the fuel, for the start of a fixed
    downtime it is `casc_triggerDt`. -/
theorem casc_root {now t : Int} (ht : 0 < t) (F : Nat)
    (ihF : ∀ (id : Nat) (l : List Dt), WFL l → rank (idsOf l) id ≤ F → Casc now l (triggerDt F now t id l))
    (id : Nat) (l : List Dt) (hw : WFL l) (d : Dt) (hf : findDt l id = some d)
    (f : Dt → Dt) (hfb : Pw (Frame now) l (updateDt l id f)) (hfsh : Pw RSh l (updateDt l id f))
    (hrk : ∀ c ∈ d.triggers, rank (idsOf l) c ≤ F) :
    Casc now l (d.triggers.foldl (fun acc c => triggerDt F now t c acc) (updateDt l id f)) := by
  have hnd := hw.nodup
  obtain ⟨hdm, hdl⟩ := mem_of_findDt hf
  have hfold : Casc now (updateDt l id f) (d.triggers.foldl (fun acc c => triggerDt F now t c acc) (updateDt l id f)) :=
    casc_foldl _ d.triggers l
      (fun acc hacc hi c hc => ihF c acc hacc (by rw [hi]; exact hrk c hc))
      _ (wfl_of_pw hw hfb hfsh) (ids_frame hfb)
  have hc1 := hfold.closed
  have hb1 := hfold.frame
  have hwf := hfold.wfl
  have hidsf := hfold.ids.trans (ids_frame hfb)
  refine ⟨?_, pw_trans (stepRel_Frame now).trans hfb hb1, hwf⟩
  intro q hq q' hq' hid hlt c hc x' hx' hxid hxr
  by_cases hqid : q.id = id
  · -- the root itself: its children were called
    have hqd : q = d := eq_of_id hnd hq hdm (by rw [hqid, live_id hdl])
    subst hqd
    -- the version of x' after the root update exists too
    obtain ⟨x1, hx1, rx⟩ := mem_of_pw_right hb1 hx'
    have hx1l : live c x1 = true := live_iff.mpr ⟨rx.id.symm.trans hxid, live_of_frozen rx.frozen hxr⟩
    have hF : 1 ≤ F := by
      have h1 : c ∈ idsOf l := by rw [← hxid, ← hidsf]; exact List.mem_map.mpr ⟨x', hx', rfl⟩
      have := rank_pos h1
      have := hrk c hc
      omega
    obtain ⟨x'', hx'', hdone⟩ := cascade_list F hF now t ht q.triggers (updateDt l id f) c hc x1 hx1 hx1l
    have : x'' = x' := eq_of_id hwf.nodup hx'' hx' (by rw [hdone.1, hxid])
    subst this
    exact hdone.2.2
  · -- another downtime: untouched by the root update
    have hq1 : q ∈ updateDt l id f := mem_updateDt_self hq (fun h => absurd (live_id h) hqid)
    exact hc1 q hq1 q' hq' hid hlt c hc x' hx' hxid hxr

theorem pw_sh_updateDt (f : Dt → Dt) (h : ∀ d, Kept d (f d)) (l : List Dt) (id : Nat) :
    Pw RSh l (updateDt l id f) :=
  pw_updateDt RSh.refl f l id (fun d _ _ => .of_kept (h d))

theorem casc_triggerDt {now t : Int} (ht : 0 < t) (F : Nat) :
    ∀ (id : Nat) (l : List Dt), WFL l → rank (idsOf l) id ≤ F → Casc now l (triggerDt F now t id l) := by
  induction F with
  | zero => intro id l hw _; simp only [triggerDt]; exact .refl hw
  | succ n ih =>
    intro id l hw hrk
    simp only [triggerDt]
    split
    · exact .refl hw
    · rename_i d hf
      split
      · exact .refl hw
      · obtain ⟨hdm, hdl⟩ := mem_of_findDt hf
        apply casc_root ht n ih id l hw d hf (trigSelfG now t)
          (pw_trigG (stepRel_Frame now).toAddRel.toTrigRel t trivial l id (allc_trivial _))
          (pw_sh_updateDt _ (kept_trigSelfG now t) l id)
        intro c hc
        have := rank_lt hw.newer hw.nodup hdm hc
        rw [live_id hdl] at this
        omega

theorem casc_startAt {now : Int} (F : Nat) (l : List Dt) (id : Nat) (hw : WFL l) (hF : l.length ≤ F + 1) :
    Casc now l (startAt now F l id) := by
  unfold startAt
  split
  · exact .refl hw
  · rename_i d hf
    split
    · obtain ⟨hdm, hdl⟩ := mem_of_findDt hf
      rename_i hg
      simp at hg
      have ht := startT_pos (hw.entry d hdm)
      apply casc_root ht F (casc_triggerDt ht F) id l hw d hf (startSelfG now)
        (pw_startG (stepRel_Frame now).toAddRel l id (allc_trivial _))
        (pw_sh_updateDt _ (kept_startSelfG now) l id)
      intro c hc
      have h1 := rank_lt hw.newer hw.nodup hdm hc
      have h2 : rank (idsOf l) d.id ≤ l.length := by
        have := rank_le (idsOf l) d.id
        simpa [idsOf] using this
      omega
    · exact .refl hw

theorem pw_sh_startAt (now : Int) (F : Nat) (l : List Dt) (id : Nat) : Pw RSh l (startAt now F l id) := by
  unfold startAt
  split
  · exact pw_refl RSh.refl l
  · split
    · exact pw_trans RSh.trans (pw_sh_updateDt _ (kept_startSelfG now) l id) (pw_sh_cascade now _ F _ _)
    · exact pw_refl RSh.refl l

/-- `RSh`, and no `TriggerDowntime` guard was passed on the way from `d` to `d'`. -/
structure NoGuard (d d' : Dt) : Prop extends RSh d d' where
  trigEv : d'.trigEv = d.trigEv

theorem NoGuard.trans {a b c : Dt} (h : NoGuard a b) (g : NoGuard b c) : NoGuard a c :=
  ⟨RSh.trans a b c h.toRSh g.toRSh, g.trigEv.trans h.trigEv⟩

theorem casc_noGuard {now : Int} {l l' : List Dt} (hn : Pw NoGuard l l') (hb : Pw (Frame now) l l') (hw : WFL l) :
    Casc now l l' := by
  have hw' := wfl_of_pw hw hb (pw_mono (fun _ _ h => h.toRSh) hn)
  exact ⟨closed_same fun q hq q' hq' hid =>
    Nat.le_of_eq (pw_pair (fun _ _ r => r.id) hn hw'.nodup hq hq' hid).trigEv, hb, hw'⟩

theorem noGuard_fireCleanup (now : Int) (d : Dt) : NoGuard d (fireCleanup now d) := by
  rcases fireCleanup_cases now d with ⟨_, h⟩ | ⟨_, _, _, h⟩ | ⟨_, _, _, h⟩ <;> rw [h] <;> exact ⟨⟨rfl, rfl⟩, rfl⟩

theorem noGuard_setQuiet (b : Bool) (d : Dt) : NoGuard d (setQuiet b d) := by
  rw [setQuiet_eq]; exact ⟨⟨rfl, rfl⟩, rfl⟩

theorem casc_fireCleanup (now : Int) (l : List Dt) (hw : WFL l) : Casc now l (l.map (fireCleanup now)) :=
  casc_noGuard (pw_map _ l fun d _ => noGuard_fireCleanup now d) (pw_fireCleanup (stepRel_Frame now) l (allc_trivial _)) hw

theorem pw_sh_fireCleanup (now : Int) (l : List Dt) : Pw RSh l (l.map (fireCleanup now)) :=
  pw_map _ l (fun d _ => (noGuard_fireCleanup now d).toRSh)

theorem pw_sh_startTimer (now : Int) (l : List Dt) : Pw RSh l (startTimer now l) := by
  unfold startTimer
  exact pw_foldl (C := fun _ => True) RSh.refl RSh.trans (fun _ _ _ _ => trivial)
    (fun acc i _ => pw_sh_startAt now _ acc i) (allc_trivial _)

theorem pw_ng_remove (st : St) (id : Nat) (u : Bool) (now : Int) :
    Pw NoGuard st.dts (removeOp st id u now).1.dts :=
  pw_remove (C := fun _ => True) (fun _ => ⟨⟨rfl, rfl⟩, rfl⟩) (fun _ _ _ => ⟨⟨rfl, rfl⟩, rfl⟩) st id u (allc_trivial _)

theorem pw_sh_step (st : St) (op : Op)
    (hop : ∀ p now, op = .add p now → st.dts.any (fun d => d.id == p.id) = true) :
    Pw RSh st.dts (step st op).1.dts := by
  cases op with
  | add p now => rw [step_add_dup (hop p now rfl)]; exact pw_refl RSh.refl _
  | result s te now => exact pw_mono (fun _ _ h => .of_kept h.toKept) (pw_result (trigRel_RC now te) st s te rfl (allc_trivial _))
  | pump now f =>
    simp only [step, pumpOp]
    split
    · exact pw_trans RSh.trans (pw_sh_fireCleanup now _)
        (pw_trans RSh.trans (pw_sh_startTimer now _) (pw_sh_fireCleanup now _))
    · exact pw_sh_fireCleanup now _
  | remove id u now => exact pw_mono (fun _ _ h => h.toRSh) (pw_ng_remove st id u now)
  | setPaused b now =>
    simp only [step, setPausedOp]
    exact pw_map _ _ (fun d _ => (noGuard_setQuiet b d).toRSh)

theorem len_of_ids {l l' : List Dt} (h : idsOf l' = idsOf l) : l'.length = l.length := by
  have := congrArg List.length h
  simpa [idsOf] using this

theorem casc_triggerAll {now t : Int} (ht : 0 < t) (l : List Dt) (hw : WFL l) : Casc now l (triggerAll now t l) :=
  casc_foldl _ (liveIds l) l
    (fun acc hacc hi i _ => casc_triggerDt ht _ i acc hacc (by
      have := rank_le (idsOf acc) i
      have hl := len_of_ids hi
      simp only [idsOf, List.length_map] at this hl ⊢
      omega))
    l hw rfl

/-- Any number of start-timer iterations with the fuel of a list `l1` of the same ids. -/
theorem casc_startAts {now : Int} (l1 : List Dt) (xs : List Nat) (l : List Dt) (hw : WFL l) (hi : idsOf l = idsOf l1) :
    Casc now l (xs.foldl (startAt now l1.length) l) :=
  casc_foldl _ xs l1
    (fun acc hacc hi i _ => casc_startAt _ acc i hacc (by have := len_of_ids hi; omega))
    l hw hi

theorem casc_startTimer {now : Int} (l : List Dt) (hw : WFL l) : Casc now l (startTimer now l) :=
  casc_startAts l (liveIds l) l hw rfl

theorem newer_snoc {l : List Dt} (hn : Newer l) (f : Dt → Dt) {z : Dt} (hz : z.triggers = [])
    (hid : ∀ d, (f d).id = d.id) (hf : ∀ d, ∀ c ∈ (f d).triggers, c ∈ d.triggers ∨ c = z.id) :
    Newer (l.map f ++ [z]) := by
  induction l with
  | nil => exact ⟨fun c hc => absurd (hz ▸ hc) List.not_mem_nil, trivial⟩
  | cons a l ih =>
    refine ⟨fun c hc => ?_, ih hn.2⟩
    have hids : idsOf (l.map f ++ [z]) = idsOf l ++ [z.id] := by
      unfold idsOf
      rw [List.map_append, List.map_map]
      exact congrArg (· ++ [z.id]) (List.map_congr_left (fun d _ => hid d))
    show c ∈ idsOf (l.map f ++ [z])
    rw [hids]
    rcases hf a c hc with h | h
    · exact List.mem_append_left _ (hn.1 c h)
    · rw [h]; exact List.mem_append_right _ List.mem_cons_self

/-- Every operation is a composition of pieces that are each `Casc`: `triggerAll` is a fold of cascades; `remove`,
    `setPaused` and the cleanup pass no guard; a pump is cleanup, start timer, cleanup; an accepted `add` raises only
    the `OnDowntimeTriggered` count of the new downtime, to which nothing is chained yet. -/
theorem casc_step (st : St) (op : Op) (hw : WFL st.dts) (hnow : 0 < op.now) (hop : opOK op) :
    Casc op.now (preModel st op) (step st op).1.dts := by
  have sr := stepRel_Frame op.now
  cases op with
  | result s te now =>
    cases hs : stale st te now
    · rw [step_result_fresh hs]
      dsimp only [preModel]
      split
      · exact casc_triggerAll (by have := hop.1; omega) st.dts hw
      · exact .refl hw
    · rw [step_result_stale hs]
      exact .refl hw
  | remove id u now => exact casc_noGuard (pw_ng_remove st id u now) (pw_remove sr.refl sr.remove st id u (allc_trivial _)) hw
  | pump now f =>
    simp only [preModel, step]
    have h1 := casc_fireCleanup now st.dts hw
    unfold pumpOp
    simp only
    split
    · have h2 := casc_startTimer (now := now) _ h1.wfl
      exact h1.comp (h2.comp (casc_fireCleanup now _ h2.wfl))
    · exact h1
  | setPaused b now =>
    simp only [preModel, step, setPausedOp]
    exact casc_noGuard (pw_map _ _ fun d _ => noGuard_setQuiet b d)
      (pw_map _ _ fun d _ => frame_setq now b d) hw
  | add p now =>
    by_cases hany : st.dts.any (fun d => d.id == p.id) = true
    · simp only [step_add_dup hany, preModel, hany, if_true]
      exact .refl hw
    · have hfr := pw_stepFrame st (.add p now)
      simp only [preModel, step] at hfr ⊢
      have hany' : st.dts.any (fun d => d.id == p.id) = false := Bool.of_not_eq_true hany
      have hk := kept_addedDt st p now
      have hnd' := nodup_step st (.add p now) hw.nodup
      simp only [step] at hnd'
      simp only [hany] at hfr ⊢
      rw [addOp_shape st p now hany'] at hnd' hfr ⊢
      replace hfr : Pw (Frame now) (st.dts ++ [newDt st p now]) (st.dts.map (noteChild st p) ++ [addedDt st p now]) := hfr
      replace hnd' : (idsOf (st.dts.map (noteChild st p) ++ [addedDt st p now])).Nodup := hnd'
      refine ⟨?closed, hfr, hnd', ?newer, ?entry⟩
      case closed =>
        -- only the guard of the new downtime can have been passed, and nothing is chained to it yet
        intro q hq q' hq' hid hlt c hc
        rcases List.mem_append.mp hq with hq | hq
        · exfalso
          rcases List.mem_append.mp hq' with hm | hm
          · obtain ⟨y, hy, rfl⟩ := List.mem_map.mp hm
            rw [noteChild_eq] at hid hlt
            have : y = q := eq_of_id hw.nodup hy hq hid
            subst this
            exact Nat.lt_irrefl _ hlt
          · simp only [List.mem_singleton] at hm
            exact fresh_ids hany' q hq (by rw [← hid, hm]; exact hk.id)
        · simp only [List.mem_singleton] at hq
          rw [hq] at hc
          exact absurd hc List.not_mem_nil
      case newer =>
        -- the `triggers` of the older downtimes gain at most the new id, and the new downtime stands last
        exact newer_snoc hw.newer (noteChild st p) hk.triggers (fun d => by rw [noteChild_eq])
          (fun d c hc => (noteChild_triggers st p d c hc).imp id (fun h => h.1.trans hk.id.symm))
      case entry =>
        -- entry times are kept by the frame; the new downtime's is `now`
        exact allc_of_pw (C := fun d => 0 < d.entry) (fun d d' (r : Frame now d d') h => r.entry ▸ h) hfr
          fun d hd => (List.mem_append.mp hd).elim (hw.entry d) fun h => by
            rw [List.mem_singleton.mp h]; exact hnow

theorem link_step (st : St) (op : Op) (hi : LinkInv st.dts) : LinkInv (step st op).1.dts := by
  have hpm := pw_stepFrame st op
  intro x' hx' htb
  obtain ⟨x, hx, rx⟩ := mem_of_pw_right hpm hx'
  have hxtb : x.trigBy = x'.trigBy := rx.trigBy.symm
  rcases mem_preModel.mp hx with hxs | ⟨p, now, rfl, hany', rfl⟩
  · obtain ⟨q, hq, hqid, hqt⟩ := hi x hxs (by rw [hxtb]; exact htb)
    obtain ⟨q', hq', rq⟩ := step_succ hpm q hq
    exact ⟨q', hq', by rw [rq.id, hqid, hxtb], by rw [rx.id]; exact rq.triggers _ hqt⟩
  · -- x is the downtime just created: the trigger downtime it names has noted it
    have hpar : (p.trigBy != 0 && (findDt st.dts p.trigBy).isSome) = true := by
      by_cases hc : (p.trigBy != 0 && (findDt st.dts p.trigBy).isSome) = true
      · exact hc
      · exfalso; apply htb; rw [← hxtb]; simp [newDt, hc]
    have htbv : x'.trigBy = p.trigBy := by rw [← hxtb]; simp [newDt, hpar]
    cases hf : findDt st.dts p.trigBy with
    | none => rw [hf] at hpar; simp at hpar
    | some par =>
      obtain ⟨hpm2, hpl⟩ := mem_of_findDt hf
      refine ⟨noteChild st p par, ?_, ?_, ?_⟩
      · simp only [step]
        rw [addOp_shape st p now hany']
        exact List.mem_append_left _ (List.mem_map.mpr ⟨par, hpm2, rfl⟩)
      · rw [noteChild_eq, htbv]; exact live_id hpl
      · rw [rx.id]; exact noteChild_parent hpar hpl

theorem chkCascade_model {T : Int} {sp : SpecSt} {st : St} {op : Op} (c : Ctx T sp st op) :
    chkCascade sp op (stepObs st op).2 = true := by
  have hcl := (casc_step st op c.wfl c.now_pos c.ok).closed
  unfold chkCascade
  refine c.post_seen _ fun sd0 x x' s => ?_
  have v := s.v'
  have hx := s.mem
  have hx' := s.mem'
  have rx := s.frame
  have hnd := c.nodup
  generalize SDt.after sp.paused (stepObs st op).2 sd0 = sd at v ⊢
  -- under the guard of the clause, an untriggered downtime leads to a contradiction
  refine or_of_imp fun hcond => ?_
  simp only [bne_iff_ne, ne_eq]
  intro ht
  simp only [Bool.and_eq_true, bne_iff_ne, ne_eq, decide_eq_true_eq, Bool.not_eq_true'] at hcond
  obtain ⟨⟨⟨⟨⟨hal, htb⟩, hev⟩, hadd⟩, hwin⟩, hover⟩ := hcond
  have hxr : x'.removed = false := v.live hal
  have hxt : x'.trigger = 0 := by rw [← v.trig hxr]; exact ht
  -- the trigger downtime exists and its guard was passed
  have hmem : sd.trigBy ∈ idsOf (step st op).1.dts := by
    by_cases hm : sd.trigBy ∈ idsOf (step st op).1.dts
    · exact hm
    · exfalso
      simp only [stepObs] at hev
      rw [evCount_obsOf, sum_ite_none _ _ _ hm] at hev
      omega
  obtain ⟨q', hq', hq'id⟩ := List.mem_map.mp hmem
  have hpw := pw_stepFrame st op
  obtain ⟨q, hq, rq⟩ := mem_of_pw_right hpw hq'
  have hqlt : q.trigEv < q'.trigEv := by
    have h3 : evCount (stepObs st op).2 3 q.id = q'.trigEv - q.trigEv :=
      evCount_pair st op hnd 3 hq hq' rq.id
    rw [← hq'id, rq.id, h3] at hev
    omega
  -- x' existed before the operation
  have hxs : x ∈ st.dts := by
    rcases mem_preModel.mp hx with h | ⟨p, now, rfl, hany', rfl⟩
    · exact h
    · exfalso
      have hrc : (stepObs st (.add p now)).2.rc = 1 := rc_add hany'
      have : sd.id = p.id := by rw [v.id, rx.id]; rfl
      simp [isAddOf, hrc, this] at hadd
  have hxtb : x.trigBy = sd.trigBy := by rw [v.trigBy, rx.trigBy]
  obtain ⟨q0, hq0, hq0id, hq0t⟩ := c.link x hxs (by rw [hxtb]; exact htb)
  have hq0q : q0 = q := eq_of_id (nodup_preModel st op hnd) (mem_preModel.mpr (Or.inl hq0)) hq
    (by rw [hq0id, hxtb, ← hq'id, rq.id])
  subst hq0q
  have hdone := hcl q0 hq q' hq' rq.id hqlt x.id hq0t x' hx' rx.id hxr
  rcases hdone with h | h
  · exact h hxt
  · have hcan : canBeTriggered op.now x' = true := by
      rw [can_eq_window hxt, ← v.start, ← v.fixed, ← v.fin]; exact hwin
    rw [hcan] at h; cases h

end Icinga.C05
