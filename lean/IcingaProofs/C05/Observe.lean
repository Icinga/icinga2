/-
  Ids stay unique (a step keeps the list of ids, up to the fresh id of an accepted `add`), so position by position
  is id by id (`pw_pair`).  Hence the observation functions of the specification (`obsTrig`, `evCount`) read the
  model state, and the reader's bookkeeping stays in step with it (`V`, `RelS`).
-/
import IcingaProofs.C05.Life
import IcingaModel.C05.Spec

namespace Icinga.C05


def idsOf (l : List Dt) : List Nat := l.map (·.id)

theorem ids_of_pw {R : Dt → Dt → Prop} (hid : ∀ a b, R a b → b.id = a.id) {l l' : List Dt} (h : Pw R l l') :
    idsOf l' = idsOf l := by
  induction h with
  | nil => rfl
  | cons hr _ ih => simp only [idsOf, List.map_cons, hid _ _ hr] at ih ⊢; rw [ih]

theorem eq_of_id {l : List Dt} (h : (idsOf l).Nodup) {x y : Dt} (hx : x ∈ l) (hy : y ∈ l) (hid : x.id = y.id) :
    x = y := by
  induction l with
  | nil => cases hx
  | cons a l ih =>
    simp only [idsOf, List.map_cons, List.nodup_cons] at h
    rcases List.mem_cons.mp hx with rfl | hx' <;> rcases List.mem_cons.mp hy with rfl | hy'
    · rfl
    · exact absurd (List.mem_map.mpr ⟨y, hy', hid.symm⟩) h.1
    · exact absurd (List.mem_map.mpr ⟨x, hx', hid⟩) h.1
    · exact ih h.2 hx' hy'

theorem pw_pair {R : Dt → Dt → Prop} (hid : ∀ a b, R a b → b.id = a.id) {l l' : List Dt} (h : Pw R l l')
    (hnd : (idsOf l').Nodup) {d d' : Dt} (hd : d ∈ l) (hd' : d' ∈ l') (e : d'.id = d.id) : R d d' := by
  obtain ⟨d'', hd'', r⟩ := mem_of_pw_left h hd
  rw [← eq_of_id hnd hd'' hd' (by rw [hid _ _ r, e])]
  exact r

theorem find_id_self {l : List Dt} (h : (idsOf l).Nodup) {d : Dt} (hd : d ∈ l) {i : Nat} (hid : d.id = i) :
    l.find? (fun x => x.id == i) = some d := by
  cases hf : l.find? (fun x => x.id == i) with
  | none =>
    have := List.find?_eq_none.mp hf d hd
    simp [hid] at this
  | some y =>
    have hy := List.mem_of_find?_eq_some hf
    have hyid : y.id = i := by have := List.find?_some hf; simpa using this
    rw [eq_of_id h hy hd (hyid.trans hid.symm)]

theorem nodup_preModel (st : St) (op : Op) (h : (idsOf st.dts).Nodup) : (idsOf (preModel st op)).Nodup := by
  cases op with
  | add p now =>
    simp only [preModel]
    split
    · exact h
    · rename_i hany
      have hany' : st.dts.any (fun d => d.id == p.id) = false := Bool.of_not_eq_true hany
      simp only [idsOf, List.map_append, List.map_cons, List.map_nil]
      refine List.nodup_append.mpr ⟨h, by simp, ?_⟩
      intro a ha b hb
      simp [newDt] at hb; subst hb
      intro hab; subst hab
      obtain ⟨d, hd, hid⟩ := List.mem_map.mp ha
      exact fresh_ids hany' d hd hid
  | _ => exact h

theorem nodup_step (st : St) (op : Op) (h : (idsOf st.dts).Nodup) : (idsOf (step st op).1.dts).Nodup := by
  rw [ids_of_pw (fun _ _ r => r.id) (pw_stepFrame st op)]
  exact nodup_preModel st op h

theorem obsTrig_obsOf (old new : St) (rc : Nat) (now : Int) (id : Nat) :
    obsTrig (obsOf old new rc now) id = (findDt new.dts id).map (·.trigger) := by
  simp only [obsTrig, obsOf, findDt]
  induction new.dts with
  | nil => rfl
  | cons d l ih =>
    by_cases hr : d.removed = true <;> by_cases hi : d.id = id <;>
      simp [live, hr, hi] <;> simpa [live] using ih

/-- The ghost counter behind event kind `ev` of `evsOf` (1 DowntimeStart, 2 DowntimeEnd, 3 OnDowntimeTriggered,
    4 OnDowntimeRemoved). -/
def counter (ev : Nat) (d : Dt) : Nat :=
  if ev = 1 then d.starts else if ev = 2 then d.ends else if ev = 3 then d.trigEv else if ev = 4 then d.remEv else 0

/-- The old version `evsOf` compares with. -/
def predOf (old : List Dt) (d : Dt) : Dt :=
  match old.find? (fun x => x.id == d.id) with
  | some x => x
  | none => { d with starts := 0, ends := 0, trigEv := 0, remEv := 0 }

theorem sum_filter_nonzero (q : Nat × Nat × Nat → Bool) (L : List (Nat × Nat × Nat)) :
    (((L.filter (fun e => e.2.2 != 0)).filter q).map (·.2.2)).sum = ((L.filter q).map (·.2.2)).sum := by
  induction L with
  | nil => rfl
  | cons e L ih =>
    simp only [List.filter_cons]
    by_cases h0 : e.2.2 = 0
    · have hb : (e.2.2 != 0) = false := by simp [h0]
      simp only [hb, Bool.false_eq_true, ↓reduceIte]
      by_cases hq : q e = true
      · simp only [hq, ↓reduceIte, List.map_cons, List.sum_cons, h0, Nat.zero_add]; exact ih
      · simp only [hq]; exact ih
    · have hb : (e.2.2 != 0) = true := by simp [h0]
      simp only [hb, ↓reduceIte, List.filter_cons]
      by_cases hq : q e = true
      · simp only [hq, ↓reduceIte, List.map_cons, List.sum_cons]; rw [ih]
      · simp only [hq]; exact ih

theorem evCount_evsOf (old : List Dt) (d : Dt) (ev id : Nat) :
    (((evsOf old d).filter (fun e => e.1 == ev && e.2.1 == id)).map (·.2.2)).sum =
      if d.id = id then counter ev d - counter ev (predOf old d) else 0 := by
  have key : ∀ o : Dt, ((([(1, d.id, d.starts - o.starts), (2, d.id, d.ends - o.ends), (3, d.id, d.trigEv - o.trigEv),
      (4, d.id, d.remEv - o.remEv)] : List (Nat × Nat × Nat)).filter (fun e => e.1 == ev && e.2.1 == id)).map (·.2.2)).sum =
        if d.id = id then counter ev d - counter ev o else 0 := by
    intro o
    by_cases hid : d.id = id
    · simp only [List.filter_cons, List.filter_nil, hid, beq_self_eq_true, Bool.and_true, if_true, counter, beq_iff_eq]
      by_cases h1 : ev = 1
      · subst h1; rfl
      · by_cases h2 : ev = 2
        · subst h2; rfl
        · by_cases h3 : ev = 3
          · subst h3; rfl
          · by_cases h4 : ev = 4
            · subst h4; rfl
            · simp [h1, h2, h3, h4, Ne.symm h1, Ne.symm h2, Ne.symm h3, Ne.symm h4]
    · simp [hid]
  unfold evsOf
  simp only
  rw [sum_filter_nonzero]
  exact key _

theorem evCount_obsOf (old new : St) (rc : Nat) (now : Int) (ev id : Nat) :
    evCount (obsOf old new rc now) ev id =
      (new.dts.map (fun d => if d.id = id then counter ev d - counter ev (predOf old.dts d) else 0)).sum := by
  simp only [evCount, obsOf]
  induction new.dts with
  | nil => rfl
  | cons d l ih =>
    simp only [List.map_cons, List.flatten_cons, List.filter_append, List.map_append, List.sum_append, List.sum_cons]
    rw [ih, evCount_evsOf old.dts d ev id]

theorem sum_ite_none (l : List Dt) (id : Nat) (f : Dt → Nat) (h : id ∉ idsOf l) :
    (l.map (fun d => if d.id = id then f d else 0)).sum = 0 := by
  induction l with
  | nil => rfl
  | cons a l ih =>
    simp only [idsOf, List.map_cons, List.mem_cons, not_or] at h
    have ha : ¬ a.id = id := fun e => h.1 e.symm
    simp only [List.map_cons, List.sum_cons, ha, if_false, Nat.zero_add]
    exact ih h.2

theorem sum_ite_unique (l : List Dt) (f : Dt → Nat) (h : (idsOf l).Nodup) (d : Dt) (hd : d ∈ l) :
    (l.map (fun x => if x.id = d.id then f x else 0)).sum = f d := by
  induction l with
  | nil => cases hd
  | cons a l ih =>
    simp only [idsOf, List.map_cons, List.nodup_cons] at h
    simp only [List.map_cons, List.sum_cons]
    rcases List.mem_cons.mp hd with rfl | hd'
    · simp only [if_true]
      rw [sum_ite_none l d.id f h.1]; omega
    · have ha : ¬ a.id = d.id := by
        intro e
        exact h.1 (List.mem_map.mpr ⟨d, hd', e.symm⟩)
      simp only [ha, if_false, Nat.zero_add]
      exact ih h.2 hd'

/-- What the reader knows about a downtime agrees with the model's downtime (the trigger time only as
    long as the downtime exists: it is no longer observed afterwards). -/
structure V (sd : SDt) (d : Dt) : Prop where
  id : sd.id = d.id
  fixed : sd.fixed = d.fixed
  start : sd.start = d.start
  fin : sd.fin = d.fin
  duration : sd.duration = d.duration
  trigBy : sd.trigBy = d.trigBy
  owner : sd.owner = d.owner
  alive : sd.alive = !d.removed
  trig : d.removed = false → sd.trig = d.trigger
  starts : sd.starts = d.starts
  ends : sd.ends = d.ends

namespace V

theorem live {sd : SDt} {d : Dt} (v : V sd d) (h : sd.alive = true) : d.removed = false := by
  have := v.alive
  rw [h] at this
  cases hr : d.removed with
  | false => rfl
  | true => rw [hr] at this; cases this

theorem inWindow {sd : SDt} {d : Dt} (v : V sd d) (now : Int) :
    sd.inWindow now = true ↔ d.start ≤ now ∧ now ≤ d.fin := by
  simp only [SDt.inWindow, Bool.and_eq_true, decide_eq_true_eq, v.start, v.fin]

theorem inEffect {now : Int} {sd : SDt} {d : Dt} (v : V sd d) :
    (sd.alive && sd.inEffect now) = (!d.removed && isInEffect now d) := by
  rw [v.alive]
  cases hr : d.removed with
  | true => rfl
  | false =>
    simp only [SDt.inEffect, isInEffect, v.fixed, v.start, v.fin, v.duration, v.trig hr, Bool.not_false, Bool.true_and]
    cases d.fixed <;> by_cases h0 : d.trigger = 0 <;> simp [h0]

end V

structure RelS (sp : SpecSt) (st : St) : Prop where
  kind : sp.kind = st.kind
  checked : sp.checked = st.lastExec.isSome
  state : sp.checked = true → sp.state = st.state
  pending : sp.checked = false → st.state = 3
  since : sp.since = st.lastStateChange
  paused : sp.paused = st.paused
  dts : Pw V sp.dts st.dts

theorem problem_relS {sp : SpecSt} {st : St} (h : RelS sp st) : sp.problem = st.problem := by
  obtain ⟨h1, h2, h3, _, _, _, _⟩ := h
  simp only [SpecSt.problem, St.problem, h1, ← h2]
  cases hc : sp.checked with
  | true => simp [h3 hc]
  | false => simp

theorem findDt_none_of_not_mem {l : List Dt} {i : Nat} (h : i ∉ idsOf l) : findDt l i = none := by
  unfold findDt
  apply List.find?_eq_none.mpr
  intro x hx hl
  exact h (List.mem_map.mpr ⟨x, hx, live_id hl⟩)

theorem findDt_unique {l : List Dt} (h : (idsOf l).Nodup) {d : Dt} (hd : d ∈ l) :
    findDt l d.id = if d.removed then none else some d := by
  cases hf : findDt l d.id with
  | none =>
    unfold findDt at hf
    have := List.find?_eq_none.mp hf d hd
    simp [live] at this
    simp [this]
  | some y =>
    obtain ⟨hy, hl⟩ := mem_of_findDt hf
    have : y = d := eq_of_id h hy hd (live_id hl)
    subst this
    simp [live_not_removed hl]

theorem findDt_live {l : List Dt} (h : (idsOf l).Nodup) {d : Dt} (hd : d ∈ l) (hr : d.removed = false) :
    findDt l d.id = some d := by
  rw [findDt_unique h hd, hr]; rfl

theorem parent_alive {sl : List SDt} {dl : List Dt} (hp : Pw V sl dl) (hnd : (idsOf dl).Nodup) (i : Nat) :
    parentAliveS sl i = (findDt dl i).isSome := by
  unfold parentAliveS
  induction hp with
  | nil => rfl
  | @cons sd d sl' dl' hv _ ih =>
    simp only [idsOf, List.map_cons, List.nodup_cons] at hnd
    by_cases hi : d.id = i
    · have hsi : sd.id = i := by rw [hv.id]; exact hi
      simp only [List.find?_cons, hsi, beq_self_eq_true]
      rw [hv.alive]
      cases hr : d.removed with
      | false => simp [findDt, live, hi, hr]
      | true =>
        have hn : findDt dl' i = none := findDt_none_of_not_mem (by rw [← hi]; exact hnd.1)
        unfold findDt at hn
        simp [findDt, live, hr, hn]
    · have hsi : ¬ sd.id = i := by rw [hv.id]; exact hi
      have h1 : (sd.id == i) = false := by simp [hsi]
      have h2 : live i d = false := by simp [live, hi]
      simp only [List.find?_cons, h1, findDt, h2]
      exact ih hnd.2

theorem pw_chain {S S' : SDt → Dt → Prop} {R : Dt → Dt → Prop} (f : SDt → SDt) :
    ∀ (pre : List SDt) (dl nl : List Dt), Pw S pre dl → Pw R dl nl →
      (∀ sd d d', d ∈ dl → d' ∈ nl → S sd d → R d d' → S' (f sd) d') → Pw S' (pre.map f) nl := by
  intro pre
  induction pre with
  | nil => intro dl nl h1 h2 _; cases h1; cases h2; exact Pw.nil
  | cons sd pre ih =>
    intro dl nl h1 h2 hf
    cases h1 with
    | cons hv h1' =>
      cases h2 with
      | cons hr h2' =>
        refine Pw.cons (hf _ _ _ List.mem_cons_self List.mem_cons_self hv hr) (ih _ _ h1' h2' ?_)
        intro sd d d' hd hd' v r
        exact hf sd d d' (List.mem_cons_of_mem _ hd) (List.mem_cons_of_mem _ hd') v r

theorem all_chain {S : SDt → Dt → Prop} {R : Dt → Dt → Prop} (P : SDt → Bool)
    (pre : List SDt) (dl nl : List Dt) (h1 : Pw S pre dl) (h2 : Pw R dl nl)
    (hf : ∀ sd d d', d ∈ dl → d' ∈ nl → S sd d → R d d' → P sd = true) : pre.all P = true := by
  refine List.all_eq_true.mpr fun sd hs => ?_
  obtain ⟨d, hd, v⟩ := mem_of_pw_left h1 hs
  obtain ⟨d', hd', r⟩ := mem_of_pw_left h2 hd
  exact hf sd d d' hd hd' v r

theorem predOf_cnt (st : St) (op : Op) (hnd : (idsOf st.dts).Nodup) (ev : Nat) {d d' : Dt}
    (hd : d ∈ preModel st op) (hid : d'.id = d.id) : counter ev (predOf st.dts d') = counter ev d := by
  have hin : d ∈ st.dts → counter ev (predOf st.dts d') = counter ev d := by
    intro hm
    unfold predOf
    rw [find_id_self hnd hm hid.symm]
  rcases mem_preModel.mp hd with hm | ⟨p, now, _, hany', rfl⟩
  · exact hin hm
  · have hnone : st.dts.find? (fun x => x.id == d'.id) = none := by
      apply List.find?_eq_none.mpr
      intro x hx
      have := List.any_eq_false.mp hany' x hx
      simp only [hid, newDt]
      simpa using this
    unfold predOf
    rw [hnone]
    simp [counter, newDt]

theorem evCount_pair (st : St) (op : Op) (hnd : (idsOf st.dts).Nodup) (ev : Nat) {d d' : Dt}
    (hd : d ∈ preModel st op) (hd' : d' ∈ (step st op).1.dts) (hid : d'.id = d.id) :
    evCount (stepObs st op).2 ev d.id = counter ev d' - counter ev d := by
  simp only [stepObs]
  rw [evCount_obsOf, ← hid]
  rw [sum_ite_unique _ (fun x => counter ev x - counter ev (predOf st.dts x)) (nodup_step st op hnd) d' hd']
  rw [predOf_cnt st op hnd ev hd hid]

theorem obsTrig_pair (st : St) (op : Op) (hnd : (idsOf st.dts).Nodup) {d d' : Dt}
    (hd' : d' ∈ (step st op).1.dts) (hid : d'.id = d.id) :
    obsTrig (stepObs st op).2 d.id = if d'.removed then none else some d'.trigger := by
  simp only [stepObs]
  rw [obsTrig_obsOf, ← hid, findDt_unique (nodup_step st op hnd) hd']
  cases d'.removed <;> rfl

namespace V

theorem after (st : St) (op : Op) (hnd : (idsOf st.dts).Nodup) {sd : SDt} {d d' : Dt}
    (hd : d ∈ preModel st op) (hd' : d' ∈ (step st op).1.dts) (v : V sd d) (r : Frame op.now d d') (q : Bool) :
    V (SDt.after q (stepObs st op).2 sd) d' := by
  have hs : evCount (stepObs st op).2 1 d.id = d'.starts - d.starts :=
    evCount_pair st op hnd 1 hd hd' r.id
  have he : evCount (stepObs st op).2 2 d.id = d'.ends - d.ends :=
    evCount_pair st op hnd 2 hd hd' r.id
  have ht := obsTrig_pair st op hnd hd' r.id
  have ha := v.alive
  simp only [SDt.after, v.id, hs, he, ht]
  exact {
    id := r.id.symm
    fixed := v.fixed.trans r.fixed.symm
    start := v.start.trans r.start.symm
    fin := v.fin.trans r.fin.symm
    duration := v.duration.trans r.duration.symm
    trigBy := v.trigBy.trans r.trigBy.symm
    owner := v.owner.trans r.owner.symm
    alive := by
      cases hr' : d'.removed with
      | true => simp
      | false => simp [ha, live_of_frozen r.frozen hr']
    trig := fun hr' => by simp [hr', ha, live_of_frozen r.frozen hr']
    starts := by rw [v.starts]; exact Nat.add_sub_of_le r.starts
    ends := by rw [v.ends]; exact Nat.add_sub_of_le r.ends }

end V

theorem pw_preDts {S : SDt → Dt → Prop} (sp : SpecSt) (st : St) (op : Op) (hp : Pw S sp.dts st.dts)
    (hnew : ∀ p now, op = .add p now →
      S (newSDt p (p.trigBy != 0 && parentAliveS sp.dts p.trigBy)) (newDt st p now)) :
    Pw S (preDts sp op (stepObs st op).2) (preModel st op) := by
  cases op with
  | add p now =>
    simp only [preDts, preModel, stepObs_rc, step, addOp]
    by_cases hany : st.dts.any (fun d => d.id == p.id) = true
    · simp [hany]; exact hp
    · simp only [Bool.of_not_eq_true hany, Bool.false_eq_true, if_false, beq_self_eq_true, if_true]
      exact pw_append hp (hnew p now rfl)
  | _ => exact hp

theorem pw_pre (sp : SpecSt) (st : St) (op : Op) (hp : Pw V sp.dts st.dts) (hnd : (idsOf st.dts).Nodup) :
    Pw V (preDts sp op (stepObs st op).2) (preModel st op) := by
  refine pw_preDts sp st op hp fun p now _ => ⟨rfl, rfl, rfl, rfl, rfl, ?_, rfl, rfl, fun _ => rfl, rfl, rfl⟩
  simp only [newSDt, newDt]
  rw [parent_alive hp hnd p.trigBy]

theorem pw_post (sp : SpecSt) (st : St) (op : Op) (hrel : RelS sp st) (hnd : (idsOf st.dts).Nodup) :
    Pw V (postDts sp op (stepObs st op).2) (step st op).1.dts :=
  pw_chain _ _ _ _ (pw_pre sp st op hrel.dts hnd) (pw_stepFrame st op) fun _ _ _ hd hd' v r =>
    V.after st op hnd hd hd' v r sp.paused

theorem relS_step (sp : SpecSt) (st : St) (op : Op) (hrel : RelS sp st) (hnd : (idsOf st.dts).Nodup) :
    RelS (specNext sp op (stepObs st op).2) (stepObs st op).1 := by
  have hdts : Pw V ((preDts sp op (stepObs st op).2).map (SDt.after sp.paused (stepObs st op).2)) (step st op).1.dts :=
    pw_post sp st op hrel hnd
  obtain ⟨h1, h2, h3, h4, h5, h6p, _⟩ := hrel
  rw [stepObs_fst]
  cases op with
  | result s te now =>
    by_cases hs : stale st te now = true
    · have hrc : (stepObs st (.result s te now)).2.rc = 0 := congrArg Prod.snd (step_result_stale hs)
      have hst : (step st (.result s te now)).1 = st := congrArg Prod.fst (step_result_stale hs)
      rw [hst] at hdts ⊢
      simp only [specNext, hrc]
      exact ⟨h1, h2, h3, h4, h5, h6p, hdts⟩
    · have hs' : stale st te now = false := Bool.of_not_eq_true hs
      have hrc : (stepObs st (.result s te now)).2.rc = 1 := rc_result hs'
      simp only [specNext, hrc, beq_self_eq_true, if_true]
      rw [step_result_fresh hs'] at hdts ⊢
      refine ⟨h1, rfl, fun _ => rfl, fun h => Bool.noConfusion h, ?_, h6p, hdts⟩
      simp only [stateChangeSpec, h1, h5]
      cases hc : sp.checked with
      | true => simp [h3 hc]
      | false => simp [h4 hc]
  | setPaused b now => exact ⟨h1, h2, h3, h4, h5, rfl, hdts⟩
  | _ =>
    rw [step_dts_only st _ (fun _ _ _ h => by cases h) (fun _ _ h => by cases h)]
    simp only [specNext]
    exact ⟨h1, h2, h3, h4, h5, h6p, hdts⟩

theorem rq_pair (st : St) (op : Op) (hnd : (idsOf st.dts).Nodup) {d d' : Dt} (hd : d ∈ preModel st op)
    (hd' : d' ∈ (step st op).1.dts) (hid : d'.id = d.id) : (∃ b, d' = setQuiet b d) ∨ RQ d d' := by
  cases op with
  | setPaused b now =>
    left
    simp only [step, setPausedOp] at hd'
    obtain ⟨y, hy, rfl⟩ := List.mem_map.mp hd'
    exact ⟨b, by rw [eq_of_id hnd hy hd (by rw [← setQuiet_id b y]; exact hid)]⟩
  | _ =>
    exact Or.inr (pw_pair (fun _ _ r => r.1.id) (pw_stepRQ st _ rfl) (nodup_step st _ hnd) hd hd' hid).2

def QInv (st : St) : Prop := ∀ d ∈ st.dts, d.removed = false → d.quiet = st.paused

theorem qinv_step (st : St) (op : Op) (hi : QInv st) : QInv (step st op).1 := by
  intro d' hd' hr'
  cases op with
  | setPaused b now =>
    simp only [step, setPausedOp] at hd' ⊢
    obtain ⟨y, _, rfl⟩ := List.mem_map.mp hd'
    have hyr : y.removed = false := by rw [← setQuiet_removed b y]; exact hr'
    simp [setQuiet, hyr]
  | _ =>
    rw [paused_step st _ rfl]
    rcases step_pred (pw_stepRQ st _ rfl) d' hd' with ⟨d, hd, f, r⟩ | ⟨p', _, _, _, _, r⟩
    · rw [r.quiet]
      exact hi d hd (live_of_frozen f.frozen hr')
    · rw [r.quiet]; rfl

theorem qinv_pre (st : St) (op : Op) (hi : QInv st) : ∀ d ∈ preModel st op, d.removed = false → d.quiet = st.paused := by
  intro d hd hr
  rcases mem_preModel.mp hd with h | ⟨p, _, _, _, rfl⟩
  · exact hi d h hr
  · rfl

end Icinga.C05
