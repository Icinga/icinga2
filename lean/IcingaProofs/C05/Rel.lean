/-
  The relations between the old and the new version of one downtime that hold from any state (no invariant of the
  run is needed), each an instance of the framework of Lemmas.lean: `Frame` across any operation, `RC` inside one
  `TriggerDowntime(t)` cascade, `RQ` across an operation other than `setPaused` (`NP`: what it gives over runs in which
  the checkable is never paused).
-/
import IcingaProofs.C05.Step

namespace Icinga.C05


/-- The window of the property: fixed ⇒ `[start, end)`; flexible ⇒ `duration` seconds from the trigger. -/
def InWindow (now : Int) (d : Dt) : Prop :=
  (d.fixed = true ∧ d.start ≤ now ∧ now < d.fin) ∨
  (d.fixed = false ∧ d.trigger ≠ 0 ∧ now < d.trigger + d.duration)

theorem isInEffect_iff (now : Int) (d : Dt) : isInEffect now d = true ↔ InWindow now d := by
  unfold isInEffect InWindow
  cases hf : d.fixed <;> by_cases ht : d.trigger = 0 <;> simp [ht]

theorem canBeTriggered_window {now : Int} {d : Dt} (h : canBeTriggered now d = true) :
    d.start ≤ now ∧ now ≤ d.fin ∧ (d.fixed = true → now < d.fin) := by
  cases hf : d.fixed <;> simp [canBeTriggered, hf] at h ⊢ <;> omega

theorem can_eq_window {now : Int} {d : Dt} (h0 : d.trigger = 0) :
    canBeTriggered now d =
      (decide (d.start ≤ now) && (if d.fixed then decide (now < d.fin) else decide (now ≤ d.fin))) := by
  rw [Bool.eq_iff_iff]
  cases hf : d.fixed <;>
    simp [canBeTriggered, isExpired, isInEffect, isTriggered, hf, h0] <;> omega

theorem can_of_window {now : Int} {d : Dt} (h0 : d.trigger = 0)
    (hw : d.start ≤ now ∧ now ≤ d.fin ∧ (d.fixed = true → now < d.fin)) : canBeTriggered now d = true := by
  rw [can_eq_window h0]
  cases hf : d.fixed <;> simp [hf] at hw ⊢
  · exact ⟨hw.1, hw.2⟩
  · exact ⟨hw.1, hw.2.2⟩

/-- The trigger time a start hands to `TriggerDowntime`. -/
theorem startT_pos {d : Dt} (h : 0 < d.entry) : 0 < max d.start d.entry :=
  Int.lt_of_lt_of_le h (Int.le_max_right _ _)

theorem blocked_after_trigger (now : Int) (d : Dt) (h1 : 0 < d.trigger) (h2 : d.trigger ≤ now) :
    canBeTriggered now d = false := by
  unfold canBeTriggered isExpired isInEffect isTriggered
  cases hf : d.fixed
  · have h0 : ¬ d.trigger = 0 := by omega
    by_cases hin : now < d.trigger + d.duration <;> simp [h0, h1, h2, hin]
  · by_cases ha : d.start ≤ now <;> by_cases hb : now < d.fin <;> simp [h1, h2, ha, hb] <;> omega

theorem canBeTriggered_congr {now : Int} {d d' : Dt} (h1 : d'.fixed = d.fixed) (h2 : d'.start = d.start)
    (h3 : d'.fin = d.fin) (h4 : d'.duration = d.duration) (h5 : d'.trigger = d.trigger) :
    canBeTriggered now d' = canBeTriggered now d := by
  unfold canBeTriggered isExpired isInEffect isTriggered
  rw [h1, h2, h3, h4, h5]

theorem fireCleanup_not_due (now : Int) (d : Dt) : cleanupDue now (fireCleanup now d) = false := by
  rcases fireCleanup_cases now d with ⟨hc, h⟩ | ⟨_, _, _, h⟩ | ⟨_, _, _, h⟩ <;> rw [h]
  · exact hc
  · simp [cleanupDue, removeDt]
  · simp [cleanupDue]

theorem pump_not_due (st : St) (now : Int) (f : Bool) : ∀ d ∈ (pumpOp st now f).dts, cleanupDue now d = false := by
  intro d hd
  unfold pumpOp at hd
  simp only at hd
  split at hd
  · obtain ⟨x, _, rfl⟩ := List.mem_map.mp hd
    exact fireCleanup_not_due now x
  · obtain ⟨x, _, rfl⟩ := List.mem_map.mp hd
    exact fireCleanup_not_due now x

theorem due_implies_expired (now : Int) (d : Dt) (hdur : 0 ≤ d.duration) (ht : 0 ≤ d.trigger)
    (harm : d.cleanup = some (cleanupPoint d)) (hdue : cleanupDue now d = true) :
    isExpired now d = true := by
  simp only [cleanupDue, harm, cleanupPoint] at hdue
  unfold isExpired isTriggered isInEffect
  cases hf : d.fixed <;> simp [hf] at hdue ⊢
  · by_cases h0 : d.trigger = 0
    · simp [h0] at hdue ⊢; omega
    · have hpos : 0 < d.trigger := by omega
      have : ¬ d.trigger ≤ 0 := by omega
      simp [this] at hdue
      simp [h0, hpos]
      omega
  · exact hdue.2

theorem not_over {now : Int} {d : Dt} (ht : 0 ≤ d.trigger) (h : now ≤ cleanupPoint d) :
    ((d.fixed = true ∨ d.trigger = 0) → now ≤ d.fin) ∧ (d.fixed = false → d.trigger ≠ 0 → now ≤ d.trigger + d.duration) := by
  unfold cleanupPoint at h
  cases hf : d.fixed <;> by_cases h0 : d.trigger ≤ 0 <;> simp [hf, h0] at h ⊢ <;> omega

/-! A removed downtime is never touched again: `d.removed = true → d' = d`, the clause `frozen` of `Frame`. -/

theorem live_of_frozen {d d' : Dt} (h : d.removed = true → d' = d) (hr' : d'.removed = false) :
    d.removed = false := by
  cases hr : d.removed with
  | false => rfl
  | true => rw [h hr, hr] at hr'; cases hr'

theorem frozen_of_live {d d' : Dt} (hr : d.removed = false) : d.removed = true → d' = d :=
  fun h => Bool.noConfusion (hr.symm.trans h)

/-- Old and new version of one downtime across an operation at `now`, from any state.  `lower`: `TriggerDowntime`
    clamps the time it is given to `start_time`; `setEv`, `evWindow`: the write of the trigger time comes with an
    `OnDowntimeTriggered` signal, which fires only inside the window; `startsEv`: a DowntimeStart request is only
    made together with such a signal. -/
structure Frame (now : Int) (d d' : Dt) : Prop extends Params d d' where
  triggers : ∀ c ∈ d.triggers, c ∈ d'.triggers
  starts : d.starts ≤ d'.starts
  ends : d.ends ≤ d'.ends
  endsOnce : d.removed = false → d'.ends ≤ d.ends + 1 ∧ (d'.removed = false → d'.ends = d.ends)
  trigEv : d.trigEv ≤ d'.trigEv
  startsEv : d'.starts + d.trigEv ≤ d.starts + d'.trigEv
  frozen : d.removed = true → d' = d
  once : d.trigger ≠ 0 → d'.trigger = d.trigger
  window : d.trigger = 0 → d'.trigger ≠ 0 → d.start ≤ now ∧ now ≤ d.fin ∧ (d.fixed = true → now < d.fin)
  lower : d.trigger = 0 → d'.trigger ≠ 0 → d.start ≤ d'.trigger
  setEv : d.trigger = 0 → d'.trigger ≠ 0 → d.trigEv < d'.trigEv
  evWindow : d.trigEv < d'.trigEv → d.start ≤ now ∧ now ≤ d.fin

theorem Frame.live_of_ne {now : Int} {d d' : Dt} (f : Frame now d d') (h : d' ≠ d) : d.removed = false := by
  cases hr : d.removed with
  | false => rfl
  | true => exact absurd (f.frozen hr) h

theorem frame_same (now : Int) {d : Dt} {c : Option Int} {q : Bool} {ts : List Nat} (hts : ∀ x ∈ d.triggers, x ∈ ts)
    (hz : d.removed = true → { d with cleanup := c, quiet := q, triggers := ts } = d) :
    Frame now d { d with cleanup := c, quiet := q, triggers := ts } where
  toParams := ⟨rfl, rfl, rfl, rfl, rfl, rfl, rfl, rfl⟩
  triggers := hts
  starts := Nat.le_refl _
  ends := Nat.le_refl _
  endsOnce := fun _ => ⟨Nat.le_succ _, fun _ => rfl⟩
  trigEv := Nat.le_refl _
  startsEv := Nat.le_refl _
  frozen := hz
  once := fun _ => rfl
  window := fun h0 hn => absurd h0 hn
  lower := fun h0 hn => absurd h0 hn
  setEv := fun h0 hn => absurd h0 hn
  evWindow := fun h => absurd h (Nat.lt_irrefl _)

theorem frame_hit (now : Int) {d : Dt} {T : Int} {c : Option Int} {s : Nat} (hr : d.removed = false)
    (hw : d.start ≤ now ∧ now ≤ d.fin ∧ (d.fixed = true → now < d.fin)) (hT : d.start ≤ T)
    (hs : d.starts ≤ s ∧ s ≤ d.starts + 1) :
    Frame now d { d with trigger := if d.trigger = 0 then T else d.trigger, cleanup := c, trigEv := d.trigEv + 1,
                         starts := s } where
  toParams := ⟨rfl, rfl, rfl, rfl, rfl, rfl, rfl, rfl⟩
  triggers := fun _ h => h
  starts := hs.1
  ends := Nat.le_refl _
  endsOnce := fun _ => ⟨Nat.le_succ _, fun _ => rfl⟩
  trigEv := Nat.le_succ _
  startsEv := by show s + d.trigEv ≤ d.starts + (d.trigEv + 1); omega
  frozen := frozen_of_live hr
  once := fun h => if_neg h
  window := fun _ _ => hw
  lower := fun h0 _ => (if_pos h0).symm ▸ hT
  setEv := fun _ _ => Nat.lt_succ_self _
  evWindow := fun _ => ⟨hw.1, hw.2.1⟩

theorem stepRel_Frame (now : Int) : StepRel now (fun _ => True) (fun _ => True) (Frame now) where
  refl := fun _ => frame_same now (fun _ h => h) (fun _ => rfl)
  trans := fun a b c h g =>
    { toParams := h.toParams.trans g.toParams
      triggers := fun x hx => g.triggers x (h.triggers x hx)
      starts := Nat.le_trans h.starts g.starts
      ends := Nat.le_trans h.ends g.ends
      endsOnce := fun ha => by
        have hb := h.endsOnce ha
        cases hbr : b.removed with
        | true => rw [g.frozen hbr]; exact ⟨hb.1, fun hc => Bool.noConfusion (hbr.symm.trans hc)⟩
        | false => rw [← hb.2 hbr]; exact g.endsOnce hbr
      trigEv := Nat.le_trans h.trigEv g.trigEv
      startsEv := by have := h.startsEv; have := g.startsEv; omega
      frozen := fun ha => by rw [g.frozen (h.frozen ha ▸ ha), h.frozen ha]
      once := fun ha => by rw [g.once (h.once ha ▸ ha), h.once ha]
      window := fun ha hc => by
        by_cases hb : b.trigger = 0
        · rw [← h.fixed, ← h.start, ← h.fin]; exact g.window hb hc
        · exact h.window ha hb
      lower := fun ha hc => by
        by_cases hb : b.trigger = 0
        · rw [← h.start]; exact g.lower hb hc
        · rw [g.once hb]; exact h.lower ha hb
      setEv := fun ha hc => by
        by_cases hb : b.trigger = 0
        · have := g.setEv hb hc; have := h.trigEv; omega
        · have := h.setEv ha hb; have := g.trigEv; omega
      evWindow := fun hlt => by
        by_cases hab : a.trigEv < b.trigEv
        · exact h.evWindow hab
        · rw [← h.start, ← h.fin]; exact g.evWindow (by have := h.trigEv; omega) }
  ctx := fun _ _ _ _ => trivial
  trig := by
    intro t d _ _ hc hr
    rw [trigSelf_eq]
    exact frame_hit now hr (canBeTriggered_window hc) (Int.le_max_right _ _) (by split <;> omega)
  startT := fun _ _ _ _ _ => trivial
  start := by
    intro d _ _ hc hr
    rw [startSelf_eq]
    exact frame_hit now hr (canBeTriggered_window hc) (Int.le_max_left _ _) (by split <;> omega)
  remove := fun d _ hr =>
    -- `removeDt` also sets `removed`, `remEv`, `ends`: the fields that do not mention them are `frame_same`'s as they
    -- stand, `frozen` (whose statement names the new version) is given again
    { frame_same now (c := none) (q := d.quiet) (fun _ h => h) (frozen_of_live hr) with
      ends := by dsimp only [removeDt]; split <;> omega
      endsOnce := fun _ => ⟨by dsimp only [removeDt]; split <;> omega, fun h => Bool.noConfusion h⟩
      frozen := frozen_of_live hr }
  setup := fun _ _ hr => frame_same now (fun _ h => h) (frozen_of_live hr)
  addTrig := by
    intro c d _ hr
    rw [addTrigger_eq]
    refine frame_same now (fun x h => ?_) (frozen_of_live hr)
    split
    · exact h
    · exact List.mem_append_left _ h
  disarm := fun _ _ hr _ _ => frame_same now (fun _ h => h) (frozen_of_live hr)

theorem frame_setq (now : Int) (b : Bool) (d : Dt) : Frame now d (setQuiet b d) :=
  rel_setQuiet (stepRel_Frame now).refl b d fun hr => frame_same now (fun _ h => h) (frozen_of_live hr)

theorem frame_fireCleanup (now : Int) (d : Dt) : Frame now d (fireCleanup now d) :=
  rel_fireCleanup (stepRel_Frame now) d trivial

theorem Frame.trigger_eq {now : Int} {d d' : Dt} (f : Frame now d d') (h : d'.trigEv = d.trigEv) :
    d'.trigger = d.trigger := by
  by_cases h0 : d.trigger = 0
  · by_cases h1 : d'.trigger = 0
    · rw [h0, h1]
    · have := f.setEv h0 h1; omega
  · exact f.once h0

theorem pw_stepFrame (st : St) (op : Op) : Pw (Frame op.now) (preModel st op) (step st op).1.dts :=
  pw_step st op (stepRel_Frame op.now) (allc_trivial _) (opT_trivial st op) (fun b _ _ d _ => frame_setq op.now b d)

def PEnd (d : Dt) : Prop := d.ends ≤ 1 ∧ (d.removed = false → d.ends = 0)

theorem pend_step (st : St) (op : Op) (h0 : ∀ d ∈ st.dts, PEnd d) : ∀ d ∈ (step st op).1.dts, PEnd d := by
  intro d' hd'
  have key : ∀ d, Frame op.now d d' → d.removed = false → d.ends = 0 → PEnd d' := fun d r hr he =>
    ⟨by have := (r.endsOnce hr).1; omega, fun hr' => ((r.endsOnce hr).2 hr').trans he⟩
  rcases step_pred (pw_stepFrame st op) d' hd' with ⟨d, hd, r⟩ | ⟨p, _, _, _, r⟩
  · have pd := h0 d hd
    cases hr : d.removed with
    | true => rw [r.frozen hr]; exact pd
    | false => exact key d r hr (pd.2 hr)
  · exact key _ r rfl rfl

/-- Nothing is left for `TriggerDowntime` to do on this downtime at `now`: it has been triggered, or it cannot be.
    A trigger time of 0 encodes "not triggered"; that is why every trigger time handed down a cascade is required
    to be positive (`0 < t`): the time recorded, `max t start_time`, must not be 0. -/
def DoneP (now : Int) (x : Dt) : Prop := x.trigger ≠ 0 ∨ canBeTriggered now x = false

theorem Frame.doneP {now : Int} {d d' : Dt} (f : Frame now d d') (hd : DoneP now d) : DoneP now d' := by
  by_cases h0' : d'.trigger = 0
  · have h0 : d.trigger = 0 := Classical.byContradiction fun h => h (by rw [← f.once h]; exact h0')
    rcases hd with hd | hd
    · exact absurd h0 hd
    · exact Or.inr (by rw [canBeTriggered_congr f.fixed f.start f.fin f.duration (h0'.trans h0.symm)]; exact hd)
  · exact Or.inl h0'

/-- Old and new version of a downtime inside one `TriggerDowntime(t)` cascade: the trigger time changes only from 0
    to `max t start_time`. -/
structure RC (t : Int) (x x' : Dt) : Prop extends Kept x x' where
  trig : x'.trigger = x.trigger ∨ (x.trigger = 0 ∧ x'.trigger = max t x.start)

theorem trigRel_RC (now t : Int) : TrigRel now (fun t' => t' = t) (fun _ => True) (RC t) where
  refl := fun d => ⟨.refl d, Or.inl rfl⟩
  trans := by
    intro a b c ⟨h, h7⟩ ⟨g, g7⟩
    refine ⟨h.trans g, ?_⟩
    rcases h7 with h7 | ⟨h7, h7'⟩ <;> rcases g7 with g7 | ⟨g7, g7'⟩
    · exact Or.inl (g7.trans h7)
    · exact Or.inr ⟨h7 ▸ g7, by rw [g7', h.start]⟩
    · exact Or.inr ⟨h7, g7.trans h7'⟩
    · exact Or.inr ⟨h7, by rw [g7', h.start]⟩
  ctx := fun _ _ _ _ => trivial
  trig := by
    intro t' d ht _ _ _
    refine ⟨kept_trigSelf t' d, ?_⟩
    rw [trigSelf_eq, ht]
    by_cases h0 : d.trigger = 0
    · exact Or.inr ⟨h0, if_pos h0⟩
    · exact Or.inl (if_neg h0)

theorem rc_can (now : Int) {t : Int} {x x' : Dt} (h : RC t x x') :
    (x.trigger = 0 ∧ x'.trigger = max t x.start) ∨ canBeTriggered now x' = canBeTriggered now x :=
  h.trig.symm.imp id (canBeTriggered_congr h.fixed h.start h.fin h.duration)

def Done (now : Int) (c : Nat) (x : Dt) : Prop := x.id = c ∧ x.removed = false ∧ DoneP now x

theorem done_succ {now t : Int} (ht : 0 < t) {c : Nat} {x x' : Dt} (h : RC t x x') (hd : Done now c x) :
    Done now c x' := by
  obtain ⟨h1, h2, h3⟩ := hd
  refine ⟨by rw [h.id]; exact h1, by rw [h.removed]; exact h2, ?_⟩
  rcases rc_can now h with ⟨_, hn⟩ | he
  · left; rw [hn]; omega
  · rcases h3 with h3 | h3
    · left
      rcases h.trig with h7 | ⟨h7, _⟩
      · rw [h7]; exact h3
      · exact absurd h7 h3
    · right; rw [he]; exact h3

theorem done_cascade {now t : Int} (ht : 0 < t) (F : Nat) (cs : List Nat) {l : List Dt} {c : Nat} {x : Dt} (hx : x ∈ l)
    (hd : Done now c x) : ∃ x' ∈ cs.foldl (fun acc k => triggerDt F now t k acc) l, Done now c x' :=
  let ⟨x', hx', r⟩ := mem_of_pw_left (pw_cascade (trigRel_RC now t) F t rfl cs l (allc_trivial _)) hx
  ⟨x', hx', done_succ ht r hd⟩

theorem triggerDt_done (F : Nat) (hF : 1 ≤ F) (now t : Int) (ht : 0 < t) (c : Nat) (l : List Dt) (y : Dt)
    (hy : y ∈ l) (hl : live c y = true) :
    ∃ x' ∈ triggerDt F now t c l, Done now c x' := by
  obtain ⟨n, rfl⟩ : ∃ n, F = n + 1 := ⟨F - 1, by omega⟩
  obtain ⟨z, hz⟩ := findDt_of_mem hy hl
  obtain ⟨hzm, hzl⟩ := mem_of_findDt hz
  have hzid : z.id = c := live_id hzl
  have hzr : z.removed = false := live_not_removed hzl
  by_cases hc : canBeTriggered now z = true
  · have hm := mem_updateDt_live hzm hzl (trigSelfG now t)
    have hdone : Done now c (trigSelfG now t z) := by
      rw [trigSelfG, if_pos hc, trigSelf_eq]
      refine ⟨hzid, hzr, Or.inl ?_⟩
      show (if z.trigger = 0 then max t z.start else z.trigger) ≠ 0
      split <;> omega
    simp only [triggerDt, hz, hc, Bool.not_true, Bool.false_eq_true, if_false]
    exact done_cascade ht n z.triggers hm hdone
  · have hc' : canBeTriggered now z = false := Bool.of_not_eq_true hc
    refine ⟨z, ?_, hzid, hzr, Or.inr hc'⟩
    simp [triggerDt, hz, hc', hzm]

/-- The downtime named at one of the turns is dealt with at that turn and stays so. -/
theorem cascade_list (F : Nat) (hF : 1 ≤ F) (now t : Int) (ht : 0 < t) (cs : List Nat) (l1 : List Dt)
    (c : Nat) (hcm : c ∈ cs) (x : Dt) (hx : x ∈ l1) (hl : live c x = true) :
    ∃ x' ∈ cs.foldl (fun acc k => triggerDt F now t k acc) l1, Done now c x' := by
  obtain ⟨pre, post, hsplit⟩ := List.append_of_mem hcm
  rw [hsplit, List.foldl_append, List.foldl_cons]
  have h1 := pw_cascade (trigRel_RC now t) F t rfl pre l1 (allc_trivial _)
  obtain ⟨x1, hx1, r1⟩ := mem_of_pw_left h1 hx
  obtain ⟨x2, hx2, hd2⟩ := triggerDt_done F hF now t ht c _ x1 hx1 ((r1.live c).trans hl)
  exact done_cascade ht F post hx2 hd2

theorem cascade_children (F : Nat) (hF : 2 ≤ F) (now t : Int) (ht : 0 < t) (id : Nat) (dts : List Dt) (d : Dt)
    (hf : findDt dts id = some d) (hc : canBeTriggered now d = true)
    (c : Nat) (hcm : c ∈ d.triggers) (x : Dt) (hx : x ∈ dts) (hl : live c x = true) :
    ∃ x' ∈ triggerDt F now t id dts, Done now c x' := by
  obtain ⟨n, rfl⟩ : ∃ n, F = n + 1 := ⟨F - 1, by omega⟩
  simp only [triggerDt, hf, hc, Bool.not_true, Bool.false_eq_true, if_false]
  obtain ⟨x1, hx1, r1⟩ := mem_of_pw_left (pw_trigG (trigRel_RC now t) t rfl dts id (allc_trivial _)) hx
  exact cascade_list n (by omega) now t ht d.triggers _ c hcm x1 hx1 ((r1.live c).trans hl)

/-- Across an operation other than `setPaused`: the pause mirror is kept, and a flexible downtime on an unpaused
    checkable requests DowntimeStart each time its guard is passed. -/
structure RQ (d d' : Dt) : Prop where
  fixed : d'.fixed = d.fixed
  quiet : d'.quiet = d.quiet
  flex : d.fixed = false → d.quiet = false → d.starts + d'.trigEv ≤ d'.starts + d.trigEv

theorem rq_same {d d' : Dt} (h1 : d'.fixed = d.fixed) (h2 : d'.quiet = d.quiet) (h3 : d'.trigEv = d.trigEv)
    (h4 : d'.starts = d.starts) : RQ d d' :=
  ⟨h1, h2, fun _ _ => by omega⟩

theorem stepRel_RQ (now : Int) : StepRel now (fun _ => True) (fun _ => True) RQ where
  refl := fun _ => rq_same rfl rfl rfl rfl
  trans := by
    intro a b c ⟨h1, h2, h3⟩ ⟨g1, g2, g3⟩
    refine ⟨g1.trans h1, g2.trans h2, fun hf hq => ?_⟩
    have := h3 hf hq
    have := g3 (h1.trans hf) (h2.trans hq)
    omega
  ctx := fun _ _ _ _ => trivial
  trig := by
    intro t d _ _ _ _
    rw [trigSelf_eq]
    refine ⟨rfl, rfl, fun hf hq => ?_⟩
    simp only [hf, hq, Bool.or_self, Bool.false_eq_true, if_false]
    omega
  startT := fun _ _ _ _ _ => trivial
  start := by
    intro d _ hf _ _
    rw [startSelf_eq]
    exact ⟨rfl, rfl, fun hf' => by rw [hf] at hf'; cases hf'⟩
  setup := fun _ _ _ => rq_same rfl rfl rfl rfl
  addTrig := fun c d _ _ => by rw [addTrigger_eq]; exact rq_same rfl rfl rfl rfl
  remove := fun _ _ _ => rq_same rfl rfl rfl rfl
  disarm := fun _ _ _ _ _ => rq_same rfl rfl rfl rfl

theorem RQ.starts_lt {now : Int} {d d' : Dt} (q : RQ d d') (f : Frame now d d') (hf : d.fixed = false)
    (hq : d.quiet = false) (h0 : d.trigger = 0) (h1 : d'.trigger ≠ 0) : d.starts < d'.starts := by
  have := f.setEv h0 h1
  have := q.flex hf hq
  omega

def noPause : Op → Bool
  | .setPaused _ _ => false
  | _ => true

theorem paused_step (st : St) (op : Op) (hop : noPause op = true) : (step st op).1.paused = st.paused := by
  cases op with
  | setPaused b now => cases hop
  | result s te now => simp only [step, resultOp]; split <;> rfl
  | _ => rw [step_dts_only st _ (fun _ _ _ h => by cases h) (fun _ _ h => by cases h)]

theorem pw_stepRQ (st : St) (op : Op) (h : noPause op = true) :
    Pw (fun d d' => Frame op.now d d' ∧ RQ d d') (preModel st op) (step st op).1.dts :=
  pw_and (pw_stepFrame st op)
    (pw_step st op (stepRel_RQ op.now) (allc_trivial _) (opT_trivial st op) (fun _ _ he => by subst he; cases h))

def NP (st : St) : Prop :=
  st.paused = false ∧ ∀ d ∈ st.dts, d.quiet = false ∧ (d.fixed = false → d.trigger ≠ 0 → 1 ≤ d.starts)

theorem np_step (st : St) (op : Op) (hop : noPause op = true) (h : NP st) : NP (step st op).1 := by
  refine ⟨by rw [paused_step st op hop]; exact h.1, ?_⟩
  have key : ∀ d d' : Dt, Frame op.now d d' ∧ RQ d d' → d.quiet = false →
      (d.fixed = false → d.trigger ≠ 0 → 1 ≤ d.starts) →
      d'.quiet = false ∧ (d'.fixed = false → d'.trigger ≠ 0 → 1 ≤ d'.starts) := by
    intro d d' ⟨f, r⟩ hq hs
    refine ⟨r.quiet.trans hq, fun hf ht => ?_⟩
    have hfd : d.fixed = false := r.fixed.symm.trans hf
    by_cases h0 : d.trigger = 0
    · exact Nat.succ_le_of_lt (Nat.lt_of_le_of_lt (Nat.zero_le _) (r.starts_lt f hfd hq h0 ht))
    · exact Nat.le_trans (hs hfd h0) f.starts
  intro d' hd'
  rcases step_pred (pw_stepRQ st op hop) d' hd' with ⟨d, hd, r⟩ | ⟨p, _, _, _, r⟩
  · exact key d d' r (h.2 d hd).1 (h.2 d hd).2
  · exact key _ d' r (by simp [newDt]; exact h.1) (fun _ ht => by simp [newDt] at ht)

theorem np_run (ops : List Op) : ∀ st : St, NP st → (∀ op ∈ ops, noPause op = true) → NP (run st ops) := by
  induction ops with
  | nil => intro st h _; exact h
  | cons op ops ih =>
    intro st h hnp
    exact ih (step st op).1 (np_step st op (hnp op List.mem_cons_self) h)
      (fun o ho => hnp o (List.mem_cons_of_mem _ ho))

end Icinga.C05
