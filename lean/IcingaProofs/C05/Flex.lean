/-
  The clauses `fixed_started_in_window` and `flexible_trigger` on the model's trace.  The second needs that the
  cascades of the start timer pass an unchained flexible downtime by: it is in nobody's `triggers`
  (`TriggersChained`, whose step lemma is here) and not fixed (`untouched_startTimer`).
-/
import IcingaProofs.C05.Cascade

namespace Icinga.C05

theorem startAt_done (now : Int) (F : Nat) (l : List Dt) (id : Nat) (hw : WFL l)
    (y : Dt) (hy : y ∈ l) (hl : live id y = true) (hfix : y.fixed = true) :
    ∃ x' ∈ startAt now F l id, Done now id x' := by
  have hz := findDt_live hw.nodup hy (live_not_removed hl)
  rw [live_id hl] at hz
  simp only [startAt, hz, hfix, Bool.true_and]
  by_cases hg : canBeTriggered now y = true
  · simp only [hg, if_true]
    have ht := startT_pos (hw.entry y hy)
    have hm := mem_updateDt_live hy hl (startSelfG now)
    have hdone : Done now id (startSelfG now y) := by
      rw [startSelfG, hfix, hg, Bool.and_self, if_pos rfl, startSelf_eq]
      refine ⟨live_id hl, live_not_removed hl, Or.inl ?_⟩
      dsimp only
      split <;> omega
    exact done_cascade ht F y.triggers hm hdone
  · simp only [hg]
    exact ⟨y, hy, live_id hl, live_not_removed hl, Or.inr (Bool.of_not_eq_true hg)⟩

theorem startTimer_fixed {now : Int} (l1 : List Dt) (hw : WFL l1) :
    ∀ x2 ∈ startTimer now l1, x2.removed = false → x2.fixed = true → x2.start ≤ now → now < x2.fin →
      x2.trigger ≠ 0 := by
  intro x2 hx2 hr hf h1 h2
  have hst := casc_startTimer (now := now) l1 hw
  -- x2 descends from a live element of l1
  obtain ⟨x1, hx1, r12⟩ := mem_of_pw_right hst.frame hx2
  have hx1r : x1.removed = false := live_of_frozen r12.frozen hr
  have hmem := mem_liveIds hx1 hx1r
  obtain ⟨pre, post, hsplit⟩ := List.append_of_mem hmem
  -- the fold, split at the turn of x1.id
  have hx2' := hx2
  unfold startTimer at hx2'
  rw [hsplit, List.foldl_append, List.foldl_cons] at hx2'
  have cpre := casc_startAts (now := now) l1 pre l1 hw rfl
  have cc := casc_startAt (now := now) l1.length _ x1.id cpre.wfl (by have := len_of_ids cpre.ids; omega)
  have cpost := casc_startAts (now := now) l1 post _ cc.wfl (cc.ids.trans cpre.ids)
  -- the version of x2 before its turn is live
  obtain ⟨yc, hyc, ryc⟩ := mem_of_pw_right cpost.frame hx2'
  obtain ⟨y, hy, ry⟩ := mem_of_pw_right cc.frame hyc
  have hycr : yc.removed = false := live_of_frozen ryc.frozen hr
  have hyr : y.removed = false := live_of_frozen ry.frozen hycr
  have hyid : y.id = x1.id := by rw [← ry.id, ← ryc.id, r12.id]
  have hyf : y.fixed = true := by rw [← ry.fixed, ← ryc.fixed]; exact hf
  obtain ⟨x'', hx'', hid'', -, hd⟩ := startAt_done now l1.length _ x1.id cpre.wfl y hy
    (live_iff.mpr ⟨hyid, hyr⟩) hyf
  rw [eq_of_id cc.wfl.nodup hx'' hyc (by rw [hid'', ← hyid, ← ry.id])] at hd
  -- preserved to the end of the fold
  rcases ryc.doneP hd with h | h
  · exact h
  · intro h0
    rw [can_of_window h0 ⟨h1, Int.le_of_lt h2, fun _ => h2⟩] at h
    cases h

/-- The cleanup pass before the start timer keeps `WFL`, the one after it keeps the trigger time. -/
theorem pump_fixed_triggered {now : Int} (st : St) (hw : WFL st.dts) :
    ∀ d ∈ (pumpOp st now true).dts, d.removed = false → d.fixed = true → d.start ≤ now → now < d.fin →
      d.trigger ≠ 0 := by
  intro d hd hr hf h1 h2
  simp only [pumpOp, if_true] at hd
  obtain ⟨x2, hx2m, rfl⟩ := List.mem_map.mp hd
  have hk := frame_fireCleanup now x2
  have := startTimer_fixed (now := now) _ (casc_fireCleanup now st.dts hw).wfl x2 hx2m (live_of_frozen hk.frozen hr)
    (by rw [← hk.fixed]; exact hf) (by rw [← hk.start]; exact h1) (by rw [← hk.fin]; exact h2)
  rw [hk.trigger_eq (noGuard_fireCleanup now x2).trigEv]
  exact this

/-- By operation: a pump in which the start timer fired (`pump_fixed_triggered`); the `add` that created the downtime
    (closed form `addedDt_trigger_fixed`); no other operation is named by the clause. -/
theorem chkFixedStarted_model {T : Int} {sp : SpecSt} {st : St} {op : Op} (c : Ctx T sp st op) :
    chkFixedStarted sp op (stepObs st op).2 = true := by
  have hnow := c.now_pos
  unfold chkFixedStarted
  refine c.post_seen _ fun sd0 _ x' s => ?_
  have va := s.v'
  have hx' := s.mem'
  generalize SDt.after sp.paused (stepObs st op).2 sd0 = sd at va ⊢
  refine or_of_imp fun hcond => ?_
  simp only [bne_iff_ne, ne_eq]
  -- suppose the reader still sees no trigger time
  intro ht
  simp only [Bool.and_eq_true, Bool.or_eq_true] at hcond
  obtain ⟨⟨⟨hal, hfx⟩, hwhy⟩, hin⟩ := hcond
  have hxr : x'.removed = false := va.live hal
  have hxt : x'.trigger = 0 := by rw [← va.trig hxr]; exact ht
  have hxf : x'.fixed = true := by rw [← va.fixed]; exact hfx
  simp only [SDt.inEffect, hfx, if_true, Bool.and_eq_true, decide_eq_true_eq] at hin
  have hx1 : x'.start ≤ op.now := by rw [← va.start]; exact hin.1
  have hx2 : op.now < x'.fin := by rw [← va.fin]; exact hin.2
  cases op with
  | pump now f =>
    have hfired : f = true := by
      rcases hwhy with h | h
      · simpa [timerFired] using h
      · simp [isAddOf] at h
    subst hfired
    exact pump_fixed_triggered st c.wfl x' hx' hxr hxf hx1 hx2 hxt
  | add p now =>
    rcases hwhy with h | h
    · simp [timerFired] at h
    · simp only [isAddOf, Bool.and_eq_true, beq_iff_eq] at h
      have hany : st.dts.any (fun d => d.id == p.id) = false := by
        by_cases ha : st.dts.any (fun d => d.id == p.id) = true
        · have : (stepObs st (.add p now)).2.rc = 0 := congrArg Prod.snd (step_add_dup ha)
          rw [this] at h; simp at h
        · exact Bool.of_not_eq_true ha
      have hxid : x'.id = p.id := by rw [← va.id]; exact h.2.symm
      have hx'a : x' = addedDt st p now := add_new st p now hany hx' hxid
      -- the fresh fixed object inside its window is started
      have hk := kept_addedDt st p now
      have hpf : p.fixed = true := by rw [hx'a, hk.fixed] at hxf; exact hxf
      rw [hx'a] at hxt hx1 hx2
      rw [hk.start] at hx1; rw [hk.fin] at hx2
      simp only [Op.now] at hx1 hx2 hnow
      replace hx1 : p.start ≤ now := hx1
      replace hx2 : now < p.fin := hx2
      have hcan : canBeTriggered now (newDt st p now) = true :=
        can_of_window rfl ⟨hx1, Int.le_of_lt hx2, fun _ => hx2⟩
      have : (addedDt st p now).trigger = max p.start now := by
        rw [addedDt_trigger_fixed st p now hpf, hcan, if_pos rfl]
      rw [this] at hxt
      exact absurd hxt (Int.ne_of_gt (Int.lt_of_lt_of_le hnow (Int.le_max_right _ _)))
  | _ =>
    rcases hwhy with h | h
    · simp [timerFired] at h
    · simp [isAddOf] at h

/-- `max te d.start`: `TriggerDowntime` clamps the execution end of the result to `start_time` (2efb740). -/
theorem result_triggers_flexible (st : St) (now : Int) (s : Nat) (te : Int) (hs : stale st te now = false)
    (hok : isOK st.kind s = false) (hte : 0 < te) (d : Dt) (hd : d ∈ st.dts)
    (huniq : ∀ y ∈ st.dts, y.id = d.id → y = d) (hr : d.removed = false) (hf : d.fixed = false)
    (h0 : d.trigger = 0) (h1 : d.start ≤ now) (h2 : now ≤ d.fin) :
    ∃ d' ∈ (resultOp st s te now).1.dts, d'.id = d.id ∧ d'.removed = false ∧ d'.trigger = max te d.start := by
  have hcan : canBeTriggered now d = true := can_of_window h0 ⟨h1, h2, fun h => Bool.noConfusion (hf.symm.trans h)⟩
  have hdts : (resultOp st s te now).1.dts = triggerAll now te st.dts := by
    simp [resultOp, hs, hok]
  rw [hdts]
  have hmem := mem_liveIds hd hr
  -- at the turn of its name the downtime is triggered or untriggerable, and stays so …
  obtain ⟨x, hx, hid, hxr, hdone⟩ := cascade_list _ (Nat.le_add_left 1 _) now te hte (liveIds st.dts) st.dts d.id hmem d hd
    (live_iff.mpr ⟨rfl, hr⟩)
  -- … and it descends from `d` (unique id), which could be triggered
  obtain ⟨y, hy, ry⟩ := mem_of_pw_right (pw_triggerAll (trigRel_RC now te) te rfl st.dts (allc_trivial _)) hx
  have hyd : y = d := huniq y hy (by rw [← ry.id]; exact hid)
  subst hyd
  refine ⟨x, hx, hid, hxr, ?_⟩
  rcases rc_can now ry with ⟨_, h⟩ | h
  · exact h
  · rcases ry.trig with h7 | ⟨_, h7⟩
    · rcases hdone with h3 | h3
      · rw [h7] at h3; exact absurd h0 h3
      · rw [h, hcan] at h3; exact absurd h3 (by simp)
    · exact h7

theorem triggersChained_step (st : St) (op : Op) (hn : Newer st.dts) (hi : TriggersChained st.dts) : TriggersChained (step st op).1.dts := by
  by_cases hadd : ∃ p now, op = .add p now ∧ st.dts.any (fun d => d.id == p.id) = false
  · obtain ⟨p, now, rfl, hany⟩ := hadd
    have hl := fresh_ids hany
    simp only [step]
    intro q' hq' c hc x' hx' hxid
    rw [addOp_shape st p now hany] at hq'
    have fa := kept_addedDt st p now
    rcases List.mem_append.mp hq' with hm | hm
    · -- an older downtime, possibly with the new id noted
      obtain ⟨y, hy, rfl⟩ := List.mem_map.mp hm
      rcases noteChild_triggers st p y c hc with hcy | ⟨hcp, hpar⟩
      · -- c names an older downtime
        have hcold : c ∈ idsOf st.dts := newer_ids hn hy hcy
        obtain ⟨z, hz, hzid⟩ := List.mem_map.mp hcold
        obtain ⟨x, hx, rfl⟩ := add_other st p now hany hx' (by rw [hxid, ← hzid]; exact hl z hz)
        rw [noteChild_eq] at hxid ⊢
        exact hi y hy c hcy x hx hxid
      · -- c is the new downtime, which names its trigger downtime
        have hx'a : x' = addedDt st p now := add_new st p now hany hx' (by rw [hxid, hcp])
        rw [hx'a, fa.trigBy]
        simp only [newDt, hpar, if_true]
        simp only [Bool.and_eq_true, bne_iff_ne] at hpar
        exact hpar.1
    · simp at hm; subst hm
      rw [fa.triggers] at hc; cases hc
  · -- ids, triggers and trigBy are kept
    have hsh := pw_sh_step st op fun p now e => (Bool.not_eq_false _).mp fun h => hadd ⟨p, now, e, h⟩
    intro q' hq' c hc x' hx' hxid
    obtain ⟨q, hq, rq⟩ := mem_of_pw_right hsh hq'
    obtain ⟨x, hx, rx⟩ := mem_of_pw_right (pw_stepFrame st op) hx'
    have hx : x ∈ st.dts :=
      (mem_preModel.mp hx).elim id (fun ⟨p, now, e, hany, _⟩ => absurd ⟨p, now, e, hany⟩ hadd)
    rw [rx.trigBy]
    exact hi q hq c (by rw [← rq.triggers]; exact hc) x hx (by rw [← rx.id]; exact hxid)

theorem untouched_foldl {α : Type} (g : List Dt → α → List Dt) {e : Dt} (xs : List α)
    (hg : ∀ acc, ∀ x ∈ xs, e ∈ acc → (∀ q ∈ acc, e.id ∉ q.triggers) → e ∈ g acc x)
    (hsh : ∀ acc x, Pw RSh acc (g acc x)) :
    ∀ acc, e ∈ acc → (∀ q ∈ acc, e.id ∉ q.triggers) → e ∈ xs.foldl g acc := by
  induction xs with
  | nil => intro acc h _; exact h
  | cons x xs ih =>
    intro acc hacc hun
    refine ih (fun a y hy => hg a y (List.mem_cons_of_mem _ hy)) (g acc x) (hg acc x List.mem_cons_self hacc hun)
      fun q' hq' => ?_
    obtain ⟨q, hq, rq⟩ := mem_of_pw_right (hsh acc x) hq'
    rw [rq.triggers]; exact hun q hq

theorem untouched_root (now t : Int) (F : Nat) {e : Dt}
    (hF : ∀ (c : Nat) (acc : List Dt), e ∈ acc → e.id ≠ c → (∀ q ∈ acc, e.id ∉ q.triggers) → e ∈ triggerDt F now t c acc)
    {l : List Dt} {id : Nat} {d : Dt} (hdm : d ∈ l) (f : Dt → Dt) (hf : ∀ x, Kept x (f x))
    (he1 : e ∈ updateDt l id f) (hun : ∀ q ∈ l, e.id ∉ q.triggers) :
    e ∈ d.triggers.foldl (fun acc c => triggerDt F now t c acc) (updateDt l id f) := by
  refine untouched_foldl _ d.triggers
    (fun acc c hc hacc hunacc => hF c acc hacc (fun h => hun d hdm (h ▸ hc)) hunacc)
    (fun acc c => pw_sh_triggerDt now t F c acc) _ he1 fun q' hq' => ?_
  obtain ⟨q, hq, rq⟩ := mem_of_pw_right (pw_sh_updateDt f hf l id) hq'
  rw [rq.triggers]; exact hun q hq

theorem untouched_triggerDt (now t : Int) (F : Nat) : ∀ (id : Nat) (l : List Dt) (e : Dt), e ∈ l → e.id ≠ id →
    (∀ q ∈ l, e.id ∉ q.triggers) → e ∈ triggerDt F now t id l := by
  induction F with
  | zero => intro id l e he _ _; exact he
  | succ n ih =>
    intro id l e he hne hun
    simp only [triggerDt]
    split
    · exact he
    · rename_i d hf
      split
      · exact he
      · exact untouched_root now t n (fun c acc => ih c acc e) (mem_of_findDt hf).1 _ (kept_trigSelfG now t)
          (mem_updateDt_self he (fun h => absurd (live_id h) hne)) hun

theorem untouched_startAt (now : Int) (F : Nat) (l : List Dt) (id : Nat) (e : Dt) (he : e ∈ l)
    (hf : e.fixed = false) (hun : ∀ q ∈ l, e.id ∉ q.triggers) : e ∈ startAt now F l id := by
  unfold startAt
  split
  · exact he
  · rename_i d hfd
    split
    · exact untouched_root now _ F (fun c acc => untouched_triggerDt now _ F c acc e) (mem_of_findDt hfd).1 _
        (kept_startSelfG now) (mem_updateDt_self he (fun _ => by simp [startSelfG, hf])) hun
    · exact he

theorem untouched_startTimer (now : Int) (l : List Dt) (e : Dt) (he : e ∈ l) (hf : e.fixed = false)
    (hun : ∀ q ∈ l, e.id ∉ q.triggers) : e ∈ startTimer now l := by
  unfold startTimer
  exact untouched_foldl _ _ (fun acc i _ hacc hunacc => untouched_startAt now _ acc i e hacc hf hunacc)
    (fun acc i => pw_sh_startAt now _ acc i) l he hun

/-- The trigger time of a flexible, unchained, untriggered downtime after the operation is exactly what `flexDue`
    says.  By operation: an accepted non-OK result triggers it inside its window (`result_triggers_flexible`) and
    not outside (`Frame.window`); an accepted `add` of the downtime itself has the closed form
    `addedDt_trigger_flexible`; in every other case no guard is passed on it (`key`) — for the start timer because
    it is in nobody's `triggers` and not fixed (`untouched_startTimer`). -/
theorem chkFlexible_model {T : Int} {sp : SpecSt} {st : St} {op : Op} (c : Ctx T sp st op) :
    chkFlexible sp op (stepObs st op).2 = true := by
  have hrel := c.rel
  have hop := c.ok
  have hnd := c.nodup
  have hnd' := nodup_step st op hnd
  unfold chkFlexible
  refine c.zip_seen _ fun sd d d' sn => or_of_imp fun hcond => ?_
  have hd := sn.mem
  have hd' := sn.mem'
  have v := sn.v
  have va := sn.v'
  have r := sn.frame
  have hlive := sn.live
  simp only [Bool.and_eq_true, Bool.not_eq_true', beq_iff_eq] at hcond
  obtain ⟨⟨⟨hal, hfx⟩, htb⟩, htr⟩ := hcond
  have hr' : d'.removed = false := va.live hal
  have hr := hlive hr'
  have hdf : d.fixed = false := by rw [← v.fixed]; exact hfx
  have hdtb : d.trigBy = 0 := by rw [← v.trigBy]; exact htb
  have huntrig : d.trigger = 0 := by rw [← v.trig hr]; exact htr
  have hbt : (SDt.after sp.paused (stepObs st op).2 sd).trig = d'.trigger := va.trig hr'
  suffices hgoal : (match flexDue sp op (stepObs st op).2 sd with
      | some t => d'.trigger = t
      | none => d'.trigger = 0) by
    cases hfd : flexDue sp op (stepObs st op).2 sd with
    | some t => rw [hfd] at hgoal; simp only [hbt, beq_iff_eq]; exact hgoal
    | none => rw [hfd] at hgoal; simp only [hbt, beq_iff_eq]; exact hgoal
  -- no guard passed: the trigger time is as it was  (`d ∈ st.dts` is asked for because `sn.mem` only gives
  -- `d ∈ preModel st op`, which for an accepted `add` also holds the new downtime)
  have key : ∀ d0 ∈ st.dts, d ∈ st.dts → NoGuard d0 d' → d'.trigger = 0 := by
    intro d0 h0 hd_st ng
    rw [eq_of_id hnd h0 hd_st (by rw [← ng.id, r.id])] at ng
    rw [r.trigger_eq ng.trigEv]; exact huntrig
  cases op with
  | result s te now =>
    have hd_st : d ∈ st.dts := hd
    by_cases hs : stale st te now = true
    · -- dropped result
      have hrc : (stepObs st (.result s te now)).2.rc = 0 := congrArg Prod.snd (step_result_stale hs)
      have hst : (step st (.result s te now)).1 = st := congrArg Prod.fst (step_result_stale hs)
      rw [hst] at hd'
      have : d' = d := eq_of_id hnd hd' hd_st r.id
      simp [flexDue, hrc, this, huntrig]
    · have hs' : stale st te now = false := Bool.of_not_eq_true hs
      have hrc : (stepObs st (.result s te now)).2.rc = 1 := rc_result hs'
      by_cases hok : isOK st.kind s = true
      · -- accepted OK result: `TriggerDowntimes` is not called
        have hst : (step st (.result s te now)).1.dts = st.dts := by simp [step_result_fresh hs', hok]
        rw [hst] at hd'
        have : d' = d := eq_of_id hnd hd' hd_st r.id
        simp [flexDue, hrc, hrel.kind, hok, this, huntrig]
      · have hok' : isOK st.kind s = false := Bool.of_not_eq_true hok
        by_cases hwin : sd.inWindow now = true
        · -- non-OK, inside the window: triggered at its own turn in `triggerAll`
          simp only [flexDue, hrc, hrel.kind, hok', hwin, beq_self_eq_true, Bool.not_false, Bool.and_self, if_true]
          rw [v.inWindow] at hwin
          have hte : 0 < te := hop.1
          obtain ⟨d'', hd'', hid'', _, ht''⟩ := result_triggers_flexible st now s te hs' hok' hte d hd_st
            (fun y hy hyid => eq_of_id hnd hy hd_st hyid) hr hdf huntrig hwin.1 hwin.2
          have : d'' = d' := eq_of_id hnd' hd'' hd' (by rw [hid'', r.id])
          rw [← this, v.start]; exact ht''
        · -- non-OK, outside the window: the frame forbids the write
          have hwin' : sd.inWindow now = false := Bool.of_not_eq_true hwin
          simp only [flexDue, hrc, hwin', Bool.and_false, Bool.false_eq_true, if_false]
          cases Classical.em (d'.trigger = 0) with
          | inl h => exact h
          | inr h =>
            exfalso
            have := r.window huntrig h
            exact hwin ((v.inWindow now).mpr ⟨this.1, this.2.1⟩)
  | add p now =>
    by_cases hany : st.dts.any (fun d => d.id == p.id) = true
    · -- duplicate id: the `add` is refused
      have hrc : (stepObs st (.add p now)).2.rc = 0 := congrArg Prod.snd (step_add_dup hany)
      have hst : (step st (.add p now)).1 = st := congrArg Prod.fst (step_add_dup hany)
      have hd_st : d ∈ st.dts := by simpa [preModel, hany] using hd
      rw [hst] at hd'
      have : d' = d := eq_of_id hnd hd' hd_st r.id
      simp [flexDue, hrc, this, huntrig]
    · have hany' : st.dts.any (fun d => d.id == p.id) = false := Bool.of_not_eq_true hany
      have hrc : (stepObs st (.add p now)).2.rc = 1 := rc_add hany'
      have hd_pre : d ∈ st.dts ++ [newDt st p now] := by simpa [preModel, hany'] using hd
      simp only [step] at hd'
      by_cases hid : p.id = sd.id
      · -- the downtime just created
        have hdid : d.id = p.id := by rw [← v.id]; exact hid.symm
        have hdn : d = newDt st p now := by
          rcases List.mem_append.mp hd_pre with h | h
          · exact absurd hdid (fresh_ids hany' d h)
          · simpa using h
        have hd'a : d' = addedDt st p now := add_new st p now hany' hd' (by rw [r.id, hdid])
        have hpf : p.fixed = false := by rw [hdn] at hdf; exact hdf
        -- the fresh flexible object can be triggered exactly inside the window the reader computes
        have hcan : canBeTriggered now (newDt st p now) = sd.inWindow now := by
          rw [can_eq_window rfl, SDt.inWindow, v.start, v.fin, hdn]
          simp [newDt, hpf]
        rw [hd'a, addedDt_trigger_flexible st p now hpf, hcan]
        cases hwin : sd.inWindow now with
        | false => simp [flexDue, hwin]
        | true =>
          cases hpr : st.problem with
          | false => simp [flexDue, problem_relS hrel, hpr]
          -- both sides are `max (max start now)` of the last state change (`v.start`, `hrel.since`)
          | true => simp [flexDue, hrc, hid, problem_relS hrel, hpr, hwin, v.start, hdn, newDt, hrel.since]
      · -- an older downtime
        have hidb : (p.id == sd.id) = false := by simp [hid]
        simp only [flexDue, hidb, Bool.and_false, Bool.false_and, Bool.false_eq_true, if_false]
        have hne : d'.id ≠ p.id := by rw [r.id, ← v.id]; exact fun h => hid h.symm
        obtain ⟨d0, hd0m, rfl⟩ := add_other st p now hany' hd' hne
        have hd_st : d ∈ st.dts := by
          rcases List.mem_append.mp hd_pre with h | h
          · exact h
          · exfalso; simp at h; apply hne; rw [r.id, h]; rfl
        rw [noteChild_eq] at r ⊢
        show d0.trigger = 0
        have : d0 = d := eq_of_id hnd hd0m hd_st r.id
        rw [this]; exact huntrig
  | pump now f =>
    simp only [flexDue]
    have hd_st : d ∈ st.dts := hd
    -- an unchained downtime is in nobody's `triggers` (`TriggersChained`), so the start timer's cascades pass it by
    have hunch : ∀ q ∈ st.dts, d.id ∉ q.triggers := by
      intro q hq hc
      exact c.chained q hq d.id hc d hd_st rfl hdtb
    -- after the first cleanup pass
    have hf1 := noGuard_fireCleanup now d
    have he1 : fireCleanup now d ∈ st.dts.map (fireCleanup now) := List.mem_map.mpr ⟨d, hd_st, rfl⟩
    have hun1 : ∀ q ∈ st.dts.map (fireCleanup now), (fireCleanup now d).id ∉ q.triggers := by
      intro q' hq'
      obtain ⟨q, hq, rfl⟩ := List.mem_map.mp hq'
      rw [(noGuard_fireCleanup now q).triggers, hf1.id]
      exact hunch q hq
    cases f with
    | true =>
      simp only [step, pumpOp, if_true] at hd' hnd'
      -- the start timer passes it by: the very object is still there
      have he2 : fireCleanup now d ∈ startTimer now (st.dts.map (fireCleanup now)) :=
        untouched_startTimer now _ (fireCleanup now d) he1 (by rw [(frame_fireCleanup now d).fixed]; exact hdf) hun1
      have hf2 : NoGuard d (fireCleanup now (fireCleanup now d)) := hf1.trans (noGuard_fireCleanup now _)
      have hd'eq : d' = fireCleanup now (fireCleanup now d) :=
        eq_of_id hnd' hd' (List.mem_map.mpr ⟨_, he2, rfl⟩) (by rw [r.id, hf2.id])
      exact key d hd_st hd_st (by rw [hd'eq]; exact hf2)
    | false =>
      simp only [step, pumpOp, Bool.false_eq_true, if_false] at hd' hnd'
      have hd'eq : d' = fireCleanup now d := eq_of_id hnd' hd' he1 (by rw [r.id, hf1.id])
      exact key d hd_st hd_st (by rw [hd'eq]; exact hf1)
  | remove id u now =>
    obtain ⟨d0, hd0m, ng⟩ := mem_of_pw_right (pw_ng_remove st id u now) hd'
    exact key d0 hd0m hd ng
  | setPaused b now =>
    simp only [step, setPausedOp] at hd'
    obtain ⟨y, hy, rfl⟩ := List.mem_map.mp hd'
    exact key y hy hd (noGuard_setQuiet b y)

end Icinga.C05
