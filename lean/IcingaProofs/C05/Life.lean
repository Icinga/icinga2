/-
  In a well-formed run a guard of `TriggerDowntime` can be passed only once (afterwards the downtime is triggered at
  an instant the clock has reached: `blocked_after_trigger`), so the ghost counters `trigEv`, `remEv` and (with the
  pause mirror) `ends` are functions of where the downtime is in its life — untriggered, triggered, gone — and
  `starts` is bounded by `trigEv` (`Life`).  What the clauses need of the old and the new version of a downtime is
  read off `Life` on both sides and the `Frame`.
-/
import IcingaProofs.C05.Rel

namespace Icinga.C05

def opOK : Op → Prop
  | .result _ te now => 0 < te ∧ te ≤ now
  | .add p _ => 0 ≤ p.duration
  | _ => True

instance : DecidablePred opOK := fun op => by cases op <;> unfold opOK <;> infer_instance

def WF : Int → List Op → Prop
  | _, [] => True
  | T, op :: ops => T ≤ op.now ∧ opOK op ∧ WF op.now ops

instance : ∀ T ops, Decidable (WF T ops)
  | _, [] => by unfold WF; infer_instance
  | T, op :: ops => by unfold WF; exact @instDecidableAnd _ _ _ (@instDecidableAnd _ _ _ (instDecidableWF op.now ops))

def endTime : Int → List Op → Int
  | T, [] => T
  | _, op :: ops => endTime op.now ops

theorem wf_snoc {ops : List Op} {op : Op} {T : Int} (hw : WF T (ops ++ [op])) :
    WF T ops ∧ endTime T ops ≤ op.now ∧ opOK op := by
  induction ops generalizing T with
  | nil => exact ⟨trivial, hw.1, hw.2.1⟩
  | cons o ops ih =>
    obtain ⟨h1, h2, h3⟩ := hw
    obtain ⟨a, b, c⟩ := ih h3
    exact ⟨⟨h1, h2, a⟩, b, c⟩

def Arm (d : Dt) : Prop := d.removed = false → d.cleanup = some (cleanupPoint d)

theorem arm_trigSelf (t : Int) (d : Dt) : Arm (trigSelf t d) := by
  intro _
  simp [trigSelf, noteTriggered, markTriggered, cleanupPoint]

/-- What is known of one downtime in a state reached by a well-formed run whose last operation was at `T`. -/
structure Life (T : Int) (d : Dt) : Prop where
  dur : 0 ≤ d.duration
  entry : 0 < d.entry ∧ d.entry ≤ T
  trig : 0 ≤ d.trigger ∧ d.trigger ≤ T
  trigEv : d.trigEv = if d.trigger = 0 then 0 else 1
  starts : d.starts ≤ d.trigEv
  remEv : d.remEv = if d.removed = true then 1 else 0
  ends : d.ends = if d.removed = true ∧ 0 < d.trigger ∧ d.quiet = false then 1 else 0

namespace Life
variable {T : Int} {d : Dt}

theorem mono {T' : Int} (h : T ≤ T') (l : Life T d) : Life T' d :=
  { l with entry := ⟨l.entry.1, Int.le_trans l.entry.2 h⟩, trig := ⟨l.trig.1, Int.le_trans l.trig.2 h⟩ }

theorem untriggered (l : Life T d) (h : d.trigger = 0) : d.trigEv = 0 ∧ d.starts = 0 := by
  have he := l.trigEv
  rw [if_pos h] at he
  exact ⟨he, by have := l.starts; omega⟩

theorem triggered (l : Life T d) (h : d.trigger ≠ 0) : d.trigEv = 1 :=
  l.trigEv.trans (if_neg h)

theorem trigger_of_ev (l : Life T d) (h : 0 < d.trigEv) : d.trigger ≠ 0 :=
  fun h0 => by rw [(l.untriggered h0).1] at h; exact absurd h (Nat.lt_irrefl _)

theorem starts_le (l : Life T d) : d.starts ≤ 1 := by
  have := l.starts; have := l.trigEv
  split at this <;> omega

theorem ends_live (l : Life T d) (h : d.removed = false) : d.ends = 0 := by
  have := l.ends
  simpa [h] using this

theorem ends_gone (l : Life T d) (h : d.removed = true) :
    d.ends = if 0 < d.trigger ∧ d.quiet = false then 1 else 0 := by
  have := l.ends
  simpa [h] using this

theorem ends_le (l : Life T d) : d.ends ≤ 1 := by
  rw [l.ends]; split <;> omega

theorem remEv_live (l : Life T d) (h : d.removed = false) : d.remEv = 0 := by
  have := l.remEv
  simpa [h] using this

theorem remEv_gone (l : Life T d) (h : d.removed = true) : d.remEv = 1 := by
  have := l.remEv
  simpa [h] using this

theorem inWindow_iff {now : Int} (l : Life T d) (hT : T ≤ now) :
    InWindow now d ↔ (d.fixed = true ∧ d.start ≤ now ∧ now < d.fin) ∨
      (d.fixed = false ∧ 0 < d.trigger ∧ d.trigger ≤ now ∧ now < d.trigger + d.duration) := by
  have := l.trig
  unfold InWindow
  constructor <;> rintro (h | h)
  · exact Or.inl h
  · exact Or.inr ⟨h.1, by omega, by omega, h.2.2⟩
  · exact Or.inl h
  · exact Or.inr ⟨h.1, by omega, h.2.2.2⟩

theorem untriggered_of_can (l : Life T d) (hc : canBeTriggered T d = true) : d.trigger = 0 := by
  by_cases hp : 0 < d.trigger
  · rw [blocked_after_trigger T d hp l.trig.2] at hc; cases hc
  · have := l.trig.1; omega

theorem hit (l : Life T d) (hc : canBeTriggered T d = true) (hr : d.removed = false) {T' : Int} {c : Option Int}
    {s : Nat} (hT : 0 < T' ∧ T' ≤ T) (hs : s ≤ d.starts + 1) :
    Life T { d with trigger := if d.trigger = 0 then T' else d.trigger, cleanup := c, trigEv := d.trigEv + 1,
                    starts := s } := by
  have h0 := l.untriggered_of_can hc
  obtain ⟨he, hs0⟩ := l.untriggered h0
  have hT0 : T' ≠ 0 := by omega
  have hre := l.remEv_live hr
  have hen := l.ends_live hr
  refine ⟨l.dur, l.entry, ?_, ?_, ?_, ?_, ?_⟩ <;> simp only [h0, he, hr, if_true]
  · omega
  · simp [hT0]
  · omega
  · simpa using hre
  · simpa using hen

theorem same (l : Life T d) (hr : d.removed = false) {c : Option Int} {q : Bool} {ts : List Nat} :
    Life T { d with cleanup := c, quiet := q, triggers := ts } :=
  ⟨l.dur, l.entry, l.trig, l.trigEv, l.starts, l.remEv,
    (l.ends_live hr).trans (if_neg fun h => Bool.noConfusion (hr.symm.trans h.1)).symm⟩

end Life

/-- The fresh object of an `add` is armed only by the `Resume` at the end of the operation, so `Arm` rides beside
    `Life` and is not part of it. -/
def LifeR (now : Int) (d d' : Dt) : Prop := (Life now d → Life now d') ∧ (Life now d → Arm d → Arm d')

theorem stepRel_Life (now : Int) : StepRel now (fun t => 0 < t ∧ t ≤ now) (Life now) (LifeR now) where
  refl := fun _ => ⟨id, fun _ h => h⟩
  trans := fun _ _ _ h g => ⟨fun l => g.1 (h.1 l), fun l a => g.2 (h.1 l) (h.2 l a)⟩
  ctx := fun _ _ r h => r.1 h
  trig := by
    intro t d ht l hc hr
    have hw := canBeTriggered_window hc
    have ha := arm_trigSelf t d
    rw [trigSelf_eq] at ha ⊢
    exact ⟨fun _ => l.hit hc hr ⟨by omega, by omega⟩ (by split <;> omega), fun _ _ => ha⟩
  startT := by
    intro d l _ hc _
    have hw := canBeTriggered_window hc
    have := l.entry
    constructor <;> omega
  start := by
    intro d l _ hc hr
    have hw := canBeTriggered_window hc
    have hent := l.entry
    have ha : Arm (startSelf d) := arm_trigSelf _ _
    rw [startSelf_eq] at ha ⊢
    exact ⟨fun _ => l.hit hc hr ⟨by omega, by omega⟩ (by split <;> omega), fun _ _ => ha⟩
  setup := fun d _ hr => ⟨fun l => l.same hr, fun _ _ _ => rfl⟩
  addTrig := fun c d _ hr => by
    rw [addTrigger_eq]
    exact ⟨fun l => l.same hr, fun _ h => h⟩
  remove := by
    intro d l hr
    have hre := l.remEv_live hr
    have hen := l.ends_live hr
    -- the clock has reached the trigger time, so `IsTriggered` at the removal is `0 < trigger_time`
    have ht : isTriggered now d = decide (0 < d.trigger) := by simp [isTriggered, l.trig.2]
    refine ⟨fun _ => ⟨l.dur, l.entry, l.trig, l.trigEv, l.starts, ?_, ?_⟩, fun _ _ h => by cases h⟩
    · simp [removeDt, hre]
    · simp only [removeDt, ht, hen]
      cases hq : d.quiet <;> by_cases hp : 0 < d.trigger <;> simp [hp]
  disarm := by
    intro d l hr hdue hexp
    refine ⟨fun _ => l.same hr, fun _ ha => ?_⟩
    rw [due_implies_expired now d l.dur l.trig.1 (ha hr) hdue] at hexp
    cases hexp

theorem lifeR_setq (now : Int) (b : Bool) (d : Dt) : LifeR now d (setQuiet b d) :=
  rel_setQuiet (stepRel_Life now).refl b d fun hr =>
    ⟨fun l => l.same hr, fun _ h => h⟩

structure LInv (T : Int) (st : St) : Prop where
  pos : 0 < st.lastStateChange
  le : st.lastStateChange ≤ T
  dts : AllC (fun d => Life T d ∧ Arm d) st.dts

namespace LInv
variable {T : Int} {st : St} (h : LInv T st)
include h

theorem life {d : Dt} (hd : d ∈ st.dts) : Life T d := (h.dts d hd).1

theorem arm {d : Dt} (hd : d ∈ st.dts) : Arm d := (h.dts d hd).2

theorem now_pos {now : Int} (hT : T ≤ now) : 0 < now := Int.lt_of_lt_of_le h.pos (Int.le_trans h.le hT)

end LInv

theorem life_newDt (st : St) (p : AddP) {now : Int} (hnow : 0 < now) (hop : 0 ≤ p.duration) :
    Life now (newDt st p now) :=
  ⟨hop, ⟨hnow, Int.le_refl _⟩, ⟨Int.le_refl _, Int.le_of_lt hnow⟩, rfl, Nat.le_refl _, rfl, rfl⟩

theorem life_pre {T : Int} {st : St} (hi : LInv T st) (op : Op) (hT : T ≤ op.now) (hop : opOK op) :
    AllC (Life op.now) (preModel st op) := by
  intro d hd
  rcases mem_preModel.mp hd with h | ⟨p, now, rfl, _, rfl⟩
  · exact (hi.life h).mono hT
  · exact life_newDt st p (hi.now_pos hT) hop

theorem linv_step {T : Int} {st : St} (hi : LInv T st) (op : Op) (hT : T ≤ op.now) (hop : opOK op) :
    LInv op.now (step st op).1 := by
  have hpre := life_pre hi op hT hop
  have hall : AllC (Life op.now) st.dts := fun d hd => hpre d (mem_preModel.mpr (Or.inl hd))
  have hopT : OpT st (fun t => 0 < t ∧ t ≤ op.now) (Life op.now) op := by
    cases op with
    | add p now =>
      refine ⟨life_newDt st p (hi.now_pos hT) hop, fun hc => ?_⟩
      have hw := canBeTriggered_window hc
      have := hi.pos; have := hi.le
      simp only [newDt, Op.now] at hw hT ⊢
      omega
    | result s te now => exact hop
    | _ => trivial
  have hdts : AllC (fun d => Life op.now d ∧ Arm d) (step st op).1.dts := by
    intro d' hd'
    rcases step_pred (pw_and (pw_stepFrame st op) (pw_step st op (stepRel_Life op.now) hall hopT
      (fun b _ _ d _ => lifeR_setq op.now b d))) d' hd' with ⟨d, hd, _, r⟩ | ⟨p, now, rfl, hany, f, r⟩
    · exact ⟨r.1 (hall d hd), r.2 (hall d hd) (hi.arm hd)⟩
    · exact ⟨r.1 hopT.1, fun _ => by rw [add_new st p now hany hd' f.id]; rfl⟩
  rcases step_lsc st op with h | ⟨s, te, now, rfl, h⟩
  · exact ⟨h ▸ hi.pos, h ▸ Int.le_trans hi.le hT, hdts⟩
  · exact ⟨h.symm ▸ hop.1, h.symm ▸ hop.2, hdts⟩

/-- 990 is the `lastStateChange` of `initSt` (the start of the monitoring process): `LInv` asks the time bound to
    be at least that, which is why the run-level theorems speak of `WF 990`. -/
theorem linv_init (k : Kind) : LInv 990 (initSt k) :=
  ⟨by simp [initSt], by simp [initSt], fun d hd => by simp [initSt] at hd⟩

theorem linv_run {ops : List Op} {st : St} {T : Int} (h : LInv T st) (hw : WF T ops) :
    LInv (endTime T ops) (run st ops) := by
  induction ops generalizing st T with
  | nil => exact h
  | cons op ops ih => exact ih (linv_step h op hw.1 hw.2.1) hw.2.2

structure Across (now : Int) (d d' : Dt) : Prop where
  frame : Frame now d d'
  life : Life now d
  life' : Life now d'
  arm' : Arm d'

theorem pw_stepLife {T : Int} {st : St} (hi : LInv T st) (op : Op) (hT : T ≤ op.now) (hop : opOK op) :
    Pw (Across op.now) (preModel st op) (step st op).1.dts :=
  pw_mono_mem (pw_stepFrame st op) fun d hd _ hd' r =>
    ⟨r, life_pre hi op hT hop d hd, (linv_step hi op hT hop).life hd', (linv_step hi op hT hop).arm hd'⟩

theorem Across.start {now : Int} {d d' : Dt} (a : Across now d d') (hlt : d.starts < d'.starts) :
    d.trigEv < d'.trigEv ∧ isTriggered now d = false ∧ d'.trigger ≠ 0 := by
  have s := a.frame.startsEv; have s' := a.life'.starts
  have h0' : d'.trigger ≠ 0 := a.life'.trigger_of_ev (by omega)
  have h0 : d.trigger = 0 := by
    by_cases h : d.trigger = 0
    · exact h
    · have := a.life.triggered h; have := a.life'.triggered h0'; omega
  exact ⟨by have := (a.life.untriggered h0).1; omega, by simp [isTriggered, h0], h0'⟩

end Icinga.C05
