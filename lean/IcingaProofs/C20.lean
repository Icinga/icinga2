/-
  C20 — property theorems (wire codecs: netstring framing, JSON, UTF-8 sanitising, JSON-RPC messages, the state file).
  `./check C20` lists the theorems of this file, runs `#print axioms` on each and fails if one of those named in
  checks/c20.py is missing.  Between them stand the helper theorems that join several lemma modules (the header loop at
  end-of-stream, the receive step and the receive loop of a connection, the records of the state file).
-/
import IcingaProofs.C20.DigitLemmas
import IcingaProofs.C20.NetstringLemmas
import IcingaProofs.C20.SpecLemmas
import IcingaProofs.C20.JsonStringLemmas
import IcingaProofs.C20.IntCodecLemmas
import IcingaProofs.C20.JsonLemmas
import IcingaProofs.C20.ConnLemmas
import IcingaProofs.C20.DictLemmas
import IcingaProofs.C20.Utf8Lemmas
import IcingaProofs.C20.NumberLemmas
import IcingaModel.C20.SpecText
import IcingaModel.C20.Conn
import IcingaProofs.Gen.Limits

namespace Icinga.C20

/-- **netstring_roundtrip.**  What `WriteStringToStream` emits for a payload of fewer than 10^9 bytes
    that is within the receiver's limit is read back as exactly that payload, whatever follows in the
    stream; the payload buffer allocated is exactly the payload's size. -/
theorem netstring_roundtrip (max : Option Nat) (p rest : Bytes) (hn : p.length < 10 ^ 9)
    (hmax : tlsLimitExceeded max p.length = false) :
    nsReadTls max (nsEncode p ++ rest) = ⟨.ok p rest, p.length⟩ :=
  nsReadTls_ok_iff.mpr ⟨rfl, hn, hmax, rfl⟩

example : nsReadTls (some 5) (nsEncode [104, 105] ++ [49, 58]) = ⟨.ok [104, 105] [49, 58], 2⟩ := by decide +kernel
example : nsEncode [104, 105] = [50, 58, 104, 105, 44] := by decide +kernel
example : nsEncode [] = [48, 58, 44] := by decide +kernel

/-- **netstring_accepts_only_canonical.**  Whenever the TLS reader returns a payload, the bytes it
    consumed are exactly the canonical encoding of that payload (decimal length without leading zero,
    at most nine digits, ':', payload, ','), the payload is within the limit and the allocation was the
    payload's size.  Contrapositive: every frame that violates the format — non-digit in the length,
    leading zero, more than nine digits, missing ':' or ',', declared length over the limit — is never
    answered with a payload (the remaining outcomes are `error` and `eof`, theorem
    `netstring_reader_outcomes`). -/
theorem netstring_accepts_only_canonical (max : Option Nat) (bs p rest : Bytes) (a : Nat)
    (h : nsReadTls max bs = ⟨.ok p rest, a⟩) :
    bs = nsEncode p ++ rest ∧ p.length < 10 ^ 9 ∧ tlsLimitExceeded max p.length = false ∧ a = p.length :=
  nsReadTls_ok_iff.mp h

example : (nsReadTls none [48, 50, 58, 104, 105, 44]).out = .error .leadingZero [58, 104, 105, 44] := by decide +kernel
example : (nsReadTls none [50, 120, 58, 104, 105, 44]).out = .error .missingColon [58, 104, 105, 44] := by decide +kernel
example : (nsReadTls none [50, 58, 104, 105, 59]).out = .error .missingComma [] := by decide +kernel
example : (nsReadTls none [58, 44]).out = .error .noLength [44] := by decide +kernel
example : (nsReadTls none [49, 50, 51, 52, 53, 54, 55, 56, 57, 48, 58]).out = .error .tooLong [58] := by decide +kernel
example : (nsReadTls none [50, 58, 104]).out = .eof := by decide +kernel

/-- **netstring_reader_outcomes.**  On every byte string the TLS reader ends in one of: a payload,
    an `invalid_argument`, or the end of the stream inside a frame (totality is by construction: the model
    is a structurally recursive function); and it never yields a payload on a stream that does not start with
    a canonical frame. -/
theorem netstring_reader_outcomes (max : Option Nat) (bs : Bytes) :
    (∃ p rest, bs = nsEncode p ++ rest ∧ (nsReadTls max bs).out = .ok p rest) ∨
    (∃ e rest, (nsReadTls max bs).out = .error e rest) ∨ (nsReadTls max bs).out = .eof := by
  cases h : (nsReadTls max bs).out with
  | ok p rest =>
    left
    have := netstring_accepts_only_canonical max bs p rest (nsReadTls max bs).alloc (by rw [← h])
    exact ⟨p, rest, this.1, rfl⟩
  | error e rest => right; left; exact ⟨e, rest, rfl⟩
  | eof => right; right; rfl

/-- **limit_before_payload.**  A header that declares more than the limit is rejected as soon as the ':'
    has been read: every byte after the ':' is still unread (`tail` is returned untouched, whatever it
    is and however long) and no payload buffer has been allocated. -/
theorem limit_before_payload (m n : Nat) (tail : Bytes) (hmn : m < n) (hn : n < 10 ^ 9) :
    nsReadTls (some m) (natDigits n ++ colon :: tail) = ⟨.error .maxExceeded tail, 0⟩ :=
  nsReadTls_over_limit (some m) n hn tail (by simpa [tlsLimitExceeded_some] using hmn)

/-- **allocation_bounded.**  On *every* input the payload buffer the TLS reader allocates never exceeds the limit, and
    without a limit stays below 10^9 (a length field has at most nine digits). -/
theorem allocation_bounded (max : Option Nat) (bs : Bytes) :
    (nsReadTls max bs).alloc < 10 ^ 9 ∧ (∀ m, max = some m → (nsReadTls max bs).alloc ≤ m) := by
  rcases nsReadTls_alloc max bs with h | ⟨h9, hm⟩
  · rw [h]
    exact ⟨by decide, fun m _ => Nat.zero_le m⟩
  · refine ⟨h9, fun m hmm => ?_⟩
    subst hmm
    simpa [tlsLimitExceeded_some] using hm

-- 1 MiB limit, 2 MiB declared: rejected with the 5 following bytes unread, nothing allocated
example : nsReadTls (some 1048576) (natDigits 2097152 ++ colon :: [1, 2, 3, 4, 5]) = ⟨.error .maxExceeded [1, 2, 3, 4, 5], 0⟩ :=
  limit_before_payload 1048576 2097152 [1, 2, 3, 4, 5] (by decide) (by decide)

/-- **tls_model_meets_spec** (the network half of the property as one statement).  For every limit and
    every byte string, what the TLS reader model does satisfies the executable specification `tlsSpec`
    that the driver evaluates on the implementation's observations: a payload only for a canonical frame
    within the limit with the rest of the stream untouched; a canonical frame within the limit is always
    returned; an over-limit header is rejected with everything after the ':' unread. -/
theorem tls_model_meets_spec (max : Option Nat) (bs : Bytes) :
    tlsSpec max bs (obsOfTls (nsReadTls max bs)) = none := by
  by_cases hover : ∃ n after, specHeader bs = some (n, after) ∧ withinLimit max n = false
  · -- an over-limit header at the head of the stream determines the model's answer
    obtain ⟨n, after, hsh, hw⟩ := hover
    obtain ⟨tail, hbs, ha, hn9⟩ := specHeader_sound bs n after hsh
    have hobs : obsOfTls (nsReadTls max bs) = .err after := by
      rw [hbs, nsReadTls_over_limit max n hn9 tail ((withinLimit_eq_false_iff max n).mp hw), ha]; rfl
    rw [hobs]
    unfold tlsSpec
    cases hsf : specFrame bs with
    | none => simp [hsh, hw]
    | some pr =>
      -- the stream also starts with a whole frame; its length field is this header, so the frame is over the limit too
      obtain ⟨p, r⟩ := pr
      obtain ⟨hp, hn⟩ := specFrame_sound bs p r hsf
      have hlen : n = p.length := by
        have h := hsh
        rw [hp, nsEncode_append, specHeader_complete _ _ hn] at h
        exact (Prod.mk.inj (Option.some.inj h)).1.symm
      subst hlen
      simp [hsh, hw]
  · have hin : ∀ n after, specHeader bs = some (n, after) → withinLimit max n = true := by
      intro n after hsh
      cases hw : withinLimit max n with
      | true => rfl
      | false => exact absurd ⟨n, after, hsh, hw⟩ hover
    cases hsf : specFrame bs with
    | some pr =>
      -- a canonical frame within the limit at the head of the stream is returned
      obtain ⟨p, r⟩ := pr
      obtain ⟨hbs, hn⟩ := specFrame_sound bs p r hsf
      have hw := hin p.length _ (by rw [hbs, nsEncode_append]; exact specHeader_complete _ _ hn)
      have hr := netstring_roundtrip max p r hn ((withinLimit_eq_true_iff max _).mp hw)
      rw [← hbs] at hr
      have h1 : (nsEncode p).isPrefixOf bs = true := by rw [hbs]; simp [List.isPrefixOf_iff_prefix]
      have h2 : r.length + (nsEncode p).length = bs.length := by rw [hbs]; simp; omega
      simp [obsOfTls, hr, tlsSpec, h1, h2, hw]
    | none =>
      cases hout : (nsReadTls max bs).out with
      | ok p rest =>
        -- impossible: the bytes consumed would be a canonical frame
        obtain ⟨hbs, hn, _, _⟩ := netstring_accepts_only_canonical max bs p rest _ (by rw [← hout])
        rw [hbs, specFrame_complete p rest hn] at hsf
        cases hsf
      | _ =>
        -- an error or the end of the stream: no clause applies unless an over-limit header stands in front
        simp only [obsOfTls, hout, tlsSpec, hsf]
        cases hsh : specHeader bs with
        | none => rfl
        | some na => simp [hin na.1 na.2 hsh]

/-- The header loop meets the end of the stream only inside a length field that is valid so far. -/
theorem hdrLoop_eof : ∀ (bs : Bytes) (rb len : Nat) (lz : Bool), rb ≤ 9 → hdrLoop rb len lz bs = .eof →
    (∀ b ∈ bs, isDigit b = true) ∧ rb + bs.length ≤ 9 ∧ (lz = true → bs = []) ∧
      (rb = 0 → ∀ a b r, bs = a :: b :: r → (a == 48) = false) := by
  intro bs rb len lz hrb h
  obtain ⟨ds, rest, he, hall, hl, hz, hnz, hend⟩ :=
    hdrLoop_inv bs rb len lz _ hrb h (by intro e r hh; cases hh)
  rcases hend with ⟨_, rfl⟩ | ⟨rest', _, hd, _⟩
  · rw [List.append_nil] at he
    subst he
    exact ⟨hall, hl, hz, hnz⟩
  · cases hd

theorem natDigits_no_leading_zero (n : Nat) : ∀ a b r, natDigits n = a :: b :: r → (a == 48) = false := by
  exact natDigits_noLeadingZero n

/-- A canonical header within the limit is no visible violation as long as the byte behind the declared payload, if the
    stream reaches that far (`ht`), is the ','. -/
theorem specViolation_header (max : Option Nat) (n : Nat) (hn : n < 10 ^ 9) (hw : withinLimit max n = true) (tail : Bytes)
    (ht : ∀ t r, tail.drop n = t :: r → t = comma) :
    specViolation max (natDigits n ++ colon :: tail) = false := by
  have hlen := (natDigits_length_le n 9 (by omega)).mpr hn
  unfold specViolation
  simp only
  rw [takeWhile_natDigits, digitsVal_natDigits]
  have hdrop : List.drop (natDigits n).length (natDigits n ++ colon :: tail) = colon :: tail := by simp
  rw [hdrop]
  have hlz := zeroThenDigit_eq_false _ (natDigits_no_leading_zero n)
  have h9 : decide ((natDigits n).length > 9) = false := by simp; omega
  have hemp : (natDigits n).isEmpty = false := by
    cases hnd : natDigits n with
    | nil => exact absurd hnd (natDigits_ne_nil n)
    | cons _ _ => rfl
  simp only [hlz, h9, Bool.or_self, Bool.false_eq_true, if_false, bne_self_eq_false, hemp, hw, Bool.not_true]
  cases hd : tail.drop n with
  | nil => rfl
  | cons t r => simp [ht t r hd]

/-- **tls_violation_rejected** (the positive clause of the statement).  On every stream that visibly violates the frame
    format — bad length field, wrong separator, declared length over the limit, wrong terminator — the TLS reader answers
    with an error: it neither returns a payload nor runs on to the end of the stream.  Hence `tlsRejectSpec` holds of the
    model on every input. -/
theorem tls_violation_rejected (max : Option Nat) (bs : Bytes) :
    (specViolation max bs = true → ∃ e rest, (nsReadTls max bs).out = .error e rest) ∧
    tlsRejectSpec max bs (obsOfTls (nsReadTls max bs)) = none := by
  have main : specViolation max bs = true → ∃ e rest, (nsReadTls max bs).out = .error e rest := by
    intro hv
    cases hout : (nsReadTls max bs).out with
    | error e rest => exact ⟨e, rest, rfl⟩
    | ok p rest =>
      -- a payload is returned only for a canonical frame within the limit: no violation there
      obtain ⟨hbs, hn, hlim, _⟩ := netstring_accepts_only_canonical max bs p rest _ (by rw [← hout])
      have := specViolation_header max p.length hn ((withinLimit_eq_true_iff max _).mpr hlim) (p ++ comma :: rest)
        (by intro t r h; simp at h; exact h.1.symm)
      rw [← nsEncode_append, ← hbs, hv] at this; cases this
    | eof =>
      exfalso
      rcases nsReadTls_cases max bs with ⟨_, hall, hlen, hlz⟩ | ⟨e, r, he⟩ | ⟨n, r, hbs, hn, hb⟩
      · -- the stream ends inside the length field
        have htw := takeWhile_all isDigit bs hall
        unfold specViolation at hv
        simp only [htw, List.drop_length] at hv
        have hlz' := zeroThenDigit_eq_false bs hlz
        have h9 : decide (bs.length > 9) = false := by simp; omega
        simp [hlz', h9] at hv
      · rw [he] at hout; cases hout
      · rw [hb] at hout
        obtain ⟨hm, hdrop⟩ := tlsBody_eof max n r hout
        have := specViolation_header max n hn ((withinLimit_eq_true_iff max n).mpr hm) r
          (by intro t r' h; rw [hdrop] at h; cases h)
        rw [← hbs, hv] at this; cases this
  refine ⟨main, ?_⟩
  unfold tlsRejectSpec
  cases hv : specViolation max bs with
  | false => rfl
  | true =>
    obtain ⟨e, rest, he⟩ := main hv
    simp [obsOfTls, he]

-- a wrong terminator, a leading zero, an over-limit header answered with end-of-stream or a payload: rejected by the specification
example : tlsRejectSpec none [50, 58, 104, 105, 59] .eof = some .tlsViolationNotRejected := by decide +kernel
example : tlsRejectSpec none [48, 50, 58, 104, 105, 44] .eof = some .tlsViolationNotRejected := by decide +kernel
example : tlsRejectSpec (some 1) [50, 58] .eof = some .tlsViolationNotRejected := by decide +kernel
example : tlsRejectSpec none [48, 48, 58, 44] (.ok [] 0) = some .tlsViolationNotRejected := by decide +kernel
example : tlsRejectSpec none [50, 58, 104] .eof = none := by decide +kernel
example : tlsRejectSpec none [50, 58, 104, 105, 59] (.err 0) = none := by decide +kernel

-- the specification is not vacuous: it rejects wrong observations
example : tlsSpec none [48, 50, 58, 104, 105, 44] (.ok [104, 105] 0) = some .tlsOnlyCanonical := by decide +kernel
example : tlsSpec none [50, 58, 104, 105, 44] .eof = some .tlsValidRejected := by decide +kernel
example : tlsSpec (some 1) [50, 58, 104, 105, 44] (.ok [104, 105] 0) = some .tlsOverLimit := by decide +kernel
example : tlsSpec (some 1) [50, 58, 104, 105, 44] (.err 1) = some .tlsLimitLate := by decide +kernel
example : tlsSpec (some 1) [50, 58, 104, 105, 44] (.err 3) = none := by decide +kernel

/-- **frames_split_regardless_of_chunking.**  For every list of payloads (each shorter than 10^9 bytes and
    within the limit) and *every* chunking of the concatenated encoding — including empty chunks and
    chunks that cut inside a length field — the read loop over the buffered reader yields exactly those
    payloads, in order, and then end-of-file. -/
theorem frames_split_regardless_of_chunking (max : Option Nat) (ps : List Bytes) (chunks : List Bytes)
    (hps : ∀ p ∈ ps, p.length < 10 ^ 9 ∧ bufLimitExceeded max p.length = false)
    (hc : chunks.flatten = nsEncodeAll ps) :
    (nsReadAll max chunks).items = ps ∧ (nsReadAll max chunks).final = .eof := by
  exact nsReadAll_frames_end max ps [] .eof chunks hps (streamEnd_nil max) (by rw [hc, List.append_nil])

example : (nsReadAll none [[50, 58, 104], [105, 44, 48], [], [58, 44]]).items = [[104, 105], []] := by decide +kernel
example : (nsReadAll none [[50, 58, 104], [105, 44, 48], [], [58, 44]]).final = .eof := by decide +kernel

/-- **netstring_prefix_parse.**  A stream that consists of complete frames followed by a truncated frame
    (any proper prefix of a valid frame, possibly empty) yields, under every chunking, exactly the complete frames and
    then end-of-file: never a wrong or partial payload, never an error.  (Every prefix `take k` of a valid frame sequence
    is such a stream: `take_nsEncodeAll`.) -/
theorem netstring_prefix_parse (max : Option Nat) (ps : List Bytes) (q t suffix : Bytes) (chunks : List Bytes)
    (hps : ∀ p ∈ ps, p.length < 10 ^ 9 ∧ bufLimitExceeded max p.length = false)
    (hq : q.length < 10 ^ 9 ∧ bufLimitExceeded max q.length = false)
    (ht : t ++ suffix = nsEncode q) (hs : suffix ≠ [])
    (hc : chunks.flatten = nsEncodeAll ps ++ t) :
    (nsReadAll max chunks).items = ps ∧ (nsReadAll max chunks).final = .eof := by
  exact nsReadAll_frames_end max ps t .eof chunks hps (streamEnd_truncated max q t suffix hq hs ht) hc

-- "2:hi," then the first three bytes of "5:hello,": one item, then EOF
example : (nsReadAll none [[50, 58, 104, 105, 44, 53, 58, 104]]).items = [[104, 105]] := by decide +kernel

/-- **frames_until_over_limit.**  A stream of valid frames followed by a frame whose declared length is over the caller's
    limit (and then anything at all): under EVERY chunking — also when a cut falls inside the oversized frame's length
    field — the read loop returns exactly the frames before it and then ends in the limit error; nothing of the
    oversized frame or behind it is ever returned. -/
theorem frames_until_over_limit (max : Option Nat) (ps : List Bytes) (q tail : Bytes) (chunks : List Bytes)
    (hps : ∀ p ∈ ps, p.length < 10 ^ 9 ∧ bufLimitExceeded max p.length = false)
    (hq : q.length < 10 ^ 9 ∧ bufLimitExceeded max q.length = true)
    (hc : chunks.flatten = nsEncodeAll ps ++ (nsEncode q ++ tail)) :
    (nsReadAll max chunks).items = ps ∧ (nsReadAll max chunks).final = .error .maxExceeded := by
  exact nsReadAll_frames_end max ps _ _ chunks hps (streamEnd_over_limit max q.length (q ++ comma :: tail) hq.1 hq.2)
    (by rw [← nsEncode_append]; exact hc)

/-- **framed_model_meets_spec_full.**  The buffered half of the property as one statement, with no hypothesis that the
    payloads are within the limit: for every limit, EVERY list of payloads (each below 10^9 bytes) and every chunking of the stream the writer
    produces, the model's read loop satisfies the executable specification `framedSpec` — all payloads then end-of-file
    when all are within the limit, otherwise exactly the payloads before the first oversized one and then an error. -/
theorem framed_model_meets_spec_full (max : Option Nat) (ps : List Bytes) (chunks : List Bytes)
    (hps : ∀ p ∈ ps, p.length < 10 ^ 9) (hc : chunks.flatten = nsEncodeAll ps) :
    framedSpec max ps (nsEncodeAll ps) true (sobsOfRun (nsReadAll max chunks)) = none := by
  obtain ⟨t, he, hs, hok⟩ := acceptedPrefix_stream max ps hps
  obtain ⟨hi, hf⟩ := nsReadAll_frames_end max _ t _ chunks hok hs (hc.trans he)
  exact framedSpec_of_run max ps _ hi (by rw [hf]; cases (acceptedPrefix max ps).2 <;> simp)

example : framedSpec (some 3) [[104, 105], [1, 2, 3, 4, 5], [7]] (nsEncodeAll [[104, 105], [1, 2, 3, 4, 5], [7]]) true
    (sobsOfRun (nsReadAll (some 3) [nsEncodeAll [[104, 105], [1, 2, 3, 4, 5], [7]]])) = none := by decide +kernel
example : (nsReadAll (some 3) [[50, 58, 104, 105, 44, 53], [58, 1, 2]]).final = .error .maxExceeded := by decide +kernel
example : framedSpec (some 3) [[104, 105], [1, 2, 3, 4, 5]] (nsEncodeAll [[104, 105], [1, 2, 3, 4, 5]]) true
    [.item [104, 105], .item [1, 2, 3, 4, 5], .eof] = some .framesSplit := by decide +kernel

/-- **framed_model_meets_spec.**  `framed_model_meets_spec_full` for payloads within the limit (items = payloads in
    order, then EOF); `framedSpec` is what the driver evaluates on the implementation's observations. -/
theorem framed_model_meets_spec (max : Option Nat) (ps : List Bytes) (chunks : List Bytes)
    (hps : ∀ p ∈ ps, bufWithin max p = true) (hc : chunks.flatten = nsEncodeAll ps) :
    framedSpec max ps (nsEncodeAll ps) true (sobsOfRun (nsReadAll max chunks)) = none :=
  framed_model_meets_spec_full max ps chunks
    (fun p hp => ((bufWithin_iff max p).mp (hps p hp)).1) hc

example : framedSpec none [[104, 105]] (nsEncodeAll [[104, 105]]) true [.need, .item [104], .eof] = some .framesSplit := by decide +kernel
example : framedSpec none [[104, 105]] (nsEncodeAll [[104, 105]]) true [.need, .item [104, 105], .need] = some .framesEnd := by decide +kernel
example : framedSpec none [[104, 105]] [50, 58, 104, 105] true [.need, .eof] = some .writerFormat := by decide +kernel

/-- **buffered_reader_total.**  On every chunked byte stream (hostile input included) the read loop, started with a
    fresh context (`nsBufRun_parses`: from any context the loop can reach), ends after at most
    `runMeasure + 1` calls in end-of-file or an error — the fuel `runFuel` is never exhausted (in the model every fill
    delivers a chunk or reports end-of-file: a stream is a list of chunks);
    every returned item lies inside the buffer and consumes at least its own length plus three framing
    bytes (`nsParseBuf_item_bounds`). -/
theorem buffered_reader_total (max : Option Nat) (chunks : List Bytes) :
    (nsReadAll max chunks).final ≠ .outOfFuel ∧
    (nsReadAll max chunks).calls ≤ chunks.flatten.length + 2 * chunks.length + 1 ∧
    (∀ buf p n, nsParseBuf max buf = .item p n → p.length + 3 ≤ n ∧ n ≤ buf.length) := by
  have := nsReadAll_total max chunks
  exact ⟨this.1, this.2.1, fun _ _ _ h => nsParseBuf_item_bounds h⟩

/-- The buffered reader's leniency, stated rather than hidden: a length field with trailing junk before the
    ':' is accepted (`1ab:x,` reads as the item `x`, `a:,` as the empty item; the TLS reader refuses the former).  The property demands strict rejection only for frames
    from the network, which go through the TLS reader (`netstring_accepts_only_canonical`). -/
theorem buffered_reader_lenient :
    nsParseBuf none [49, 97, 98, 58, 120, 44] = .item [120] 6 ∧ nsParseBuf none [97, 58, 44] = .item [] 3 ∧
    (nsReadTls none [49, 97, 98, 58, 120, 44]).out = .error .missingColon [98, 58, 120, 44] := by decide

/-- **json_string_roundtrip.**  Every string — any sequence of Unicode scalar values: control characters,
    quotes, backslashes, DEL, the BMP, astral characters through surrogate pairs — encoded as
    `dump_escaped(…, ensure_ascii = true)` does is decoded to the same string, whatever follows. -/
theorem json_string_roundtrip (s : List Char) (rest : List UInt8) :
    jsonDecodeString (jsonEncodeString s ++ rest) = some (s, rest) :=
  jsonDecodeString_jsonEncodeString s rest

/-- **surrogate_roundtrip.**  The pair `\uXXXX\uXXXX` emitted for a code point ≥ 0x10000 decodes to it. -/
theorem surrogate_roundtrip (c : Char) (h : 0x10000 ≤ c.toNat) (rest : List UInt8) :
    decodeChar1 (92 :: 117 :: (hex4 (0xD7C0 + c.toNat / 1024) ++ 92 :: 117 :: hex4 (0xDC00 + c.toNat % 1024)) ++ rest)
      = some (c, rest) :=
  decodeChar1_surrogatePair c h rest

/-- **json_parser_roundtrip.**  The parser proper (no nesting limit): for every lawful number codec and every value
    — any nesting of null, booleans, numbers, strings over all of Unicode, arrays and objects, empty containers,
    any keys — parsing the encoder's text gives the value back. -/
theorem json_parser_roundtrip {N : Type} (c : NumCodec N) (hc : c.Lawful) (v : JValue N) :
    jsonDecode c (jsonEncode c v) = some v :=
  jsonDecode_jsonEncode c hc v

/-- **nesting_limit_matches_source.**  The model's nesting limit is the constant `l_JsonMaxNestingDepth` that
    gen/c20_limits.py reads from lib/base/json.cpp on every run: a changed constant breaks this obligation. -/
theorem nesting_limit_matches_source : jsonMaxNestingDepth = Icinga.Gen.Limits.jsonMaxNestingDepthSrc := by decide

theorem jsonDecodeL_eq_some {N : Type} (c : NumCodec N) (bs : List UInt8) (v : JValue N) :
    jsonDecodeL c bs = some v ↔ jsonDecode c bs = some v ∧ depth v ≤ jsonMaxNestingDepth := by
  unfold jsonDecodeL
  cases h : jsonDecode c bs with
  | none => simp
  | some w =>
    by_cases hw : depth w ≤ jsonMaxNestingDepth
    · simp only [withinNesting, hw, decide_true, if_true, Option.some.injEq]
      exact ⟨fun e => ⟨e, e ▸ hw⟩, fun e => e.1⟩
    · simp only [withinNesting, hw, decide_false, Bool.false_eq_true, if_false, Option.some.injEq]
      exact ⟨nofun, fun e => absurd (e.1 ▸ e.2) hw⟩

/-- **json_roundtrip.**  `JsonDecode (JsonEncode v) = v` for every lawful number codec and every value — any nesting
    of null, booleans, numbers, strings over all of Unicode, arrays and objects, empty containers, any keys, any size
    — whose nesting depth is at most the decoder's limit of 1000 (the property quantifies to depth 64).  (Objects
    are association lists in textual order; see `json_roundtrip_dict` for dictionaries as Icinga holds them.) -/
theorem json_roundtrip {N : Type} (c : NumCodec N) (hc : c.Lawful) (v : JValue N)
    (hd : depth v ≤ jsonMaxNestingDepth) : jsonDecodeL c (jsonEncode c v) = some v :=
  (jsonDecodeL_eq_some c _ v).mpr ⟨jsonDecode_jsonEncode c hc v, hd⟩

/-- **json_too_deep_rejected.**  Beyond the limit even the encoder's own output is refused (an error, not a crash:
    repair of F-C20a). -/
theorem json_too_deep_rejected {N : Type} (c : NumCodec N) (hc : c.Lawful) (v : JValue N)
    (hd : jsonMaxNestingDepth < depth v) : jsonDecodeL c (jsonEncode c v) = none := by
  cases h : jsonDecodeL c (jsonEncode c v) with
  | none => rfl
  | some w =>
    have := (jsonDecodeL_eq_some c _ w).mp h
    rw [jsonDecode_jsonEncode c hc v] at this
    obtain ⟨e, hw⟩ := this
    simp only [Option.some.injEq] at e
    subst e; omega

/-- **decode_nesting_bounded** (finding F-C20a — no bound on the nesting — fixed by 24727c0).  Every
    document `JsonDecode` accepts — any bytes — has nesting depth at most 1000: the recursion that destroys or
    renders a decoded value is bounded.  The bound is sharp: 1000 nested arrays are accepted, 1001 are refused. -/
theorem decode_nesting_bounded {N : Type} (c : NumCodec N) (hc : c.Lawful) :
    (∀ (bs : List UInt8) (v : JValue N), jsonDecodeL c bs = some v → depth v ≤ 1000) ∧
    jsonDecodeL c (jsonEncode c (nest 999 : JValue N)) = some (nest 999) ∧
    jsonDecodeL c (jsonEncode c (nest 1000 : JValue N)) = none :=
  ⟨fun bs v h => ((jsonDecodeL_eq_some c bs v).mp h).2,
   json_roundtrip c hc _ (by rw [depth_nest]; decide),
   json_too_deep_rejected c hc _ (by rw [depth_nest]; decide)⟩

/-- **int_codec_lawful.**  The integer instance of the number codec satisfies the codec laws (decimal
    printing and canonical parsing round-trip).  It is the only instance in Lean: for doubles (nlohmann's printer +
    strtod) the law is not stated here; the harness fuzzes the real pair bit-exactly on every run. -/
theorem int_codec_lawful : intCodec.Lawful := intCodec_lawful

theorem json_roundtrip_int (v : JValue Int) (hd : depth v ≤ jsonMaxNestingDepth) :
    jsonDecodeL intCodec (jsonEncode intCodec v) = some v :=
  json_roundtrip intCodec int_codec_lawful v hd

example : jsonDecodeL intCodec (jsonEncode intCodec sampleValue) = some sampleValue :=
  json_roundtrip_int sampleValue (by decide)
example : (jsonDecode intCodec (asciiBytes "[1,]")).isNone = true := by decide +kernel
example : jsonDecodeString (asciiBytes "\"\\ud800\"") = none := by decide +kernel

/-- **utf8_roundtrip.**  Every sequence of Unicode scalar values survives UTF-8 encoding and strict decoding; and the
    strict decoder accepts nothing but canonical encodings (no overlongs, surrogates, code points above U+10FFFF). -/
theorem utf8_roundtrip (s : List Char) :
    utf8Decode (utf8Encode s) = some s ∧ ∀ bs, utf8Decode bs = some s → bs = utf8Encode s :=
  ⟨utf8Decode_utf8Encode s, fun bs => (utf8Decode_eq_some_iff bs s).mp⟩

/-- **sanitise_fixes_wellformed.**  `ValidateUTF8` leaves well-formed text unchanged. -/
theorem sanitise_fixes_wellformed (s : List Char) : sanitise (utf8Encode s) = utf8Encode s :=
  sanitise_utf8Encode s

/-- **sanitise_wellformed.**  On arbitrary bytes the output of `ValidateUTF8` is well-formed UTF-8. -/
theorem sanitise_wellformed (bs : List UInt8) : ∃ s, sanitise bs = utf8Encode s :=
  sanitise_eq_utf8Encode bs

/-- **sanitise_idempotent.**  `ValidateUTF8` runs on encode and again on decode: the second run changes nothing. -/
theorem sanitise_idempotent (bs : List UInt8) : sanitise (sanitise bs) = sanitise bs := by
  obtain ⟨s, hs⟩ := sanitise_wellformed bs
  rw [hs, sanitise_fixes_wellformed]

/-- **sanitise_model_meets_spec.**  For every byte string the model of the sanitising step satisfies the executable
    specification `sanitiseSpec` the driver evaluates on the implementation's observations. -/
theorem sanitise_model_meets_spec (bs : List UInt8) : sanitiseSpec bs (sanitise bs) = none := by
  unfold sanitiseSpec
  have h1 := utf8Decode_sanitise_isSome bs
  have h1' : (utf8Decode (sanitise bs)).isNone = false := by
    cases h : utf8Decode (sanitise bs) <;> simp [h] at h1 ⊢
  simp only [h1', Bool.false_eq_true, if_false]
  cases h : utf8Decode bs with
  | none => simp
  | some s =>
    have := (utf8Decode_eq_some_iff bs s).mp h
    rw [this, sanitise_utf8Encode]; simp

example : sanitiseSpec [0xC0, 0x80] [0xC0, 0x80] = some .utf8Wellformed := by decide +kernel
example : sanitiseSpec [0xC3, 0xA9] [0xEF, 0xBF, 0xBD] = some .utf8KeepsValid := by decide +kernel
example : sanitise [0xE2, 0x28, 0xA1] = [0xEF, 0xBF, 0xBD, 0x28, 0xEF, 0xBF, 0xBD] := by decide +kernel

/-- **json_roundtrip_bytes.**  The round trip composed down to bytes: for a value whose strings and keys are arbitrary
    byte strings (what an Icinga `Value` holds) and whose nesting depth is within the limit, `JsonDecode (JsonEncode v)`
    — sanitise, escape, parse (with the limit), re-encode as UTF-8 — is `v` with every string sanitised; hence `v`
    itself when its strings are well-formed UTF-8.  (The encoded text is pure ASCII, so the decoder's own sanitising
    step is the identity on it.) -/
theorem json_roundtrip_bytes {N : Type} (c : NumCodec N) (hc : c.Lawful) (v : BValue N)
    (hd : depth v.toJ ≤ jsonMaxNestingDepth) :
    jsonDecodeBL c (jsonEncodeB c v) = some v.sanitised ∧
    (v.sanitised = v → jsonDecodeBL c (jsonEncodeB c v) = some v) := by
  have h : jsonDecodeBL c (jsonEncodeB c v) = some v.sanitised := by
    unfold jsonDecodeBL jsonEncodeB
    rw [sanitise_ascii _ (jsonEncode_ascii c hc v.toJ), json_roundtrip c hc v.toJ hd, Option.map_some, toJ_toB]
  exact ⟨h, fun hv => by rw [h, hv]⟩

/-- **json_roundtrip_dict.**  Seen as Icinga values (every dictionary a key-sorted, duplicate-free map — which is
    what `Dictionary` is, so the encoder emits members in ascending key order), every value of depth within the
    limit survives `JsonDecode ∘ JsonEncode` unchanged.  `icingaDecodeL` = parse with the limit, then build every
    object with `Dictionary::Set` in textual order. -/
theorem json_roundtrip_dict {N : Type} (c : NumCodec N) (hc : c.Lawful) (v : JValue N) (hv : Canonical v)
    (hd : depth v ≤ jsonMaxNestingDepth) : icingaDecodeL c (jsonEncode c v) = some v := by
  unfold icingaDecodeL
  rw [json_roundtrip c hc v hd, Option.map_some, canonV_eq_self v hv]

/-- **json_decode_encode_any.**  What happens otherwise (member lists that are unsorted or contain duplicate keys,
    e.g. hostile text): the result is the canonical form — sorted by key, the LAST of several equal keys wins
    (`canon_last_wins`) — and it is always an Icinga value; canonicalising is idempotent. -/
theorem json_decode_encode_any {N : Type} (c : NumCodec N) (hc : c.Lawful) (v : JValue N)
    (hd : depth v ≤ jsonMaxNestingDepth) :
    icingaDecodeL c (jsonEncode c v) = some (canonV v) ∧ Canonical (canonV v) ∧ canonV (canonV v) = canonV v := by
  refine ⟨?_, canonV_canonicalB v, canonV_idempotent v⟩
  unfold icingaDecodeL
  rw [json_roundtrip c hc v hd, Option.map_some]

/-- **canon_last_wins.**  Looking a key up in the dictionary built from a member list gives the value of the last
    member with that key, and the dictionary is sorted. -/
theorem canon_last_wins {N : Type} (k : List Char) (kvs : List (List Char × JValue N)) :
    dictGet k (dictOfMembers kvs) = dictGet k kvs.reverse ∧ keysSorted (dictOfMembers kvs) = true :=
  ⟨dictGet_dictOfMembers k kvs, dictOfMembers_sorted kvs⟩

/-- **decode_message_only_objects.**  `DecodeMessage` yields a dictionary exactly when the payload decodes
    to a JSON object (then: that object) nested no deeper than the limit; every other payload — malformed text,
    `null`, booleans, numbers, strings, arrays, too deep a document — ends in an error, never in a value handed to
    the caller. -/
theorem decode_message_only_objects {N : Type} (c : NumCodec N) (bs : List UInt8) :
    (∀ kvs, decodeMessage c bs = .ok kvs ↔ jsonDecodeL c bs = some (.obj kvs)) ∧
    (jsonDecodeL c bs = none → decodeMessage c bs = .error .malformed) ∧
    (∀ v, jsonDecodeL c bs = some v → (∀ kvs, v ≠ .obj kvs) → decodeMessage c bs = .error .notObject) := by
  refine ⟨?_, ?_, ?_⟩
  · intro kvs
    unfold decodeMessage
    cases h : jsonDecodeL c bs with
    | none => simp
    | some v => cases v <;> simp
  · intro h; simp [decodeMessage, h]
  · intro v h hv
    unfold decodeMessage
    rw [h]
    cases v with
    | obj kvs => exact absurd rfl (hv kvs)
    | _ => rfl

/-- **decode_message_roundtrip.**  An encoded dictionary is accepted and comes back unchanged; an encoded value
    of any other kind is rejected (lawful number codec, nesting within the decoder's limit). -/
theorem decode_message_roundtrip {N : Type} (c : NumCodec N) (hc : c.Lawful) (v : JValue N)
    (hd : depth v ≤ jsonMaxNestingDepth) :
    decodeMessage c (jsonEncode c v) =
      match v with
      | .obj kvs => .ok kvs
      | _ => .error .notObject := by
  unfold decodeMessage
  rw [json_roundtrip c hc v hd]
  cases v <;> rfl

/-- **message_model_meets_spec.**  Whatever `DecodeMessage`'s model does on any payload satisfies the executable
    specification `messageSpec` the driver evaluates on the implementation's observations: never a null or
    non-dictionary result, and a dictionary only for a text that starts with '{'. -/
theorem message_model_meets_spec {N : Type} (c : NumCodec N) (bs : List UInt8) :
    messageSpec bs (obsOfMsg (decodeMessage c bs)) = none := by
  cases h : decodeMessage c bs with
  | error e => rfl
  | ok kvs =>
    have hd := ((jsonDecodeL_eq_some c bs _).mp (((decode_message_only_objects c bs).1 kvs).mp h)).1
    obtain ⟨t, ht⟩ := jsonDecode_obj_head c bs kvs hd
    simp [obsOfMsg, messageSpec, ht, firstNonWs]

theorem recv_message_frame {N : Type} (c : NumCodec N) (max : Option Nat) (bs : Bytes)
    (kvs : List (List Char × JValue N)) (rest : Bytes) (h : recvMessage c max bs = .message kvs rest) :
    ∃ p, bs = nsEncode p ++ rest ∧ p.length < 10 ^ 9 ∧ tlsLimitExceeded max p.length = false ∧ decodeMessage c p = .ok kvs := by
  unfold recvMessage at h
  cases ho : (nsReadTls max bs).out with
  | eof => simp [ho] at h
  | error e r => simp [ho] at h
  | ok p r =>
    simp only [ho] at h
    cases hm : decodeMessage c p with
    | error e => simp [hm] at h
    | ok k =>
      simp only [hm, RecvOutcome.message.injEq] at h
      obtain ⟨hk, hr⟩ := h
      subst hk; subst hr
      have hc := netstring_accepts_only_canonical max bs p r (nsReadTls max bs).alloc (by rw [← ho])
      exact ⟨p, hc.1, hc.2.1, hc.2.2.1, hm⟩

/-- **recv_message_only_objects.**  One iteration of the receive loop hands a message to the handlers only if the
    stream starts with a canonical frame within the size limit whose payload decodes to a JSON object nested no
    deeper than 1000. -/
theorem recv_message_only_objects {N : Type} (c : NumCodec N) (max : Option Nat) (bs : Bytes)
    (kvs : List (List Char × JValue N)) (rest : Bytes) (h : recvMessage c max bs = .message kvs rest) :
    ∃ p, bs = nsEncode p ++ rest ∧ tlsLimitExceeded max p.length = false ∧ jsonDecodeL c p = some (.obj kvs) ∧
      depth (.obj kvs : JValue N) ≤ 1000 := by
  obtain ⟨p, hbs, _, hlim, hd⟩ := recv_message_frame c max bs kvs rest h
  have hj := ((decode_message_only_objects c p).1 kvs).mp hd
  exact ⟨p, hbs, hlim, hj, ((jsonDecodeL_eq_some c p _).mp hj).2⟩

-- "null", "42", "[]" are rejected; "{}" is accepted; the specification rejects a null result
example : obsOfMsg (decodeMessage intCodec (asciiBytes "null")) = .rejected := by decide +kernel
example : obsOfMsg (decodeMessage intCodec (asciiBytes "42")) = .rejected := by decide +kernel
example : obsOfMsg (decodeMessage intCodec (asciiBytes "[]")) = .rejected := by decide +kernel
example : obsOfMsg (decodeMessage intCodec (asciiBytes "{")) = .rejected := by decide +kernel
example : obsOfMsg (decodeMessage intCodec (asciiBytes "{}")) = .dict := by decide +kernel
example : messageSpec (asciiBytes "null") .null = some .messageOnlyObjects := by decide +kernel
example : messageSpec (asciiBytes "[]") .dict = some .messageNotObjectText := by decide +kernel

/-- **unauth_limit_selected.**  The limit the connection passes to the reader: 1 MiB for every peer that is not
    authenticated — whatever name it claims, also the name of a configured Endpoint — and for authenticated peers
    without Endpoint object; none only for an authenticated peer with Endpoint object. -/
theorem unauth_limit_selected :
    (∀ ep, limitFor false ep = some 1048576) ∧ limitFor true false = some 1048576 ∧ limitFor true true = none := by
  refine ⟨fun ep => by cases ep <;> rfl, rfl, rfl⟩

theorem recv_frame {N : Type} (c : NumCodec N) (max : Option Nat) (p rest : Bytes) (hn : p.length < 10 ^ 9)
    (hmax : tlsLimitExceeded max p.length = false) (kvs : List (List Char × JValue N)) (hd : decodeMessage c p = .ok kvs) :
    recvMessage c max (nsEncode p ++ rest) = .message kvs rest := by
  unfold recvMessage
  rw [netstring_roundtrip max p rest hn hmax]
  simp [hd]

/-- **send_recv.**  Sender and receiver composed: a dictionary (any keys and values, nesting within the limit) that the
    sender encodes with JsonEncode and frames with WriteStringToStream is handed to the receiver's handlers as exactly
    that dictionary, with the rest of the stream untouched — for every lawful number codec, every limit the encoded
    message is within, whatever follows in the stream. -/
theorem send_recv {N : Type} (c : NumCodec N) (hc : c.Lawful) (max : Option Nat) (kvs : List (List Char × JValue N))
    (rest : Bytes) (hd : depth (.obj kvs : JValue N) ≤ jsonMaxNestingDepth)
    (hn : (jsonEncode c (.obj kvs)).length < 10 ^ 9)
    (hmax : tlsLimitExceeded max (jsonEncode c (.obj kvs)).length = false) :
    recvMessage c max (nsEncode (jsonEncode c (.obj kvs)) ++ rest) = .message kvs rest :=
  recv_frame c max _ rest hn hmax kvs (by simpa using decode_message_roundtrip c hc (.obj kvs) hd)

theorem recv_over_limit {N : Type} (c : NumCodec N) (m : Nat) (q rest : Bytes) (hq : m < q.length) (hn : q.length < 10 ^ 9) :
    ∀ kvs r, recvMessage c (some m) (nsEncode q ++ rest) ≠ .message kvs r := by
  intro kvs r
  unfold recvMessage
  rw [nsEncode_append, limit_before_payload m q.length _ hq hn]
  simp

/-- Every message consumes at least the three framing bytes. -/
theorem connLoop_fuel {N : Type} (c : NumCodec N) (max : Option Nat) :
    ∀ (f1 f2 : Nat) (bs : Bytes), bs.length < f1 → bs.length < f2 → connLoop c max f1 bs = connLoop c max f2 bs := by
  intro f1
  induction f1 with
  | zero => intro f2 bs h; omega
  | succ n ih =>
    intro f2 bs h1 h2
    cases f2 with
    | zero => omega
    | succ m =>
      unfold connLoop
      cases hr : recvMessage c max bs with
      | message kvs rest =>
        obtain ⟨p, hbs, _, _, _⟩ := recv_message_frame c max bs kvs rest hr
        have hl := nsEncode_length_ge p
        have : rest.length + 3 ≤ bs.length := by rw [hbs]; simp; omega
        simp only
        rw [ih m rest (by omega) (by omega)]
      | rejected e r => rfl
      | frameError e r => rfl
      | eof => rfl

/-- **conn_delivers_only_within_limit.**  On ANY byte stream, whatever the receive loop hands to the handlers was sent
    as a canonical frame, behind nothing but canonical frames, with a payload within the connection's limit that
    decodes to exactly that JSON object. -/
theorem conn_delivers_only_within_limit {N : Type} (c : NumCodec N) (max : Option Nat) :
    ∀ (fuel : Nat) (bs : Bytes) (kvs : List (List Char × JValue N)), kvs ∈ connLoop c max fuel bs →
      ∃ ps p rest, bs = nsEncodeAll ps ++ (nsEncode p ++ rest) ∧ tlsLimitExceeded max p.length = false ∧
        jsonDecodeL c p = some (.obj kvs) := by
  intro fuel
  induction fuel with
  | zero => intro bs kvs h; simp [connLoop] at h
  | succ n ih =>
    intro bs kvs h
    unfold connLoop at h
    cases hr : recvMessage c max bs with
    | message k rest =>
      simp only [hr, List.mem_cons] at h
      obtain ⟨p, hbs, _, hlim, hd⟩ := recv_message_frame c max bs k rest hr
      rcases h with h | h
      · subst h
        exact ⟨[], p, rest, by simpa [nsEncodeAll_nil] using hbs, hlim, ((decode_message_only_objects c p).1 kvs).mp hd⟩
      · obtain ⟨ps, p', rest', hr', hl', hd'⟩ := ih rest kvs h
        exact ⟨p :: ps, p', rest', by rw [hbs, hr', nsEncodeAll_cons, List.append_assoc], hl', hd'⟩
    | rejected e r => simp [hr] at h
    | frameError e r => simp [hr] at h
    | eof => simp [hr] at h

/-- **unauth_peer_never_over_1MiB.**  The statement's clause as one sentence about the connection: for a peer that is not
    authenticated — with ANY identity, any bytes — every message that reaches the handlers came in a frame of at most
    1048576 payload bytes. -/
theorem unauth_peer_never_over_1MiB {N : Type} (c : NumCodec N) (ep : Bool) (bs : Bytes)
    (kvs : List (List Char × JValue N)) (h : kvs ∈ connRecv c false ep bs) :
    ∃ ps p rest, bs = nsEncodeAll ps ++ (nsEncode p ++ rest) ∧ p.length ≤ 1048576 ∧ jsonDecodeL c p = some (.obj kvs) := by
  obtain ⟨ps, p, rest, hbs, hl, hd⟩ := conn_delivers_only_within_limit c _ _ bs kvs h
  refine ⟨ps, p, rest, hbs, ?_, hd⟩
  rw [unauth_limit_selected.1 ep] at hl
  simp [tlsLimitExceeded_some] at hl
  omega

-- the receive loop on concrete bytes: two messages, then a frame that violates the format ends the connection — the
-- message behind it never reaches a handler; `null` and an over-limit header end it as well
example : (connRecv intCodec false true (asciiBytes "2:{},7:{\"a\":1},00:,2:{},")).map (·.map (·.1)) = [[], ["a".toList]] := by decide +kernel
example : (connRecv intCodec true true (asciiBytes "2:{},4:null,2:{},")).map (·.map (·.1)) = [[]] := by decide +kernel
example : (connRecv intCodec false true (asciiBytes "2:{},1048577:{}")).map (·.map (·.1)) = [[]] := by decide +kernel
example : limitFor false true = some 1048576 := rfl

/-- `idOf` is how the observer recognises a delivered message (every frame decodes to a message carrying its id).
    The loop delivers the expected ids, then — unless an over-limit frame stopped the run — whatever it makes of the tail.
    Induction on the frames: `recv_frame` takes a step, `recv_over_limit` ends the loop. -/
theorem connLoop_expected {N : Type} (c : NumCodec N) (idOf : List (List Char × JValue N) → Option Nat)
    (limited : Bool) (tail : Bytes) :
    ∀ (frames : List ConnFrame) (fuel : Nat), (connStream frames tail).length < fuel →
      (∀ f ∈ frames, f.payload.length < 10 ^ 9 ∧ ∃ kvs, decodeMessage c f.payload = .ok kvs ∧ idOf kvs = some f.id) →
      (connLoop c (if limited then some unauthLimit else none) fuel (connStream frames tail)).filterMap idOf =
        (connExpected limited frames).1 ++
          (if (connExpected limited frames).2 then []
           else (connLoop c (if limited then some unauthLimit else none) fuel tail).filterMap idOf) := by
  intro frames
  induction frames with
  | nil => intro fuel _ _; simp [connStream, nsEncodeAll_nil, connExpected]
  | cons f fs ih =>
    intro fuel hfuel hf
    have hs : connStream (f :: fs) tail = nsEncode f.payload ++ connStream fs tail := by
      simp [connStream, nsEncodeAll_cons]
    obtain ⟨hn, kvs, hd, hid⟩ := hf f (by simp)
    have hl3 : 3 ≤ (nsEncode f.payload).length := nsEncode_length_ge f.payload
    cases fuel with
    | zero => omega
    | succ n =>
      have hlen : (connStream fs tail).length < n := by rw [hs] at hfuel; simp at hfuel; omega
      by_cases hover : (limited && decide (unauthLimit < f.payload.length)) = true
      · -- the frame is over the limit that applies: nothing from here on
        simp only [Bool.and_eq_true, decide_eq_true_eq] at hover
        obtain ⟨hlim, hgt⟩ := hover
        subst hlim
        have := connLoop_eq_nil c (some unauthLimit) (n + 1) (connStream (f :: fs) tail)
          (by rw [hs]; exact recv_over_limit c unauthLimit f.payload (connStream fs tail) hgt hn)
        simp [this, connExpected, hgt]
      · have hmax : tlsLimitExceeded (if limited then some unauthLimit else none) f.payload.length = false := by
          cases limited with
          | false => simp [tlsLimitExceeded_none]
          | true => simp at hover; simp [tlsLimitExceeded_some]; omega
        have hrecv := recv_frame c (if limited then some unauthLimit else none) f.payload (connStream fs tail) hn hmax kvs hd
        have hstep := connLoop_message c _ n _ _ kvs hrecv
        rw [← hs] at hstep
        have hih := ih n hlen (fun g hg => hf g (by simp [hg]))
        have hexp : connExpected limited (f :: fs) = (f.id :: (connExpected limited fs).1, (connExpected limited fs).2) := by
          conv => lhs; unfold connExpected
          simp [hover]
        rw [hstep, hexp]
        simp only [List.filterMap_cons, hid, List.cons_append, List.cons.injEq, true_and]
        -- the tail's loop does not depend on the fuel once it exceeds the tail's length
        have htl : tail.length < n := by
          have : tail.length ≤ (connStream fs tail).length := by simp [connStream]
          omega
        rw [hih, connLoop_fuel c _ n (n + 1) tail htl (by omega)]

/-- **conn_model_meets_spec.**  The connection half of the property as one statement: for every peer (authenticated or
    not, with or without Endpoint object), every sequence of messages sent as canonical frames (each a JSON object the
    handler recognises by an id; any sizes below 10^9, also far over 1 MiB) followed by ANY tail bytes, what the model of
    constructor + receive loop delivers satisfies the executable specification `connSpec` that the driver evaluates on the
    implementation's observations — in particular: nothing from or behind a frame of more than 1 MiB reaches a handler
    when the peer is not authenticated. -/
theorem conn_model_meets_spec {N : Type} (c : NumCodec N) (idOf : List (List Char × JValue N) → Option Nat)
    (auth ep : Bool) (frames : List ConnFrame) (tail : Bytes)
    (hf : ∀ f ∈ frames, f.payload.length < 10 ^ 9 ∧ ∃ kvs, decodeMessage c f.payload = .ok kvs ∧ idOf kvs = some f.id) :
    connSpec auth ep frames tail ((connRecv c auth ep (connStream frames tail)).filterMap idOf) true = none := by
  -- the model's deliveries under the reading of the limit the model selects
  have key : ∀ limited : Bool, limitFor auth ep = (if limited then some unauthLimit else none) →
      connFits limited frames tail ((connRecv c auth ep (connStream frames tail)).filterMap idOf) = true := by
    intro limited hl
    unfold connRecv
    rw [hl, connLoop_expected c idOf limited tail frames _ (by omega) hf]
    unfold connFits
    cases hst : (connExpected limited frames).2 with
    | true => simp [hst]
    | false =>
      cases hsf : specFrame tail with
      | none =>
        -- nothing is delivered out of a tail that is not a frame
        have := connLoop_eq_nil c (if limited then some unauthLimit else none) ((connStream frames tail).length + 1) tail
          (by
            intro k r hr
            obtain ⟨p, hbs, hn, _, _⟩ := recv_message_frame c _ tail k r hr
            rw [hbs, specFrame_complete p r hn] at hsf
            cases hsf)
        simp [hst, this]
      | some pr => simp [hst, List.isPrefixOf_iff_prefix]
  unfold connSpec
  cases auth with
  | false =>
    have := key true (by cases ep <;> rfl)
    simp [this]
  | true =>
    cases ep with
    | true => have := key false rfl; simp [this]
    | false => have := key true rfl; simp [this]

-- the specification is not vacuous: an over-limit frame delivered to an unauthenticated peer, a lost frame, a frame out of a malformed tail
example (p : Bytes) (h : 1048576 < p.length) :
    connSpec false true [⟨0, p⟩, ⟨1, [123, 125]⟩] [] [0, 1] true = some .connUnauthLimit := by
  simp [connSpec, connFits, connExpected, unauthLimit, specFrame, h]
example (p : Bytes) (h : 1048576 < p.length) : connSpec false true [⟨0, p⟩, ⟨1, [123, 125]⟩] [] [] true = none := by
  simp [connSpec, connFits, connExpected, unauthLimit, specFrame, h]
example (p : Bytes) (h : 1048576 < p.length) : connSpec true true [⟨0, p⟩, ⟨1, [123, 125]⟩] [] [0, 1] true = none := by
  simp [connSpec, connFits, connExpected, unauthLimit, specFrame, h]
example : connSpec true true [⟨0, [123, 125]⟩, ⟨1, [123, 125]⟩] [] [0] true = some .connFrames := by decide +kernel
example : connSpec false false [⟨0, [123, 125]⟩] [48, 48, 58, 44] [0, 7] true = some .connFrames := by decide +kernel
example : connSpec false false [⟨0, [123, 125]⟩] [] [0] false = some .connEnds := by decide +kernel

/-- **restore_record_safe.**  Every record of a state file — any bytes — is handled or refused with an error (the record
    is skipped), never a crash; and exactly the records that decode to a JSON object (nested no deeper than the limit) are
    handled.  (Before the repair of finding F-C20b, commit 7e39c42, the record `null` was a null-pointer
    dereference.) -/
theorem restore_record_safe {N : Type} (c : NumCodec N) (p : Bytes) :
    restoreRecord c p ≠ .crash ∧ (restoreRecord c p = .handled ↔ ∃ kvs, jsonDecodeL c p = some (.obj kvs)) := by
  unfold restoreRecord
  cases hd : jsonDecodeL c p with
  | none => simp
  | some v => cases v <;> simp

example : restoreRecord intCodec (asciiBytes "null") = .error := by decide +kernel
example : restoreRecord intCodec (asciiBytes "[]") = .error := by decide +kernel
example : restoreRecord intCodec (asciiBytes "{}") = .handled := by decide +kernel
example : stateSpec (asciiBytes "{}") 3 (asciiBytes "2:{},4:null,") (.ok 1) = some .stateRestore := by decide +kernel
example : stateSpec (asciiBytes "{}") 3 (asciiBytes "2:{},4:null,") .err = some .stateRestore := by decide +kernel
example : stateSpec (asciiBytes "{}") 3 (asciiBytes "2:{},4:null,") (.ok 3) = none := by decide +kernel

/-- **hostile_buffered_meets_spec.**  For every limit and every chunked byte stream whatsoever, the model's read
    loop satisfies the executable specification `hostileSpec`: it ends (end-of-file or an error, never the
    call budget) and the items it returned cost at most the bytes that were fed (length + 3 each). -/
theorem hostile_buffered_meets_spec (max : Option Nat) (chunks : List Bytes) :
    hostileSpec chunks.flatten true (sobsOfRun (nsReadAll max chunks)) = none := by
  obtain ⟨ht, _, hb⟩ := nsReadAll_total max chunks
  generalize nsReadAll max chunks = r at ht hb
  unfold hostileSpec
  rw [itemsOf_sobsOfRun]
  have hsum : ¬ ((r.items.map (fun p => p.length + 3)).sum > chunks.flatten.length) := by
    unfold framingCost at hb; omega
  cases hf : r.final with
  | outOfFuel => exact absurd hf ht
  | _ => simp [sobsOfRun, hf]; simp [List.length_flatten] at hsum; omega

/-- **hostile_model_meets_spec.**  On *arbitrary* bytes every reader's model meets the property's
    specification, with no hypothesis on the input:
    * TLS reader: `tlsSpec` holds (a payload only for a canonical in-limit frame, rest untouched; over-limit
      header rejected with everything after ':' unread), and the allocation is below 10^9 and within the limit;
    * buffered reader: `hostileSpec` holds for every chunking (the loop ends; items fit into the input), and
      whatever it returns as an item is framed in the buffer as `header ":" item ","` with the item's length
      the number denoted by the header's leading digits and within the limit — never bytes from elsewhere;
    * DecodeMessage: `messageSpec` holds (a dictionary only for an object text, otherwise an error). -/
theorem hostile_model_meets_spec {N : Type} (c : NumCodec N) (max : Option Nat) :
    (∀ bs : Bytes, tlsSpec max bs (obsOfTls (nsReadTls max bs)) = none ∧ (nsReadTls max bs).alloc < 10 ^ 9 ∧
        ∀ m, max = some m → (nsReadTls max bs).alloc ≤ m) ∧
    (∀ chunks : List Bytes, hostileSpec chunks.flatten true (sobsOfRun (nsReadAll max chunks)) = none) ∧
    (∀ (buf p : Bytes) (n : Nat), nsParseBuf max buf = .item p n →
        ∃ pre rest, buf = pre ++ colon :: (p ++ comma :: rest) ∧ n = pre.length + 1 + p.length + 1 ∧ pre ≠ [] ∧
          colon ∉ pre ∧ p.length = digitsVal 0 (pre.takeWhile isDigit) ∧ bufLimitExceeded max p.length = false) ∧
    (∀ bs : List UInt8, messageSpec bs (obsOfMsg (decodeMessage c bs)) = none) :=
  ⟨fun bs => ⟨tls_model_meets_spec max bs, (allocation_bounded max bs).1, (allocation_bounded max bs).2⟩,
   hostile_buffered_meets_spec max,
   fun _ _ _ h => nsParseBuf_item_shape h,
   message_model_meets_spec c⟩

-- the specification is not vacuous on hostile traces
example : hostileSpec [49, 58, 97, 59] true [.need, .hang] = some .readerEnds := by decide +kernel
example : hostileSpec [49, 58, 97, 59] true [.need, .need] = some .readerEnds := by decide +kernel
example : hostileSpec [49, 58, 97, 44] true [.item [97, 98, 99], .eof] = some .itemsInside := by decide +kernel
example : hostileSpec [49, 58, 97, 59] true (sobsOfRun (nsReadAll none [[49, 58], [97, 59]])) = none := by decide +kernel


/-- **tls_alloc_meets_spec.**  "… or allocating beyond the declared limits", as the executable clause the driver evaluates
    on the allocation observed in the real reader: on EVERY byte stream the payload buffer the TLS reader model allocates
    satisfies `tlsAllocSpec` — at most the connection's limit, without a limit less than 10^9. -/
theorem tls_alloc_meets_spec (max : Option Nat) (bs : Bytes) :
    tlsAllocSpec max (nsReadTls max bs).alloc = none := by
  obtain ⟨h9, hm⟩ := allocation_bounded max bs
  unfold tlsAllocSpec
  cases max with
  | none =>
    simp only [formatMaxLen, allocSlack]
    exact if_pos (by omega)
  | some m =>
    have := hm m rfl
    simp only [allocSlack]
    exact if_pos (by omega)

example : tlsAllocSpec (some 1048576) 999999999 = some .tlsAllocBounded := by decide +kernel
example : tlsAllocSpec (some 1048576) 1048577 = none := by decide +kernel
example : (nsReadTls (some 10) (asciiBytes "5:hello,")).alloc = 5 := by decide +kernel

/-- **restore_reads_all_frames.**  The read loop of RestoreObjects (no maximum length) hands over exactly the records of a
    well-framed file, whatever their sizes (below 10^9) and however the file arrives in chunks — it never throws on one. -/
theorem restore_reads_all_frames (ps : List Bytes) (chunks : List Bytes) (hps : ∀ p ∈ ps, p.length < 10 ^ 9)
    (hc : chunks.flatten = nsEncodeAll ps) : restoreItems chunks = some ps := by
  obtain ⟨hi, hf⟩ := frames_split_regardless_of_chunking none ps chunks
    (fun p hp => ⟨hps p hp, rfl⟩) hc
  simp [restoreItems, hi, hf]

/-- **state_model_meets_spec.**  The state-file clause `stateSpec` as one statement over ALL files and chunkings: a file of
    canonical frames only is never refused, and when exactly one record is the applicable one its value arrives in the
    object, whatever the other records are (they do not touch the object: hypothesis `hother`). -/
theorem state_model_meets_spec (apply : Bytes → Option Nat) (good : Bytes) (want init : Nat) (file : Bytes) (chunks : List Bytes)
    (hc : chunks.flatten = file) (hgood : apply good = some want) (hother : ∀ p, p ≠ good → apply p = none) :
    stateSpec good want file (stateObsM apply init chunks) = none := by
  unfold stateSpec
  cases hs : specFramesAll (file.length + 1) file with
  | none => rfl
  | some ps =>
    obtain ⟨hfile, hps⟩ := specFramesAll_sound _ _ _ hs
    have hitems := restore_reads_all_frames ps chunks hps (by rw [hc, hfile])
    simp only [stateObsM, hitems, filterMap_eq_replicate apply good want hgood hother ps]
    by_cases h1 : (ps.filter (· == good)).length = 1
    · simp [h1]
    · cases (List.replicate (ps.filter (· == good)).length want).getLast? <;> simp [h1]

example : stateObsM (fun p => if p = asciiBytes "{}" then some 3 else none) 1 [asciiBytes "2:{},4:nu", asciiBytes "ll,"] = .ok 3 := by decide +kernel
example : stateObsM (fun _ => none) 1 [asciiBytes "2:{},4:nu", asciiBytes "ll;"] = .err := by decide +kernel
example : stateFileSpec (asciiBytes "2:{}") = some .writerFormat := by decide +kernel
example : stateFileSpec (asciiBytes "2:{},0:,") = none := by decide +kernel

theorem restore_decodes_dumped {N : Type} (c : NumCodec N) (hc : c.Lawful) : ∀ (recs : List (List (List Char × JValue N))),
    (∀ kvs ∈ recs, depth (.obj kvs : JValue N) ≤ jsonMaxNestingDepth) →
    (recs.map (fun kvs => jsonEncode c (.obj kvs))).filterMap (fun p => asDict (icingaDecodeL c p))
      = recs.map (fun kvs => canonV (.obj kvs)) := by
  intro recs
  induction recs with
  | nil => intro _; rfl
  | cons kvs r ih =>
    intro hrecs
    have h1 := (json_decode_encode_any c hc (.obj kvs) (hrecs kvs (by simp))).1
    have h2 : canonV (JValue.obj kvs : JValue N) = .obj (dictOfMembers (canonMembers kvs)) := by simp [canonV]
    have h3 : asDict (some (JValue.obj (dictOfMembers (canonMembers kvs)) : JValue N)) = some (.obj (dictOfMembers (canonMembers kvs))) := rfl
    simp only [List.map_cons, List.filterMap_cons, h1]
    rw [h2, h3]
    simp only
    rw [ih (fun k hk => hrecs k (by simp [hk]))]

/-- **state_file_roundtrip.**  "Every value placed in the state file is decoded by the receiver to an equal value … regardless
    of how the bytes arrive in chunks": for every lawful number codec, every list of records (dictionaries of any keys and
    values, nesting within the decoder's limit, encoded size below 10^9 — no other bound on the size of a record) and every
    chunking of the file DumpObjects writes for them, RestoreObjects hands exactly those dictionaries (as Icinga holds
    them: sorted maps) to the lookup, in order, none refused, none lost. -/
theorem state_file_roundtrip {N : Type} (c : NumCodec N) (hc : c.Lawful) (recs : List (List (List Char × JValue N)))
    (chunks : List Bytes)
    (hrecs : ∀ kvs ∈ recs, depth (.obj kvs : JValue N) ≤ jsonMaxNestingDepth ∧ (jsonEncode c (.obj kvs)).length < 10 ^ 9)
    (hch : chunks.flatten = dumpObjects c recs) :
    restoreObjectsM c chunks = some (recs.map (fun kvs => canonV (.obj kvs))) := by
  have hitems := restore_reads_all_frames (recs.map (fun kvs => jsonEncode c (.obj kvs))) chunks
    (by intro p hp; simp at hp; obtain ⟨kvs, hk, rfl⟩ := hp; exact (hrecs kvs hk).2) hch
  simp only [restoreObjectsM, hitems, Option.map_some]
  rw [restore_decodes_dumped c hc recs (fun k hk => (hrecs k hk).1)]

example : (restoreObjectsM intCodec [asciiBytes "7:{\"a\":", asciiBytes "1},2:{},4:null,"]).map (·.length) = some 2 := by decide +kernel
example : dumpObjects intCodec [[("a".toList, .num 1)], []] = asciiBytes "7:{\"a\":1},2:{}," := by decide +kernel
example : stateRoundtripSpec [(⟨2, 5, 5, ()⟩ : ObjState Unit)] none = some .stateRoundtrip := by decide +kernel
example : stateRoundtripSpec [(⟨2, 70000, 70000, ()⟩ : ObjState Unit)] (some [⟨1, 0, 0, ()⟩]) = some .stateRoundtrip := by decide +kernel
example : stateRoundtripSpec [(⟨2, 5, 5, ()⟩ : ObjState Unit)] (some [⟨2, 5, 5, ()⟩]) = none := by decide +kernel


/-- **number_float_int_path.**  Whenever NumberFloat takes its integer path for a double (given by its bit pattern), the
    integer it prints IS the double's value (m·2^e2 = |n|·2^d2 for the double's mantissa/exponent decomposition), lies
    in [-2^63, 2^64) — the range in which the C++ conversions are defined —, and the literal it emits is read back by the
    decoder as exactly that integer: the integer path never changes a number.  (All other finite doubles go through the
    floating-point printer, the number codec's assumed law.) -/
theorem number_float_int_path (bits : Nat) (n : Int) (h : numberFloatInt bits = some n) :
    (b64Mag bits).1 * 2 ^ (b64Mag bits).2.1 = n.natAbs * 2 ^ (b64Mag bits).2.2
    ∧ -(2 ^ 63 : Int) ≤ n ∧ n < 2 ^ 64
    ∧ numberFloatText bits = some (intCodec.fmt n) ∧ intCodec.parse (intCodec.fmt n) = some n := by
  obtain ⟨hm, hlo, hhi⟩ := numberFloatInt_eq_some bits n h
  exact ⟨b64NatMag_exact bits _ hm, hlo, hhi, by rw [numberFloatText, h]; rfl, int_codec_lawful.roundtrip n⟩

example : numberFloatInt 0x3ff8000000000000 = none := by decide +kernel          -- 1.5: the floating-point printer
example : numberFloatInt 0x8000000000000000 = some 0 := by decide +kernel        -- -0.0 prints as 0
example : numberFloatInt 0xc3e0000000000000 = some (-9223372036854775808) := by decide +kernel
example : numberFloatInt 0x43f0000000000000 = none := by decide +kernel          -- 2^64: out of range, not an integer literal
example : numberFloatInt 0x4415af1d78b58c40 = none := by decide +kernel          -- 1e20
example : numberFloatText 0x4340000000000001 = some (asciiBytes "9007199254740994") := by decide +kernel

end Icinga.C20
