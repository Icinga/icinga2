/-
  C09 — property theorems (model and specification predicates: IcingaModel/C09/Model.lean, Spec.lean).

  The end-to-end statement of the property for string command lines (`model_string_command_meets_spec`) needs
  the hypothesis "every macro of the template stands where the shell lexer is in its unquoted state"; the
  excluded point — a macro the administrator wrapped in double quotes — is exhibited by
  `shell_quote_needs_unquoted_counterexample` and run against the real /bin/sh by the check (F-C09a).
-/
import IcingaProofs.C09.Expand
import IcingaProofs.C09.Budget
import IcingaProofs.C09.Fill
import IcingaProofs.C09.Shell
import IcingaProofs.C09.Output
import IcingaProofs.C09.Layout
import IcingaProofs.C09.Sources
import IcingaProofs.C09.Arguments

namespace Icinga.C09

/-- Macro expansion always terminates: `internalResolve` is a total function, defined by structural
    recursion on the remaining recursion budget (16 − recursionLevel) and on the token list.  The content is the
    DEFINITION being accepted by Lean's termination checker — the statement itself holds of any `Except` value;
    what the bound means for reference cycles is `cycle_bounded`, that it never changes a result is
    `fuel_monotone`, and that the code has the same bound is checked by the correspondence (chains of depth
    10..18, clause `no_crash`). -/
theorem macro_terminates (look : Bytes → Lookup) (fuel : Nat) (esc : Bool) (s : Bytes) :
    (∃ v m, internalResolve look fuel esc s = .ok (v, m)) ∨ (∃ e, internalResolve look fuel esc s = .error e) := by
  cases h : internalResolve look fuel esc s with
  | ok r => exact .inl ⟨r.1, r.2, rfl⟩
  | error e => exact .inr ⟨e, rfl⟩

/-- Recursive custom variables are bounded: a variable whose value is a reference to itself yields the
    recursion error from every entry level (never divergence, never a value). -/
theorem depth_bounded (look : Bytes → Lookup) (n : Bytes) (hn : DOLLAR ∉ n) (hne : n ≠ [])
    (hself : look n = .found (.str (DOLLAR :: (n ++ [DOLLAR]))) true) :
    ∀ fuel esc, internalResolve look fuel esc (DOLLAR :: (n ++ [DOLLAR])) = .error .recursion :=
  self_reference_bounded look n _ hn hne hself (fun _ h => h)

-- `s = "$s$"`, from the top level of `ResolveMacros`
example : internalResolve
    (resolveMacro [{ rname := [104], vars := [([115], .str [36, 115, 36])], attrs := [] }]) 15 false [36, 115, 36] = .error .recursion := by decide +kernel

/-- The same when every hop of the cycle is an ARRAY (`vars.loop = ["$loop$"]`): the elements are resolved
    one level deeper, so the limit is reached and the result is the recursion error. -/
theorem depth_bounded_array (look : Bytes → Lookup) (n : Bytes) (hn : DOLLAR ∉ n) (hne : n ≠ [])
    (hself : look n = .found (.arr [DOLLAR :: (n ++ [DOLLAR])]) true) :
    ∀ fuel esc, internalResolve look fuel esc (DOLLAR :: (n ++ [DOLLAR])) = .error .recursion :=
  self_reference_bounded look n _ hn hne hself (fun rec h => by simp [resolveNested, resolveElems, h])

-- `l = ["f", "$l$"]`, from the entry level of ResolveArguments
example : internalResolve
    (resolveMacro [{ rname := [104], vars := [([108], .arr [[102], [36, 108, 36]])], attrs := [] }]) 14 false [36, 108, 36]
    = .error .recursion := by decide +kernel

/-- Recursive custom variables are bounded, in general: let `S` be any set of custom-variable names such that
    the value of every member mentions a member again — as one of the macros of a string value, whatever
    other text and macros surround it, or inside an element of an array value (`RefersInto`).  Every
    reference cycle of whatever length, with scalar hops, array hops or both, is such a set; so is
    everything from which a cycle is unavoidable.  Then no string that mentions a member of `S` resolves
    to a value: the result is an error (at the latest the recursion error of level 16).
    For `S = {n}` with the value `$n$` itself, `depth_bounded` / `depth_bounded_array` say which error. -/
theorem cycle_bounded (look : Bytes → Lookup) (S : Bytes → Prop) (hS : ∀ n, S n → RefersInto look S n) :
    ∀ fuel esc s, (∃ n ∈ macroNames (tokenize s), S n) → ∃ e, internalResolve look fuel esc s = .error e := by
  intro fuel
  induction fuel with
  | zero => intro esc s _; exact ⟨.recursion, rfl⟩
  | succ f ih =>
    intro esc s ⟨n, hn, hSn⟩
    cases h : internalResolve look (f + 1) esc s with
    | error e => exact ⟨e, rfl⟩
    | ok r =>
      -- a value would need a value of `$n$`, which needs one a level deeper for a string that mentions `S` again
      obtain ⟨_, _, hv, _⟩ := internalResolve_ok_macro h n hn
      obtain ⟨e, he⟩ := expandMacro_fails look S _ (ih false) esc n (hS n hSn)
      rw [he] at hv
      cases hv

-- the hypothesis is satisfiable on a mixed cycle of length two: p = ["x", "$q$"], q = "a $p$ b"
example :
    let look := resolveMacro [{ rname := [104], vars := [([112], .arr [[120], [36, 113, 36]]), ([113], .str [97, 32, 36, 112, 36, 32, 98])], attrs := [] }]
    let S : Bytes → Prop := fun n => n = [112] ∨ n = [113]
    (∀ n, S n → RefersInto look S n) ∧ internalResolve look 14 true [45, 72, 32, 36, 113, 36] = .error .recursion := by
  refine ⟨?_, by decide +kernel⟩
  intro n hn
  rcases hn with rfl | rfl
  · exact ⟨List.cons_ne_nil _ _, .inr ⟨[[120], [36, 113, 36]], rfl, [36, 113, 36], List.mem_cons_of_mem _ List.mem_cons_self,
      List.cons_ne_nil _ _, [113], List.mem_cons_self, .inr rfl⟩⟩
  · exact ⟨List.cons_ne_nil _ _, .inl ⟨[97, 32, 36, 112, 36, 32, 98], rfl, [112], List.mem_cons_self, .inl rfl⟩⟩

/-- The recursion limit never changes a result: it can only turn one into the recursion error. -/
theorem fuel_monotone (look : Bytes → Lookup) (fuel : Nat) :
    ∀ esc s r, internalResolve look fuel esc s = .ok r → internalResolve look (fuel + 1) esc s = .ok r :=
  internalResolve_mono look (Nat.le_succ fuel)

/-- The replace loop on the rest `q`.  Not `internalResolve … q`: a `q` that is one macro with an array value is `mixing`
    here, and a Boolean or Number value appears as its text. -/
abbrev restOf (look : Bytes → Lookup) (fuel : Nat) (esc : Bool) (q : Bytes) : Except Err (Bytes × Bool) :=
  concatToks look (fun t => internalResolve look fuel false t) esc (tokenize q)

/-- `$$` yields a literal dollar sign (here after literal text `p`; at every position: `verbatim_insertion_general`).
    `hempty`: no variable may be named "" — as a custom variable it would make the `$` the value of a user macro, to be
    resolved once more, and a lone `$` is `unclosed`. -/
theorem dollar_escape (look : Bytes → Lookup) (fuel : Nat) (p q : Bytes) (hp : DOLLAR ∉ p)
    (hempty : look [] = .notFound) :
    internalResolve look (fuel + 1) false (p ++ DOLLAR :: DOLLAR :: q)
      = (restOf look fuel false q).map (fun r => (.str (p ++ DOLLAR :: r.1), r.2)) := by
  have h := internalResolve_insert look fuel false p [] q hp List.not_mem_nil (expandMacro_dollar _ hempty)
  simpa only [List.nil_append, List.append_assoc, List.singleton_append, Bool.false_or] using h

/-- Verbatim insertion: the value `v` of a non-recursive macro (an attribute such as `address`, the
    previous plugin output, …) is inserted untouched whatever bytes it contains — `$`, quotes, newlines —
    and is not scanned again. -/
theorem verbatim_insertion (look : Bytes → Lookup) (fuel : Nat) (p m v q : Bytes) (hp : DOLLAR ∉ p) (hmd : DOLLAR ∉ m)
    (hm : m ≠ []) (hv : look m = .found (.str v) false) :
    internalResolve look (fuel + 1) false (p ++ DOLLAR :: (m ++ DOLLAR :: q))
      = (restOf look fuel false q).map (fun r => (.str (p ++ v ++ r.1), r.2)) :=
  internalResolve_insert look fuel false p m q hp hmd (expandMacro_plain _ hm hv)

/-- … and a string that is this one macro and nothing else yields the value itself. -/
theorem lone_macro_verbatim (look : Bytes → Lookup) (fuel : Nat) (m v : Bytes) (hmd : DOLLAR ∉ m)
    (hm : m ≠ []) (hv : look m = .found (.str v) false) :
    internalResolve look (fuel + 1) false (DOLLAR :: (m ++ [DOLLAR])) = .ok (.str v, false) := by
  rw [internalResolve_lone look fuel false m hmd]
  exact expandMacro_plain _ hm hv

-- hypotheses are satisfiable, the value may contain `$`, `'`, blanks, newline: "-H $a$ $$" with the attribute a = "$(x)' \n"
example : internalResolve
    (resolveMacro [{ rname := [104], vars := [], attrs := [([97], .str [36, 40, 120, 41, 39, 32, 10])] }]) 14 false
    ([45, 72, 32] ++ 36 :: ([97] ++ 36 :: [32, 36, 36]))
    = .ok (.str [45, 72, 32, 36, 40, 120, 41, 39, 32, 10, 32, 36], false) := by decide +kernel

/-- Environment variables of the command: an entry that consists of one macro carries exactly the macro's
    value — no quoting is added (the entries are resolved without the escape function), no byte is
    interpreted, the value is not scanned again. -/
theorem env_lone_macro_verbatim (look : Bytes → Lookup) (m v : Bytes) (hmd : DOLLAR ∉ m) (hm : m ≠ [])
    (hv : look m = .found (.str v) false) :
    envValue look (DOLLAR :: (m ++ [DOLLAR])) = .ok (v, false) := by
  -- `ExecuteCommand` calls `ResolveMacros` at level 0: `fuelOfLevel 1 = 15 = 14 + 1`
  have h := lone_macro_verbatim look 14 m v hmd hm hv
  rw [envValue, resolveMacros_str_cons, show fuelOfLevel (0 + 1) = 14 + 1 from rfl, h]
  rfl

-- an array-valued custom variable reaches the environment joined by `;` (separators inside elements escaped)
example : envValue (resolveMacro [{ rname := [104], vars := [([97], .arr [[120, 59, 121], [122]])], attrs := [] }]) [36, 97, 36]
    = .ok ([120, 92, 59, 121, 59, 122], false) := by decide +kernel

/-- Resolution from the `resolvedMacros` cache equals the direct resolution — value, missing flag AND the
    shell escaping (`esc` is the same on both sides: the cache holds unescaped values, the use pass escapes
    them exactly as the direct pass does) — for every string all of whose macros are faithfully cached.
    PARTIAL: the hypothesis excludes macros whose value contains a missing NESTED macro; for those the
    statement is false of the code (`cached_path_nested_missing_counterexample`, F-C09b). -/
theorem cached_path_equals_direct_partial (look c : Bytes → Lookup) (fuel : Nat) (esc : Bool) (s : Bytes)
    (h : ∀ n ∈ macroNames (tokenize s), CacheOK look c (fun t => internalResolve look fuel false t) n) :
    internalResolve c (fuel + 1) esc s = internalResolve look (fuel + 1) esc s :=
  internalResolve_congr (fun n hn => expandMacro_cached look c _ _ esc n (h n hn))

/-- FULL STATEMENT (false of the code): "the executing node's argv equals the argv of a local
    execution".  Host variable `a = "x$nx$y"` (`nx` undefined), argument `-k = "$a$"`: the direct pass
    drops the argument (a macro is missing), the fill pass stores `a ↦ "xy"`, and the use pass — which
    cannot know that something was missing — passes `-k xy`. -/
theorem cached_path_nested_missing_counterexample :
    let look := resolveMacro [{ rname := [104], vars := [([97], .str [120, 36, 110, 120, 36, 121])], attrs := [] }]
    let args : Option (List ArgSpec) := some [{ dkey := [45, 107], value := .str [36, 97, 36] }]
    cacheEntry look 14 [97] = some (.str [120, 121]) ∧
    resolveArguments look 0 (.arr [[47, 112]]) args = .ok (.argv [[47, 112]]) ∧
    resolveArguments (cacheLookup [([97], .str [120, 121])]) 0 (.arr [[47, 112]]) args
      = .ok (.argv [[47, 112], [45, 107], [120, 121]]) := by decide +kernel

-- an instance with escaping: the string command line "/p $a$", a = "a'b $(x)" from the cache and from the host
example : internalResolve (cacheLookup [([97], .str [97, 39, 98, 32, 36, 40, 120, 41])]) 14 true [47, 112, 32, 36, 97, 36]
    = internalResolve (resolveMacro [{ rname := [104], vars := [], attrs := [([97], .str [97, 39, 98, 32, 36, 40, 120, 41])] }]) 14 true [47, 112, 32, 36, 97, 36] := by decide +kernel

/-- Round trip of the shell quoting, as a statement about the lexer state: when the lexer is in its UNQUOTED
    state, reading `EscapeShellArg v` — for every byte string `v`, quotes, blanks, newlines, `$`, backslashes,
    globs and operators included — has exactly one effect: `v` is appended to the word under construction; no
    word is finished, none is lost. -/
theorem shell_quote_roundtrip (s : ShSt) (hmode : s.mode = .unq) (v suffix : Bytes) :
    shRun s (escapeShellArg v ++ suffix)
      = shRun { done := s.done, cur := some (s.cur.getD [] ++ v), mode := .unq } suffix :=
  shRun_escapeShellArg s hmode v suffix

theorem shell_quote_roundtrip_prefix (pre v suffix : Bytes) (s : ShSt) (hpre : shRun {} pre = .ok s) (hmode : s.mode = .unq) :
    shRun {} (pre ++ (escapeShellArg v ++ suffix))
      = shRun { done := s.done, cur := some (s.cur.getD [] ++ v), mode := .unq } suffix := by
  rw [shRun_append, hpre]
  exact shell_quote_roundtrip s hmode v suffix

/-- At word level: after a prefix that ends between words, the quoted value is exactly one
    word, equal to `v`, and the words before it are untouched; a following blank finishes it. -/
theorem shell_quote_one_word (pre v : Bytes) (s : ShSt) (hpre : shRun {} pre = .ok s) (hmode : s.mode = .unq)
    (hcur : s.cur = none) :
    shWords (pre ++ escapeShellArg v) = .ok (s.done.reverse ++ [v]) ∧
    ∀ post, shRun {} (pre ++ (escapeShellArg v ++ SPACE :: post)) = shRun { done := v :: s.done, cur := none, mode := .unq } post := by
  constructor
  · have := shell_quote_roundtrip_prefix pre v [] s hpre hmode
    simp only [List.append_nil] at this
    simp [shWords, this, shRun, hcur, ShSt.finish]
  · intro post
    rw [shell_quote_roundtrip_prefix pre v _ s hpre hmode]
    simp [shRun, shStep, hcur, SPACE, SQUOTE, BSLASH]

-- "/p -m " then the value  a'b $(x)\n*  : one word, verbatim
example : shWords ([47, 112, 32, 45, 109, 32] ++ escapeShellArg [97, 39, 98, 32, 36, 40, 120, 41, 10, 42])
    = .ok [[47, 112], [45, 109], [97, 39, 98, 32, 36, 40, 120, 41, 10, 42]] := by decide +kernel

/-- The hypothesis "unquoted" cannot be dropped: inside double quotes (a macro the administrator wrapped
    in `"…"`) the added single quotes are ordinary characters — `$(x)` in the value is live, and even a
    harmless value arrives with the quotes around it.  (FULL STATEMENT of the property for string command
    lines, false of the code: "for every template and every value the plugin receives the template's words
    with the value verbatim".) -/
theorem shell_quote_needs_unquoted_counterexample :
    shWords ([34] ++ escapeShellArg [36, 40, 120, 41] ++ [34]) = .error .interpreted ∧
    shWords ([34] ++ escapeShellArg [97] ++ [34]) = .ok [[39, 97, 39]] := by decide +kernel

/-- The number of argv elements an argument contributes, and which of them are keys, depends on its value
    only through the value's SHAPE (scalar, or array of n elements): the elements are the shape's layout
    filled with the values in order — no byte of a value can add, remove, split or merge elements. -/
theorem argv_shape_independent_of_values (a : RArg) :
    emitArg a = fill a.key (a.sep.getD []) (slots a.skipKey a.repeatKey a.skipValue a.sep.isSome a.value.shape) a.value.elems :=
  emitArg_eq_specArgBlock a

/-- Spec on the trace, clause `argv_layout`: what the model emits for a kept argument is the block the
    specification's own layout statement (`specArgBlock`: every value in one element, or
    `key ++ separator ++ value` when a separator — the empty string included — is configured) demands. -/
theorem model_block_meets_layout_spec (a : RArg) : emitArg a = specArgBlock a :=
  emitArg_eq_specArgBlock a

-- the clause is not vacuous: `-p` with separator "" and value 3306 must arrive as `-p3306`
example : specArgvLayout [[47, 112]] [{ order := 0, skipKey := false, repeatKey := true, skipValue := false, key := [45, 112], sep := some [], value := .str [51, 51, 48, 54] }] [[47, 112], [45, 112], [51, 51, 48, 54]] = some .argvLayout := by decide +kernel
example : specArgvLayout [[47, 112]] [{ order := 0, skipKey := false, repeatKey := true, skipValue := false, key := [45, 112], sep := some [], value := .str [51, 51, 48, 54] }] [[47, 112], [45, 112, 51, 51, 48, 54]] = none := by decide +kernel

/-- Each value occupies exactly one slot of the layout (hence, by `fill`, at most one element, whole):
    the layout has as many value-consuming slots as the argument has values. -/
theorem each_value_one_element (a : RArg) :
    consumers (slots a.skipKey a.repeatKey a.skipValue a.sep.isSome a.value.shape) = a.value.elems.length := by
  cases a.value with
  | arr l => exact consumers_arrSlots _ _ _ _ true l.length
  | _ => exact consumers_elemSlots _ _ _

-- `-H` with the array value ["a b", "c;d"], repeat_key = false: three elements, the values verbatim
example : emitArg { order := 0, skipKey := false, repeatKey := false, skipValue := false, key := [45, 72], sep := none,
                    value := .arr [[97, 32, 98], [99, 59, 100]] } = [[45, 72], [97, 32, 98], [99, 59, 100]] := by decide +kernel

/-- Clause `argv_layout` on the whole trace, for every lookup, command line and `arguments` dictionary (`order`s with
    ties, scalar / array / Boolean / Number / Empty values): whenever the model's `ResolveArguments` yields an argument
    vector, that vector is the resolved command followed by the blocks of the kept arguments as the model's sort
    arranges them, and it satisfies the clause exactly as the driver evaluates it on the implementation's argv
    (`layoutClause`: same `base`, same kept arguments). -/
theorem resolveArguments_meets_layout (look : Bytes → Lookup) (level : Nat) (cmd : Cmd) (as : List ArgSpec) (l : List Bytes)
    (h : resolveArguments look level cmd (some as) = .ok (.argv l)) :
    ∃ base rs, resolveCommand look level cmd true = .ok (.argv base) ∧ resolveArgs look level as = .ok rs ∧
      l = base ++ emitAll (sortArgs rs) ∧ specArgvLayout base rs l = none := by
  obtain ⟨base, rs, hb, hr, hl⟩ := resolveArguments_eq_ok look level cmd as _ h
  cases hl
  exact ⟨base, rs, hb, hr, rfl, specArgvLayout_model base rs⟩

/-- With an `arguments` dictionary the result is never a shell line: no byte of any value reaches a shell. -/
theorem arguments_never_shell (look : Bytes → Lookup) (level : Nat) (cmd : Cmd) (as : List ArgSpec) (line : Bytes) :
    resolveArguments look level cmd (some as) ≠ .ok (.sh line) := by
  intro h
  obtain ⟨_, _, _, _, hl⟩ := resolveArguments_eq_ok look level cmd as _ h
  cases hl

-- non-vacuity: three arguments, two of equal `order`, a Boolean `set_if`, a Number value, a separator
example :
    let look := resolveMacro [{ rname := [104], vars := [([115], .bool true), ([112], .num 3306)], attrs := [] }]
    resolveArguments look 0 (.arr [[47, 112]])
      (some [{ dkey := [45, 97], value := .str [120], order := 1 },
             { dkey := [45, 112], value := .str [36, 112, 36], separator := some [], setIf := .str [36, 115, 36] },
             { dkey := [45, 122], value := .arr [[121], [122]], repeatKey := false, order := 1 }])
      = .ok (.argv [[47, 112], [45, 112, 51, 51, 48, 54], [45, 97], [120], [45, 122], [121], [122]]) := by decide +kernel

/-- Verbatim insertion at every position (`dollar_escape`, `verbatim_insertion`, `lone_macro_verbatim` speak of the first
    macro and allow any rest, also an ill-formed one; here all of the string has to be well-formed): for every string
    whose `$` signs pair up (`hs`) and whose macros have scalar values `vo n` (after the recursive resolution of custom
    variables; whatever bytes they contain), resolution without an escape function yields exactly the string's text with
    each macro replaced by its value and `$$` by `vo []` (which `hsc` forces to be `$`). -/
theorem verbatim_insertion_general (look : Bytes → Lookup) (fuel : Nat) (vo : Bytes → Option Bytes) (s : Bytes) (syms : List Sym)
    (hs : symLine (tokenize s) = some syms)
    (hsc : ScalarMacros look (fun t => internalResolve look fuel false t) vo (tokenize s)) :
    ∃ v m, internalResolve look (fuel + 1) false s = .ok (v, m) ∧ v.scalarBytes = some (fillSym vo syms) ∧
      specExpectedElem vo s = some (fillSym vo syms) := by
  obtain ⟨v, m, h1, h2⟩ := internalResolve_fill look fuel vo s syms hs hsc
  exact ⟨v, m, h1, h2, specExpectedElem_eq_fillSym vo s syms hs hsc.all_isSome⟩

-- an instance: "a=$a$;$$;$b$$a$" with a = "$x$ '", b = 7 (a Number): the `$x$` inside the value of `a` stays
example :
    let look := resolveMacro [{ rname := [104], vars := [([98], .num 7)], attrs := [([97], .str [36, 120, 36, 32, 39])] }]
    internalResolve look 14 false [97, 61, 36, 97, 36, 59, 36, 36, 59, 36, 98, 36, 36, 97, 36]
      = .ok (.str [97, 61, 36, 120, 36, 32, 39, 59, 36, 59, 55, 36, 120, 36, 32, 39], false) := by decide +kernel

/-- Clause `array_cmd_verbatim` for the whole array command line: for every recursion level that leaves a budget
    (`hfuel`: up to 13; `ExecuteCommand` uses 0) and every array of element templates whose macros have scalar values —
    whatever bytes: quotes, blanks, newlines, `$`, backslashes, globs —, the model's resolved command has exactly ONE
    element per element of the array, each the element's text with every value verbatim in place of its macro (nothing
    quoted, split, merged or dropped; the result is never a shell line); and whatever an `arguments` dictionary
    appends, the whole argument vector still satisfies the clause. -/
theorem model_array_command_meets_spec (look : Bytes → Lookup) (level fuel : Nat) (vo : Bytes → Option Bytes) (elems : List Bytes)
    (hfuel : fuelOfLevel (level + 1 + 1) = fuel + 1) (hall : ∀ e ∈ elems, ElemOK look fuel vo e) :
    ∃ ws, (∀ hasArgs, resolveCommand look level (.arr elems) hasArgs = .ok (.argv ws)) ∧ ws.length = elems.length ∧
      elems.mapM (specExpectedElem vo) = some ws ∧
      resolveArguments look level (.arr elems) none = .ok (.argv ws) ∧ specArrayCmd elems vo false ws = none ∧
      ∀ as l, resolveArguments look level (.arr elems) (some as) = .ok (.argv l) → specArrayCmd elems vo true l = none := by
  obtain ⟨ws, m, hws, hspec, hlen⟩ := resolveArrayElems_fill look fuel vo elems hall
  have hcmd : ∀ hasArgs, resolveCommand look level (.arr elems) hasArgs = .ok (.argv ws) := by
    intro hasArgs
    rw [resolveCommand_arr, hfuel, hws]
    rfl
  refine ⟨ws, hcmd, hlen, hspec, ?_, ?_, ?_⟩
  · rw [resolveArguments_none, hcmd]
  · simp [specArrayCmd, hspec]
  · intro as l hl
    obtain ⟨base, rs, hb, _, hl', _⟩ := resolveArguments_meets_layout look level (.arr elems) as l hl
    rw [hcmd true] at hb
    simp only [Except.ok.injEq, CmdOut.argv.injEq] at hb
    subst hb
    simp only [specArrayCmd, hspec, hl', isPrefixOf_append, if_true]

-- an instance: ["/p", "-H", "$a$", "x$$$b$y"] with a = "it's $(x) *", b = "\n;": four elements, values verbatim; the clause rejects a split value
example :
    let look := resolveMacro [{ rname := [104], vars := [], attrs := [([97], .str [105, 116, 39, 115, 32, 36, 40, 120, 41, 32, 42]), ([98], .str [10, 59])] }]
    resolveArguments look 0 (.arr [[47, 112], [45, 72], [36, 97, 36], [120, 36, 36, 36, 98, 36, 121]]) none
      = .ok (.argv [[47, 112], [45, 72], [105, 116, 39, 115, 32, 36, 40, 120, 41, 32, 42], [120, 36, 10, 59, 121]]) := by decide +kernel
example : specArrayCmd [[47, 112], [36, 97, 36]] (fun _ => some [120, 32, 121]) false [[47, 112], [120], [121]] = some .arrayCmdVerbatim := by decide +kernel
example : specArrayCmd [[47, 112], [36, 97, 36]] (fun _ => some [120, 32, 121]) false [[47, 112], [39, 120, 32, 121, 39]] = some .arrayCmdVerbatim := by decide +kernel
example : specArrayCmd [[47, 112], [36, 97, 36]] (fun _ => some [120, 32, 121]) true [[47, 112], [120, 32, 121], [45, 119]] = none := by decide +kernel

/-- An argument that is skipped — for whatever reason: its `set_if` is false, its `set_if` or its
    value refers to a missing macro — drops only itself; every other argument resolves as if the entry were
    not in the dictionary. -/
theorem skipped_argument_drops_only_itself (look : Bytes → Lookup) (level : Nat) (a : ArgSpec)
    (hskip : resolveArg look level a = .ok .skip) (pre post : List ArgSpec) :
    resolveArgs look level (pre ++ a :: post) = resolveArgs look level (pre ++ post) := by
  induction pre with
  | nil =>
    simp only [List.nil_append, resolveArgs, hskip, bind_ok]
    cases resolveArgs look level post <;> rfl
  | cons x xs ih => simp only [List.cons_append, resolveArgs, ih]

/-- A missing optional macro drops only its argument (`skipped_argument_drops_only_itself`). -/
theorem optional_missing_drops_only_its_argument (look : Bytes → Lookup) (level : Nat) (a : ArgSpec) (v : Val)
    (hset : a.setIf.isEmpty = true) (hreq : a.required = false)
    (hmiss : resolveMacros look (level + 1) false a.value = .ok (v, true)) (pre post : List ArgSpec) :
    resolveArg look level a = .ok .skip ∧
    resolveArgs look level (pre ++ a :: post) = resolveArgs look level (pre ++ post) := by
  have hskip : resolveArg look level a = .ok .skip := by
    simp [resolveArg_of_setIf_empty look level a hset, hmiss, hreq]
  exact ⟨hskip, skipped_argument_drops_only_itself look level a hskip pre post⟩

/-- `set_if`: the argument is added only when the resolved `set_if` is true.  A `set_if` that refers to a
    missing macro skips the argument (also a `required` one: nothing fails), and so does one that resolves
    to false — `"false"`, `false`, `0`, Empty, a text that is no number. -/
theorem set_if_guards_argument (look : Bytes → Lookup) (level : Nat) (a : ArgSpec) (v : Val) (miss : Bool)
    (hne : a.setIf.isEmpty = false)
    (hres : resolveMacros look (level + 1) false a.setIf = .ok (v, miss))
    (hoff : miss = true ∨ setIfTruth v = some false) :
    resolveArg look level a = .ok .skip := by
  rcases hoff with rfl | hf
  · simp [resolveArg, hne, hres]
  · cases miss <;> simp [resolveArg, hne, hres, hf]

-- non-vacuity: `vars.s = false` (a Boolean) switches `-S` off, `true` switches it on; a missing macro in set_if of a required argument: skipped
example :
    let args := some [{ dkey := [45, 83], setIf := .str [36, 115, 36] : ArgSpec }]
    resolveArguments (resolveMacro [{ rname := [104], vars := [([115], .bool false)], attrs := [] }]) 0 (.arr [[47, 112]]) args = .ok (.argv [[47, 112]]) ∧
    resolveArguments (resolveMacro [{ rname := [104], vars := [([115], .bool true)], attrs := [] }]) 0 (.arr [[47, 112]]) args = .ok (.argv [[47, 112], [45, 83]]) ∧
    resolveArguments (resolveMacro []) 0 (.arr [[47, 112]])
      (some [{ dkey := [45, 83], value := .str [120], required := true, setIf := .str [36, 115, 36] }]) = .ok (.argv [[47, 112]]) := by decide +kernel

/-- A missing required macro fails the resolution (the check becomes UNKNOWN, `ExecuteCommand` reports
    exit status 3 without starting a process), provided the entries before it resolve. -/
theorem required_missing_fails (look : Bytes → Lookup) (level : Nat) (a : ArgSpec) (v : Val)
    (hset : a.setIf.isEmpty = true) (hreq : a.required = true)
    (hmiss : resolveMacros look (level + 1) false a.value = .ok (v, true)) (pre post : List ArgSpec)
    (hpre : ∀ x ∈ pre, ∃ o, resolveArg look level x = .ok o) (cmd : Cmd) (base : CmdOut)
    (hcmd : resolveCommand look level cmd true = .ok base) :
    resolveArg look level a = .error .required ∧
    resolveArguments look level cmd (some (pre ++ a :: post)) = .error .required := by
  have hfail : resolveArg look level a = .error .required := by
    simp [resolveArg_of_setIf_empty look level a hset, hmiss, hreq]
  exact ⟨hfail, resolveArguments_entry_error look level cmd base hcmd a _ hfail pre post hpre⟩

-- non-vacuity: `-w $nx$` optional between two present arguments; the same entry `required`
example : resolveArguments (resolveMacro []) 0 (.arr [[47, 112]])
    (some [{ dkey := [45, 97], value := .str [120] }, { dkey := [45, 119], value := .str [36, 110, 120, 36] }, { dkey := [45, 122], value := .str [121] }])
    = .ok (.argv [[47, 112], [45, 97], [120], [45, 122], [121]]) := by decide +kernel
example : resolveArguments (resolveMacro []) 0 (.arr [[47, 112]])
    (some [{ dkey := [45, 97], value := .str [120] }, { dkey := [45, 119], value := .str [36, 110, 120, 36], required := true }])
    = .error .required := by decide +kernel

/-- A short macro (`$name$`, no `object.` prefix) is resolved from the given levels and the global `Vars` alone:
    the result of the whole resolver loop — default resolvers `icinga` and `env` included — is the same whatever
    the environment of the daemon contains (the `env` resolver is registered with `ResolveShortMacros = false`). -/
theorem short_macro_ignores_environment (objs : List Obj) (g : List (Bytes × Val)) (env env' : List (Bytes × Bytes))
    (n : Bytes) (hdot : DOT ∉ n) :
    resolveMacroFull objs { globals := g, env := env } n = resolveMacroFull objs { globals := g, env := env' } n := by
  rw [resolveMacroFull_short _ _ hdot, resolveMacroFull_short _ _ hdot]
  rfl

/-- A short macro that no level defines (no custom variable and no attribute of that name on service, host, command or
    in the global `Vars`) is not found — whatever the daemon's environment holds under that name — and `$name$`
    resolves to Empty (shell-quoted when an escape function is given) with the missing report set (which drops an
    optional argument and fails a required one: `optional_missing_drops_only_its_argument`, `required_missing_fails`). -/
theorem undefined_short_macro_missing (objs : List Obj) (dflt : Defaults) (n : Bytes) (hdot : DOT ∉ n) (hne : n ≠ [])
    (hd : DOLLAR ∉ n) (hundef : definedOnSomeLevel (objs ++ [dflt.icinga]) n = false) :
    resolveMacroFull objs dflt n = .notFound ∧
    ∀ fuel esc, internalResolve (resolveMacroFull objs dflt) (fuel + 1) esc (DOLLAR :: (n ++ [DOLLAR]))
      = .ok (if esc then Val.str (escapeMacroShellArg .empty) else .empty, true) := by
  have hnf := resolveMacroFull_undefined objs dflt n hdot hundef
  refine ⟨hnf, fun fuel esc => ?_⟩
  rw [internalResolve_lone _ fuel esc n hd]
  exact expandMacro_notFound _ esc hne hnf

/-- Clause `undefined_macro_missing` on the trace, for every string, recursion level and environment of the daemon,
    with or without shell escaping: whenever the model's `InternalResolveMacros` yields a value, the missing report it
    yields satisfies the clause as the driver evaluates it on the implementation's report: if `s` mentions at its top
    level a short macro that no level defines, the report is set. -/
theorem model_meets_undefined_clause (objs : List Obj) (dflt : Defaults) (fuel : Nat) (esc : Bool) (s : Bytes) (v : Val) (m : Bool)
    (h : internalResolve (resolveMacroFull objs dflt) (fuel + 1) esc s = .ok (v, m)) :
    specUndefined (objs ++ [dflt.icinga]) s m = none := by
  unfold specUndefined
  split
  · next hc =>
    obtain ⟨hu, hm⟩ := Bool.and_eq_true_iff.mp hc
    rw [internalResolve_undefined_missing objs dflt _ esc s v m hu h] at hm
    cases hm
  · rfl

/-- … and a `required` argument without `set_if` whose value is such a string fails to resolve; when the entries
    before it resolve, `ResolveArguments` fails with it (clause `undefined_macro_missing` on the driver's `G` lines, a
    call of `ResolveArguments`, and `X` lines, an executed check):
    `missing_required_macro_check_unknown`. -/
theorem required_undefined_fails (objs : List Obj) (dflt : Defaults) (level : Nat) (a : ArgSpec)
    (hreq : requiredUndefined (objs ++ [dflt.icinga]) a = true) :
    (∃ e, resolveArg (resolveMacroFull objs dflt) level a = .error e) := by
  simp only [requiredUndefined, Bool.and_eq_true] at hreq
  obtain ⟨⟨hset, hr⟩, hv⟩ := hreq
  cases hres : resolveMacros (resolveMacroFull objs dflt) (level + 1) false a.value with
  | error e => exact ⟨e, by rw [resolveArg_of_setIf_empty _ level a hset, hres]; rfl⟩
  | ok p =>
    obtain ⟨v, m⟩ := p
    have hm : m = true := by
      cases hval : a.value with
      | empty => rw [hval] at hv; cases hv
      | arr l => rw [hval] at hv; cases hv
      | str b =>
        rw [hval] at hv hres
        -- the string has a macro, so it is not empty and `ResolveMacros` hands it to `InternalResolveMacros`
        cases b with
        | nil => cases hv
        | cons c cs =>
          rw [resolveMacros_str_cons] at hres
          exact internalResolve_undefined_missing objs dflt _ false _ v m hv hres
    subst hm
    exact ⟨.required, by simp [resolveArg_of_setIf_empty _ level a hset, hres, hr]⟩

/-- A check whose argument resolution fails — for whatever reason — is reported UNKNOWN with exit status 3 and no process is
    started: the model's `ExecuteCommand` meets the trace clause `failed_not_run`. -/
theorem failed_resolution_unknown_not_run (look : Bytes → Lookup) (cmd : Cmd) (args : Option (List ArgSpec)) (msg : Bytes) (e : Err)
    (h : resolveArguments look 0 cmd args = .error e) :
    ∃ cr, executeCommand look cmd args msg = .failed cr ∧ cr.state = 3 ∧ cr.exit = 3 ∧
      specFailed (executeCommand look cmd args msg).ran cr.state cr.exit = none := by
  refine ⟨processFinished [] 3 msg, by simp [executeCommand, h], ?_, ?_, ?_⟩ <;>
    simp [executeCommand, h, Exec.ran, processFinished, exitToState, specFailed]

/-- "A missing required macro fails the check with UNKNOWN", end to end: a `required` argument without `set_if` whose value
    mentions a short macro that no level defines (whatever the daemon's environment holds under that name), the entries
    before it resolving: the check is UNKNOWN (exit status 3), nothing is started, and the trace clause
    `undefined_macro_missing` holds. -/
theorem missing_required_macro_check_unknown (objs : List Obj) (dflt : Defaults) (cmd : Cmd) (base : CmdOut)
    (pre post : List ArgSpec) (a : ArgSpec) (msg : Bytes)
    (hcmd : resolveCommand (resolveMacroFull objs dflt) 0 cmd true = .ok base)
    (hpre : ∀ x ∈ pre, ∃ o, resolveArg (resolveMacroFull objs dflt) 0 x = .ok o)
    (hreq : requiredUndefined (objs ++ [dflt.icinga]) a = true) :
    ∃ cr, executeCommand (resolveMacroFull objs dflt) cmd (some (pre ++ a :: post)) msg = .failed cr ∧ cr.state = 3 ∧ cr.exit = 3 ∧
      specRequiredUndefined (objs ++ [dflt.icinga]) (pre ++ a :: post) true = none := by
  obtain ⟨e, he⟩ := required_undefined_fails objs dflt 0 a hreq
  have hfail := resolveArguments_entry_error _ 0 cmd base hcmd a e he pre post hpre
  obtain ⟨cr, h1, h2, h3, _⟩ := failed_resolution_unknown_not_run _ cmd _ msg e hfail
  exact ⟨cr, h1, h2, h3, by simp [specRequiredUndefined]⟩

-- non-vacuity of `failed_not_run`: a failed resolution that started a process, or is not UNKNOWN, is rejected
example : specFailed true 3 3 = some .failedNotRun := by decide +kernel
example : specFailed false 0 0 = some .failedNotRun := by decide +kernel
example : executeCommand (resolveMacro []) (.arr [[47, 112]]) (some [{ dkey := [45, 119], value := .str [36, 110, 120, 36], required := true }]) [109]
    = .failed { state := 3, exit := 3, output := [109], perfdata := [] } := by decide +kernel

-- non-vacuity: `nx` is in the daemon's environment only: `$nx$` is missing, `-w $nx$` is dropped, required: fails; `$env.nx$` reads it
example :
    let dflt : Defaults := { globals := [([103], .str [71])], env := [([110, 120], [76, 69, 65, 75])] }
    let look := resolveMacroFull [{ rname := [104, 111, 115, 116], vars := [], attrs := [] }] dflt
    internalResolve look 14 false [36, 110, 120, 36] = .ok (.empty, true) ∧
    internalResolve look 14 false [36, 101, 110, 118, 46, 110, 120, 36] = .ok (.str [76, 69, 65, 75], false) ∧
    internalResolve look 14 false [36, 103, 36] = .ok (.str [71], false) ∧
    resolveArguments look 0 (.arr [[47, 112]]) (some [{ dkey := [45, 119], value := .str [36, 110, 120, 36] }]) = .ok (.argv [[47, 112]]) ∧
    resolveArguments look 0 (.arr [[47, 112]]) (some [{ dkey := [45, 119], value := .str [36, 110, 120, 36], required := true }]) = .error .required := by decide +kernel
-- the clause rejects an implementation that finds `nx` somewhere else
example : specUndefined [{ rname := [104], vars := [], attrs := [] }] [45, 119, 32, 36, 110, 120, 36] false = some .undefinedMissing := by decide +kernel
example : specRequiredUndefined [{ rname := [104], vars := [], attrs := [] }]
    [{ dkey := [45, 119], value := .str [36, 110, 120, 36], required := true }] false = some .undefinedMissing := by decide +kernel

/-- The prefixed form `$env.NAME$` reaches the daemon's environment (a short name does not:
    `short_macro_ignores_environment`): when no level is called `env`, the value
    of the variable is found, marked non-recursive — so it is inserted verbatim and never scanned again
    (`verbatim_insertion`, `lone_macro_verbatim` apply with this lookup). -/
theorem env_macro_verbatim (objs : List Obj) (dflt : Defaults) (x v : Bytes) (hx : DOT ∉ x) (hxd : DOLLAR ∉ x)
    (hobjs : ∀ o ∈ objs, o.rname ≠ sEnv) (hv : assocB dflt.env x = some v) :
    resolveMacroFull objs dflt (sEnv ++ DOT :: x) = .found (.str v) false ∧
    ∀ fuel, internalResolve (resolveMacroFull objs dflt) (fuel + 1) false (DOLLAR :: ((sEnv ++ DOT :: x) ++ [DOLLAR])) = .ok (.str v, false) := by
  have hfound : resolveMacroFull objs dflt (sEnv ++ DOT :: x) = .found (.str v) false := by
    rw [resolveMacroFull_env objs dflt x hx hobjs, hv]
  have hmd : DOLLAR ∉ sEnv ++ DOT :: x := by simpa [sEnv, DOT, DOLLAR] using hxd
  exact ⟨hfound, fun fuel => lone_macro_verbatim _ fuel _ v hmd (by simp [sEnv]) hfound⟩

/-- Exit codes 0/1/2/3 map to OK/WARNING/CRITICAL/UNKNOWN and anything else to UNKNOWN; the finished-handler
    stores that state and the exit status itself. -/
theorem exit_mapping :
    exitToState 0 = 0 ∧ exitToState 1 = 1 ∧ exitToState 2 = 2 ∧ exitToState 3 = 3 ∧
    (∀ e : Int, e ≠ 0 → e ≠ 1 → e ≠ 2 → exitToState e = 3) ∧
    (∀ sfx e raw, (processFinished sfx e raw).state = exitToState e ∧ (processFinished sfx e raw).exit = e) := by
  refine ⟨rfl, rfl, rfl, rfl, ?_, ?_⟩
  · intro e h0 h1 h2
    simp [exitToState, h0, h1, h2]
  · intro sfx e raw
    simp [processFinished]

/-- On each output line the text after the first `|` is performance data exactly when it contains `=`;
    everything else is plugin output; no byte of the line is lost or invented. -/
theorem output_split (line : Bytes) :
    (∀ t, splitLine line = (t, none) →
        t = line ∧ ¬ ∃ pre post, line = pre ++ BAR :: post ∧ BAR ∉ pre ∧ EQ ∈ post) ∧
    (∀ t p, splitLine line = (t, some p) → line = t ++ BAR :: p ∧ BAR ∉ t ∧ EQ ∈ p) := by
  -- stated once: the instance `LawfulBEq UInt8` behind it is slow to find
  have hEq : ∀ p : Bytes, p.contains EQ = true ↔ EQ ∈ p := fun _ => List.contains_iff_mem
  unfold splitLine
  rcases Classical.em (BAR ∈ line) with hbar | hbar
  · obtain ⟨pre, post, rfl, hpre⟩ := List.eq_append_cons_of_mem hbar
    rw [cutAt_append BAR pre post hpre]
    dsimp only
    split
    · next heq =>
      -- an `=` after the first bar: perfdata
      refine ⟨fun t h => (nomatch (Prod.mk.inj h).2), fun t p h => ?_⟩
      obtain ⟨rfl, hp⟩ := Prod.mk.inj h
      cases hp
      exact ⟨rfl, hpre, (hEq _).mp heq⟩
    · next hne =>
      -- no `=` after the first bar: the whole line is text
      refine ⟨fun t h => ⟨(Prod.mk.inj h).1.symm, ?_⟩, fun t p h => nomatch (Prod.mk.inj h).2⟩
      -- the text after the first `|` is `post`, however the line is cut
      rintro ⟨pre', post', hl', hpre', hpost⟩
      have hsame : (pre, some post) = (pre', some post') := by
        rw [← cutAt_append BAR pre post hpre, hl', cutAt_append BAR pre' post' hpre']
      cases hsame
      exact hne ((hEq _).mpr hpost)
  · rw [cutAt_of_not_mem BAR line hbar]
    refine ⟨fun t h => ⟨(Prod.mk.inj h).1.symm, ?_⟩, fun t p h => nomatch (Prod.mk.inj h).2⟩
    rintro ⟨pre, post, rfl, _, _⟩
    exact hbar (List.mem_append_right _ List.mem_cons_self)

example : parseCheckOutput [79, 75, 32, 124, 32, 97, 61, 49, 10, 120, 124, 121] = ([79, 75, 32, 10, 120, 124, 121], [97, 61, 49]) := by decide +kernel

/-- A plugin that did not end by its own `exit` — the timeout expired (SIGTERM had been sent, whatever the
    plugin did with it: died, caught it and exited 0/1/2/3 by itself, ignored it and was killed), or it was
    terminated by a signal of whatever number, or `waitpid` failed — is reported with exit status 128, hence
    UNKNOWN, and the trace clauses `timeout_unknown` / `signal_unknown` hold of the model's result for every
    plugin output. -/
theorem killed_plugin_unknown (e : Ending) (hk : e.killed = true) :
    e.exit = 128 ∧ (∀ sfx raw, (processFinished sfx e.exit raw).state = 3) ∧
    specSignal (exitToState e.exit) = none ∧ specTimeout (exitToState e.exit) true = none := by
  have h128 : e.exit = 128 := by rw [e.exit_eq, hk]
  have hst : exitToState e.exit = 3 := by rw [h128]; rfl
  exact ⟨h128, fun _ _ => hst, by rw [hst]; rfl, by rw [hst]; rfl⟩

/-- … and only then: a plugin that exits by itself in time keeps its exit code. -/
theorem own_exit_code_kept (cnk : Bool) (c : Nat) :
    (Ending.mk false cnk (.exited c)).exit = c ∧ (Ending.mk false cnk (.exited c)).killed = false := by
  have hk : (Ending.mk false cnk (.exited c)).killed = false := rfl
  exact ⟨by rw [Ending.exit_eq, hk], hk⟩

-- non-vacuity: SIGHUP (1) is UNKNOWN, not WARNING; a trapped SIGTERM with exit 0 after the deadline is UNKNOWN, not OK
example : exitToState (Ending.mk false false (.signaled 1)).exit = 3 := by decide +kernel
example : exitToState (Ending.mk true false (.exited 0)).exit = 3 := by decide +kernel
example : exitToState (Ending.mk false false (.exited 1)).exit = 1 := by decide +kernel
example : specSignal 1 = some .signalUnknown := by decide +kernel
example : specTimeout 0 true = some .timeoutUnknown := by decide +kernel
example : specEnv (some [97, 39, 32, 98]) (some [39, 97, 39, 92, 39, 39, 32, 98, 39]) = some .envVerbatim := by decide +kernel

/-- The model's check result meets the specification predicates the driver evaluates on the
    implementation's observations (`exit_mapping`, `output_text`, `perfdata`), for every exit status and
    every plugin output. -/
theorem model_result_meets_spec (suffix : Bytes) (exit : Int) (raw : Bytes) :
    specExit exit (processFinished suffix exit raw).state (processFinished suffix exit raw).exit = none ∧
    specOutput suffix exit raw (processFinished suffix exit raw).output (processFinished suffix exit raw).perfdata = none := by
  constructor
  · show specExit exit (exitToState exit) exit = none
    rw [specExit, specState_eq, if_pos ⟨rfl, rfl⟩]
  · simp only [specOutput, processFinished, handledOutput, parseCheckOutput_eq, ne_eq, not_true_eq_false, if_false]

/-- Clause `string_cmd_verbatim` for every template (any number of macros, macros inside words such as `--opt=$m$` or
    `pre$a$$b$post`, quotes and backslashes in the literal text) in which every macro stands where the sh lexer is in
    its unquoted state (`UnqAtMacros`, the hypothesis `shell_quote_roundtrip` forces) and has a scalar value — whatever
    bytes; a macro that is not found counts, with the empty text: the word `''` —: the line `InternalResolveMacros`
    builds with the escape function, read by the byte lexer, yields exactly the words of the template with each value
    verbatim in place of its macro (`lexer_simulation`: the lexer on the resolved line against the lexer on the
    template).  Without `UnqAtMacros` the statement is false (`shell_quote_needs_unquoted_counterexample`, F-C09a). -/
theorem model_string_command_meets_spec (look : Bytes → Lookup) (fuel : Nat) (vo : Bytes → Option Bytes)
    (tmpl : Bytes) (syms : List Sym) (hsym : symLine (tokenize tmpl) = some syms)
    (hvals : ScalarMacros look (fun t => internalResolve look fuel false t) vo (tokenize tmpl))
    (hunq : UnqAtMacros {} syms) :
    ∃ line m, internalResolve look (fuel + 1) true tmpl = .ok (.str line, m) ∧
      shWords line = (symWords syms).map (fun ws => ws.map (fillSym vo)) ∧
      ∀ argv, shWords line = .ok argv → specStringCmd tmpl vo argv = none := by
  obtain ⟨m, hm⟩ := concatToks_scalar look _ vo true (tokenize tmpl) syms hsym hvals
  refine ⟨renderEsc vo syms, m, ?_, shWords_renderEsc vo syms hunq, ?_⟩
  · simp [internalResolve_esc, hm, Except.map]
  · intro argv hargv
    rw [shWords_renderEsc vo syms hunq] at hargv
    cases hw : symWords syms with
    | error e => simp [hw, Except.map] at hargv
    | ok ws =>
      simp only [hw, Except.map, Except.ok.injEq] at hargv
      simp [specStringCmd, specExpectedArgv, hsym, hvals.all_isSome, hw, hargv]

-- an instance: "/p -o=$a$ $b$$a$" with a = "x' $(" and b = "\n*": three words, the values verbatim
example :
    let look := resolveMacro [{ rname := [104], vars := [], attrs := [([97], .str [120, 39, 32, 36, 40]), ([98], .str [10, 42])] }]
    let vo : Bytes → Option Bytes := fun n => if n = [97] then some [120, 39, 32, 36, 40] else if n = [98] then some [10, 42] else none
    let tmpl : Bytes := [47, 112, 32, 45, 111, 61, 36, 97, 36, 32, 36, 98, 36, 36, 97, 36]
    internalResolve look 14 true tmpl
      = .ok (.str ([47, 112, 32, 45, 111, 61] ++ escapeShellArg [120, 39, 32, 36, 40] ++ [32] ++ escapeShellArg [10, 42]
                   ++ escapeShellArg [120, 39, 32, 36, 40]), false) ∧
    specStringCmd tmpl vo [[47, 112], [45, 111, 61, 120, 39, 32, 36, 40], [10, 42, 120, 39, 32, 36, 40]] = none := by decide +kernel

-- the predicates are not vacuous: a wrong state, a perfdata part left in the output are rejected
example : specExit 2 3 2 = some .exitMapping := by decide +kernel
example : specOutput [] 0 [79, 75, 124, 97, 61, 49] [79, 75, 124, 97, 61, 49] [] = some .outputText := by decide +kernel
example : specOutput [] 0 [79, 75, 124, 97, 61, 49] [79, 75] [[97, 61, 49]] = none := by decide +kernel
example : specStringCmd [47, 112, 32, 36, 97, 36] (fun _ => some [120, 32, 121]) [[47, 112], [120], [121]] = some .stringCmdVerbatim := by decide +kernel
example : specStringCmd [47, 112, 32, 36, 97, 36] (fun _ => some [120, 32, 121]) [[47, 112], [120, 32, 121]] = none := by decide +kernel

end Icinga.C09
