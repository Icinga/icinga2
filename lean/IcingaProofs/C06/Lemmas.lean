/-
  C06 — the refinement step behind the whole-trace theorem.  `Rel` ties the specification's bookkeeping to the model state;
  `spec_step` shows per operation, from the closed forms of C06/Step.lean, that the clauses hold and `Rel` is kept;
  operations that amount to a look at a slightly changed object share `look_step`.
-/
import IcingaProofs.C06.Step
import IcingaProofs.C01.Lemmas

namespace Icinga.C06
open Icinga.C01

/-- The bookkeeping mirrors the model state field by field, with one exception: the requested expiry is tied to the stored
    one only while an acknowledgement is set.  With none set the bookkeeping has forgotten it (`expiryAfter` gives 0) while the
    model may hold any value: `clearAck` zeroes it, but the theorems start from arbitrary states. -/
def RelCore (sp : SpecSt) (s : MSt) : Prop :=
  sp.state = s.base.state ∧ sp.ack = s.ack ∧ (s.ack ≠ .none → sp.expiry = s.expiry) ∧ sp.comments = s.comments ∧
  sp.inDt = s.inDowntime ∧ sp.stype = s.base.stype ∧ sp.attempt = s.base.attempt ∧ sp.suppP = s.suppProblem ∧
  sp.suppR = s.suppRecovery ∧ sp.paused = s.paused

/-- … and the state before the suppression, which only the clauses of the suppressed-notification handler read. -/
def Rel (sp : SpecSt) (s : MSt) : Prop := RelCore sp s ∧ sp.before = s.stateBefore

/-! `Rel` field by field (it stays the conjunction the whole-trace theorem states). -/

theorem Rel.state {sp : SpecSt} {s : MSt} (h : Rel sp s) : sp.state = s.base.state := h.1.1
theorem Rel.ack {sp : SpecSt} {s : MSt} (h : Rel sp s) : sp.ack = s.ack := h.1.2.1
theorem Rel.expiry_eq {sp : SpecSt} {s : MSt} (h : Rel sp s) : s.ack ≠ .none → sp.expiry = s.expiry := h.1.2.2.1
theorem Rel.comments {sp : SpecSt} {s : MSt} (h : Rel sp s) : sp.comments = s.comments := h.1.2.2.2.1
theorem Rel.inDt {sp : SpecSt} {s : MSt} (h : Rel sp s) : sp.inDt = s.inDowntime := h.1.2.2.2.2.1
theorem Rel.stype {sp : SpecSt} {s : MSt} (h : Rel sp s) : sp.stype = s.base.stype := h.1.2.2.2.2.2.1
theorem Rel.attempt {sp : SpecSt} {s : MSt} (h : Rel sp s) : sp.attempt = s.base.attempt := h.1.2.2.2.2.2.2.1
theorem Rel.suppP {sp : SpecSt} {s : MSt} (h : Rel sp s) : sp.suppP = s.suppProblem := h.1.2.2.2.2.2.2.2.1
theorem Rel.suppR {sp : SpecSt} {s : MSt} (h : Rel sp s) : sp.suppR = s.suppRecovery := h.1.2.2.2.2.2.2.2.2.1
theorem Rel.paused {sp : SpecSt} {s : MSt} (h : Rel sp s) : sp.paused = s.paused := h.1.2.2.2.2.2.2.2.2.2
theorem Rel.before {sp : SpecSt} {s : MSt} (h : Rel sp s) : sp.before = s.stateBefore := h.2

/-- The part of the relation a look depends on. -/
def RelA (sp : SpecSt) (s : MSt) : Prop :=
  sp.ack = s.ack ∧ (s.ack ≠ .none → sp.expiry = s.expiry)

theorem Rel.toA {sp : SpecSt} {s : MSt} (h : Rel sp s) : RelA sp s :=
  ⟨h.ack, h.expiry_eq⟩

theorem ranOut_eq (sp : SpecSt) (s : MSt) (now : Int) (h : RelA sp s) : ranOut sp now = expired s now := by
  obtain ⟨h2, h3⟩ := h
  unfold ranOut expired
  rw [h2]
  by_cases ha : s.ack = .none
  · simp [ha]
  · rw [h3 ha]

theorem ackAt_eq (sp : SpecSt) (s : MSt) (now : Int) (h : RelA sp s) : ackAt sp now = ackNow s now := by
  simp [ackAt, ackNow, ranOut_eq sp s now h, h.1]

theorem first_append (l₁ l₂ : List (Bool × Clause)) (h₁ : first l₁ = none) (h₂ : first l₂ = none) :
    first (l₁ ++ l₂) = none := by
  induction l₁ with
  | nil => simpa using h₂
  | cons x xs ih =>
    obtain ⟨b, cl⟩ := x
    cases b
    · simp only [first, Bool.false_eq_true, if_false, List.cons_append] at h₁ ⊢
      exact ih h₁
    · simp [first] at h₁

/-- For `StepOK`: the relation after the step is shown first, because the clause on the stored expiry (`common_ok`'s last
    hypothesis) is the expiry conjunct of that relation. -/
theorem and_of_right {a b : Prop} (hb : b) (ha : b → a) : a ∧ b := ⟨ha hb, hb⟩

/-- The bookkeeping reads everything but the requested expiry, the downtime bit, the paused bit and the state before the
    suppression off the observation. -/
theorem rel_next (c : Cfg) (sp : SpecSt) (op : Op) (p : MSt × Out)
    (hexp : p.1.ack ≠ .none → expiryAfter sp op (obsOf c p) = p.1.expiry)
    (hdt : (specNext sp op (obsOf c p)).inDt = p.1.inDowntime) (hpa : (specNext sp op (obsOf c p)).paused = p.1.paused)
    (hbf : (specNext sp op (obsOf c p)).before = p.1.stateBefore) :
    Rel (specNext sp op (obsOf c p)) p.1 :=
  ⟨⟨rfl, rfl, hexp, rfl, hdt, rfl, rfl, rfl, rfl, hpa⟩, hbf⟩

/-- Of an observation of the model, the clauses on handled and severity hold by definition. -/
theorem common_ok (c : Cfg) (sp : SpecSt) (op : Op) (p : MSt × Out) (inDt : Bool) (nSet nClr nAckN : Nat)
    (hd : inDt = p.1.inDowntime) (hs : p.2.nSet = nSet) (hc : p.2.nClr = nClr) (ha : p.2.nAckN = nAckN)
    (he : p.1.ack ≠ .none → expiryAfter sp op (obsOf c p) = p.1.expiry) :
    first (common sp op (obsOf c p) inDt nSet nClr nAckN) = none := by
  have h6 : ((obsOf c p).ack != .none && (obsOf c p).expiry != expiryAfter sp op (obsOf c p)) = false := by
    by_cases hk : p.1.ack = .none
    · have : (obsOf c p).ack = .none := hk
      simp [this]
    · have : expiryAfter sp op (obsOf c p) = (obsOf c p).expiry := he hk
      simp [this]
  subst hd hs hc ha
  simp only [common, h6]
  simp [first, obsOf, handledOf, sevAckOf]

theorem quiet_ok (c : Cfg) (sp : SpecSt) (p : MSt × Out) (hP : p.2.nProbN = 0) (hR : p.2.nRecN = 0)
    (hrem : p.2.nRem = 0 ∨ p.1.ack = .none) (hsP : sp.suppP = p.1.suppProblem) (hsR : sp.suppR = p.1.suppRecovery) :
    first (quiet sp (obsOf c p)) = none := by
  rcases hrem with h | h <;> simp [quiet, first, obsOf, hP, hR, h, hsP, hsR]

/-- `hexp` says that the operation is not an accepted acknowledge: the bookkeeping keeps the expiry it remembered as long as
    an acknowledgement is seen. -/
theorem look_expiryAfter (c : Cfg) (sp : SpecSt) (s' : MSt) (op : Op) (out : Out) (h : RelA sp s')
    (hexp : ∀ o : Obs, o.acc = out.acc → expiryAfter sp op o = if o.ack == .none then 0 else sp.expiry)
    (hk : (look s' op.now out).1.ack ≠ .none) :
    expiryAfter sp op (obsOf c (look s' op.now out)) = (look s' op.now out).1.expiry := by
  rw [look_eq] at hk ⊢
  obtain ⟨he, hs⟩ := not_expired_of_ackNow_ne_none s' op.now hk
  rw [hexp _ rfl, he, ← h.2 (hs ▸ hk)]
  simp [obsOf, hk]

theorem lookCore_ok (c : Cfg) (sp : SpecSt) (s' : MSt) (op : Op) (out : Out) (inDt : Bool) (frame : Clause)
    (h : RelA sp s') (hd : inDt = s'.inDowntime) (hraw : out.raw = s'.ack ∨ out.raw = ackNow s' op.now)
    (hs : out.nSet = 0) (ha : out.nAckN = 0) (hc : out.nClr = 0)
    (hexp : ∀ o : Obs, o.acc = out.acc → expiryAfter sp op o = if o.ack == .none then 0 else sp.expiry) :
    first (lookCore sp op inDt frame (obsOf c (look s' op.now out))) = none := by
  have hr := ranOut_eq sp s' op.now h
  refine first_append _ _ ?_ (common_ok c sp op _ inDt 0 _ 0 ?_ hs ?_ ha (look_expiryAfter c sp s' op out h hexp))
  · simp only [obsOf, look_eq, hr, ackAt_eq sp s' op.now h, h.1]
    rcases hraw with hraw | hraw <;> cases he : expired s' op.now <;> simp [first, hraw, ackNow, he]
  · rw [hd, look_eq]
  · rw [hr, look_eq, hc, Nat.zero_add]

/-- The whole step for an operation that is nothing but a look at `s'`; `head` and `tail` are the clauses about what else
    the operation may touch.  `hdt hpa hbf` are stated on the bookkeeping after the look (the downtime bit `handled` is
    checked against is the one it remembers): for a concrete operation `specNext` reduces them to conjuncts of `Rel`, or to
    `rfl` for the bit the operation sets.  The last seven hypotheses say what the operation reports; left out, they say
    nothing: the raw attribute as it was, no reminder, no counter. -/
theorem look_step (c : Cfg) (sp : SpecSt) (s' : MSt) (op : Op) (out : Out) (frame : Clause)
    (head tail : List (Bool × Clause)) (h : RelA sp s') (hsP : sp.suppP = s'.suppProblem) (hsR : sp.suppR = s'.suppRecovery)
    (hexp : ∀ o : Obs, o.acc = out.acc → expiryAfter sp op o = if o.ack == .none then 0 else sp.expiry)
    (hdt : (specNext sp op (obsOf c (look s' op.now out))).inDt = s'.inDowntime)
    (hpa : (specNext sp op (obsOf c (look s' op.now out))).paused = s'.paused)
    (hbf : (specNext sp op (obsOf c (look s' op.now out))).before = s'.stateBefore)
    (hh : first head = none) (ht : first tail = none)
    (hraw : out.raw = s'.ack ∨ out.raw = ackNow s' op.now := by exact Or.inl rfl)
    (hrem : out.nRem = 0 ∨ ackNow s' op.now = .none := by exact Or.inl rfl)
    (hs : out.nSet = 0 := by rfl) (ha : out.nAckN = 0 := by rfl) (hc : out.nClr = 0 := by rfl)
    (hP : out.nProbN = 0 := by rfl) (hR : out.nRecN = 0 := by rfl) :
    first (head ++ lookChecks sp op (specNext sp op (obsOf c (look s' op.now out))).inDt frame
      (obsOf c (look s' op.now out)) ++ tail) = none ∧
    Rel (specNext sp op (obsOf c (look s' op.now out))) (look s' op.now out).1 :=
  ⟨first_append _ _ (first_append _ _ hh (first_append _ _ (lookCore_ok c sp s' op out _ frame h hdt hraw hs ha hc hexp)
      (quiet_ok c sp _ hP hR (by simpa using hrem) (by rw [hsP, look_eq]) (by rw [hsR, look_eq])))) ht,
   rel_next c sp op _ (look_expiryAfter c sp s' op out h hexp) (by rw [hdt, look_eq]) (by rw [hpa, look_eq])
     (by rw [hbf, look_eq])⟩

def StepOK (c : Cfg) (sp : SpecSt) (s : MSt) (op : Op) : Prop :=
  specStep c sp op (obsOf c (step c s op)) = none ∧ Rel (specNext sp op (obsOf c (step c s op))) (step c s op).1

theorem filter_idem_or (l : List Cmt) (p : Cmt → Bool) (fired : Bool) :
    ((if fired then l.filter p else l) = l ∨ (if fired then l.filter p else l) = l.filter p) := by
  cases fired <;> simp

theorem spec_step_remove (c : Cfg) (sp : SpecSt) (s : MSt) (via : RVia) (now : Int) (h : Rel sp s) :
    StepOK c sp s (.remove via now) := by
  unfold StepOK
  rw [step_remove]
  refine ⟨first_append _ _ (first_append _ _ (first_append _ _ (by simp [first, obsOf])
      (common_ok c sp _ _ sp.inDt 0 _ 0 h.inDt rfl (by rw [h.ack]; exact Ack.ind_eq s.ack) rfl (fun hk => absurd rfl hk)))
      (quiet_ok c sp _ rfl rfl (Or.inl rfl) h.suppP h.suppR)) ?_,
    rel_next c sp _ _ (fun hk => absurd rfl hk) h.inDt h.paused h.before⟩
  cases via <;> simp [first, obsOf, h.comments]

theorem spec_step_ack (c : Cfg) (sp : SpecSt) (s : MSt) (via : Via) (sticky notify persistent : Bool) (expiry now : Int)
    (h : Rel sp s) :
    StepOK c sp s (.ack via sticky notify persistent expiry now) := by
  unfold StepOK
  have hr := ranOut_eq sp s now h.toA
  have ha := ackAt_eq sp s now h.toA
  cases hc : (preRefuse c s via expiry now || ackNow s now != .none)
  · rw [step_ack_accepted hc]
    simp only [Bool.or_eq_false_iff, preRefuse_eq] at hc
    obtain ⟨⟨hok, -⟩, hnone⟩ := hc
    have hn : ackNow s now = .none := by simpa using hnone
    have ht := ackTypeOf_ne_none sticky
    simp only [specStep]
    rw [if_pos (by simp [obsOf])]
    generalize (requestedExpiry via expiry != 0 && decide (requestedExpiry via expiry < now)) = gone
    refine and_of_right (rel_next c sp _ _ ?_ h.inDt h.paused h.before) fun hrel => ?_
    · -- gone: no acknowledgement is left (`hk` absurd); otherwise the stored expiry is the requested one
      intro hk
      cases gone <;> simp [expiryAfter, obsOf, ht] at hk ⊢
    · refine first_append _ _ (first_append _ _ (first_append _ _ ?_
        (common_ok c sp _ _ sp.inDt 1 _ _ h.inDt rfl (hc := by simp only [Op.now, hr]) (ha := by rw [h.paused]) hrel.expiry_eq))
        (quiet_ok c sp _ rfl rfl (Or.inl rfl) h.suppP h.suppR)) ?_
      · simp only [obsOf, Op.now, ha, hn, h.state, hok]
        cases gone <;> simp [first]
      · cases via <;> simp [first, obsOf, h.comments]
  · rw [step_ack_refused hc]
    simp only [specStep]
    rw [if_neg (by simp [obsOf, look])]
    refine look_step c sp s (.ack via sticky notify persistent expiry now) _ .ackFrame [_] _ h.toA h.suppP h.suppR
      (fun o ho => by simp [expiryAfter, ho]) h.inDt h.paused h.before
      (hh := ?_) (ht := by simp [first, obsOf, look_eq, h.comments]) (hraw := ?_)
    · -- the refusal has a reason
      rw [preRefuse_eq, Bool.or_right_comm] at hc
      simp only [Op.now, ha, h.state, hc]
      rfl
    · -- raw: `IsAcknowledged()` was asked only past the first refusals
      cases preRefuse c s via expiry now <;> simp [Op.now]

theorem changed_eq (c : Cfg) (a b : SState) : changed c a b = stateChange c.kind a b := by
  simp [changed, stateChange_eq_proj]

theorem notificationDue_eq (c : Cfg) (sp : SpecSt) (s : MSt) (new : SState) (h : Rel sp s) :
    notificationDue c sp new = sendNotification c s.base new := by
  simp [notificationDue, sendNotification, nextTypeAttempt, hardChangeOf, h.state, h.stype, h.attempt]

/-- Boolean identity behind `specNext`'s `before` for an accepted result: the stash was empty and is not afterwards iff
    the result stashes (`stash`) into an empty stash. -/
theorem stash_first (suppP suppR stash recovery : Bool) :
    (!(suppP || suppR) && ((suppP || (stash && !recovery)) || (suppR || (stash && recovery)))) =
      (stash && !(suppP || suppR)) := by
  cases suppP <;> cases suppR <;> cases stash <;> cases recovery <;> rfl

/-- Boolean identities behind the clauses `problemWithheld` and `withheldStashed`, in the terms of `step_result`
    (`stash = due && (acked || inDt || suppP || suppR)`): with `acked`, nothing is requested, and what is due is stashed. -/
theorem withheld_stashed (due recovery acked inDt suppP suppR : Bool) :
    ((if due && !(due && (acked || inDt || suppP || suppR)) && !recovery then 1 else 0) != 0 && acked) = false ∧
    (due && !recovery && acked && !(suppP || (due && (acked || inDt || suppP || suppR) && !recovery))) = false := by
  cases acked <;> cases due <;> cases recovery <;> simp

theorem spec_step_result (c : Cfg) (sp : SpecSt) (s : MSt) (new : SState) (es ee now : Int) (h : Rel sp s)
    (hst : stale s.base ⟨new, es, now⟩ = false) :
    StepOK c sp s (.result new es ee now) := by
  unfold StepOK
  have hr := ranOut_eq sp s now h.toA
  have ha := ackAt_eq sp s now h.toA
  have hdue := notificationDue_eq c sp s new h
  have hch : changed c sp.state new = stateChange c.kind s.base.state new := by rw [h.state, changed_eq]
  rw [step_result hst]
  refine and_of_right (rel_next c sp _ _ ?_ h.inDt h.paused ?_) fun hrel => ?_
  · intro hk
    obtain ⟨hsame, hexp⟩ := ackAfterResult_of_ne_none c s new now hk
    simp [expiryAfter, obsOf, hk, hexp, h.expiry_eq (hsame ▸ hk)]
  · -- the state before the suppression is remembered when the stash gets its first entry
    simp only [specNext, obsOf, h.state, h.stype, h.suppP, h.suppR, h.before, Bool.true_and, stash_first]
  · simp only [specStep]
    rw [if_pos (by simp [obsOf])]
    obtain ⟨r0, r1, r2, r3, r4, ha1⟩ := ackAfterResult_rules c s new now
    refine first_append _ _ (first_append _ _ ?_ (common_ok c sp _ _ sp.inDt 0 _ 0 h.inDt rfl ?_ rfl hrel.expiry_eq)) ?_
    · simp only [obsOf, problemOf, stepCore_state_lastExec, Op.now, ha, hr, hch, ← ha1, r0, r1, r2, r3, r4]
      simp [first]
    · -- cleared events: the expiry, then the rule; `← ha1` folds the specification's `a1` back into `ackAfterResult`
      simp only [Op.now, ha, hr, hch, ← ha1]
    · -- the state notification: requested, or withheld and stashed; the comments
      simp only [obsOf, hdue, h.state, h.comments, h.inDt, h.suppP, h.suppR, h.paused, withheld_stashed]
      simp [first]

theorem spec_step_fire (c : Cfg) (sp : SpecSt) (s : MSt) (now : Int) (h : Rel sp s) :
    StepOK c sp s (.fire now) := by
  unfold StepOK
  have hch : changed c sp.before s.base.state = stateChange c.kind s.stateBefore s.base.state := by rw [h.before, changed_eq]
  -- the specification's `release` is the model's `fireRelease`
  have hrel : ((s.suppProblem || s.suppRecovery) && !s.paused && !s.inDowntime && ackNow s now == .none &&
      s.base.stype == .hard) = fireRelease s now := by
    rw [Bool.and_comm (s.suppProblem || s.suppRecovery)]; rfl
  rw [step_fire]
  refine ⟨first_append _ _ (lookCore_ok c sp _ (.fire now) _ sp.inDt .ackFrame h.toA h.inDt ?_ rfl rfl rfl
      (fun _ _ => rfl)) ?_,
    rel_next c sp _ _ (look_expiryAfter c sp _ (.fire now) _ h.toA (fun _ _ => rfl))
      (by simp [specNext, h.inDt, look_eq]) (by simp [specNext, h.paused, look_eq]) (by simp [specNext, h.before, look_eq])⟩
  · cases (fireConsiders s && !s.inDowntime)
    · left; simp
    · right; simp only [if_true]; rfl
  · simp only [look_eq, ackNow_update, obsOf, hch, h.state, h.comments, h.suppP, h.suppR, h.inDt, h.paused, h.stype, hrel]
    cases hr : fireRelease s now
    · simp [first]
    · -- a run that processes the stash found the object unacknowledged, out of downtime and unpaused
      simp only [fireRelease, fireConsiders, Bool.and_eq_true, Bool.not_eq_true', beq_iff_eq] at hr
      simp [first, hr]

theorem spec_step (c : Cfg) (sp : SpecSt) (s : MSt) (op : Op) (h : Rel sp s) : StepOK c sp s op := by
  cases op with
  | result new es ee now =>
    cases hs : stale s.base ⟨new, es, now⟩
    · exact spec_step_result c sp s new es ee now h hs
    · -- a result that is dropped as outdated
      unfold StepOK
      rw [step_result_stale hs]
      simp only [specStep]
      rw [if_neg (by simp [obsOf, look])]
      exact look_step c sp s (.result new es ee now) _ .unchangedKeeps [] _ h.toA h.suppP h.suppR
        (fun _ _ => rfl) h.inDt h.paused h.before (hh := rfl) (ht := by simp [first, obsOf, look_eq, h.comments])
  | ack via sticky notify persistent expiry now => exact spec_step_ack c sp s via sticky notify persistent expiry now h
  | remove via now => exact spec_step_remove c sp s via now h
  | advance now =>
    unfold StepOK
    rw [step_advance]
    exact look_step c sp s (.advance now) _ .ackFrame [] _ h.toA h.suppP h.suppR
      (fun _ _ => rfl) h.inDt h.paused h.before (hh := rfl) (ht := by simp [first, obsOf, look_eq, h.comments])
  | pump now fired =>
    unfold StepOK
    rw [step_pump]
    exact look_step c sp _ (.pump now fired) _ .ackFrame [] _ h.toA h.suppP h.suppR
      (fun _ _ => rfl) h.inDt h.paused h.before (hh := rfl)
      (ht := by cases fired <;> simp [first, obsOf, look_eq, h.comments])
  | downtime on now =>
    unfold StepOK
    rw [step_downtime]
    exact look_step c sp { s with inDowntime := on } (.downtime on now) _ .ackFrame [] _ h.toA h.suppP h.suppR
      (fun _ _ => rfl) rfl h.paused h.before (hh := rfl) (ht := by simp [first, obsOf, look_eq, h.comments])
  | pause on now =>
    unfold StepOK
    rw [step_pause]
    exact look_step c sp { s with paused := on } (.pause on now) _ .ackFrame [] _ h.toA h.suppP h.suppR
      (fun _ _ => rfl) h.inDt rfl h.before (hh := rfl) (ht := by simp [first, obsOf, look_eq, h.comments])
  | remind now =>
    unfold StepOK
    rw [step_remind]
    refine look_step c sp s (.remind now) _ .ackFrame [] _ h.toA h.suppP h.suppR (fun _ _ => rfl) h.inDt h.paused h.before
      (hh := rfl) (hraw := ?_) (hrem := ?_)
      -- the model's `remindable` is the specification's condition for a reminder
      (ht := by simp [first, obsOf, look_eq, h.comments, h.state, h.inDt, h.stype, h.suppP, remindable])
    · -- raw: the acknowledgement was looked at only if `remindable`
      cases remindable c s <;> simp [Op.now]
    · -- a reminder is attempted only if its own `IsAcknowledged()` said no
      cases remindable c s
      · left; simp
      · by_cases hk : ackNow s now = .none
        · right; exact hk
        · left; simp [hk]
  | fire now => exact spec_step_fire c sp s now h

theorem rel_init : Rel specInit init := by
  simp [Rel, RelCore, specInit, init, pending]

end Icinga.C06
