/-
  C06 — `step`, operation by operation.  `step` is by definition the look (`getAck`, the lazy expiry) at what `opStep` left:
  an operation that leaves the acknowledgement to that look is stated as `step … = look s' now out`; an accepted
  acknowledge, a removal and an accepted result are given in closed form.  The specification is imported for
  `requestedExpiry`, in whose terms the entry points are described.
-/
import IcingaModel.C06.Model
import IcingaModel.C06.Spec

namespace Icinga.C06
open Icinga.C01

/-- What `GetAcknowledgement()` returns at `now` (`getAck_ack`). -/
def ackNow (s : MSt) (now : Int) : Ack := if expired s now then .none else s.ack

theorem expired_ack_ne (s : MSt) (now : Int) (h : expired s now = true) : s.ack ≠ .none := by
  intro h'; simp [expired, h'] at h

theorem not_expired_of_none (s : MSt) (now : Int) (h : s.ack = .none) : expired s now = false := by
  simp [expired, h]

theorem expired_congr {s s' : MSt} (ha : s'.ack = s.ack) (hx : s'.expiry = s.expiry) (now : Int) :
    expired s' now = expired s now := by
  simp [expired, ha, hx]

/-- So that `simp` sees through the record updates in the forms of `step` below. -/
@[simp] theorem ackNow_update (s : MSt) (b : St) (cm : List Cmt) (sp sr dt pa : Bool) (sb : SState) (now : Int) :
    ackNow ⟨b, s.ack, s.expiry, cm, sp, sr, dt, pa, sb⟩ now = ackNow s now := rfl

theorem ackNow_of_expired (s : MSt) (now : Int) (h : expired s now = true) : ackNow s now = .none := by
  simp [ackNow, h]

theorem ackNow_of_not_expired (s : MSt) (now : Int) (h : expired s now = false) : ackNow s now = s.ack := by
  simp [ackNow, h]

theorem not_expired_of_ackNow_ne_none (s : MSt) (now : Int) (h : ackNow s now ≠ .none) : expired s now = false ∧ s.ack = ackNow s now := by
  cases he : expired s now
  · simp [ackNow, he]
  · simp [ackNow, he] at h

theorem getAck_eq (s : MSt) (now : Int) :
    getAck s now =
      ({ s with ack := ackNow s now, expiry := if expired s now then 0 else s.expiry }, if expired s now then 1 else 0) := by
  cases he : expired s now
  · simp [getAck, he, ackNow]
  · simp [getAck, he, ackNow, clearAck, expired_ack_ne s now he]

theorem getAck_of_expired (s : MSt) (now : Int) (h : expired s now = true) :
    getAck s now = ({ s with ack := .none, expiry := 0 }, 1) := by
  simp [getAck_eq, h, ackNow]

theorem getAck_of_not_expired (s : MSt) (now : Int) (h : expired s now = false) :
    getAck s now = (s, 0) := by
  simp [getAck, h]

theorem getAck_ack (s : MSt) (now : Int) : (getAck s now).1.ack = ackNow s now := by
  rw [getAck_eq]

theorem expired_getAck (s : MSt) (now : Int) : expired (getAck s now).1 now = false := by
  cases he : expired s now
  · rwa [getAck_of_not_expired _ _ he]
  · rw [getAck_of_expired _ _ he]; rfl

theorem getAck_idem (s : MSt) (now : Int) : getAck (getAck s now).1 now = ((getAck s now).1, 0) :=
  getAck_of_not_expired _ _ (expired_getAck s now)

theorem getAck_stash (s : MSt) (p r : Bool) (now : Int) :
    getAck { s with suppProblem := p, suppRecovery := r } now =
      ({ (getAck s now).1 with suppProblem := p, suppRecovery := r }, (getAck s now).2) := by
  rw [getAck_eq, getAck_eq]; rfl

theorem expired_mk (b : St) (a : Ack) (e : Int) (cm : List Cmt) (sp sr dt pa : Bool) (sb : SState) (now : Int) :
    expired ⟨b, a, e, cm, sp, sr, dt, pa, sb⟩ now = (a != .none && e != 0 && decide (e < now)) := rfl

theorem ackNow_mk (b : St) (a : Ack) (e : Int) (cm : List Cmt) (sp sr dt pa : Bool) (sb : SState) (now : Int) :
    ackNow ⟨b, a, e, cm, sp, sr, dt, pa, sb⟩ now = if (a != .none && e != 0 && decide (e < now)) then .none else a := rfl

theorem Ack.ind_eq (a : Ack) : a.ind = if a != .none then 1 else 0 := by
  cases a <;> rfl

theorem ackTypeOf_ne_none (sticky : Bool) : ackTypeOf sticky ≠ .none := by
  cases sticky <;> simp [ackTypeOf]

theorem preRefuse_eq (c : Cfg) (s : MSt) (via : Via) (expiry now : Int) :
    preRefuse c s via expiry now =
      ((via != .cluster && isOK c.kind s.base.state) ||
       ((via == .api || via == .extExpire) && expiry != 0 && decide (expiry ≤ now))) := by
  cases via
  · exact Bool.or_comm _ _
  · exact (Bool.or_false _).symm
  · rfl
  · rfl

theorem storedExpiry_eq (via : Via) (expiry : Int) : storedExpiry via expiry = requestedExpiry via expiry := by
  cases via <;> rfl

theorem commentExpire_eq (via : Via) (expiry : Int) : commentExpire via expiry = requestedExpiry via expiry := by
  cases via <;> rfl

theorem addsComment_eq (via : Via) : addsComment via = (via != .cluster) := by
  cases via <;> rfl

theorem ackNow_balance (s : MSt) (now : Int) : s.ack.ind = (if expired s now then 1 else 0) + (ackNow s now).ind := by
  cases he : expired s now
  · simp [ackNow, he]
  · simp [ackNow, he, Ack.ind_eq, expired_ack_ne s now he]

/-- The look after an operation that left `s'` and reports `out`. -/
def look (s' : MSt) (now : Int) (out : Out) : MSt × Out :=
  ((getAck s' now).1, { out with nClr := out.nClr + (getAck s' now).2 })

theorem step_eq_look (c : Cfg) (s : MSt) (op : Op) :
    step c s op = look (opStep c s op).1 op.now { (opStep c s op).2 with raw := (opStep c s op).1.ack } :=
  rfl

@[simp] theorem look_eq (s' : MSt) (now : Int) (out : Out) :
    look s' now out =
      ({ s' with ack := ackNow s' now, expiry := if expired s' now then 0 else s'.expiry },
       { out with nClr := out.nClr + if expired s' now then 1 else 0 }) := by
  rw [look, getAck_eq]

theorem look_balance (s' : MSt) (now : Int) (out : Out) :
    s'.ack.ind + out.nClr = (look s' now out).2.nClr + (look s' now out).1.ack.ind := by
  rw [look_eq, ackNow_balance s' now, Nat.add_comm, ← Nat.add_assoc]

/-- Whether `IsAcknowledged()` was asked decides what the raw attribute shows. -/
theorem step_ack_refused {c : Cfg} {s : MSt} {via : Via} {sticky notify persistent : Bool} {expiry now : Int}
    (h : (preRefuse c s via expiry now || ackNow s now != .none) = true) :
    step c s (.ack via sticky notify persistent expiry now) =
      look s now { acc := false, raw := if preRefuse c s via expiry now then s.ack else ackNow s now } := by
  cases hp : preRefuse c s via expiry now
  · have hn : (ackNow s now != .none) = true := by simpa [hp] using h
    simp [step, opStep, ackStep, hp, hn, Op.now, getAck_ack, getAck_idem, look]
  · simp [step, opStep, ackStep, hp, Op.now, look]

/-- `gone`: the acknowledgement is accepted with an expiry that has already passed, and the look clears it again.  Only the
    cluster handler gets that far (`preRefuse` refuses such an expiry for the API action and the `_EXPIRE` commands). -/
theorem step_ack_accepted {c : Cfg} {s : MSt} {via : Via} {sticky notify persistent : Bool} {expiry now : Int}
    (h : (preRefuse c s via expiry now || ackNow s now != .none) = false) :
    step c s (.ack via sticky notify persistent expiry now) =
      let e := requestedExpiry via expiry
      let gone := e != 0 && decide (e < now)
      ({ s with ack := if gone then .none else ackTypeOf sticky, expiry := if gone then 0 else e,
                comments := if via != .cluster then insertCmt ⟨now, persistent, e⟩ s.comments else s.comments },
       { acc := true, nSet := 1, nClr := (if expired s now then 1 else 0) + (if gone then 1 else 0),
         nAckN := if notify && !s.paused then 1 else 0, raw := ackTypeOf sticky }) := by
  have ht := ackTypeOf_ne_none sticky
  obtain ⟨hp, hn⟩ := Bool.or_eq_false_iff.mp h
  have hn' : ackNow s now = .none := by simpa using hn
  by_cases hg : (¬ requestedExpiry via expiry = 0 ∧ requestedExpiry via expiry < now) <;>
    simp [step, opStep, ackStep, hp, hn', hg, ht, Op.now, getAck_eq, expired_mk, ackNow_mk, storedExpiry_eq, commentExpire_eq,
      addsComment_eq]

theorem step_ack_acc (c : Cfg) (s : MSt) (via : Via) (sticky notify persistent : Bool) (expiry now : Int) :
    (step c s (.ack via sticky notify persistent expiry now)).2.acc =
      !(preRefuse c s via expiry now || ackNow s now != .none) := by
  cases hc : (preRefuse c s via expiry now || ackNow s now != .none) <;> simp [step_ack_accepted, step_ack_refused, hc]

theorem step_remove (c : Cfg) (s : MSt) (via : RVia) (now : Int) :
    step c s (.remove via now) =
      ({ s with ack := .none, expiry := 0,
                comments := if via != .cluster then s.comments.filter (·.persistent) else s.comments },
       { acc := true, nClr := s.ack.ind, raw := .none }) := by
  cases ha : s.ack <;> simp [step, opStep, removeStep, clearAck, getAck_eq, expired_mk, ackNow, Op.now, ha, Ack.ind]

theorem step_advance (c : Cfg) (s : MSt) (now : Int) :
    step c s (.advance now) = look s now { raw := s.ack } :=
  rfl

theorem step_pump (c : Cfg) (s : MSt) (now : Int) (fired : Bool) :
    step c s (.pump now fired) =
      look { s with comments := if fired then s.comments.filter (survivesExpiry now) else s.comments } now
        { raw := s.ack } :=
  rfl

theorem step_downtime (c : Cfg) (s : MSt) (on : Bool) (now : Int) :
    step c s (.downtime on now) =
      look { s with inDowntime := on } now { raw := s.ack } :=
  rfl

theorem step_pause (c : Cfg) (s : MSt) (on : Bool) (now : Int) :
    step c s (.pause on now) =
      look { s with paused := on } now { raw := s.ack } :=
  rfl

theorem step_remind (c : Cfg) (s : MSt) (now : Int) :
    step c s (.remind now) =
      look s now { raw := if remindable c s then ackNow s now else s.ack,
                   nRem := if remindable c s && ackNow s now == .none then 1 else 0 } := by
  cases hr : remindable c s
  · simp [step, opStep, remindStep, hr, Op.now, look]
  · simp [step, opStep, remindStep, hr, Op.now, getAck_idem, getAck_ack, look]

theorem step_result_stale {c : Cfg} {s : MSt} {new : SState} {es ee now : Int}
    (h : stale s.base ⟨new, es, now⟩ = true) :
    step c s (.result new es ee now) = look s now { acc := false, raw := s.ack } := by
  simp [step, opStep, h, Op.now, look]

/-- To read a value off it, unfold it together with `clearsOnChange`. -/
def ackAfterResult (c : Cfg) (s : MSt) (new : SState) (now : Int) : Ack :=
  if stateChange c.kind s.base.state new && clearsOnChange c.kind (ackNow s now) new then .none else ackNow s now

theorem ackAfterResult_cases (c : Cfg) (s : MSt) (new : SState) (now : Int) :
    ackAfterResult c s new now = .none ∨ ackAfterResult c s new now = ackNow s now := by
  unfold ackAfterResult
  split
  · exact Or.inl rfl
  · exact Or.inr rfl

/-- Only `clearAck` zeroes the stored expiry: where no acknowledgement was set, whatever was stored stays. -/
def expiryAfterResult (c : Cfg) (s : MSt) (new : SState) (now : Int) : Int :=
  if s.ack != .none && ackAfterResult c s new now == .none then 0 else s.expiry

/-- The three steps of `resultAck` (look on a state change, clearing by the rule, look again) in one: between them the two
    looks perform the lazy expiry once. -/
theorem resultAck_eq (c : Cfg) (s : MSt) (new : SState) (now : Int) :
    resultAck c s new now =
      ({ s with ack := ackAfterResult c s new now, expiry := expiryAfterResult c s new now },
       (if expired s now then 1 else 0) + (if ackNow s now != .none && ackAfterResult c s new now == .none then 1 else 0)) := by
  cases hsc : stateChange c.kind s.base.state new <;> cases he : expired s now
  · simp [resultAck, hsc, getAck_of_not_expired, he, ackNow, ackAfterResult, expiryAfterResult]
  · simp [resultAck, hsc, getAck_eq, he, ackNow, ackAfterResult, expiryAfterResult, expired_ack_ne s now he]
  · cases hcl : clearsOnChange c.kind s.ack new
    · simp [resultAck, hsc, getAck_of_not_expired, he, ackNow, ackAfterResult, expiryAfterResult, hcl]
    · have hs : s.ack ≠ .none := by intro hs; simp [clearsOnChange, hs] at hcl
      simp [resultAck, hsc, getAck_of_not_expired, he, ackNow, ackAfterResult, expiryAfterResult, hcl, clearAck,
        not_expired_of_none, hs]
  · have hn : expired { s with ack := Ack.none, expiry := 0 } now = false := not_expired_of_none _ _ rfl
    simp [resultAck, hsc, getAck_of_expired, getAck_of_not_expired, he, hn, ackNow, ackAfterResult, expiryAfterResult,
      clearsOnChange, expired_ack_ne s now he]

theorem ackAfterResult_of_ne_none (c : Cfg) (s : MSt) (new : SState) (now : Int) (hk : ackAfterResult c s new now ≠ .none) :
    ackAfterResult c s new now = s.ack ∧ expiryAfterResult c s new now = s.expiry := by
  have h1 := (ackAfterResult_cases c s new now).resolve_left hk
  exact ⟨h1.trans (not_expired_of_ackNow_ne_none s now (h1 ▸ hk)).2.symm, by simp [expiryAfterResult, hk]⟩

theorem ackAfterResult_not_expired (c : Cfg) (s : MSt) (new : SState) (now : Int) :
    (ackAfterResult c s new now != .none && expiryAfterResult c s new now != 0 &&
      decide (expiryAfterResult c s new now < now)) = false := by
  -- `resultAck` ends with a look
  have h : expired (resultAck c s new now).1 now = false := expired_getAck _ now
  rwa [resultAck_eq] at h

/-- The six clauses of `specStep` about the acknowledgement after an accepted result (`expiryClears` … `ackFrame`), in
    the order in which they stand there. -/
theorem ackAfterResult_rules (c : Cfg) (s : MSt) (new : SState) (now : Int) :
    let a0 := ackNow s now
    let a1 := ackAfterResult c s new now
    let sc := stateChange c.kind s.base.state new
    let okn := isOK c.kind new
    (expired s now && a1 != .none) = false ∧ (a0 == .normal && sc && a1 != .none) = false ∧
    (a0 == .sticky && (sc && okn) && a1 != .none) = false ∧ (a0 == .sticky && !(sc && okn) && a1 != .sticky) = false ∧
    (!sc && a1 != a0) = false ∧ a1 = (if sc && (a0 == .normal || (a0 == .sticky && okn)) then .none else a0) := by
  have hx := ackNow_of_expired s now
  simp only [ackAfterResult]
  generalize ackNow s now = a0 at hx ⊢
  generalize stateChange c.kind s.base.state new = sc
  cases he : expired s now
  · cases a0 <;> cases sc <;> by_cases hok : isOK c.kind new = true <;> simp [clearsOnChange, hok]
  · rw [hx he]
    cases sc <;> simp [clearsOnChange]

theorem result_balance (a0 a1 : Ack) (h : a1 = .none ∨ a1 = a0) :
    a0.ind = (if a0 != .none && a1 == .none then 1 else 0) + a1.ind := by
  cases a0 <;> rcases h with rfl | rfl <;> rfl

/-- What `problemOf` reads of the base state after an accepted result. -/
theorem stepCore_state_lastExec (c : Cfg) (b : St) (r : Res) :
    (stepCore c b r).1.state = r.state ∧ (stepCore c b r).1.lastExec = some r.execStart := by
  simp [stepCore]

/-- No look remains on the right and `raw` is what the reader sees: the result's own last `GetAcknowledgement()`
    (checkable-check.cpp:289) has already performed the lazy expiry at `now` (`ackAfterResult_not_expired`). -/
theorem step_result {c : Cfg} {s : MSt} {new : SState} {es ee now : Int}
    (h : stale s.base ⟨new, es, now⟩ = false) :
    step c s (.result new es ee now) =
      let a0 := ackNow s now
      let a1 := ackAfterResult c s new now
      let due := sendNotification c s.base new && !s.paused
      let recovery := isOK c.kind new && !isOK c.kind s.base.state
      let stash := due && (a1 != .none || s.inDowntime || s.suppProblem || s.suppRecovery)
      ({ s with base := (stepCore c s.base ⟨new, es, now⟩).1, ack := a1, expiry := expiryAfterResult c s new now,
                comments := if a1 == .none then s.comments.filter (keepsComment ee) else s.comments,
                suppProblem := s.suppProblem || (stash && !recovery),
                suppRecovery := s.suppRecovery || (stash && recovery),
                stateBefore := if stash && !(s.suppProblem || s.suppRecovery)
                               then (if s.base.stype == .hard then s.base.state else .ok) else s.stateBefore },
       { acc := true, nClr := (if expired s now then 1 else 0) + (if a0 != .none && a1 == .none then 1 else 0),
         nProbN := if due && !stash && !recovery then 1 else 0,
         nRecN := if due && !stash && recovery then 1 else 0, raw := a1 }) := by
  simp only [step, opStep, h, resultStep, resultAck_eq, Op.now]
  rw [getAck_of_not_expired]
  · simp
  · exact ackAfterResult_not_expired c s new now

/-- Turns `step_result`'s `due && !stash` into `due && !withheld`. -/
theorem and_not_and_self (d w : Bool) : (d && !(d && w)) = (d && !w) := by
  cases d <;> rfl

/-- The run of `FireSuppressedNotifications` at `now` processes the stash (the specification's `release`). -/
def fireRelease (s : MSt) (now : Int) : Bool :=
  fireConsiders s && !s.inDowntime && ackNow s now == .none && s.base.stype == .hard

/-- The handler by its two guards: does it ask for the acknowledgement, does it then process the stash. -/
theorem fireStep_eq (c : Cfg) (s : MSt) (now : Int) :
    fireStep c s now =
      if fireConsiders s && !s.inDowntime then
        if ackNow s now == .none && s.base.stype == .hard then
          ({ (getAck s now).1 with suppProblem := false, suppRecovery := false },
           { nClr := (getAck s now).2,
             nProbN := if stateChange c.kind s.stateBefore s.base.state && !isOK c.kind s.base.state then 1 else 0,
             nRecN := if stateChange c.kind s.stateBefore s.base.state && isOK c.kind s.base.state then 1 else 0 })
        else ((getAck s now).1, { nClr := (getAck s now).2 })
      else (s, {}) := by
  cases hc : fireConsiders s
  · simp [fireStep, hc]
  · cases hd : s.inDowntime
    · cases hx : ackNow s now == .none <;> cases hy : s.base.stype == .hard <;>
        simp [fireStep, hc, hd, getAck_ack, hx, hy, bne]
    · simp [fireStep, hc, hd]

theorem step_fire (c : Cfg) (s : MSt) (now : Int) :
    step c s (.fire now) =
      let rel := fireRelease s now
      let owed := rel && stateChange c.kind s.stateBefore s.base.state
      let recovery := isOK c.kind s.base.state
      look { s with suppProblem := s.suppProblem && !rel, suppRecovery := s.suppRecovery && !rel } now
        { raw := if fireConsiders s && !s.inDowntime then ackNow s now else s.ack,
          nProbN := if owed && !recovery then 1 else 0, nRecN := if owed && recovery then 1 else 0 } := by
  have hrel : fireRelease s now = (fireConsiders s && !s.inDowntime && (ackNow s now == .none && s.base.stype == .hard)) := by
    simp only [fireRelease, Bool.and_assoc]
  simp only [step, opStep, fireStep_eq, Op.now, hrel, look, getAck_stash]
  cases hcd : (fireConsiders s && !s.inDowntime)
  · simp [getAck_eq]
  · cases hr : (ackNow s now == .none && s.base.stype == .hard)
    · simp only [Bool.false_eq_true, ↓reduceIte, getAck_idem]
      simp [getAck_eq]
    · simp only [↓reduceIte, getAck_stash, getAck_idem]
      simp [getAck_ack]

theorem step_look_or (c : Cfg) (s : MSt) (op : Op) :
    (∃ s' out, step c s op = look s' op.now out ∧ s'.ack = s.ack ∧ s'.expiry = s.expiry ∧ out.nSet = 0 ∧ out.nClr = 0) ∨
    (∃ new es ee now, op = .result new es ee now ∧ stale s.base ⟨new, es, now⟩ = false) ∨
    (∃ via sticky notify persistent expiry now, op = .ack via sticky notify persistent expiry now ∧
      (preRefuse c s via expiry now || ackNow s now != .none) = false) ∨
    ∃ via now, op = .remove via now := by
  cases op with
  | result new es ee now =>
    cases h : stale s.base ⟨new, es, now⟩
    · exact .inr (.inl ⟨_, _, _, _, rfl, h⟩)
    · exact .inl ⟨_, _, step_result_stale h, rfl, rfl, rfl, rfl⟩
  | ack via sticky notify persistent expiry now =>
    cases h : (preRefuse c s via expiry now || ackNow s now != .none)
    · exact .inr (.inr (.inl ⟨_, _, _, _, _, _, rfl, h⟩))
    · exact .inl ⟨_, _, step_ack_refused h, rfl, rfl, rfl, rfl⟩
  | remove via now => exact .inr (.inr (.inr ⟨_, _, rfl⟩))
  | advance now => exact .inl ⟨_, _, step_advance c s now, rfl, rfl, rfl, rfl⟩
  | pump now fired => exact .inl ⟨_, _, step_pump c s now fired, rfl, rfl, rfl, rfl⟩
  | downtime on now => exact .inl ⟨_, _, step_downtime c s on now, rfl, rfl, rfl, rfl⟩
  | pause on now => exact .inl ⟨_, _, step_pause c s on now, rfl, rfl, rfl, rfl⟩
  | remind now => exact .inl ⟨_, _, step_remind c s now, rfl, rfl, rfl, rfl⟩
  | fire now => exact .inl ⟨_, _, step_fire c s now, rfl, rfl, rfl, rfl⟩

end Icinga.C06
