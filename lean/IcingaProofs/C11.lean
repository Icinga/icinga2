/-
  C11 — cluster routing: complete, duplicate-free, loop-free, never to ineligible zones.  The property's theorems, their
  non-vacuity examples and the example topologies.  Part 1: one relaying node (`relayFuel` transcribes
  `ApiListener::SyncRelayMessage`), for EVERY topology, connectivity, origin, object zone, master, walk fuel and iteration order
  of the endpoint sets.  Part 2: the cluster (`run`: any sequence of deliveries).  Part 3 and the sections after it: the
  re-relaying handlers of clusterevents.cpp, the replay path of `ReplayLog`, log positions across a reconnect, `SyncSendMessage`.
-/
import IcingaProofs.C11.Family
import IcingaProofs.C11.Complete
namespace Icinga.C11

section Node
variable {T : Topo} {self : Ep} {o : Origin} {oz : Option Zone} {log : Bool} {fuel : Nat} {e : Ep}

/-- **reachable_only.**  A message is only handed to a connected endpoint, never to the node itself. -/
theorem reachable_only (h : e ∈ (relayFuel fuel T self o oz log).sent) : e ≠ self ∧ T.conn self e = true :=
  sent_reachable h

/-- **no_echo.**  Never back to the endpoint the message came from, never into the zone it came from. -/
theorem no_echo (hz : ∀ z e, e ∈ T.eps self z → T.zoneOf e = z) (h : e ∈ (relayFuel fuel T self o oz log).sent) :
    o.client ≠ some e ∧ o.fromZone ≠ some (T.zoneOf e) :=
  (sent_zone_of hz h).2

/-- **only_master_crosses.**  A node that is not the zone master hands the message to nobody but the master (so it
    never crosses a zone border: the master is a member of its own zone). -/
theorem only_master_crosses (hm : getMaster T self ≠ some self) (h : e ∈ (relayFuel fuel T self o oz log).sent) :
    getMaster T self = some e := by
  obtain ⟨_, _, _, _, _, _, _, hmaster⟩ := sent_guards h
  exact hmaster.resolve_left hm

/-- **only_entitled.**  Every send goes to an endpoint of the object's zone or one of its ancestors; for an object
    of a global zone: of the node's own zone or a direct child of it. -/
theorem only_entitled (hd : Detached T) (hz : ∀ z e, e ∈ T.eps self z → T.zoneOf e = z)
    (h : e ∈ (relayFuel fuel T self o oz log).sent) : Entitled T self oz (T.zoneOf e) :=
  entitled_of_entitledB (loops_entitledB hd (sent_zone_of hz h).1)

/-- **single_entry.**  A foreign zone is entered through at most one endpoint. -/
theorem single_entry (hd : Detached T) (hz : ∀ z e, e ∈ T.eps self z → T.zoneOf e = z) {a b : Ep}
    (ha : a ∈ (relayFuel fuel T self o oz log).sent) (hb : b ∈ (relayFuel fuel T self o oz log).sent)
    (hab : T.zoneOf a = T.zoneOf b) (hf : T.zoneOf a ≠ T.zoneOf self) : a = b :=
  sent_single_entry hz ha hb hab hf

/-- **logged_not_dropped** (object of an ordinary zone).  `z` is the object's zone or an ancestor (within the walk),
    it is the node's own zone, its parent or a direct child, the node has somebody to send to there and reaches none
    of them: the message is persisted.  Holds for masters and non-masters alike. -/
theorem logged_not_dropped (hd : Detached T) {z : Zone}
    (hg : T.isGlobal (targetZone T self oz) = false)
    (hz : z ∈ targetZone T self oz :: allParents T fuel (targetZone T self oz))
    (hrel : directlyRelated T self z = true) (hun : unreachableB T self z = true) :
    (relayFuel fuel T self o oz true).persist = true :=
  persist_of_unreachable ((loops_iff_chain hd _ hg).mpr ⟨hz, related_of_directlyRelated hrel⟩) hun

/-- **logged_not_dropped** (object of a global zone): the node's own zone and its registered direct children. -/
theorem logged_not_dropped_global (hd : Detached T) {z : Zone}
    (hg : T.isGlobal (targetZone T self oz) = true)
    (hz : z = T.zoneOf self ∨ (z ∈ T.zones ∧ T.parent z = some (T.zoneOf self)))
    (hun : unreachableB T self z = true) :
    (relayFuel fuel T self o oz true).persist = true :=
  persist_of_unreachable ((loops_iff_global hd _ hg).mpr hz) hun

/-- **origin_zone_copied.**  The message carries the origin's zone (what the next hop's `no_echo` reads). -/
theorem origin_zone_copied : (relayFuel fuel T self o oz log).originZone = o.fromZone := rfl

/-- **no_duplicate_send.**  In a well-formed configuration no endpoint gets the message twice from one relay step. -/
theorem no_duplicate_send (wf : WF T self) : (relayFuel fuel T self o oz log).sent.Nodup :=
  sent_nodup wf

/-- **relay_meets_spec.**  For every well-formed configuration, every connectivity, origin, object zone, log flag,
    master and iteration order: what the model of `SyncRelayMessage` does satisfies the executable specification -
    the same predicate the check evaluates on the implementation's observations. -/
theorem relay_meets_spec (c : Case) (wf : WF T c.self) :
    specCase fuel T c ((relayFuel fuel T c.self c.origin c.objZone c.log).obs T c.self) = none := by
  -- `h1` … `h10` are the conditions of the `if` cascade of `specCase`, in its order; `one_copy_per_endpoint` (between `h4` and
  -- `h5`) and `origin_zone_copied` (between `h7` and `h8`) have none: `Result.obs` and `relayFuel_originZone` close them.
  -- Each `hk` is the clause's theorem above (`h2`, `h7`, `h9`, `h10`: its Bool-level lemma in `Relay`), carried from `sent` to
  -- what is queued (`hq`).  `simp only` then walks down the cascade; the condition on the observed master is a `match`,
  -- which it does not rewrite, so `h8` is applied at the end.
  have hd : Detached T := wf.toDetached
  have hz := wf.zone_of_mem
  have hq : ∀ e, e ∈ queued T c.self (relayFuel fuel T c.self c.origin c.objZone c.log) →
      e ∈ (relayFuel fuel T c.self c.origin c.objZone c.log).sent := fun e he => (mem_queued.mp he).1
  generalize hQ : queued T c.self (relayFuel fuel T c.self c.origin c.objZone c.log) = Q at hq
  have h1 : Q.all (fun e => e != c.self && T.conn c.self e) = true :=
    List.all_eq_true.mpr fun e he => by
      obtain ⟨hne, hc⟩ := reachable_only (hq e he)
      rw [hc, Bool.and_true, bne_iff_ne]
      exact hne
  have h2 : Q.all (fun e => entitledB fuel T c.self c.objZone (T.zoneOf e)) = true :=
    List.all_eq_true.mpr fun e he => loops_entitledB hd (sent_zone_of hz (hq e he)).1
  have h3 : Q.all (fun e => c.origin.client != some e && c.origin.fromZone != some (T.zoneOf e)) = true :=
    List.all_eq_true.mpr fun e he => by
      rw [Bool.and_eq_true, bne_iff_ne, bne_iff_ne]
      exact no_echo hz (hq e he)
  have h4 : nodupB Q = true := by
    rw [nodupB_iff, ← hQ]
    exact (List.filter_sublist).nodup (no_duplicate_send wf)
  have h5 : Q.all (fun a => Q.all
        (fun b => !(T.zoneOf a == T.zoneOf b && T.zoneOf a != T.zoneOf c.self) || a == b)) = true :=
    List.all_eq_true.mpr fun a ha => List.all_eq_true.mpr fun b hb => not_or_eq_true fun hc => by
      rw [Bool.and_eq_true, beq_iff_eq, bne_iff_ne] at hc
      exact beq_iff_eq.mpr (single_entry hd hz (hq a ha) (hq b hb) hc.1 hc.2)
  have h6 : (notMasterB T c.self && !Q.all (fun e => isZoneMasterB T c.self e)) = false :=
    and_not_eq_false fun hn => List.all_eq_true.mpr fun e he =>
      isZoneMasterB_of_master hz (only_master_crosses (notMaster_of_notMasterB hn) (hq e he)) (reachable_only (hq e he)).1
  have h7 : (c.log && !(relayFuel fuel T c.self c.origin c.objZone c.log).persist &&
      (candidateZones T c.self c.objZone).any (fun z =>
        directlyRelated T c.self z && entitledB fuel T c.self c.objZone z && unreachableB T c.self z)) = false := by
    rw [Bool.and_eq_false_imp]
    intro hlp
    rw [Bool.and_eq_true, Bool.not_eq_true'] at hlp
    rw [List.any_eq_false]
    intro z hzc hcond
    rw [Bool.and_eq_true, Bool.and_eq_true] at hcond
    have hpersist : (relayFuel fuel T c.self c.origin c.objZone c.log).persist = c.log :=
      persist_of_unreachable (candidate_loops hd hzc hcond.1.1 hcond.1.2) hcond.2
    have hp := hlp.2
    rw [hpersist, hlp.1] at hp
    cases hp
  have h8 : (match getMaster T c.self with | some m => !masterIsB T c.self m | none => false) = false := by
    cases hm : getMaster T c.self with
    | none => rfl
    | some m => simp [masterIsB_iff.mpr hm]
  have h9 : (entitledB fuel T c.self c.objZone (T.zoneOf c.self) &&
      !(T.eps c.self (T.zoneOf c.self)).all (fun p => !peerDueB T c p || Q.contains p)) = false :=
    and_not_eq_false fun hent => List.all_eq_true.mpr fun p hp => not_or_eq_true fun hdue =>
      List.contains_iff_mem.mpr (hQ ▸ peer_due_sent hd c hent hp hdue)
  have h10 : (candidateZones T c.self c.objZone).all (fun z =>
      !(directlyRelated T c.self z && entitledB fuel T c.self c.objZone z && zoneDueB T c z) ||
      Q.any (fun e => (T.eps c.self z).contains e)) = true :=
    List.all_eq_true.mpr fun z hzc => not_or_eq_true fun hcond => by
      rw [Bool.and_eq_true, Bool.and_eq_true] at hcond
      obtain ⟨e, he, hmem⟩ := zone_due_sent hd c hzc hcond.1.1 hcond.1.2 hcond.2
      exact List.any_eq_true.mpr ⟨e, hQ ▸ he, List.contains_iff_mem.mpr hmem⟩
  unfold specCase Result.obs
  simp only [hQ, h1, h2, h3, h4, h5, h6, h7, h9, h10, relayFuel_originZone, bne_self_eq_false, Bool.not_true,
    Bool.false_eq_true, if_false]
  exact if_neg fun h => Bool.false_ne_true (h8.symm.trans h)

/-- **same_master.**  The choice of the zone master depends on names and connectedness only: two nodes of one zone that
    have the same view of its members (in particular two zone peers that see each other) name the same master -
    whatever their `syncing` flags, log positions or anything else say. -/
theorem same_master {a b : Ep} (hmem : ∀ x, x ∈ T.eps a (T.zoneOf a) ↔ x ∈ T.eps b (T.zoneOf b))
    (hview : ∀ x ∈ T.eps a (T.zoneOf a), (T.conn a x || x == a) = (T.conn b x || x == b)) :
    getMaster T a = getMaster T b := by
  unfold getMaster
  apply minEp_congr
  intro x
  rw [List.mem_filter, List.mem_filter]
  constructor
  · rintro ⟨h1, h2⟩
    exact ⟨(hmem x).mp h1, by rw [← hview x h1]; exact h2⟩
  · rintro ⟨h1, h2⟩
    exact ⟨(hmem x).mpr h1, by rw [hview x ((hmem x).mpr h1)]; exact h2⟩

end Node

/-! non-vacuity: a concrete three-level cluster,
    zone 0 (endpoints 0,1) ── zone 1 (2,3) ── zone 2 (4,5);  zone 3 is global.  Everybody is connected. -/

def exT : Topo :=
  { parent := fun z => if z = 1 then some 0 else if z = 2 then some 1 else none,
    isGlobal := fun z => z == 3,
    zones := [0, 1, 2, 3],
    zoneOf := fun e => e / 2,
    eps := fun _ z => if z < 3 then [2 * z, 2 * z + 1] else [],
    conn := fun a b => a != b }

theorem exT_shape : ChainShape exT where
  parent := rfl
  isGlobal := rfl
  zones := rfl
  zoneOf := rfl
  eps _ _ := Or.inl rfl
  conn_symm _ _ := bne_comm

theorem exT_detached : Detached exT := exT_shape.cluster.toDetached

theorem exT_wf (s : Ep) : WF exT s := exT_shape.cluster.wf s

/-- the master of the middle zone relays an event about an object of the lowest zone: one endpoint below, its peer,
    one endpoint above; the second endpoints of the foreign zones are skipped -/
example : (relay exT 2 Origin.loc (some 2) true).sent = [4, 3, 0] ∧ (relay exT 2 Origin.loc (some 2) true).skipped = [5, 1] ∧
    (relay exT 2 Origin.loc (some 2) true).persist = false := by decide +kernel
/-- its peer (not the master) only talks to the master -/
example : (relay exT 3 Origin.loc (some 2) true).sent = [2] ∧ getMaster exT 3 = some 2 := by decide +kernel
/-- second hop: endpoint 0 got the event from endpoint 2 (zone 1) and passes it to its peer only -/
example : (relay exT 0 ⟨some 2, some 1⟩ (some 2) true).sent = [1] ∧ (relay exT 0 ⟨some 2, some 1⟩ (some 2) true).originZone = some 1 := by decide +kernel
/-- object of the global zone: own zone and direct children, not the parent -/
example : (relay exT 2 Origin.loc (some 3) true).sent = [3, 4] := by decide +kernel
/-- nobody reachable: persisted -/
example : (relay { exT with conn := fun _ _ => false } 2 Origin.loc (some 2) true).sent = [] ∧
    (relay { exT with conn := fun _ _ => false } 2 Origin.loc (some 2) true).persist = true := by decide +kernel
/-- the hypotheses of `logged_not_dropped` are satisfiable -/
example : exT.isGlobal (targetZone exT 2 (some 2)) = false ∧ (0 : Zone) ∈ targetZone exT 2 (some 2) :: allParents exT maxDepth (targetZone exT 2 (some 2)) ∧
    directlyRelated exT 2 0 = true ∧ unreachableB { exT with conn := fun _ _ => false } 2 0 = true := by decide +kernel
/-- the specification accepts what the model does … -/
example : specCase maxDepth exT ⟨2, Origin.loc, some 2, true⟩ ((relay exT 2 Origin.loc (some 2) true).obs exT 2) = none :=
  relay_meets_spec _ (exT_wf 2)
/-- … and rejects wrong traces: a second endpoint of a foreign zone, an echo, a send by a non-master across the
    border, an unentitled zone, a dropped message, a lost origin zone -/
example : specCase maxDepth exT ⟨2, Origin.loc, some 2, true⟩ { sent := [4, 5, 3, 0], persist := false, originZone := none } = some .single_entry := by decide +kernel
example : specCase maxDepth exT ⟨0, ⟨some 2, some 1⟩, some 2, true⟩ { sent := [1, 2], persist := false, originZone := some 1 } = some .no_echo := by decide +kernel
example : specCase maxDepth exT ⟨3, Origin.loc, some 2, true⟩ { sent := [2, 0], persist := false, originZone := none } = some .only_master_crosses := by decide +kernel
example : specCase maxDepth exT ⟨2, Origin.loc, some 1, true⟩ { sent := [3, 0, 4], persist := false, originZone := none } = some .only_entitled := by decide +kernel
example : specCase maxDepth { exT with conn := fun _ _ => false } ⟨2, Origin.loc, some 2, true⟩ { sent := [], persist := false, originZone := none } = some .logged_not_dropped := by decide +kernel
example : specCase maxDepth exT ⟨0, ⟨some 2, some 1⟩, some 2, true⟩ { sent := [1], persist := false, originZone := none } = some .origin_zone_copied := by decide +kernel
/-- … a second copy on an older connection, a master chosen by anything but names and connectedness, an entitled
    parent zone that is reachable and gets nothing, two peers that see each other and disagree on the master -/
example : specCase maxDepth exT ⟨2, Origin.loc, some 2, true⟩ { sent := [4, 3, 0], persist := false, originZone := none, extraCopies := 1 } = some .one_copy_per_endpoint := by decide +kernel
example : specCase maxDepth exT ⟨3, Origin.loc, some 2, true⟩ { sent := [2], persist := false, originZone := none, master := some 3 } = some .master_by_names_and_connectedness := by decide +kernel
example : specCase maxDepth exT ⟨2, Origin.loc, some 2, true⟩ { sent := [4, 3], persist := false, originZone := none } = some .forwarded_when_reachable := by decide +kernel
example : specMasterPair exT 2 3 (some 2) (some 2) = none ∧ specMasterPair exT 2 3 (some 2) (some 3) = some .master_by_names_and_connectedness := by decide +kernel
/-- `syncing` changes what is queued, not who is master and not what is handed over -/
example : queued { exT with syncing := fun _ e => e == 3 } 2 (relay { exT with syncing := fun _ e => e == 3 } 2 Origin.loc (some 2) true) = [4, 0] ∧
    getMaster { exT with syncing := fun _ e => e == 2 } 3 = some 2 := by decide +kernel

/-- one zone with three members; 0 and 1 do not see each other, both see 2 -/
def exT3 : Topo :=
  { parent := fun _ => none, isGlobal := fun _ => false, zones := [0], zoneOf := fun _ => 0,
    eps := fun _ z => if z = 0 then [0, 1, 2] else [], conn := fun a b => (a, b) != (0, 1) && (a, b) != (1, 0) && a != b }

/-- Beyond the property's quantifier (it speaks of one or two endpoints per zone): with THREE members in the node's own
    zone the test "last examined member connected" (apilistener.cpp:1262-1268, 1313) lets a message for a disconnected
    member be neither sent nor persisted when a connected member is examined after it. -/
theorem logged_not_dropped_three_endpoints_counterexample :
    (1 : Ep) ∈ exT3.eps 0 (exT3.zoneOf 0) ∧ exT3.conn 0 1 = false ∧
    (1 : Ep) ∉ (relay exT3 0 Origin.loc none true).sent ∧ (relay exT3 0 Origin.loc none true).persist = false := by decide +kernel


/-! ## Part 2 — the cluster

    `start T orig oz` is the originating endpoint relaying a fresh event about an object of zone `oz`; `run … sched`
    delivers in-flight messages in the order `sched` chooses (any list of indices: every delivery order, including
    ones that leave messages undelivered); a recipient builds the origin as `MessageHandler` does, discards the
    message unless the origin's zone may access the object, otherwise processes the event and relays it again. -/

section Cluster
variable {T : Topo}

/-- **net_only_entitled.**  For every topology, originator, object zone and delivery order: whoever processes the
    event (apart from the originator), whoever a message is in flight to, and whoever discarded one, is an endpoint
    of an entitled zone. -/
theorem net_only_entitled (wf : NetWF T) (orig : Ep) (oz : Zone) (sched : List Nat) :
    (∀ e ∈ (run T oz (start T orig oz) sched).processed, e = orig ∨ NetEntitled T (T.zoneOf orig) oz (T.zoneOf e)) ∧
    (∀ msg ∈ (run T oz (start T orig oz) sched).inflight, NetEntitled T (T.zoneOf orig) oz (T.zoneOf msg.to)) ∧
    (∀ msg ∈ (run T oz (start T orig oz) sched).discarded, NetEntitled T (T.zoneOf orig) oz (T.zoneOf msg.to)) := by
  have : EntInv T orig oz _ := (ledger_run sched).entInv wf
  exact ⟨this.processed, this.inflight, this.discarded⟩

/-- **second_hop_no_echo.**  The node that receives a relayed message never hands it back to the sender, and never
    into the zone it came from - the sender's zone when that is a foreign zone, the zone named by the `originZone`
    field the sender copied from its own origin when sender and recipient are zone peers. -/
theorem second_hop_no_echo (hz : ∀ s z e, e ∈ T.eps s z → T.zoneOf e = z) {s : Ep} {o : Origin} {oz : Zone} {msg : Msg}
    (hm : msg ∈ emit T s o oz) {fuel : Nat} {log : Bool} {e' : Ep}
    (he' : e' ∈ (relayFuel fuel T msg.to (originOf T msg) (some oz) log).sent) :
    e' ≠ s ∧ (T.zoneOf s ≠ T.zoneOf msg.to → T.zoneOf e' ≠ T.zoneOf s) ∧
      (T.zoneOf s = T.zoneOf msg.to → o.fromZone ≠ some (T.zoneOf e')) := by
  obtain ⟨_, hfrm, hoz⟩ := mem_emit.mp hm
  have := received_no_echo (hz msg.to) he'
  rwa [hfrm, hoz] at this

/-- **net_no_discard.**  When the originator's zone is itself entitled (the object's zone or an ancestor; any zone
    for an object of a global zone), no message is ever sent to somebody who has to discard it: every recipient
    accepts (`Zone::CanAccessObject` on the origin it computes), for every topology and delivery order. -/
theorem net_no_discard (wf : NetWF T) (orig : Ep) (oz : Zone)
    (horig : T.isGlobal oz = true ∨ isChildOf T oz (T.zoneOf orig) = true) (sched : List Nat) :
    (run T oz (start T orig oz) sched).discarded = [] :=
  (ledger_run sched).no_discard wf (netEntitled_orig.mpr horig)

end Cluster

/-- `net_only_entitled` / `net_no_discard` are not vacuous: the example cluster meets `NetWF`, and a run processes
    the event on all six endpoints -/
theorem exT_netwf : NetWF exT := exT_shape.cluster.toNetWF
example : (run exT 2 (start exT 4 2) [0, 0, 0, 0, 0]).processed = [4, 5, 2, 3, 0, 1] ∧
    (run exT 2 (start exT 4 2) [0, 0, 0, 0, 0]).inflight = [] := by decide +kernel
example : exT.isGlobal 2 = true ∨ isChildOf exT 2 (exT.zoneOf 4) = true := by decide +kernel
/-- the cluster-wide specification rejects a history with a duplicate, with an unentitled recipient, with a discard -/
example : specNet exT [0, 1, 2, 3, 4, 5] 4 2 ⟨[], [4, 5, 2, 5], [], [], []⟩ = some .processed_twice := by decide +kernel
example : specNet exT [0, 1, 2, 3, 4, 5] 2 1 ⟨[], [2, 3, 4], [], [], []⟩ = some .processed_not_entitled := by decide +kernel
example : specNet exT [0, 1, 2, 3, 4, 5] 2 1 ⟨[], [2, 3], [], [], [⟨0, 2, none⟩]⟩ = some .discarded_message := by decide +kernel
/-- an originator whose zone is NOT entitled (endpoint 4 of the lowest zone, object of the middle zone): the message
    goes up to an entitled zone and is discarded there (C13's rule) - why `net_no_discard` has its hypothesis -/
example : (run exT 1 (start exT 4 1) [0]).discarded.length = 1 ∧ (run exT 1 (start exT 4 1) [0]).processed = [4] := by decide +kernel

section General
variable {T : Topo}

/-- **no_duplicate** (GENERAL).  For every zone forest with detached global zones, at most two endpoints per zone and
    symmetric static connectivity (`Cluster`), every originating endpoint, every object zone (ordinary or global,
    entitled originator or not), every iteration order of the endpoint sets on every node and every delivery order:
    no endpoint processes the event twice. -/
theorem no_duplicate (cl : Cluster T) {orig : Ep} (hM : Member T orig) (oz : Zone) (sched : List Nat) :
    (run T oz (start T orig oz) sched).processed.Nodup :=
  (history_distinct cl hM oz sched).processed_nodup

/-- **finite** (GENERAL).  Under the same hypotheses, in every reachable state the messages ever put on the wire
    (processed, discarded, still in flight) together with the originator number at most the endpoints: every
    execution consumes at most `allEps.length - 1` messages, however it is scheduled - the event cannot circulate. -/
theorem finite (cl : Cluster T) {orig : Ep} (hM : Member T orig) (allEps : List Ep)
    (hall : ∀ s z e, e ∈ T.eps s z → e ∈ allEps) (oz : Zone) (sched : List Nat) :
    (run T oz (start T orig oz) sched).processed.length + (run T oz (start T orig oz) sched).discarded.length +
      (run T oz (start T orig oz) sched).inflight.length ≤ allEps.length :=
  (history_distinct cl hM oz sched).length_le hM allEps hall

/-- **finite_and_no_duplicate** (GENERAL; `finite_and_no_duplicate_partial` is an instance).  The cluster-wide executable
    specification holds in every reachable state: nobody processes the event twice, apart from the originator only
    endpoints of entitled zones process it, nothing is discarded when the originator's zone is entitled, and the
    messages ever sent number less than the endpoints.  `hdepth` (the zone walk of `Zone::IsChildOf` reaches every
    ancestor: guaranteed for configurations that loaded, which have at most 32 levels) is only used to express
    "below the originating zone" for objects of a global zone with the fuelled executable predicate. -/
theorem finite_and_no_duplicate (cl : Cluster T) {orig : Ep} (hM : Member T orig) (allEps : List Ep)
    (hall : ∀ s z e, e ∈ T.eps s z → e ∈ allEps) (hdepth : ∀ a b, Anc T a b → isChildOf T a b = true)
    (oz : Zone) (sched : List Nat) :
    specNet T allEps orig oz (run T oz (start T orig oz) sched) = none := by
  have h1 := no_duplicate cl hM oz sched
  have h2 := finite cl hM allEps hall oz sched
  have h3 := (net_only_entitled cl.toNetWF orig oz sched).1
  have hp := (history_distinct cl hM oz sched).processed_eq
  have h4 : netEntitledB T (T.zoneOf orig) oz (T.zoneOf orig) = true →
      (run T oz (start T orig oz) sched).discarded = [] := by
    intro h
    exact net_no_discard cl.toNetWF orig oz (netEntitled_orig.mp (netEntitled_of_netEntitledB h)) sched
  generalize run T oz (start T orig oz) sched = n at h1 h2 h3 h4 hp ⊢
  have c1 : nodupB n.processed = true := (nodupB_iff _).mpr h1
  have c2 : (n.processed.drop 1).all (fun e => netEntitledB T (T.zoneOf orig) oz (T.zoneOf e)) = true := by
    rw [List.all_eq_true]
    intro e he
    rcases h3 e (List.mem_of_mem_drop he) with h | h
    · rw [hp] at he h1
      simp only [List.drop_succ_cons, List.drop_zero] at he
      exact absurd (h ▸ he) (List.nodup_cons.mp h1).1
    · exact netEntitledB_of_netEntitled hdepth h
  have c3 : (netEntitledB T (T.zoneOf orig) oz (T.zoneOf orig) && !n.discarded.isEmpty) = false := by
    by_cases h : netEntitledB T (T.zoneOf orig) oz (T.zoneOf orig) = true
    · simp [h4 h]
    · simp [h]
  have c4 : ¬ (n.processed.length + n.discarded.length + n.inflight.length > allEps.length) := by omega
  unfold specNet
  simp only [c1, c2, c3, c4, Bool.not_true, Bool.false_eq_true, if_false]

end General

/-- a bounded rank gives the `hdepth` hypothesis of `finite_and_no_duplicate` (configurations that loaded have at
    most 32 levels, zone.cpp:39-45) -/
theorem hdepth_of_rank {T : Topo} {rank : Zone → Nat} (hr : ∀ z p, T.parent z = some p → rank p < rank z)
    (hb : ∀ z, rank z ≤ maxDepth) : ∀ a b, Anc T a b → isChildOf T a b = true := by
  intro a b h
  exact isChildOf_iff.mpr (mem_chain_of_anc hr h (hb a))

/-! the hypotheses are satisfiable: the example cluster is a `Cluster`, its endpoints are members, its depth is bounded;
    a run on it serves all six endpoints (see the example after `net_no_discard`) -/
theorem exT_cluster : Cluster exT := exT_shape.cluster

theorem ChainShape.hdepth {T : Topo} (sh : ChainShape T) : ∀ a b, Anc T a b → isChildOf T a b = true :=
  hdepth_of_rank (rank := fun z => min z 2) (fun _ _ h => sh.rank_lt h) (fun z => by simp only [maxDepth]; omega)

example : ∀ e, e < 6 → Member exT e := fun _ he => exT_shape.member_iff.mpr he
example : ∀ a b, Anc exT a b → isChildOf exT a b = true := exT_shape.hdepth

/-- **complete_when_connected** (GENERAL; `complete_when_connected_partial` is an instance).  For every zone forest with
    detached global zones, at most two endpoints per zone and symmetric static connectivity (`Cluster`) in which the
    zone masters are connected to their zone peers and to one endpoint of each directly related zone
    (`MastersConnected`) and every entitled zone has at least one endpoint (`hne`; the property speaks of one or two
    endpoints per zone), every originating endpoint of an entitled zone (`horig`), every object zone (ordinary or
    global), every iteration order on every node and every delivery order that leaves nothing in flight: every endpoint
    of every entitled zone has processed the event - and, by `no_duplicate`, exactly once.
    `hdepth`: the zone walk of `Zone::IsChildOf` reaches every ancestor (configurations that loaded have at most 32
    levels; `hdepth_of_rank`).  `hreg`: a zone that has a parent is a registered Zone object (the relay step looks
    for the children of the local zone in the registry). -/
theorem complete_when_connected {T : Topo} (cl : Cluster T) (mc : MastersConnected T) {orig : Ep} (hM : Member T orig)
    (hdepth : ∀ a b, Anc T a b → isChildOf T a b = true) (hreg : ∀ z p, T.parent z = some p → z ∈ T.zones)
    (oz : Zone) (horig : T.isGlobal oz = true ∨ isChildOf T oz (T.zoneOf orig) = true)
    (hne : ∀ Z, NetEntitled T (T.zoneOf orig) oz Z → ∃ x, Member T x ∧ T.zoneOf x = Z)
    (sched : List Nat) (hq : (run T oz (start T orig oz) sched).inflight = []) :
    (∀ e, Member T e → NetEntitled T (T.zoneOf orig) oz (T.zoneOf e) →
      e ∈ (run T oz (start T orig oz) sched).processed) ∧
    (run T oz (start T orig oz) sched).processed.Nodup :=
  ⟨fun e hMe hE => served_of_entitled cl mc (netEntitled_orig.mpr horig) hM (ledger_run sched) hq hreg hne hdepth hE e hMe rfl,
    no_duplicate cl hM oz sched⟩

/-! the hypotheses of `complete_when_connected` are satisfiable: the example cluster (everybody connected) meets all of
    them for originator 4 and an object of the lowest zone, and the theorem then yields what the evaluated run shows -/
theorem exT_masters_connected : MastersConnected exT := by
  obtain ⟨rank, hr⟩ := (exT_wf 0).acyclic
  constructor
  · intro a b _ _ _ hne
    show (a != b) = true
    exact bne_iff_ne.mpr hne
  · intro m Z' _ _ hadj ⟨x, hMx, hzx⟩
    refine ⟨x, hMx, hzx, ?_⟩
    show (m != x) = true
    apply bne_iff_ne.mpr
    intro e
    subst e
    rw [hzx] at hadj
    rcases hadj with h | h <;> exact Nat.lt_irrefl _ (hr _ _ h)

example : ∀ e, e < 6 → e ∈ (run exT 2 (start exT 4 2) [0, 0, 0, 0, 0]).processed := by
  intro e he
  apply (complete_when_connected exT_cluster exT_masters_connected (exT_shape.member_iff.mpr (by decide)) exT_shape.hdepth
    (fun _ _ h => exT_shape.registered h) 2 (Or.inr (by decide +kernel))
    (fun _ h => exT_shape.entitled_nonempty (by decide) (by decide) h) [0, 0, 0, 0, 0] (by decide +kernel)).1 e
    (exT_shape.member_iff.mpr he)
  have : ∀ e, e < 6 → isChildOf exT 2 (exT.zoneOf e) = true := by decide +kernel
  exact this e he

/-!
  The two `…_partial` theorems below state `finite_and_no_duplicate` and `complete_when_connected` in their EXECUTABLE
  form (`specNet`, `mastersConnectedB` / `completeB` - the predicates the check's simulation evaluates) on an explicitly
  listed FINITE family (`family`, IcingaProofs/C11/Family.lean), for every originator, object zone and delivery order.
  Every member of the family is a `Cluster` (`chainTopo_shape`), so both are instances of the general theorems.  Neither
  proof looks at the list: the hypothesis `c ∈ family` is idle, both statements hold for every `chainTopo mask ord`.
-/

/-- **finite_and_no_duplicate_partial** (FINITE FAMILY, executable form - see the comment above).
    For every configuration of `family`, every originator, every object zone (the global one included) and every
    delivery order: no endpoint processes the event twice, only entitled endpoints process it, nothing is discarded
    when the originator is entitled, and the messages ever put on the wire number at most the endpoints. -/
theorem finite_and_no_duplicate_partial {c : Nat × Nat} (hc : c ∈ family) {orig : Ep} (ho : orig ∈ chainEps)
    {oz : Zone} (hz : oz ∈ chainZones) (sched : List Nat) :
    specNet (chainTopo c.1 c.2) chainEps orig oz (run (chainTopo c.1 c.2) oz (start (chainTopo c.1 c.2) orig oz) sched) = none := by
  have sh := chainTopo_shape c.1 c.2
  exact finite_and_no_duplicate sh.cluster (sh.member_iff.mpr (mem_chainEps.mp ho)) chainEps
    (fun _ _ _ h => mem_chainEps.mpr (sh.member_iff.mp (sh.cluster.member_of_mem h))) sh.hdepth oz sched

/-- **complete_when_connected_partial** (FINITE FAMILY, executable form).  For every configuration of
    `family` in which the zone masters reach their peers and one endpoint of each directly related zone, every
    originator of an entitled zone, every object zone and every delivery order that leaves nothing in flight: every
    endpoint of every entitled zone has processed the event (exactly once, by the theorem above). -/
theorem complete_when_connected_partial {c : Nat × Nat} (hc : c ∈ family) {orig : Ep} (ho : orig ∈ chainEps)
    {oz : Zone} (hz : oz ∈ chainZones) (sched : List Nat)
    (hconn : mastersConnectedB (chainTopo c.1 c.2) chainEps chainZones = true)
    (hent : netEntitledB (chainTopo c.1 c.2) ((chainTopo c.1 c.2).zoneOf orig) oz ((chainTopo c.1 c.2).zoneOf orig) = true)
    (hq : (run (chainTopo c.1 c.2) oz (start (chainTopo c.1 c.2) orig oz) sched).inflight = []) :
    completeB (chainTopo c.1 c.2) chainEps orig oz (run (chainTopo c.1 c.2) oz (start (chainTopo c.1 c.2) orig oz) sched) = true := by
  have sh := chainTopo_shape c.1 c.2
  have hall : ∀ e, Member (chainTopo c.1 c.2) e ↔ e ∈ chainEps := fun e => sh.member_iff.trans mem_chainEps.symm
  have mc := mastersConnected_of_B sh.cluster hall
    (fun e he => by
      rw [sh.zoneOf_eq, mem_chainZones]
      exact Nat.le_of_lt_succ (Nat.div_lt_of_lt_mul (Nat.lt_trans (mem_chainEps.mp he) (by decide)))) hconn
  exact completeB_of_forall (fun e => (hall e).mpr)
    (complete_when_connected sh.cluster mc ((hall orig).mpr ho) sh.hdepth (fun _ _ h => sh.registered h) oz
      (netEntitled_orig.mp (netEntitled_of_netEntitledB hent))
      (fun _ h => sh.entitled_nonempty (mem_chainEps.mp ho) (mem_chainZones.mp hz) h)
      sched hq).1

/-- the hypotheses of `complete_when_connected_partial` are satisfiable: 9 of the 12 connectivity patterns meet the
    connectivity hypothesis, and the run below is quiescent with everybody served although the link 0-2 is cut -/
example : (cutMasks.filter (fun m => mastersConnectedB (chainTopo m 0) chainEps chainZones)).length = 9 := by decide +kernel
example : ((2039, 0) : Nat × Nat) ∈ family ∧ mastersConnectedB (chainTopo 2039 0) chainEps chainZones = true ∧
    (run (chainTopo 2039 0) 2 (start (chainTopo 2039 0) 4 2) [0, 0, 0, 0, 0]).inflight = [] ∧
    (run (chainTopo 2039 0) 2 (start (chainTopo 2039 0) 4 2) [0, 0, 0, 0, 0]).processed = [4, 5, 2, 3, 1, 0] := by decide +kernel

/-- **no_duplicate_three_endpoints_counterexample.**  With three endpoints in a zone (outside the property's
    quantifier; the code warns about it, zone.cpp:147-152) two members that do not see each other both act as zone
    master and endpoint 3 of the child zone processes the same event twice - so "at most two endpoints per zone" is a
    necessary hypothesis of `finite_and_no_duplicate`. -/
theorem no_duplicate_three_endpoints_counterexample :
    (run threeTopo 1 (start threeTopo 1 1) [0, 0, 0, 0]).processed = [1, 3, 2, 0, 3] ∧
    specNet threeTopo [0, 1, 2, 3] 1 1 (run threeTopo 1 (start threeTopo 1 1) [0, 0, 0, 0]) = some .processed_twice := by
  decide +kernel

/-! ## Part 3 — the real cluster event handlers and the replay path

    `handlers` lists the events of lib/icinga/clusterevents.cpp that a node re-relays after processing them;
    `reRelay` is the relay step such a handler triggers; `replaySends` transcribes the visibility test of
    `ApiListener::ReplayLog`. -/

section Handlers
variable {T : Topo}

/-- **handlers_pass_origin.**  Every re-relaying handler hands the origin it received on to `RelayMessage` (the table
    is compared on every run with what a translator extracts from clusterevents.cpp, and every row is driven through
    the real handler by the E lines of the correspondence). -/
theorem handlers_pass_origin : ∀ h ∈ handlers, h.passesOrigin = true := by decide +kernel

/-- **handled_no_echo.**  A node that processes an event received from endpoint `msg.frm` through any of the real
    handlers never hands it back to that endpoint, never into the sender's zone when that is a foreign zone, and never
    into the zone the `originZone` field names when the sender is a zone peer - for every topology, connectivity, object
    zone and iteration order. -/
theorem handled_no_echo (h : Handler) (hh : h ∈ handlers) (msg : Msg) (objZone : Option Zone)
    (hz : ∀ z e, e ∈ T.eps msg.to z → T.zoneOf e = z) {e : Ep} (he : e ∈ (reRelay T h msg objZone).sent) :
    e ≠ msg.frm ∧ (T.zoneOf msg.frm ≠ T.zoneOf msg.to → T.zoneOf e ≠ T.zoneOf msg.frm) ∧
      (T.zoneOf msg.frm = T.zoneOf msg.to → msg.originZone ≠ some (T.zoneOf e)) := by
  by_cases hr : h.relays = true
  · rw [reRelay_eq (handlers_pass_origin h hh) hr] at he
    exact received_no_echo hz he
  · rw [reRelay, if_neg hr] at he
    cases he

/-- **handled_meets_spec_partial.**  FULL STATEMENT: the conclusion for every `h ∈ handlers`.  One row of the real code
    violates it (`event::SetNextNotification` is processed and never passed on - counterexample below, F-C11c), so:
    whole-step theorem for the real handlers that reach their relaying signal handler: for every well-formed configuration, every
    message on the wire (sender, `originZone` field), every such handler of the table and every object zone, what the node
    queues when it re-relays the processed event satisfies the executable specification evaluated with the origin
    the wire message defines (`originOf`: the sender's endpoint, the sender's zone if foreign, else the `originZone` field) -
    the same predicate the check evaluates on what the real handler queued. -/
theorem handled_meets_spec_partial (h : Handler) (hh : h ∈ handlers) (hr : h.relays = true) (msg : Msg) (objZone : Option Zone)
    (wf : WF T msg.to) :
    specCase maxDepth T ⟨msg.to, originOf T msg, h.objZone objZone, true⟩ ((reRelay T h msg objZone).obs T msg.to) = none := by
  rw [reRelay_eq (handlers_pass_origin h hh) hr]
  exact relay_meets_spec ⟨msg.to, originOf T msg, h.objZone objZone, true⟩ wf

/-- the hypothesis `relays` of `handled_meets_spec_partial` excludes exactly one row -/
theorem handlers_relay_except_next_notification : ∀ h ∈ handlers, h.relays = true ∨ h.method = "SetNextNotification" := by decide +kernel

/-- **handled_next_notification_counterexample** (F-C11c).  `event::SetNextNotification` is applied and not passed on:
    endpoint 2 (master of zone 1) gets it from endpoint 4 (child zone 2) about an object of zone 2 and neither its peer
    nor the parent zone ever hears of it, although both are reachable - the completeness sentence fails. -/
theorem handled_next_notification_counterexample :
    findHandler "SetNextNotification" = some ⟨"SetNextNotification", true, .object, false⟩ ∧
    specCase maxDepth exT ⟨2, originOf exT ⟨2, 4, none⟩, some 2, true⟩
      ((reRelay exT ⟨"SetNextNotification", true, .object, false⟩ ⟨2, 4, none⟩ (some 2)).obs exT 2) = some .forwarded_when_reachable := by
  decide +kernel

/-- **handler_dropping_origin_counterexample.**  The column `passesOrigin` matters: a handler that re-relays without the
    received origin (as if the event were local) sends the event straight back to the sender, and the specification
    rejects that as `no_echo` - endpoint 2 (zone 1) got the event from endpoint 0 (parent zone 0). -/
theorem handler_dropping_origin_counterexample :
    (0 : Ep) ∈ (reRelay exT ⟨"SetRemovalInfo", false, .object, true⟩ ⟨2, 0, none⟩ (some 2)).sent ∧
    specCase maxDepth exT ⟨2, originOf exT ⟨2, 0, none⟩, some 2, true⟩
      ((reRelay exT ⟨"SetRemovalInfo", false, .object, true⟩ ⟨2, 0, none⟩ (some 2)).obs exT 2) = some .no_echo := by decide +kernel

/-- the theorems' hypotheses are met and their conclusions say something: endpoint 2 gets `event::SetNextCheck` about an
    object of zone 2 from endpoint 0 and passes it to its peer and down, not back up -/
example : findHandler "SetNextCheck" = some ⟨"SetNextCheck", true, .object, true⟩ ∧
    (reRelay exT ⟨"SetNextCheck", true, .object, true⟩ ⟨2, 0, none⟩ (some 2)).sent = [4, 3] ∧
    (reRelay exT ⟨"SetNextCheck", true, .object, true⟩ ⟨2, 0, none⟩ (some 2)).originZone = some 0 := by decide +kernel
/-- an event relayed without security object concerns the node's zone and the zones above it: the master 2, who got it from
    its peer 3, passes it up to the parent zone; the peer 3, who got it from the master, passes it to nobody -/
example : (reRelay exT ⟨"SendNotifications", true, .none, true⟩ ⟨2, 3, none⟩ (some 2)).sent = [0] ∧
    (reRelay exT ⟨"SendNotifications", true, .none, true⟩ ⟨3, 2, none⟩ (some 2)).sent = [] := by decide +kernel

end Handlers

section Replay
variable {T : Topo} {self target : Ep}

/-- **replay_only_entitled_partial.**  FULL STATEMENT (what the property demands of the replay path): for every record,
    `replaySends T self ro target = true → Entitled T self (zone the object had) (T.zoneOf target)`.  The code violates it
    for objects of global zones and for records without security object (counterexamples below; F-C11a, F-C11b), so it is
    proved with the hypothesis that the record names an object of an ordinary zone (or without zone attribute): such an
    event is replayed to the connecting endpoint only if that endpoint's zone is the object's zone or one of its
    ancestors - whatever zone forest, and whether or not the node is directly related to it. -/
theorem replay_only_entitled_partial {oz : Option Zone} (hg : T.isGlobal (targetZone T self oz) = false)
    (h : replaySends T self (.present oz) target = true) : Entitled T self oz (T.zoneOf target) :=
  entitled_of_entitledB (by rwa [replaySends_present, hg] at h)

/-- **replay_deleted_not_sent.**  An event whose object has been deleted meanwhile is replayed to nobody (so, in
    particular, to no endpoint that is not entitled). -/
theorem replay_deleted_not_sent : replaySends T self .deleted target = false := rfl

/-- **replay_meets_spec_partial.**  The executable specification of the replay path holds on the model for every
    topology, node, connecting endpoint and record that names an object (present or deleted) of an ordinary zone. -/
theorem replay_meets_spec_partial {oz : Option Zone} (hg : T.isGlobal (targetZone T self oz) = false) (ro : RecObj)
    (hro : ro = .present oz ∨ ro = .deleted) :
    specReplay maxDepth T self true oz target (replaySends T self ro target) = none := by
  rcases hro with rfl | rfl
  · unfold specReplay
    rw [replaySends_present, hg]
    cases entitledB maxDepth T self oz (T.zoneOf target) <;> rfl
  · simp [specReplay, replaySends]

/-- **replay_global_counterexample** (F-C11a).  An event about an object of a GLOBAL zone, which the live relay hands to
    the node's own zone and its direct children only, is replayed to an endpoint of the PARENT zone: endpoint 2 (zone 1)
    replays it to endpoint 0 (zone 0). -/
theorem replay_global_counterexample :
    (0 : Ep) ∉ (relay exT 2 Origin.loc (some 3) true).sent ∧ replaySends exT 2 (.present (some 3)) 0 = true ∧
    specReplay maxDepth exT 2 true (some 3) 0 (replaySends exT 2 (.present (some 3)) 0) = some .replay_global_own_zone_and_children := by
  decide +kernel

/-- **replay_no_object_counterexample** (F-C11b).  An event relayed without security object (own zone and the zones
    above) is replayed to an endpoint of a CHILD zone: endpoint 2 (zone 1) replays it to endpoint 4 (zone 2). -/
theorem replay_no_object_counterexample :
    (4 : Ep) ∉ (relay exT 2 Origin.loc none true).sent ∧ replaySends exT 2 .absent 4 = true ∧
    specReplay maxDepth exT 2 false none 4 (replaySends exT 2 .absent 4) = some .replay_no_object_own_zone_and_above := by
  decide +kernel

/-- hypotheses satisfiable, conclusion not trivial: on endpoint 2 an event about an object of its own zone 1 is replayed
    upwards and to the peer, not to the child zone; the specification rejects a replay to a sibling / child zone -/
example : exT.isGlobal (targetZone exT 2 (some 1)) = false ∧ replaySends exT 2 (.present (some 1)) 0 = true ∧
    replaySends exT 2 (.present (some 1)) 3 = true ∧ replaySends exT 2 (.present (some 1)) 4 = false := by decide +kernel
example : specReplay maxDepth exT 2 true (some 1) 4 true = some .replay_only_entitled ∧
    specReplay maxDepth exT 2 true (some 1) 0 true = none := by decide +kernel

end Replay

/-! ## Log positions: live routing, then a replay after a reconnect

    `logRun` composes the three pieces of code that decide whether an event is handed to an endpoint a SECOND time (or not at
    all): the relay step (who is sent to, who is skipped and has its log position advanced, is the event logged),
    `SetLogPositionHandler` (positions the endpoint reports, before and after), and the timestamp / visibility tests of
    `ReplayLog`. -/

section LogPositions
variable {T : Topo}

/-- **skipped_or_sent.**  For every topology, origin, object zone and iteration order: a connected endpoint of an entitled,
    directly related zone is either handed the event or has its log position advanced to the event's timestamp - the relay
    step leaves no reachable endpoint it is responsible for in a state from which the event would be replayed to it. -/
theorem skipped_or_sent (hd : Detached T) (c : Case) {fuel : Nat} {target : Ep} (hcon : concernedB fuel T c target = true)
    (hc : T.conn c.self target = true) :
    target ∈ (relayFuel fuel T c.self c.origin c.objZone c.log).sent ∨
    target ∈ (relayFuel fuel T c.self c.origin c.objZone c.log).skipped := by
  obtain ⟨hne, hmem, hcand, hrel, hent⟩ := concernedB_iff.mp hcon
  have hv := candidate_loops hd hcand hrel hent
  rcases (relayZone_served_iff (o := c.origin) (m := getMaster T c.self)).mpr ⟨hmem, hne, hc⟩ with h | h
  · exact Or.inl (mem_sent_iff.mpr ⟨_, hv, h⟩)
  · exact Or.inr (mem_skipped_iff.mpr ⟨_, hv, h⟩)

/-- **served_not_replayed.**  "No endpoint processes the same event twice" across a reconnect, for every topology, origin,
    object zone, iteration order, record and ALL sequences of positions the endpoint reports before and after the event: an
    endpoint that was reachable (and not `syncing`) when the event was routed and was deliberately sent nothing (it is served
    by the zone master / through the endpoint its zone was entered by / it is where the event came from) is never handed the
    event by a later replay. -/
theorem served_not_replayed (hd : Detached T) (c : Case) {target : Ep} (pre post : List Int) (ts : Int) (ro : RecObj)
    (hcon : concernedB maxDepth T c target = true) (hc : T.conn c.self target = true) (hsync : T.syncing c.self target = false)
    (hns : target ∉ queued T c.self (logRun T c.self c.origin c.objZone c.log target pre post ts ro).result) :
    (logRun T c.self c.origin c.objZone c.log target pre post ts ro).copies = 0 := by
  have hsk : target ∈ (relay T c.self c.origin c.objZone c.log).skipped := by
    rcases skipped_or_sent hd c hcon hc with h | h
    · exfalso; apply hns
      exact mem_queued.mpr ⟨h, hsync⟩
    · exact h
  exact replayCopies_eq_zero (Int.not_lt.mp fun h => ((logRun_lpos_lt_iff ro).mp h).1 hsk)

/-- **missed_is_replayed.**  "Records the event in its replay log instead of dropping it", followed through to the delivery: when
    the whole zone of `target` (its zone peer, for the node's own zone) was unreachable while the event was routed with the
    caller's `log` flag set and `target` has not confirmed a position at or beyond the event, the replay for `target` hands the
    event over - exactly once. -/
theorem missed_is_replayed (hd : Detached T) (c : Case) {target : Ep} (pre post : List Int) (ts : Int) (ro : RecObj)
    (hts : 0 < ts) (hro : ro = .present c.objZone ∨ ro = .absent)
    (hcon : concernedB maxDepth T c target = true) (hlog : c.log = true)
    (hun : unreachableB T c.self (T.zoneOf target) = true) (hrep : ∀ p ∈ pre ++ post, p < ts) :
    (logRun T c.self c.origin c.objZone c.log target pre post ts ro).copies = 1 := by
  obtain ⟨hne, hmem, hcand, hrel, hent⟩ := concernedB_iff.mp hcon
  have hp : (relay T c.self c.origin c.objZone c.log).persist = true :=
    (persist_of_unreachable (candidate_loops hd hcand hrel hent) hun).trans hlog
  -- `target` was not connected, so its position was not advanced
  have hnc : T.conn c.self target = false := (unreachableB_iff.mp hun).2 target hmem hne
  have hnsk : target ∉ (relay T c.self c.origin c.objZone c.log).skipped := fun h => by
    have := (skipped_conn h).2
    rw [hnc] at this; cases this
  have hvis : replaySends T c.self ro target = true := by
    rcases hro with rfl | rfl
    · rw [replaySends_present, hent, Bool.or_true]
    · rfl
  exact replayCopies_eq_one_iff.mpr ⟨hp, (logRun_lpos_lt_iff ro).mpr ⟨hnsk, hts, hrep⟩, hvis⟩

/-- **log_run_meets_spec.**  The whole scenario - positions reported, event relayed, positions reported, reconnect, replay -
    satisfies the executable specification `specLog` (the predicate the check evaluates on the implementation's own
    observations), for every topology with detached global zones, node, origin, object zone, iteration order, target endpoint,
    all reported positions and every record that names the object (or none). -/
theorem log_run_meets_spec (hd : Detached T) (c : Case) (target : Ep) (pre post : List Int) (ts : Int) (ro : RecObj)
    (hts : 0 < ts) (hro : ro = .present c.objZone ∨ ro = .absent) :
    specLog maxDepth T c target (pre ++ post) ts ((logRun T c.self c.origin c.objZone c.log target pre post ts ro).obs T c.self) = none := by
  have h1 : ((logRun T c.self c.origin c.objZone c.log target pre post ts ro).copies > 1) = False :=
    eq_false (Nat.not_lt.mpr replayCopies_le_one)
  -- served and not sent: no copy
  have h2 : (concernedB maxDepth T c target && T.conn c.self target && !T.syncing c.self target &&
      !(queued T c.self (logRun T c.self c.origin c.objZone c.log target pre post ts ro).result).contains target &&
      (logRun T c.self c.origin c.objZone c.log target pre post ts ro).copies != 0) = false := by
    rw [Bool.eq_false_iff]
    intro h
    simp only [Bool.and_eq_true, Bool.not_eq_true', bne_iff_ne] at h
    obtain ⟨⟨⟨⟨hcon, hc⟩, hs⟩, hnq⟩, hcop⟩ := h
    refine hcop (served_not_replayed hd c pre post ts ro hcon hc hs fun hmem => ?_)
    rw [List.contains_iff_mem.mpr hmem] at hnq
    cases hnq
  -- missed and not confirmed: one copy
  have h3 : (concernedB maxDepth T c target && c.log && unreachableB T c.self (T.zoneOf target) && c.origin.client != some target &&
      c.origin.fromZone != some (T.zoneOf target) && (pre ++ post).all (fun p => decide (p < ts)) &&
      (logRun T c.self c.origin c.objZone c.log target pre post ts ro).copies == 0) = false := by
    rw [Bool.eq_false_iff]
    intro h
    simp only [Bool.and_eq_true, beq_iff_eq, List.all_eq_true, decide_eq_true_eq] at h
    obtain ⟨⟨⟨⟨⟨⟨hcon, hlog⟩, hun⟩, _⟩, _⟩, hrep⟩, hcop⟩ := h
    rw [missed_is_replayed hd c pre post ts ro hts hro hcon hlog hun hrep] at hcop
    cases hcop
  unfold specLog LogRun.obs
  simp only [h1, if_false]
  rw [h2, h3]
  rfl

/-- the non-vacuity cluster with the parent zone's endpoints unreachable from endpoint 3 -/
def exTcut : Topo := { exT with conn := fun a b => a != b && !(a == 3 && b < 2) }

/-- The reference scenario of the seeded change C11-10: endpoint 3 (zone 1, NOT the master: 2 is) relays an event about an
    object of zone 2; the child-zone endpoint 4 is connected and deliberately skipped, the parent zone 0 is unreachable, so
    the event is logged.  Endpoint 4 then reports an old position and reconnects: nothing is replayed to it; endpoint 0, which
    was unreachable, gets the event. -/
example : (logRun exTcut 3 Origin.loc (some 2) true 4 [940] [940] 1000 (.present (some 2))).result.sent = [2] ∧
    (logRun exTcut 3 Origin.loc (some 2) true 4 [940] [940] 1000 (.present (some 2))).result.skipped = [4, 5] ∧
    (logRun exTcut 3 Origin.loc (some 2) true 4 [940] [940] 1000 (.present (some 2))).result.persist = true ∧
    (logRun exTcut 3 Origin.loc (some 2) true 4 [940] [940] 1000 (.present (some 2))).lpos = 1000 ∧
    (logRun exTcut 3 Origin.loc (some 2) true 4 [940] [940] 1000 (.present (some 2))).copies = 0 ∧
    (logRun exTcut 3 Origin.loc (some 2) true 0 [940] [] 1000 (.present (some 2))).copies = 1 := by decide +kernel
/-- the hypotheses of the three theorems are satisfiable -/
example : concernedB maxDepth exTcut ⟨3, Origin.loc, some 2, true⟩ 4 = true ∧ exTcut.conn 3 4 = true ∧
    (4 : Ep) ∉ queued exTcut 3 (logRun exTcut 3 Origin.loc (some 2) true 4 [940] [940] 1000 (.present (some 2))).result ∧
    concernedB maxDepth exTcut ⟨3, Origin.loc, some 2, true⟩ 0 = true ∧ unreachableB exTcut 3 0 = true := by decide +kernel
/-- the specification accepts the model's run and rejects wrong traces: a copy for the endpoint that was served on another path
    (what the seeded change makes the code do), no copy for the one that was missed, two copies -/
example : specLog maxDepth exTcut ⟨3, Origin.loc, some 2, true⟩ 4 [940, 940] 1000
    ((logRun exTcut 3 Origin.loc (some 2) true 4 [940] [940] 1000 (.present (some 2))).obs exTcut 3) = none :=
  log_run_meets_spec (T := exTcut) ⟨exT_detached.global_no_parent, exT_detached.parent_not_global⟩ ⟨3, Origin.loc, some 2, true⟩ 4 [940] [940] 1000 _ (by decide) (Or.inl rfl)
example : specLog maxDepth exTcut ⟨3, Origin.loc, some 2, true⟩ 4 [940, 940] 1000 { sent := [2], persist := true, copies := 1 } = some .replay_not_to_served ∧
    specLog maxDepth exTcut ⟨3, Origin.loc, some 2, true⟩ 0 [940] 1000 { sent := [2], persist := true, copies := 0 } = some .replay_reaches_missed ∧
    specLog maxDepth exTcut ⟨3, Origin.loc, some 2, true⟩ 0 [940] 1000 { sent := [2], persist := true, copies := 2 } = some .replay_one_copy ∧
    specLog maxDepth exTcut ⟨3, Origin.loc, some 2, true⟩ 0 [1000] 1000 { sent := [2], persist := true, copies := 0 } = none := by decide +kernel

/-- **report_without_guard_counterexample.**  The monotonicity test of `SetLogPositionHandler` is necessary: with a handler that
    stores whatever the endpoint reports, the scenario above ends with the event replayed to endpoint 4, which the specification
    rejects. -/
theorem report_without_guard_counterexample :
    let r := relay exTcut 3 Origin.loc (some 2) true
    let lposUnguarded : Int := [940].foldl (fun _ p => p) (skipPos r 1000 4 0)
    replayCopies exTcut 3 r.persist 1000 lposUnguarded (.present (some 2)) 4 = 1 ∧
    specLog maxDepth exTcut ⟨3, Origin.loc, some 2, true⟩ 4 [940] 1000
      { sent := queued exTcut 3 r, persist := r.persist, copies := replayCopies exTcut 3 r.persist 1000 lposUnguarded (.present (some 2)) 4 }
      = some .replay_not_to_served := by decide +kernel

/-- **confirmed_not_replayed.**  Whatever else happens: an endpoint that has reported a position at or beyond the event's
    timestamp after the event was routed is not handed the event by the replay. -/
theorem confirmed_not_replayed (self : Ep) (o : Origin) (oz : Option Zone) (log : Bool) (target : Ep) (pre post : List Int) (ts : Int)
    (ro : RecObj) {p : Int} (hp : p ∈ post) (hge : ts ≤ p) :
    (logRun T self o oz log target pre post ts ro).copies = 0 := by
  exact replayCopies_eq_zero (Int.not_lt.mp fun h =>
    Int.lt_irrefl _ (Int.lt_of_le_of_lt hge (((logRun_lpos_lt_iff ro).mp h).2.2 p (List.mem_append_right _ hp))))

/-- **pair_connected_no_replay_partial.**  FULL STATEMENT (what the property demands of the two members `a`, `b` of a zone
    together): `specPair maxDepth T a b oz target ((pairRun T a b oz target ts).obs T a b) = none` - an endpoint of an entitled
    parent / child zone is handed the event at most once by the two of them, live or replayed.  The code violates it when
    `target` was NOT reachable from one of the two while the event was routed: that node logs the event although its peer
    serves (or will serve) the zone, and replays it when `target` connects (`pair_double_replay_counterexample`, F-C11d).
    Proved with the hypothesis that `target` was reachable from both: then neither of the two replays anything to it, for every
    topology, iteration order and object zone - what `target` gets is what the live routing handed it. -/
theorem pair_connected_no_replay_partial (hd : Detached T) (a b : Ep) (oz : Zone) (target : Ep) (ts : Int)
    (hca : concernedB maxDepth T ⟨a, Origin.loc, some oz, true⟩ target = true)
    (hcb : concernedB maxDepth T ⟨b, Origin.loc, some oz, true⟩ target = true)
    (ha : T.conn a target = true) (hb : T.conn b target = true)
    (hsa : T.syncing a target = false) (hsb : T.syncing b target = false) :
    (pairRun T a b oz target ts).a.copies = 0 ∧ ∀ l, (pairRun T a b oz target ts).b = some l → l.copies = 0 := by
  have key : ∀ (s : Ep) (o : Origin), concernedB maxDepth T ⟨s, o, some oz, true⟩ target = true → T.conn s target = true →
      T.syncing s target = false →
      (logRun T s o (some oz) true target [] (confirm T s (relay T s o (some oz) true) target ts) ts (.present (some oz))).copies = 0 := by
    intro s o hc hcn hsy
    by_cases hq : target ∈ queued T s (relay T s o (some oz) true)
    · apply confirmed_not_replayed (p := ts) _ _ _ _ _ _ _ _ _ _ (Int.le_refl _)
      unfold confirm; simp [hq]
    · have hconf : confirm T s (relay T s o (some oz) true) target ts = [] := by unfold confirm; simp [hq]
      rw [hconf]
      exact served_not_replayed hd ⟨s, o, some oz, true⟩ [] [] ts _ hc hcn hsy hq
  have hcb' : ∀ o, concernedB maxDepth T ⟨b, o, some oz, true⟩ target = true := fun o => by
    unfold concernedB at hcb ⊢; exact hcb
  constructor
  · unfold pairRun
    simp only
    split <;> exact key a Origin.loc hca ha hsa
  · intro l hl
    unfold pairRun at hl
    simp only at hl
    split at hl
    · cases hl
      exact key b _ (hcb' _) hb hsb
    · cases hl

/-- the non-vacuity cluster with the endpoints 4, 5 of the child zone connected to nobody -/
def exTpair : Topo := { exT with conn := fun a b => a != b && a != 4 && b != 4 && a != 5 && b != 5 }

/-- F-C11d.  The two members 2, 3 of zone 1 see each other; the child-zone endpoint 4 is connected to neither while endpoint 2
    (the zone master) relays an event about an object of zone 2.  Endpoint 2 logs it (zone 2 is unreachable) and hands it to its
    peer 3, which - although not the zone master - logs it too.  When endpoint 4 connects to both, both replay: it is handed the
    event twice. -/
theorem pair_double_replay_counterexample :
    (pairRun exTpair 2 3 2 4 1000).a.copies = 1 ∧ ((pairRun exTpair 2 3 2 4 1000).b.map (·.copies)) = some 1 ∧
    getMaster exTpair 3 = some 2 ∧
    specPair maxDepth exTpair 2 3 2 4 ((pairRun exTpair 2 3 2 4 1000).obs exTpair 2 3) = some .pair_one_copy := by decide +kernel

/-- hypotheses of `pair_connected_no_replay_partial` satisfiable and the conclusion not trivial: with everybody connected endpoint 4
    gets the event live from the master 2 (and confirms it), nothing is replayed, and the specification accepts the run; it rejects
    a run in which both members send -/
example : concernedB maxDepth exT ⟨2, Origin.loc, some 2, true⟩ 4 = true ∧ concernedB maxDepth exT ⟨3, Origin.loc, some 2, true⟩ 4 = true ∧
    exT.conn 2 4 = true ∧ exT.conn 3 4 = true ∧
    ((pairRun exT 2 3 2 4 1000).obs exT 2 3).copies 4 = 1 ∧
    specPair maxDepth exT 2 3 2 4 ((pairRun exT 2 3 2 4 1000).obs exT 2 3) = none ∧
    specPair maxDepth exT 2 3 2 4 { sentA := [4, 3, 0], replayA := 0, sentB := [4], replayB := 0 } = some .pair_one_copy := by decide +kernel

/-- **pair_live_one_sender.**  "Only the current zone master forwards across zone borders", for the two members of a zone
    together: two nodes of one zone that have the same view of it (in particular two peers that see each other) never BOTH hand an
    event to an endpoint of a foreign zone - whatever origins, object zones and iteration orders. -/
theorem pair_live_one_sender {a b target : Ep} {oa ob : Origin} {za zb : Option Zone} {la lb : Bool} {fa fb : Nat}
    (hza : ∀ z e, e ∈ T.eps a z → T.zoneOf e = z) (hzb : ∀ z e, e ∈ T.eps b z → T.zoneOf e = z)
    (hab : a ≠ b) (hfa : T.zoneOf target ≠ T.zoneOf a) (hfb : T.zoneOf target ≠ T.zoneOf b)
    (hmem : ∀ x, x ∈ T.eps a (T.zoneOf a) ↔ x ∈ T.eps b (T.zoneOf b))
    (hview : ∀ x ∈ T.eps a (T.zoneOf a), (T.conn a x || x == a) = (T.conn b x || x == b))
    (ha : target ∈ (relayFuel fa T a oa za la).sent) (hb : target ∈ (relayFuel fb T b ob zb lb).sent) : False := by
  have := same_master hmem hview
  rw [crosser_is_master hza ha hfa, crosser_is_master hzb hb hfb] at this
  exact hab (Option.some.inj this)

/-- hypotheses satisfiable: on the non-vacuity cluster the members 2, 3 of zone 1 see each other; the master 2 hands the event to
    endpoint 4 of the child zone, its peer 3 (which got the event from 2) does not -/
example : (4 : Ep) ∈ (relay exT 2 Origin.loc (some 2) true).sent ∧ (4 : Ep) ∉ (relay exT 3 (originOf exT ⟨3, 2, none⟩) (some 2) true).sent ∧
    (∀ x ∈ exT.eps 2 (exT.zoneOf 2), (exT.conn 2 x || x == 2) = (exT.conn 3 x || x == 3)) := by decide +kernel

end LogPositions

section SyncSend

/-- **sync_send_one_copy.**  For every set of connections of an endpoint that is not `syncing` whose creation timestamps are
    positive and pairwise different (two connections to one endpoint made at the very same instant of `Utility::GetTime()` are
    the only exception, see the counterexample): the message is queued on exactly ONE connection, and that is the newest - the
    clause `one_copy_per_endpoint` of the specification (`extraCopies = 0`). -/
theorem sync_send_one_copy (stamps : List Nat) (hne : stamps ≠ []) (hpos : ∀ x ∈ stamps, 0 < x) (hnd : stamps.Nodup) :
    syncSend false stamps = [maxStamp stamps] ∧ maxStamp stamps ∈ stamps ∧ ∀ x ∈ stamps, x ≤ maxStamp stamps :=
  syncSend_newest stamps hne hnd

/-- **sync_send_syncing_nothing.**  Nothing is queued for an endpoint the node is replaying its log to. -/
theorem sync_send_syncing_nothing (stamps : List Nat) : syncSend true stamps = [] := rfl

/-- **sync_send_equal_stamps_counterexample.**  The hypothesis "pairwise different timestamps" is necessary: the test
    `client->GetTimestamp() != maxTs` lets the message through on every connection that ties for the maximum. -/
theorem sync_send_equal_stamps_counterexample : (syncSend false [7, 7]).length = 2 := by decide +kernel

/-- an older and a newer connection, in either order of `GetClients()`: the newer one only -/
example : syncSend false [5, 9] = [9] ∧ syncSend false [9, 5] = [9] ∧ syncSend false [9, 5, 7] = [9] ∧ syncSend true [5, 9] = [] := by decide +kernel
example : syncSend false [5, 9] = [maxStamp [5, 9]] := (sync_send_one_copy [5, 9] (by decide) (by decide) (by decide)).1

end SyncSend

end Icinga.C11
