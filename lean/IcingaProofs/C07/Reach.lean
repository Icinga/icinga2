/-
  C07 — on ranked (acyclic, bounded-depth) graphs the fuel of `reachable` is irrelevant, `reachable` solves the
  property's equation and the solution is unique; below a chain of plain dependencies as long as the fuel the answer
  is "unreachable" (`PlainChain`, the recursion limit).
-/
import IcingaProofs.C07.Lemmas

namespace Icinga.C07

/-- For a finite graph a ranking exists iff there is no dependency cycle; the rank of a checkable bounds the
    length of every dependency chain above it. -/
def Ranked (g : Graph) (rank : Nat → Nat) : Prop := ∀ d ∈ g.deps, rank d.parent < rank d.child

theorem Ranked.noSelf {g : Graph} {rank : Nat → Nat} (h : Ranked g rank) : NoSelfDep g := by
  intro d hd he
  have := h d hd
  rw [he] at this
  exact Nat.lt_irrefl _ this

theorem reachStep_congr (g : Graph) (dt : Aspect) (R R' : Nat → Bool) (v : Nat)
    (h : ∀ d ∈ g.deps, d.child = v → R d.parent = R' d.parent) :
    reachStep g dt R v = reachStep g dt R' v := by
  have : ∀ k, groupState R (available g dt) k.isRedundancy (groupDeps g v k) =
      groupState R' (available g dt) k.isRedundancy (groupDeps g v k) :=
    fun k => groupState_congr_reach _ _ (fun d hd => h d (mem_groupDeps.1 hd).1 (mem_groupDeps.1 hd).2.1)
  unfold reachStep
  simp only [this]

theorem reachStep_congr_ranked {g : Graph} {rank : Nat → Nat} (hr : Ranked g rank) (dt : Aspect) {R R' : Nat → Bool}
    {v : Nat} (h : ∀ u, rank u < rank v → R u = R' u) : reachStep g dt R v = reachStep g dt R' v :=
  reachStep_congr g dt R R' v (fun d hd hc => h d.parent (hc ▸ hr d hd))

theorem reachable_succ (g : Graph) (dt : Aspect) (f v : Nat) :
    reachable g dt (f + 1) v = reachStep g dt (reachable g dt f) v := rfl

theorem reachable_fuel_indep {g : Graph} {rank : Nat → Nat} (hr : Ranked g rank) (dt : Aspect) :
    ∀ f1 f2 v, rank v < f1 → rank v < f2 → reachable g dt f1 v = reachable g dt f2 v := by
  intro f1
  induction f1 with
  | zero => intro f2 v h; exact absurd h (Nat.not_lt_zero _)
  | succ f1 ih =>
    intro f2 v h1 h2
    cases f2 with
    | zero => exact absurd h2 (Nat.not_lt_zero _)
    | succ f2 =>
      rw [reachable_succ, reachable_succ]
      exact reachStep_congr_ranked hr dt (fun u hu => ih f2 u (by omega) (by omega))

/-- `256` is `l_MaxDependencyRecursionLevel`, `topFuel` one more: fuel 257 and fuel 258 both exceed every rank. -/
theorem isReachable_unfold {g : Graph} {rank : Nat → Nat} (hr : Ranked g rank) (dt : Aspect)
    {v : Nat} (hv : rank v ≤ 256) :
    isReachable g dt v = reachStep g dt (isReachable g dt) v :=
  -- one more unit of fuel changes nothing, and with it the outermost level is `reachStep` of `isReachable` itself
  reachable_fuel_indep hr dt (256 + 1) (256 + 1 + 1) v (Nat.lt_succ_of_le hv) (Nat.lt_succ_of_le (Nat.le_succ_of_le hv))

theorem isReachable_eq_clause {g : Graph} {rank : Nat → Nat} (hr : Ranked g rank) (dt : Aspect)
    {v : Nat} (hv : rank v ≤ 256) :
    isReachable g dt v = reachClause g dt (isReachable g dt) v := by
  rw [← reachStep_eq_clause g hr.noSelf]
  exact isReachable_unfold hr dt hv

theorem query_meets_spec (n : Nat) {g : Graph} {rank : Nat → Nat} (hr : Ranked g rank) (hdepth : ∀ v, rank v ≤ 256) :
    specQuery n g (isReachable g) (fun v => (depsOf g v).length) = none := by
  have h : ∀ dt, reachEqHolds n g dt (isReachable g dt) = true := by
    intro dt
    simp only [reachEqHolds, List.all_eq_true, beq_iff_eq]
    exact fun v _ => isReachable_eq_clause hr dt (hdepth v)
  simp [specQuery, h, depsOf]

theorem solution_unique_on {g : Graph} {rank : Nat → Nat} (hr : Ranked g rank) (dt : Aspect)
    (P : Nat → Prop) (hP : ∀ d ∈ g.deps, P d.child → P d.parent) (hd : ∀ v, P v → rank v ≤ 256)
    (R : Nat → Bool) (hR : ∀ v, P v → R v = reachClause g dt R v) :
    ∀ v, P v → R v = isReachable g dt v := by
  suffices ∀ n v, rank v < n → P v → R v = isReachable g dt v from
    fun v => this _ v (Nat.lt_succ_self _)
  intro n
  induction n with
  | zero => intro v h; exact absurd h (Nat.not_lt_zero _)
  | succ n ih =>
    intro v hn hv
    rw [hR v hv, isReachable_unfold hr dt (hd v hv), ← reachStep_eq_clause g hr.noSelf]
    exact reachStep_congr g dt _ _ v (fun d hdm hc =>
      ih d.parent (by have := hr d hdm; rw [hc] at this; omega) (hP d hdm (hc ▸ hv)))

inductive PlainChain (g : Graph) : Nat → Nat → Prop
  | zero (v : Nat) : PlainChain g 0 v
  | step {k : Nat} (d : Dep) : d ∈ g.deps → d.group = none → PlainChain g k d.parent → PlainChain g (k + 1) d.child

theorem reachable_false_of_chain (g : Graph) (dt : Aspect) :
    ∀ f v, PlainChain g f v → reachable g dt f v = false := by
  intro f
  induction f with
  | zero => intro v _; rfl
  | succ f ih =>
    intro v hc
    cases hc with
    | step d hd hg hp =>
      have hpar := ih d.parent hp
      rw [reachable_succ]
      cases hres : reachStep g dt (reachable g dt f) d.child with
      | false => rfl
      | true =>
        unfold reachStep at hres
        rw [Bool.and_eq_true] at hres
        have := (groups_ok_iff g _ _ _).1 hres.2 d hd rfl
        rw [hg, hpar] at this
        exact absurd this.1 Bool.false_ne_true

theorem ranked_cap {g : Graph} {rank : Nat → Nat} (hr : Ranked g rank) {b : Nat}
    (hb : ∀ d ∈ g.deps, rank d.child ≤ b) : Ranked g (fun v => min (rank v) b) := by
  intro d hd
  have h1 := hr d hd
  have h2 := hb d hd
  show min _ b < min _ b
  omega

theorem reachable_stabilises {g : Graph} {rank : Nat → Nat} (hr : Ranked g rank) :
    ∃ N, ∀ dt f v, N ≤ f → reachable g dt f v = reachable g dt N v := by
  obtain ⟨b, hb⟩ : ∃ b, ∀ d ∈ g.deps, rank d.child ≤ b :=
    ⟨_, fun _ hd => List.le_max?_getD_of_mem (k := 0) (List.mem_map_of_mem (f := fun d => rank d.child) hd)⟩
  refine ⟨b + 1, fun dt f v hf => ?_⟩
  -- capped at the largest rank of a child, the ranking is bounded also at the checkables that are nobody's child
  apply reachable_fuel_indep (ranked_cap hr hb) dt
  · show min (rank v) b < f; omega
  · show min (rank v) b < b + 1; omega

end Icinga.C07
