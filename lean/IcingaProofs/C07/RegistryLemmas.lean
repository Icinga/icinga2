/-
  C07 — the dependency-group registry (`register` and `unregister`, both instances of `upd`, read through `membersOf`) and
  the checkables' map (`cmapLookup`, `cmapErase`), each on its own.
-/
import IcingaModel.C07.Registry
namespace Icinga.C07

theorem keyEq_iff {a b : List CKey} : keyEq a b = true ↔ ∀ k, k ∈ a ↔ k ∈ b := by
  simp only [keyEq, Bool.and_eq_true, List.all_eq_true, List.contains_iff_mem]
  constructor
  · rintro ⟨h1, h2⟩ k; exact ⟨h1 k, h2 k⟩
  · intro h; exact ⟨fun k hk => (h k).1 hk, fun k hk => (h k).2 hk⟩

theorem identEq_iff {a b : Ident} : identEq a b = true ↔ a.1 = b.1 ∧ ∀ k, k ∈ a.2 ↔ k ∈ b.2 := by
  simp [identEq, keyEq_iff]

theorem identEq_refl (a : Ident) : identEq a a = true := identEq_iff.2 ⟨rfl, fun _ => Iff.rfl⟩
theorem identEq_symm {a b : Ident} (h : identEq a b = true) : identEq b a = true := by
  rw [identEq_iff] at h ⊢; exact ⟨h.1.symm, fun k => (h.2 k).symm⟩
theorem identEq_trans {a b c : Ident} (h1 : identEq a b = true) (h2 : identEq b c = true) : identEq a c = true := by
  rw [identEq_iff] at h1 h2 ⊢; exact ⟨h1.1.trans h2.1, fun k => (h1.2 k).trans (h2.2 k)⟩

theorem identEq_comm (a b : Ident) : identEq a b = identEq b a :=
  Bool.eq_iff_iff.2 ⟨identEq_symm, identEq_symm⟩

theorem identEq_congr_right {a b : Ident} (c : Ident) (h : identEq a b = true) : identEq c a = identEq c b :=
  Bool.eq_iff_iff.2 ⟨fun hca => identEq_trans hca h, fun hcb => identEq_trans hcb (identEq_symm h)⟩

theorem identEq_congr_left {a b : Ident} (c : Ident) (h : identEq a b = true) : identEq a c = identEq b c := by
  rw [identEq_comm a c, identEq_comm b c, identEq_congr_right c h]

/-- no two registered groups have the same identity (`m_Registry` is a set keyed on it). -/
def PW (reg : List Group) : Prop := reg.Pairwise (fun g h => identEq g.ident h.ident = false)

/-- `register` and `unregister` are one operation on the registry read as a map from identities to non-empty member
    lists: apply `φ` to the members stored under `i` (`[]` when there is no such group) and store no empty list. -/
def upd (i : Ident) (φ : List LDep → List LDep) : List Group → List Group
  | [] => if (φ []).isEmpty then [] else [{ ident := i, members := φ [] }]
  | h :: t =>
    if identEq h.ident i then (if (φ h.members).isEmpty then t else { h with members := φ h.members } :: t)
    else h :: upd i φ t

theorem upd_forall (P : Group → Prop) (i : Ident) (φ : List LDep → List LDep) : ∀ reg, (∀ g ∈ reg, P g) →
    (∀ h ∈ reg, φ h.members ≠ [] → P { h with members := φ h.members }) → (φ [] ≠ [] → P ⟨i, φ []⟩) →
    ∀ g' ∈ upd i φ reg, P g' := by
  intro reg
  induction reg with
  | nil =>
    intro _ _ hm g' hg'
    unfold upd at hg'
    split at hg'
    · cases hg'
    · next hemp => exact List.mem_singleton.1 hg' ▸ hm (fun e => hemp (List.isEmpty_iff.2 e))
  | cons h t ih =>
    intro hall hh hm g' hg'
    unfold upd at hg'
    split at hg'
    · split at hg'
      · exact hall g' (List.mem_cons_of_mem _ hg')
      · next hemp =>
        rcases List.mem_cons.1 hg' with rfl | hin
        · exact hh h List.mem_cons_self (fun e => hemp (List.isEmpty_iff.2 e))
        · exact hall g' (List.mem_cons_of_mem _ hin)
    · rcases List.mem_cons.1 hg' with rfl | hin
      · exact hall _ List.mem_cons_self
      · exact ih (fun g hg => hall g (List.mem_cons_of_mem _ hg)) (fun x hx => hh x (List.mem_cons_of_mem _ hx)) hm g' hin

theorem upd_nonempty {i : Ident} {φ : List LDep → List LDep} {reg : List Group} (h : ∀ g ∈ reg, g.members ≠ []) :
    ∀ g ∈ upd i φ reg, g.members ≠ [] :=
  upd_forall _ i φ reg h (fun _ _ hg => hg) (fun hg => hg)

theorem upd_PW (i : Ident) (φ : List LDep → List LDep) : ∀ reg, PW reg → PW (upd i φ reg) := by
  intro reg
  induction reg with
  | nil => intro _; unfold upd; split <;> simp [PW]
  | cons h t ih =>
    intro hp
    have hp := List.pairwise_cons.1 hp
    unfold upd
    split
    · split
      · exact hp.2
      · exact List.pairwise_cons.2 hp
    · next he =>
      exact List.pairwise_cons.2
        ⟨upd_forall (fun g' => identEq h.ident g'.ident = false) i φ t hp.1 (fun x hx _ => hp.1 x hx)
          (fun _ => Bool.eq_false_iff.2 he), ih hp.2⟩

theorem membersOf_of_mem : ∀ (reg : List Group), PW reg → ∀ g ∈ reg, membersOf reg g.ident = g.members := by
  intro reg
  induction reg with
  | nil => intro _ g hg; cases hg
  | cons h t ih =>
    intro hp g hg
    have hp := List.pairwise_cons.1 hp
    rcases List.mem_cons.1 hg with rfl | hin
    · simp [membersOf, identEq_refl]
    · simp only [membersOf, hp.1 g hin, Bool.false_eq_true, if_false]
      exact ih hp.2 g hin

theorem exists_of_membersOf_ne_nil : ∀ (reg : List Group) (i : Ident), membersOf reg i ≠ [] →
    ∃ g ∈ reg, identEq g.ident i = true := by
  intro reg
  induction reg with
  | nil => intro i h; exact absurd rfl h
  | cons h t ih =>
    intro i hne
    by_cases h1 : identEq h.ident i = true
    · exact ⟨h, List.mem_cons_self, h1⟩
    · simp only [membersOf, h1] at hne
      obtain ⟨g, hg, he⟩ := ih i hne
      exact ⟨g, List.mem_cons_of_mem _ hg, he⟩

theorem membersOf_upd (i : Ident) (φ : List LDep → List LDep) : ∀ (reg : List Group) (j : Ident), PW reg →
    membersOf (upd i φ reg) j = if identEq i j then φ (membersOf reg j) else membersOf reg j := by
  intro reg
  induction reg with
  | nil =>
    intro j _
    unfold upd
    split
    · next hemp => simp [membersOf, List.isEmpty_iff.1 hemp]
    · simp only [membersOf]
  | cons h t ih =>
    intro j hp
    have hp := List.pairwise_cons.1 hp
    unfold upd
    by_cases h1 : identEq h.ident i = true
    · rw [if_pos h1, ← identEq_congr_left j h1]
      by_cases h2 : identEq h.ident j = true
      · rw [if_pos h2, membersOf, if_pos h2]
        split
        · next hemp =>
          -- the erased group was the only one with this identity
          rw [List.isEmpty_iff.1 hemp]
          refine Decidable.byContradiction fun hne => ?_
          obtain ⟨g, hg, he⟩ := exists_of_membersOf_ne_nil t j hne
          exact Bool.false_ne_true ((hp.1 g hg).symm.trans (identEq_trans h2 (identEq_symm he)))
        · rw [membersOf, if_pos h2]
      · rw [if_neg h2, membersOf, if_neg h2]
        split
        · rfl
        · rw [membersOf, if_neg h2]
    · rw [if_neg h1]
      by_cases h2 : identEq h.ident j = true
      · rw [membersOf, if_pos h2, membersOf, if_pos h2, if_neg (fun hx => h1 (identEq_trans h2 (identEq_symm hx)))]
      · rw [membersOf, if_neg h2, membersOf, if_neg h2]
        exact ih j hp.2

/-- `hne`: `register` would insert an empty `G` all the same, where `upd` stores nothing. -/
theorem register_fst {G : Group} (hne : G.members ≠ []) :
    ∀ reg, (register reg G).1 = upd G.ident (· ++ G.members) reg := by
  intro reg
  induction reg with
  | nil => exact (if_neg (fun he => hne (List.isEmpty_iff.1 he))).symm
  | cons h t ih =>
    by_cases he : identEq h.ident G.ident = true
    · rw [register, if_pos he, upd, if_pos he, if_neg]
      exact fun hemp => hne (List.append_eq_nil_iff.1 (List.isEmpty_iff.1 hemp)).2
    · rw [register, if_neg he, upd, if_neg he, ih]

theorem mem_membersOf_register {reg : List Group} {G : Group} {i : Ident} {x : LDep} (hp : PW reg) (hne : G.members ≠ []) :
    x ∈ membersOf (register reg G).1 i ↔ x ∈ membersOf reg i ∨ (identEq G.ident i = true ∧ x ∈ G.members) := by
  rw [register_fst hne, membersOf_upd _ _ _ _ hp]
  split <;> simp [*]

theorem register_snd (reg : List Group) (G : Group) : identEq (register reg G).2 G.ident = true := by
  induction reg with
  | nil => exact identEq_refl _
  | cons h t ih =>
    by_cases he : identEq h.ident G.ident = true
    · rw [register, if_pos he]
      exact he
    · rw [register, if_neg he]
      exact ih

theorem unregister_snd (c : Nat) : ∀ (reg : List Group) (i : Ident),
    (unregister reg i c).2 = (membersOf reg i).filter (fun x => x.d.child == c) := by
  intro reg
  induction reg with
  | nil => intro i; rfl
  | cons h t ih =>
    intro i
    by_cases he : identEq h.ident i = true
    · rw [unregister, if_pos he, membersOf, if_pos he]
    · rw [unregister, if_neg he, membersOf, if_neg he]
      exact ih i

theorem unregister_fst (c : Nat) (i : Ident) :
    ∀ reg, (unregister reg i c).1 = upd i (·.filter (fun x => !(x.d.child == c))) reg := by
  intro reg
  induction reg with
  | nil => rfl
  | cons h t ih =>
    by_cases he : identEq h.ident i = true
    · rw [unregister, if_pos he, upd, if_pos he]
    · rw [unregister, if_neg he, upd, if_neg he, ih]

theorem mem_membersOf_unregister {c : Nat} {reg : List Group} {i0 i : Ident} {x : LDep} (hp : PW reg) :
    x ∈ membersOf (unregister reg i0 c).1 i ↔ x ∈ membersOf reg i ∧ ¬ (identEq i0 i = true ∧ x.d.child = c) := by
  rw [unregister_fst, membersOf_upd _ _ _ _ hp]
  split <;> simp [*]

theorem cmap_entry_unique {cmap : List ((Nat × GKey) × Ident)} (hn : (cmap.map (·.1)).Nodup) {ck : Nat × GKey} {i i' : Ident}
    (h1 : (ck, i) ∈ cmap) (h2 : (ck, i') ∈ cmap) : i = i' := by
  induction cmap with
  | nil => cases h1
  | cons e t ih =>
    rw [List.map_cons, List.nodup_cons] at hn
    rcases List.mem_cons.1 h1 with e1 | m1
    · rcases List.mem_cons.1 h2 with e2 | m2
      · rw [← e1] at e2; cases e2; rfl
      · subst e1; exact absurd (show ck ∈ t.map (·.1) from List.mem_map.2 ⟨(ck, i'), m2, rfl⟩) hn.1
    · rcases List.mem_cons.1 h2 with e2 | m2
      · subst e2; exact absurd (show ck ∈ t.map (·.1) from List.mem_map.2 ⟨(ck, i), m1, rfl⟩) hn.1
      · exact ih hn.2 m1 m2

theorem not_mem_of_cmapLookup_eq_none {cmap : List ((Nat × GKey) × Ident)} {ck : Nat × GKey} (h : cmapLookup cmap ck = none) :
    ∀ i, (ck, i) ∉ cmap := by
  intro i hi
  simp only [cmapLookup, Option.map_eq_none_iff, List.find?_eq_none] at h
  exact h _ hi (by simp)

theorem cmapLookup_eq_some {cmap : List ((Nat × GKey) × Ident)} (hn : (cmap.map (·.1)).Nodup) {ck : Nat × GKey} {i : Ident} :
    cmapLookup cmap ck = some i ↔ (ck, i) ∈ cmap := by
  have found : ∀ {i}, cmapLookup cmap ck = some i → (ck, i) ∈ cmap := by
    intro i h
    simp only [cmapLookup, Option.map_eq_some_iff] at h
    obtain ⟨e, he, rfl⟩ := h
    have h1 := List.mem_of_find?_eq_some he
    have h2 := List.find?_some he
    simp only [beq_iff_eq] at h2
    rw [← h2]; exact h1
  refine ⟨found, fun hi => ?_⟩
  cases hl : cmapLookup cmap ck with
  | none => exact absurd hi (not_mem_of_cmapLookup_eq_none hl i)
  | some i' => rw [cmap_entry_unique hn (found hl) hi]

theorem mem_cmapErase {cmap : List ((Nat × GKey) × Ident)} {ck : Nat × GKey} {e : (Nat × GKey) × Ident} :
    e ∈ cmapErase cmap ck ↔ e ∈ cmap ∧ e.1 ≠ ck := by
  simp [cmapErase, List.mem_filter]

end Icinga.C07
