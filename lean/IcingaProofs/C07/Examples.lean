/-
  C07 — the checkables of the non-vacuity examples in IcingaProofs/C07.lean.
-/
import IcingaModel.C07.Model

namespace Icinga.C07

/-- h0, h1 hosts; s2 a service of h0; h3 a host.  h1 is hard Down, h3 and h0 are Up. -/
def exNode : Nat → Node
  | 0 => { isService := false, host := none, checked := true, stateRaw := 0, hard := true }
  | 1 => { isService := false, host := none, checked := true, stateRaw := 2, hard := true }
  | 2 => { isService := true, host := some 0, checked := true, stateRaw := 0, hard := true }
  | _ => { isService := false, host := none, checked := true, stateRaw := 0, hard := true }

theorem exNode_service {v h : Nat} (h1 : (exNode v).isService = true) (h2 : (exNode v).host = some h) :
    v = 2 ∧ h = 0 := by
  match v with
  | 0 | 1 | (n + 3) => exact absurd h1 Bool.false_ne_true
  | 2 => exact ⟨rfl, (Option.some.inj h2).symm⟩

end Icinga.C07
