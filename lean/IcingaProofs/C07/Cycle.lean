/-
  C07 — the cycle checker.  Soundness: a successful search leaves its finished list topologically sorted, and that
  list together with a ranking of the registered graph ranks registered graph + batch.  Completeness: on a ranked
  graph the search neither finds a cycle nor runs out of fuel.  The specification's peeling decision is the standard
  notion of acyclicity (pigeonhole); hence `runtimeAdd`, on either answer of the checker, meets `specRuntimeAdd`.
-/
import IcingaProofs.C07.Reach

namespace Icinga.C07

/-- The checker's graph is `succs g`: the dependency edges, which are all that `Ranked g` speaks of, and the implicit edge
    of every service to its host; so `RankedS (succs g) r` is the stronger certificate (`rankedS_ranked`). -/
def RankedS (succ : Nat → List Nat) (rank : Nat → Nat) : Prop := ∀ v, ∀ w ∈ succ v, rank w < rank v

/-- at least one step: `Path succ v v` is a cycle through `v`. -/
inductive Path (succ : Nat → List Nat) : Nat → Nat → Prop
  | single {u w : Nat} : w ∈ succ u → Path succ u w
  | cons {u w x : Nat} : w ∈ succ u → Path succ w x → Path succ u x

theorem RankedS.mono {succ succ' : Nat → List Nat} {rank : Nat → Nat} (hr : RankedS succ rank)
    (h : ∀ v w, w ∈ succ' v → w ∈ succ v) : RankedS succ' rank :=
  fun v w hw => hr v w (h v w hw)

theorem ranked_path_lt {succ : Nat → List Nat} {rank : Nat → Nat} (hr : RankedS succ rank) :
    ∀ {u w}, Path succ u w → rank w < rank u := by
  intro u w p
  induction p with
  | single h => exact hr _ _ h
  | cons h _ ih => exact Nat.lt_trans ih (hr _ _ h)

theorem ranked_no_cycle {succ : Nat → List Nat} {rank : Nat → Nat} (hr : RankedS succ rank) (v : Nat) :
    ¬ Path succ v v := fun p => Nat.lt_irrefl _ (ranked_path_lt hr p)

/-- the graph the checker looks at: registered dependencies plus the batch. -/
def withNew (g : Graph) (new : List Dep) : Graph := { g with deps := g.deps ++ new }

/-- the model spells the record `{ g with deps := g.deps ++ new }` out where the proofs say `withNew g new`. -/
theorem cycleCheck_def (g : Graph) (new : List Dep) (bound : Nat) :
    cycleCheck g new bound = dfsList (dfs (succs (withNew g new)) (bound + 1) []) [] (new.map (·.parent)) := rfl

theorem mem_succs {g : Graph} {v w : Nat} :
    w ∈ succs g v ↔ ((g.node v).isService = true ∧ (g.node v).host = some w) ∨
                    ∃ d ∈ g.deps, d.child = v ∧ d.parent = w := by
  unfold succs
  rw [List.mem_append]
  refine or_congr ?_ (by simp only [List.mem_map, mem_depsOf, and_assoc])
  cases (g.node v).isService <;> cases (g.node v).host <;> simp [eq_comm]

theorem mem_succs_withNew {g : Graph} {new : List Dep} {v w : Nat} :
    w ∈ succs (withNew g new) v ↔ w ∈ succs g v ∨ ∃ d ∈ new, d.child = v ∧ d.parent = w := by
  simp only [mem_succs, withNew, List.mem_append, or_and_right, exists_or, or_assoc]

theorem rankedS_ranked {g : Graph} {r : Nat → Nat} (h : RankedS (succs g) r) : Ranked g r := by
  intro d hd
  exact h d.child d.parent (mem_succs.2 (Or.inr ⟨d, hd, rfl, rfl⟩))

/-- a service's host is itself a host, so the implicit edges alone form no chain of two (`implicit_ranked`). -/
def WellFormed (g : Graph) : Prop :=
  ∀ v h, (g.node v).isService = true → (g.node v).host = some h → (g.node h).isService = false

theorem implicit_ranked (g : Graph) (hw : WellFormed g) (he : g.deps = []) :
    RankedS (succs g) (fun v => if (g.node v).isService then 1 else 0) := by
  intro v w hwv
  rcases mem_succs.1 hwv with ⟨h1, h2⟩ | ⟨d, hd, _, _⟩
  · have := hw v w h1 h2
    simp [h1, this]
  · rw [he] at hd; cases hd

/-- The finished list of the search (newest first) is of this kind (`dfs_ok`), and position counted from the end then
    ranks it (`topSorted_rank`). -/
def TopSorted (succ : Nat → List Nat) : List Nat → Prop
  | [] => True
  | u :: rest => u ∉ rest ∧ (∀ w ∈ succ u, w ∈ rest) ∧ TopSorted succ rest

/-- The last clause (the list gains nothing that is on the stack) is what keeps the node being visited out of the list it
    is then put in front of. -/
def VisitOk (succ : Nat → List Nat) (stack : List Nat) (visit : List Nat → Nat → Res) : Prop :=
  ∀ fin w fin', TopSorted succ fin → visit fin w = .ok fin' →
    TopSorted succ fin' ∧ w ∈ fin' ∧ (∀ x ∈ fin, x ∈ fin') ∧ (∀ x ∈ fin', x ∈ fin ∨ x ∉ stack)

theorem dfsList_ok (succ : Nat → List Nat) (stack : List Nat) (visit : List Nat → Nat → Res)
    (hv : VisitOk succ stack visit) :
    ∀ ws fin fin', TopSorted succ fin → dfsList visit fin ws = .ok fin' →
      TopSorted succ fin' ∧ (∀ w ∈ ws, w ∈ fin') ∧ (∀ x ∈ fin, x ∈ fin') ∧ (∀ x ∈ fin', x ∈ fin ∨ x ∉ stack) := by
  intro ws
  induction ws with
  | nil =>
    intro fin fin' ht h
    simp only [dfsList, Res.ok.injEq] at h
    subst h
    exact ⟨ht, by simp, fun x hx => hx, fun x hx => Or.inl hx⟩
  | cons w ws ih =>
    intro fin fin' ht h
    simp only [dfsList] at h
    cases hvis : visit fin w with
    | cycle => rw [hvis] at h; cases h
    | fuelOut => rw [hvis] at h; cases h
    | ok fin1 =>
      rw [hvis] at h
      obtain ⟨t1, m1, s1, n1⟩ := hv fin w fin1 ht hvis
      obtain ⟨t2, m2, s2, n2⟩ := ih fin1 fin' t1 h
      refine ⟨t2, ?_, fun x hx => s2 x (s1 x hx), ?_⟩
      · intro x hx
        rcases List.mem_cons.1 hx with hx | hx
        · subst hx; exact s2 _ m1
        · exact m2 x hx
      · intro x hx
        rcases n2 x hx with h' | h'
        · exact n1 x h'
        · exact Or.inr h'

theorem dfs_ok (succ : Nat → List Nat) : ∀ f stack, VisitOk succ stack (dfs succ f stack) := by
  intro f
  induction f with
  | zero =>
    intro stack fin w fin' _ h
    simp [dfs] at h
  | succ f ih =>
    intro stack fin v fin' ht h
    rw [dfs] at h
    by_cases hstk : v ∈ stack
    · rw [if_pos hstk] at h
      cases h
    · rw [if_neg hstk] at h
      by_cases hfin : v ∈ fin
      · rw [if_pos hfin] at h
        cases h
        exact ⟨ht, hfin, fun x hx => hx, fun x hx => Or.inl hx⟩
      · rw [if_neg hfin] at h
        cases hl : dfsList (dfs succ f (v :: stack)) fin (succ v) with
        | cycle => rw [hl] at h; cases h
        | fuelOut => rw [hl] at h; cases h
        | ok fin1 =>
          rw [hl] at h
          simp only [Res.ok.injEq] at h
          subst h
          -- the successors were visited with `v` on the stack: all of them are in `fin1` now, and `v`, which was on
          -- that stack and not in `fin`, is not; so `v :: fin1` is `TopSorted` again
          obtain ⟨t1, m1, s1, n1⟩ := dfsList_ok succ (v :: stack) _ (ih (v :: stack)) (succ v) fin fin1 ht hl
          refine ⟨⟨?_, m1, t1⟩, List.mem_cons_self, fun x hx => List.mem_cons_of_mem _ (s1 x hx), ?_⟩
          · intro hv
            rcases n1 v hv with h' | h'
            · exact hfin h'
            · exact h' List.mem_cons_self
          · intro x hx
            rcases List.mem_cons.1 hx with hx | hx
            · subst hx; exact Or.inr hstk
            · rcases n1 x hx with h' | h'
              · exact Or.inl h'
              · exact Or.inr (fun hm => h' (List.mem_cons_of_mem _ hm))

/-- position of `v` counted from the end of the list (the last element gets 1), 0 if absent. -/
def rankFin : List Nat → Nat → Nat
  | [], _ => 0
  | u :: rest, v => if v = u then rest.length + 1 else rankFin rest v

theorem rankFin_le (l : List Nat) (v : Nat) : rankFin l v ≤ l.length := by
  induction l with
  | nil => simp [rankFin]
  | cons u rest ih => simp only [rankFin, List.length_cons]; split <;> omega

theorem rankFin_pos {l : List Nat} {v : Nat} (h : v ∈ l) : 0 < rankFin l v := by
  induction l with
  | nil => cases h
  | cons u rest ih =>
    simp only [rankFin]
    split
    · omega
    · rename_i hne
      rcases List.mem_cons.1 h with h | h
      · exact absurd h hne
      · exact ih h

theorem topSorted_rank {succ : Nat → List Nat} :
    ∀ {l : List Nat}, TopSorted succ l → ∀ v ∈ l, ∀ w ∈ succ v, w ∈ l ∧ rankFin l w < rankFin l v := by
  intro l
  induction l with
  | nil => intro _ v hv; cases hv
  | cons u rest ih =>
    intro ht v hv w hw
    obtain ⟨hnu, hsu, htr⟩ := ht
    rcases List.mem_cons.1 hv with hv | hv
    · subst hv
      have hwr := hsu w hw
      have hne : w ≠ v := fun e => hnu (e ▸ hwr)
      refine ⟨List.mem_cons_of_mem _ hwr, ?_⟩
      simp only [rankFin, if_neg hne, if_true]
      have := rankFin_le rest w
      omega
    · obtain ⟨hwr, hlt⟩ := ih htr v hv w hw
      have hne1 : v ≠ u := fun e => hnu (e ▸ hv)
      have hne2 : w ≠ u := fun e => hnu (e ▸ hwr)
      refine ⟨List.mem_cons_of_mem _ hwr, ?_⟩
      simp only [rankFin, if_neg hne1, if_neg hne2]
      exact hlt

theorem Res.accepted_iff {r : Res} : r.accepted = true ↔ ∃ fin, r = .ok fin := by
  cases r <;> simp [Res.accepted]

/-- finished nodes keep their position in `fin`; every other node is lifted above all of `fin`, ordered by the old ranking
    `rg`.  An edge from outside into `fin` descends, and no new edge leaves the complement of `fin` except into `fin` (`hp`). -/
def combinedRank (fin : List Nat) (rg : Nat → Nat) (v : Nat) : Nat :=
  if v ∈ fin then rankFin fin v else fin.length + 1 + rg v

theorem combinedRank_ranked (g : Graph) (new : List Dep) (fin : List Nat) (rg : Nat → Nat)
    (hg : RankedS (succs g) rg) (ht : TopSorted (succs (withNew g new)) fin)
    (hp : ∀ d ∈ new, d.parent ∈ fin) :
    RankedS (succs (withNew g new)) (combinedRank fin rg) := by
  intro v w hw
  unfold combinedRank
  by_cases hv : v ∈ fin
  · obtain ⟨hwf, hlt⟩ := topSorted_rank ht v hv w hw
    rw [if_pos hv, if_pos hwf]; exact hlt
  · rw [if_neg hv]
    by_cases hwf : w ∈ fin
    · rw [if_pos hwf]; have := rankFin_le fin w; omega
    · rw [if_neg hwf]
      rcases mem_succs_withNew.1 hw with h | ⟨d, hd, _, m3⟩
      · have := hg v w h; omega
      · exact absurd (m3 ▸ hp d hd) hwf

theorem accepted_ranked {g : Graph} {new : List Dep} {bound : Nat} (hg : ∃ rg, RankedS (succs g) rg)
    (h : (cycleCheck g new bound).accepted = true) : ∃ r, RankedS (succs (withNew g new)) r := by
  obtain ⟨rg, hrg⟩ := hg
  obtain ⟨fin, hres⟩ := Res.accepted_iff.1 h
  rw [cycleCheck_def] at hres
  obtain ⟨ht, hm, _, _⟩ := dfsList_ok (succs (withNew g new)) [] _ (dfs_ok _ (bound + 1) []) _ [] fin trivial hres
  exact ⟨_, combinedRank_ranked g new fin rg hrg ht (fun d hd => hm d.parent (List.mem_map_of_mem hd))⟩

theorem dfsList_complete (visit : List Nat → Nat → Res) :
    ∀ ws fin, (∀ fin' w, w ∈ ws → (visit fin' w).accepted = true) → (dfsList visit fin ws).accepted = true := by
  intro ws
  induction ws with
  | nil => intro fin _; rfl
  | cons w ws ih =>
    intro fin h
    obtain ⟨fin1, hvis⟩ := Res.accepted_iff.1 (h fin w List.mem_cons_self)
    simp only [dfsList, hvis]
    exact ih fin1 (fun fin' x hx => h fin' x (List.mem_cons_of_mem _ hx))

/-- Invariant of the descent: everything on the stack ranks above the node visited.  So that node is not on the stack (no
    cycle is reported), and as successors rank lower, fuel above the rank of the start is never used up. -/
theorem dfs_complete (succ : Nat → List Nat) (rank : Nat → Nat) (hr : RankedS succ rank) :
    ∀ f stack fin v, rank v < f → (∀ s ∈ stack, rank v < rank s) → (dfs succ f stack fin v).accepted = true := by
  intro f
  induction f with
  | zero => intro _ _ v h; exact absurd h (Nat.not_lt_zero _)
  | succ f ih =>
    intro stack fin v hf hs
    rw [dfs, if_neg (fun hin => Nat.lt_irrefl _ (hs v hin))]
    split
    · rfl
    · obtain ⟨fin1, hl⟩ := Res.accepted_iff.1 (dfsList_complete (dfs succ f (v :: stack)) (succ v) fin (by
        intro fin' w hw
        have hlt := hr v w hw
        apply ih (v :: stack) fin' w (by omega)
        intro s hs'
        rcases List.mem_cons.1 hs' with e | e
        · subst e; exact hlt
        · exact Nat.lt_trans hlt (hs s e)))
      rw [hl]
      rfl

/-- The second clause: `allEdges n g` lists the implicit edges of the services below `n` only, so a service outside would
    have an edge the peeling never sees. -/
def Closed (n : Nat) (g : Graph) : Prop :=
  (∀ d ∈ g.deps, d.child < n ∧ d.parent < n) ∧
  (∀ v h, (g.node v).isService = true → (g.node v).host = some h → v < n ∧ h < n)

theorem Closed.of_withNew {n : Nat} {g : Graph} {new : List Dep} (h : Closed n (withNew g new)) : Closed n g :=
  ⟨fun d hd => h.1 d (List.mem_append.2 (Or.inl hd)), h.2⟩

theorem succs_of_mem_allEdges {n : Nat} {g : Graph} {e : Nat × Nat} (h : e ∈ allEdges n g) : e.2 ∈ succs g e.1 := by
  unfold allEdges at h
  rcases List.mem_append.1 h with h | h
  · obtain ⟨d, hd, rfl⟩ := List.mem_map.1 h
    exact mem_succs.2 (Or.inr ⟨d, hd, rfl, rfl⟩)
  · obtain ⟨v, _, hv⟩ := List.mem_filterMap.1 h
    cases h1 : (g.node v).isService <;> cases h2 : (g.node v).host <;> simp [h1, h2] at hv
    subst hv
    exact mem_succs.2 (Or.inl ⟨h1, h2⟩)

theorem Closed.succs_lt {n : Nat} {g : Graph} (hc : Closed n g) {v w : Nat} (h : w ∈ succs g v) : v < n ∧ w < n := by
  rcases mem_succs.1 h with ⟨h1, h2⟩ | ⟨d, hd, rfl, rfl⟩
  · exact hc.2 v w h1 h2
  · exact hc.1 d hd

theorem mem_allEdges_of_succs {n : Nat} {g : Graph} (hc : Closed n g) {v w : Nat} (h : w ∈ succs g v) :
    (v, w) ∈ allEdges n g := by
  unfold allEdges
  rcases mem_succs.1 h with ⟨h1, h2⟩ | ⟨d, hd, rfl, rfl⟩
  · refine List.mem_append.2 (Or.inr (List.mem_filterMap.2 ⟨v, List.mem_range.2 (hc.succs_lt h).1, ?_⟩))
    simp [h1, h2]
  · exact List.mem_append.2 (Or.inl (List.mem_map.2 ⟨d, hd, rfl⟩))

/-- number of peeling rounds (at most `k`) that `v` survives; when peeling empties the graph this is a ranking
    (`survive_lt`): the parent of an edge is peeled before its child. -/
def survive (edges : List (Nat × Nat)) : Nat → List Nat → Nat → Nat
  | 0, _, _ => 0
  | k + 1, alive, v => if v ∈ peel edges alive then 1 + survive edges k (peel edges alive) v else 0

theorem survive_le (edges : List (Nat × Nat)) : ∀ k alive v, survive edges k alive v ≤ k := by
  intro k
  induction k with
  | zero => intro _ _; simp [survive]
  | succ k ih =>
    intro alive v
    simp only [survive]
    split
    · have := ih (peel edges alive) v; omega
    · omega

theorem mem_peel_of_edge {edges : List (Nat × Nat)} {alive : List Nat} {c p : Nat}
    (he : (c, p) ∈ edges) (hc : c ∈ alive) (hp : p ∈ alive) : c ∈ peel edges alive := by
  unfold peel
  rw [List.mem_filter]
  refine ⟨hc, List.any_eq_true.2 ⟨(c, p), he, ?_⟩⟩
  simp [hp]

theorem survive_lt (edges : List (Nat × Nat)) :
    ∀ k alive, peelN edges k alive = [] → ∀ c p, (c, p) ∈ edges → c ∈ alive → p ∈ alive →
      survive edges k alive p < survive edges k alive c := by
  intro k
  induction k with
  | zero =>
    intro alive h c p _ hc _
    simp only [peelN] at h
    rw [h] at hc; cases hc
  | succ k ih =>
    intro alive h c p he hc hp
    simp only [peelN] at h
    have hc' := mem_peel_of_edge he hc hp
    simp only [survive, if_pos hc']
    by_cases hp' : p ∈ peel edges alive
    · rw [if_pos hp']
      have := ih (peel edges alive) h c p he hc' hp'
      omega
    · rw [if_neg hp']; omega

theorem ranked_of_acyclicSpec (n : Nat) (g : Graph) (hc : Closed n g) (h : acyclicSpec n g = true) :
    RankedS (succs g) (survive (allEdges n g) n (List.range n)) := by
  intro v w hw
  have he := mem_allEdges_of_succs hc hw
  obtain ⟨hv, hwn⟩ := hc.succs_lt hw
  unfold acyclicSpec at h
  exact survive_lt _ n _ (List.isEmpty_iff.1 h) v w he (List.mem_range.2 hv) (List.mem_range.2 hwn)

/-- a walk as the list of its nodes, which is what the counting argument of `acyclicSpec_of_no_cycle` needs. -/
def IsWalk (succ : Nat → List Nat) : List Nat → Prop
  | [] => True
  | [_] => True
  | u :: v :: t => v ∈ succ u ∧ IsWalk succ (v :: t)

theorem IsWalk.tail {succ : Nat → List Nat} {x : Nat} {t : List Nat} (h : IsWalk succ (x :: t)) : IsWalk succ t := by
  cases t with
  | nil => trivial
  | cons y t' => exact h.2

theorem walk_path {succ : Nat → List Nat} : ∀ (t : List Nat) (x y : Nat), IsWalk succ (x :: t) → y ∈ t → Path succ x y := by
  intro t
  induction t with
  | nil => intro x y _ hy; cases hy
  | cons z t' ih =>
    intro x y hw hy
    rcases List.mem_cons.1 hy with rfl | hy
    · exact Path.single hw.1
    · exact Path.cons hw.1 (ih z y hw.2 hy)

theorem walk_dup_cycle {succ : Nat → List Nat} : ∀ (l : List Nat), IsWalk succ l → ¬ l.Nodup → ∃ v, Path succ v v := by
  intro l
  induction l with
  | nil => intro _ h; exact absurd List.nodup_nil h
  | cons x t ih =>
    intro hw hn
    by_cases hx : x ∈ t
    · exact ⟨x, walk_path t x x hw hx⟩
    · exact ih hw.tail (fun hnd => hn (List.nodup_cons.2 ⟨hx, hnd⟩))

theorem peelN_succ (edges : List (Nat × Nat)) :
    ∀ k alive, peelN edges (k + 1) alive = peel edges (peelN edges k alive) := by
  intro k
  induction k with
  | zero => intro _; rfl
  | succ k ih => intro alive; exact ih (peel edges alive)

theorem peelN_sub (edges : List (Nat × Nat)) {v : Nat} : ∀ k alive, v ∈ peelN edges k alive → v ∈ alive := by
  intro k
  induction k with
  | zero => intro _ h; exact h
  | succ k ih => intro alive h; exact (List.mem_filter.1 (ih _ h)).1

/-- each round a node survives it has an edge to a node that survived the rounds before. -/
theorem walk_of_survivor {succ : Nat → List Nat} {edges : List (Nat × Nat)} (hE : ∀ e ∈ edges, e.2 ∈ succ e.1)
    (alive : List Nat) :
    ∀ k v, v ∈ peelN edges k alive → ∃ l, IsWalk succ (v :: l) ∧ l.length = k ∧ ∀ x ∈ v :: l, x ∈ alive := by
  intro k
  induction k with
  | zero => intro v hv; exact ⟨[], trivial, rfl, fun x hx => List.mem_singleton.1 hx ▸ hv⟩
  | succ k ih =>
    intro v hv
    rw [peelN_succ] at hv
    obtain ⟨hvk, hany⟩ := List.mem_filter.1 hv
    obtain ⟨e, he, hp⟩ := List.any_eq_true.1 hany
    simp only [Bool.and_eq_true, beq_iff_eq, List.contains_iff_mem] at hp
    obtain ⟨l, hl, hlen, hin⟩ := ih e.2 hp.2
    refine ⟨e.2 :: l, ⟨hp.1 ▸ hE e he, hl⟩, by simp [hlen], ?_⟩
    intro x hx
    rcases List.mem_cons.1 hx with rfl | hx
    · exact peelN_sub edges k alive hvk
    · exact hin x hx

theorem acyclicSpec_of_no_cycle (n : Nat) (g : Graph) (h : ∀ v, ¬ Path (succs g) v v) : acyclicSpec n g = true := by
  unfold acyclicSpec
  rw [List.isEmpty_iff]
  refine Decidable.byContradiction (fun hne => ?_)
  obtain ⟨v, hv⟩ := List.exists_mem_of_ne_nil _ hne
  -- a survivor of `n` rounds walks `n` steps through `n + 1` nodes below `n`, so one occurs twice
  obtain ⟨l, hw, hlen, hin⟩ := walk_of_survivor (succ := succs g) (fun e he => succs_of_mem_allEdges he) _ n v hv
  obtain ⟨u, hu⟩ := walk_dup_cycle (v :: l) hw (fun hnd => by
    have := hnd.length_le_of_subset (fun x hx => hin x hx)
    simp only [List.length_cons, hlen, List.length_range] at this
    omega)
  exact h u hu

theorem accepted_acyclicSpec (n : Nat) {g : Graph} {new : List Dep} {bound : Nat} (hg : ∃ rg, RankedS (succs g) rg)
    (h : (cycleCheck g new bound).accepted = true) : acyclicSpec n (withNew g new) = true := by
  obtain ⟨r, hr⟩ := accepted_ranked hg h
  exact acyclicSpec_of_no_cycle n _ (ranked_no_cycle hr)

theorem runtimeAdd_snd (g : Graph) (new : List Dep) (bound : Nat) :
    (runtimeAdd g new bound).2 = (cycleCheck g new bound).accepted := by
  unfold runtimeAdd
  cases (cycleCheck g new bound).accepted <;> rfl

theorem runtimeAdd_accepted {g : Graph} {new : List Dep} {bound : Nat}
    (h : (cycleCheck g new bound).accepted = true) : runtimeAdd g new bound = (withNew g new, true) := by
  unfold runtimeAdd
  rw [if_pos h]
  rfl

theorem runtimeAdd_refused {g : Graph} {new : List Dep} {bound : Nat}
    (h : (cycleCheck g new bound).accepted = false) : runtimeAdd g new bound = (g, false) := by
  unfold runtimeAdd
  rw [h]
  rfl

theorem runtimeAdd_meets_spec (n : Nat) (g : Graph) (new : List Dep) (hg : ∃ rg, RankedS (succs g) rg) :
    specRuntimeAdd n g new (runtimeAdd g new n).2 (fun v => (depsOf (runtimeAdd g new n).1 v).length) = none := by
  cases hacc : (cycleCheck g new n).accepted with
  | false =>
    rw [runtimeAdd_refused hacc]
    simp [specRuntimeAdd, depsOf]
  | true =>
    have : acyclicSpec n { g with deps := g.deps ++ new } = true := accepted_acyclicSpec n hg hacc
    rw [runtimeAdd_accepted hacc]
    simp [specRuntimeAdd, depsOf, withNew, this]

end Icinga.C07
