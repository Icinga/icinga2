/-
  C07 — histories: every state a history reaches satisfies `HInv` (a load keeps it through the cycle checker's
  `accepted_ranked`), and from such a state the model's observations meet the specification: one step
  (`hstep_meets_spec`), a whole trace (`hrun_meets_spec`).
-/
import IcingaModel.C07.History
import IcingaProofs.C07.Cycle

namespace Icinga.C07

theorem eff_child (c : Cfg) (d : Dep) : (c.eff d).child = d.child := rfl
theorem eff_parent (c : Cfg) (d : Dep) : (c.eff d).parent = d.parent := rfl

/-- `m_ReverseDependencies` holds exactly the live dependencies, each under its parent; the live graph with the implicit
    service → host edges is acyclic. -/
structure HInv (hs : HState) : Prop where
  rev : hs.rev = hs.cfg.live.map (fun x => (x.2.parent, x))
  acyclic : ∃ rg, RankedS (succs hs.cfg.graph) rg

theorem mem_succs_cfg {c : Cfg} {v w : Nat} :
    w ∈ succs c.graph v ↔ ((c.node v).isService = true ∧ (c.node v).host = some w) ∨
                          ∃ x ∈ c.live, x.2.child = v ∧ x.2.parent = w := by
  rw [mem_succs]
  refine or_congr Iff.rfl ⟨?_, ?_⟩
  · rintro ⟨d, hd, h⟩
    obtain ⟨x, hx, rfl⟩ := List.mem_map.1 hd
    exact ⟨x, hx, h⟩
  · rintro ⟨x, hx, h⟩
    exact ⟨c.eff x.2, List.mem_map_of_mem hx, h⟩

theorem RankedS.cfg_mono {c c' : Cfg} {r : Nat → Nat} (hr : RankedS (succs c.graph) r)
    (hn : ∀ v, (c'.node v).isService = (c.node v).isService ∧ (c'.node v).host = (c.node v).host)
    (hl : ∀ x ∈ c'.live, x ∈ c.live) : RankedS (succs c'.graph) r := by
  refine hr.mono (fun v w h => ?_)
  rw [mem_succs_cfg] at h ⊢
  rw [← (hn v).1, ← (hn v).2]
  exact h.imp id (fun ⟨x, hx, e⟩ => ⟨x, hl x hx, e⟩)

theorem RankedS.cfg_load {c : Cfg} {batch : List (Nat × Dep)} {r : Nat → Nat}
    (hr : RankedS (succs (withNew c.graph (batch.map (·.2)))) r) :
    RankedS (succs ({ c with live := c.live ++ batch } : Cfg).graph) r := by
  refine hr.mono (fun v w h => ?_)
  rw [mem_succs_withNew, mem_succs_cfg]
  rcases mem_succs_cfg.1 h with h | ⟨x, hx, e⟩
  · exact Or.inl (Or.inl h)
  · rcases List.mem_append.1 hx with hx | hx
    · exact Or.inl (Or.inr ⟨x, hx, e⟩)
    · exact Or.inr ⟨x.2, List.mem_map_of_mem hx, e⟩

theorem Cfg.next_shape (c : Cfg) (o : HObs) (v : Nat) :
    ((c.next o).node v).isService = (c.node v).isService ∧ ((c.next o).node v).host = (c.node v).host := by
  cases o with
  | load batch acc nd => cases acc <;> exact ⟨rfl, rfl⟩
  | setState u ck r h =>
    show ((if v == u then _ else _ : Node).isService = _) ∧ ((if v == u then _ else _ : Node).host = _)
    split <;> exact ⟨rfl, rfl⟩
  | _ => exact ⟨rfl, rfl⟩

/-! A load is described by the two equations below and split on `(cycleCheck …).accepted`.  Unfolding `hstep` inside a
    larger proof instead lets the elaborator compare terms up to reduction, and it then starts to evaluate the cycle
    search on a symbolic bound. -/

theorem hstep_load_obs (n : Nat) (hs : HState) (batch : List (Nat × Dep)) :
    (hstep n hs (.load batch)).2 =
      HObs.load batch (runtimeAdd hs.cfg.graph (batch.map (·.2)) n).2
        (fun v => (depsOf (runtimeAdd hs.cfg.graph (batch.map (·.2)) n).1 v).length) := rfl

theorem hstep_load_fst (n : Nat) (hs : HState) (batch : List (Nat × Dep)) :
    (hstep n hs (.load batch)).1 =
      if (cycleCheck hs.cfg.graph (batch.map (·.2)) n).accepted then
        { cfg := { hs.cfg with live := hs.cfg.live ++ batch },
          rev := hs.rev ++ batch.map (fun x => (x.2.parent, x)) }
      else hs := by
  simp only [hstep, runtimeAdd_snd]
  cases (cycleCheck hs.cfg.graph (batch.map (·.2)) n).accepted <;> rfl

/-- the specification replays the configuration from the observations alone (`specTrace`); by this it follows the model's. -/
theorem hstep_cfg_next (n : Nat) (hs : HState) (op : HOp) :
    (hstep n hs op).1.cfg = hs.cfg.next (hstep n hs op).2 := by
  cases op with
  | load batch =>
    rw [hstep_load_fst, hstep_load_obs, runtimeAdd_snd]
    cases (cycleCheck hs.cfg.graph (batch.map (·.2)) n).accepted <;> rfl
  | _ => rfl

theorem hstep_inv (n : Nat) {hs : HState} (hi : HInv hs) (op : HOp) : HInv (hstep n hs op).1 := by
  obtain ⟨hrev, rg, hrg⟩ := hi
  cases op with
  | load batch =>
    rw [hstep_load_fst]
    split
    · next hacc =>
      obtain ⟨r, hr⟩ := accepted_ranked ⟨rg, hrg⟩ hacc
      refine ⟨?_, r, hr.cfg_load⟩
      show hs.rev ++ _ = List.map _ (hs.cfg.live ++ batch)
      rw [hrev, List.map_append]
    · exact ⟨hrev, rg, hrg⟩
  | remove id =>
    refine ⟨?_, rg, hrg.cfg_mono (fun _ => ⟨rfl, rfl⟩) (fun x hx => (List.mem_filter.1 hx).1)⟩
    show hs.rev.filter _ = (hs.cfg.live.filter _).map _
    rw [hrev, List.filter_map]
    rfl
  | setState v ck r h =>
    exact ⟨hrev, rg, hrg.cfg_mono (Cfg.next_shape hs.cfg (.setState v ck r h)) (fun _ hx => hx)⟩
  | setPeriod p cl => exact ⟨hrev, rg, hrg.cfg_mono (fun _ => ⟨rfl, rfl⟩) (fun _ hx => hx)⟩
  | query => exact ⟨hrev, rg, hrg⟩
  | edges => exact ⟨hrev, rg, hrg⟩

theorem hinv_init (node : Nat → Node) (hw : WellFormed { node := node, deps := [] }) :
    HInv ({ cfg := { node := node } } : HState) :=
  ⟨rfl, _, implicit_ranked { node := node, deps := [] } hw rfl⟩

/-- `queryInScope` bounds the ranks of the `n` checkables only; capped (`ranked_cap`) they are ≤ 256 everywhere. -/
theorem inScope_certificate (n : Nat) (g : Graph) (h : queryInScope n g = true) :
    ∃ rank, Ranked g rank ∧ ∀ v, rank v ≤ 256 := by
  simp only [queryInScope, rankOk, Bool.and_eq_true, List.all_eq_true, decide_eq_true_eq, List.mem_range] at h
  obtain ⟨⟨h1, h2⟩, h3⟩ := h
  exact ⟨_, ranked_cap (rank := fun v => (rankArr n g)[v]?.getD 0) h1 (fun d hd => h2 d.child (h3 d hd)),
    fun v => Nat.min_le_right _ _⟩

theorem insertNat_eq_ascInsert : ∀ (k : Nat) (l : List Nat), insertNat k l = ascInsert k l := by
  intro k l
  induction l with
  | nil => rfl
  | cons x xs ih => simp only [insertNat, ascInsert, ih]

theorem sortedSet_eq_ascSet (l : List Nat) : sortedSet l = ascSet l := by
  unfold sortedSet ascSet
  induction l with
  | nil => rfl
  | cons x xs ih => simp only [List.foldr_cons, ih, insertNat_eq_ascInsert]

theorem parents_eq_spec (hs : HState) (v : Nat) : hs.parents v = parentsSpec hs.cfg.live v := by
  simp only [HState.parents, parentsSpec, sortedSet_eq_ascSet, depsOf, Cfg.graph, List.filter_map, List.map_map]
  rfl

theorem children_eq_spec {hs : HState} (hrev : hs.rev = hs.cfg.live.map (fun x => (x.2.parent, x))) (v : Nat) :
    hs.children v = childrenSpec hs.cfg.live v := by
  simp only [HState.children, childrenSpec, sortedSet_eq_ascSet, hrev, List.filter_map, List.map_map]
  rfl

theorem reverse_eq_spec {hs : HState} (hrev : hs.rev = hs.cfg.live.map (fun x => (x.2.parent, x))) (v : Nat) :
    hs.reverse v = reverseSpec hs.cfg.live v := by
  simp only [HState.reverse, reverseSpec, sortedSet_eq_ascSet, hrev, List.filter_map, List.map_map]
  rfl

theorem model_edges_meet_spec (n : Nat) (hs : HState) (hrev : hs.rev = hs.cfg.live.map (fun x => (x.2.parent, x))) :
    specEdges n hs.cfg.live hs.parents hs.children hs.reverse = none := by
  simp [specEdges, parents_eq_spec, children_eq_spec hrev, reverse_eq_spec hrev]

theorem hstep_meets_spec (n : Nat) {hs : HState} (hi : HInv hs) (op : HOp) :
    specObs n hs.cfg (hstep n hs op).2 = none := by
  cases op with
  | load batch =>
    rw [hstep_load_obs]
    simp only [specObs]
    -- elaborated on its own: against the goal the unifier starts unfolding the cycle search
    have := runtimeAdd_meets_spec n hs.cfg.graph (batch.map (·.2)) hi.acyclic
    exact this
  | remove id => simp only [hstep, specObs]
  | setState v ck r h => simp only [hstep, specObs]
  | setPeriod p cl => simp only [hstep, specObs]
  | query =>
    simp only [hstep, specObs]
    split
    · next h =>
      obtain ⟨rank, hr, hd⟩ := inScope_certificate n hs.cfg.graph h
      exact query_meets_spec n hr hd
    · rfl
  | edges => exact model_edges_meet_spec n hs hi.rev

theorem hrun_meets_spec (n : Nat) : ∀ (ops : List HOp) (hs : HState), HInv hs → specTrace n hs.cfg (hrun n hs ops) = none := by
  intro ops
  induction ops with
  | nil => intro hs _; rfl
  | cons op ops ih =>
    intro hs hi
    simp only [hrun, specTrace, hstep_meets_spec n hi op]
    rw [← hstep_cfg_next]
    exact ih _ (hstep_inv n hi op)

end Icinga.C07
