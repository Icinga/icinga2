/-
  C07 — the registry invariant: after any sequence of runtime additions/removals, and after a fresh
  load, registry and per-checkable maps describe exactly the live set.
-/
import IcingaProofs.C07.RegistryLemmas
import IcingaProofs.C07.Lemmas
namespace Icinga.C07

/-- what the invariant says of the identity `i` a checkable `c` stores under key `k`. -/
def EntryOk (L : List LDep) (c : Nat) (k : GKey) (i : Ident) : Prop :=
  i.1 = k.name ∧ (∀ ck, ck ∈ i.2 ↔ ∃ x ∈ L, x.d.child = c ∧ x.d.key = k ∧ x.d.composite = ck) ∧
  (∃ x ∈ L, x.d.child = c ∧ x.d.key = k)

/-- The registry and the checkables' maps describe exactly the live set `L`.  `centry` is `EntryOk L c k i` written out.
    `names`: an empty redundancy group name means "no group" in the code.  Three clauses speak of the registry alone:
    `pw` makes `membersOf` the lookup in a map (`membersOf_upd`), `nonempty` lets a group be found through any of its
    members (`registryIs_unique`), `memNodup` is what "each once" of the per-child view is read from. -/
structure Inv (st : RState) (L : List LDep) : Prop where
  lnodup : L.Nodup
  names : ∀ x ∈ L, x.d.group ≠ some ""
  keysNodup : (st.cmap.map (·.1)).Nodup
  pw : PW st.registry
  nonempty : ∀ g ∈ st.registry, g.members ≠ []
  memNodup : ∀ i, (membersOf st.registry i).Nodup
  mem : ∀ i x, x ∈ membersOf st.registry i ↔
    x ∈ L ∧ ∃ i', ((x.d.child, x.d.key), i') ∈ st.cmap ∧ identEq i' i = true
  centry : ∀ c k i, ((c, k), i) ∈ st.cmap →
    i.1 = k.name ∧ (∀ ck, ck ∈ i.2 ↔ ∃ x ∈ L, x.d.child = c ∧ x.d.key = k ∧ x.d.composite = ck) ∧
    (∃ x ∈ L, x.d.child = c ∧ x.d.key = k)
  live : ∀ x ∈ L, ∃ i, ((x.d.child, x.d.key), i) ∈ st.cmap

theorem EntryOk.name {L : List LDep} {c : Nat} {k : GKey} {i : Ident} (e : EntryOk L c k i) : i.1 = k.name := e.1

theorem EntryOk.keys {L : List LDep} {c : Nat} {k : GKey} {i : Ident} (e : EntryOk L c k i) (ck : CKey) :
    ck ∈ i.2 ↔ ∃ x ∈ L, x.d.child = c ∧ x.d.key = k ∧ x.d.composite = ck := e.2.1 ck

theorem EntryOk.witness {L : List LDep} {c : Nat} {k : GKey} {i : Ident} (e : EntryOk L c k i) :
    ∃ x ∈ L, x.d.child = c ∧ x.d.key = k := e.2.2

theorem Inv.entry {st : RState} {L : List LDep} (h : Inv st L) {c : Nat} {k : GKey} {i : Ident}
    (hi : ((c, k), i) ∈ st.cmap) : EntryOk L c k i := h.centry c k i hi

theorem Inv.entry_iff {st : RState} {L : List LDep} (h : Inv st L) {c : Nat} {k : GKey} :
    (∃ i, ((c, k), i) ∈ st.cmap) ↔ ∃ x ∈ L, x.d.child = c ∧ x.d.key = k := by
  constructor
  · rintro ⟨i, hi⟩
    exact (h.entry hi).witness
  · rintro ⟨x, hx, rfl, rfl⟩
    exact h.live x hx

theorem entryOk_congr {L L' : List LDep} {c : Nat} {k : GKey} {i : Ident} (h : EntryOk L c k i)
    (he : ∀ x, x.d.child = c → x.d.key = k → (x ∈ L ↔ x ∈ L')) : EntryOk L' c k i := by
  obtain ⟨h1, h2, x, hx, xc, xk⟩ := h
  refine ⟨h1, fun ck => ?_, x, (he x xc xk).1 hx, xc, xk⟩
  rw [h2 ck]
  constructor
  · rintro ⟨y, hy, yc, yk, r⟩; exact ⟨y, (he y yc yk).1 hy, yc, yk, r⟩
  · rintro ⟨y, hy, yc, yk, r⟩; exact ⟨y, (he y yc yk).2 hy, yc, yk, r⟩

theorem Inv.congr {st : RState} {L L' : List LDep} (h : Inv st L) (hn : L'.Nodup) (he : ∀ x, x ∈ L ↔ x ∈ L') :
    Inv st L' where
  lnodup := hn
  names := fun x hx => h.names x ((he x).2 hx)
  keysNodup := h.keysNodup
  pw := h.pw
  nonempty := h.nonempty
  memNodup := h.memNodup
  mem := fun i x => by rw [h.mem i x, he x]
  centry := fun c k i hi => entryOk_congr (h.entry hi) (fun x _ _ => he x)
  live := fun x hx => h.live x ((he x).2 hx)

/-- `hno`: nothing of `L` lives under (`c`, `k`) yet, so the new map entry is the only one for it.  `register` inserts
    `newGroup k D` or merges it into the group of an `identEq` identity; either way `membersOf` gains `D` exactly at the
    identities `identEq` to the one returned (`mem_membersOf_register`, `register_snd`). -/
theorem addGroup_inv {st : RState} {L : List LDep} (h : Inv st L) (c : Nat) (k : GKey) (D : List LDep)
    (hne : D ≠ []) (hnd : D.Nodup)
    (hD : ∀ x ∈ D, x.d.child = c ∧ x.d.key = k ∧ x.d.group ≠ some "")
    (hno : ∀ x ∈ L, ¬ (x.d.child = c ∧ x.d.key = k)) :
    Inv (addGroup st c k D) (L ++ D) := by
  have hfresh : ∀ i, ((c, k), i) ∉ st.cmap := by
    intro i hi
    obtain ⟨x, hx, hc⟩ := h.entry_iff.1 ⟨i, hi⟩
    exact hno x hx hc
  have hDL : ∀ x ∈ D, x ∉ L := fun x hx hl => hno x hl ⟨(hD x hx).1, (hD x hx).2.1⟩
  have hret : identEq (register st.registry (newGroup k D)).2 (newGroup k D).ident = true := register_snd _ _
  have hreg : (addGroup st c k D).registry = upd (newGroup k D).ident (· ++ D) st.registry := register_fst hne _
  refine ⟨?_, ?_, ?_, hreg ▸ upd_PW _ _ _ h.pw, ?_, ?_, ?_, ?_, ?_⟩
  · -- lnodup
    exact List.nodup_append.2 ⟨h.lnodup, hnd, fun a ha b hb e => hDL b hb (e ▸ ha)⟩
  · -- names
    intro x hx
    exact (List.mem_append.1 hx).elim (h.names x) (fun hx => (hD x hx).2.2)
  · -- keysNodup (`pw` stands in the `refine`)
    simp only [addGroup, List.map_cons, List.nodup_cons]
    refine ⟨?_, h.keysNodup⟩
    intro hin
    obtain ⟨e, he, hk⟩ := List.mem_map.1 hin
    exact hfresh e.2 (by rw [← hk]; exact he)
  · -- nonempty
    exact hreg ▸ upd_nonempty h.nonempty
  · -- memNodup
    intro i
    rw [hreg, membersOf_upd _ _ _ _ h.pw]
    split
    · exact List.nodup_append.2 ⟨h.memNodup i, hnd, fun a ha b hb e => hDL b hb (e ▸ ((h.mem i a).1 ha).1)⟩
    · exact h.memNodup i
  · -- mem
    intro i x
    show x ∈ membersOf (register st.registry (newGroup k D)).1 i ↔ _
    rw [mem_membersOf_register h.pw hne, List.mem_append, h.mem i x]
    -- the entry of a dependency of `L` is an old one, that of a dependency of `D` the new one
    constructor
    · rintro (⟨hx, i', hi', hie⟩ | ⟨he, hx⟩)
      · exact ⟨Or.inl hx, i', List.mem_cons_of_mem _ hi', hie⟩
      · exact ⟨Or.inr hx, _, by rw [(hD x hx).1, (hD x hx).2.1]; exact List.mem_cons_self, identEq_trans hret he⟩
    · rintro ⟨hx | hx, i', hi', hie⟩
      · exact Or.inl ⟨hx, i', (List.mem_cons.1 hi').resolve_left
          (fun e => hno x hx (Prod.mk.inj (congrArg Prod.fst e))), hie⟩
      · rw [(hD x hx).1, (hD x hx).2.1] at hi'
        have hi'' : i' = (register st.registry (newGroup k D)).2 :=
          (List.mem_cons.1 hi').elim (congrArg Prod.snd) (fun hm => absurd hm (hfresh i'))
        rw [hi''] at hie
        exact Or.inr ⟨identEq_trans (identEq_symm hret) hie, hx⟩
  · -- centry
    intro c' k' i hi
    rcases List.mem_cons.1 hi with hi | hi
    · -- the new entry: its identity has the name and the composite keys of `newGroup k D`
      cases hi
      have hid : (register st.registry (newGroup k D)).2.1 = (newGroup k D).ident.1 ∧
          ∀ ck, ck ∈ (register st.registry (newGroup k D)).2.2 ↔ ck ∈ (newGroup k D).ident.2 := identEq_iff.1 hret
      obtain ⟨x, hx⟩ := List.exists_mem_of_ne_nil D hne
      refine ⟨hid.1, fun ck => ?_, x, List.mem_append.2 (Or.inr hx), (hD x hx).1, (hD x hx).2.1⟩
      rw [hid.2 ck]
      show ck ∈ D.map (·.d.composite) ↔ _
      rw [List.mem_map]
      constructor
      · rintro ⟨y, hy, rfl⟩
        exact ⟨y, List.mem_append.2 (Or.inr hy), (hD y hy).1, (hD y hy).2.1, rfl⟩
      · rintro ⟨y, hy, yc, yk, ycomp⟩
        exact ⟨y, (List.mem_append.1 hy).resolve_left (fun hl => hno y hl ⟨yc, yk⟩), ycomp⟩
    · -- an old entry: a member of `D` under its key would make that key (`c`, `k`), which has no old entry (`hfresh`)
      refine entryOk_congr (h.entry hi) (fun x xc xk => ⟨fun hx => List.mem_append.2 (Or.inl hx), fun hx => ?_⟩)
      refine (List.mem_append.1 hx).resolve_right (fun hd => hfresh i ?_)
      rw [← (hD x hd).1, ← (hD x hd).2.1, xc, xk]
      exact hi
  · -- live
    intro x hx
    rcases List.mem_append.1 hx with hx | hx
    · obtain ⟨i, hi⟩ := h.live x hx
      exact ⟨i, List.mem_cons_of_mem _ hi⟩
    · exact ⟨_, by rw [(hD x hx).1, (hD x hx).2.1]; exact List.mem_cons_self⟩

theorem Inv.named_ne {st : RState} {L : List LDep} (h : Inv st L) {c : Nat} {n : String} {i : Ident}
    (hi : ((c, .named n), i) ∈ st.cmap) : n ≠ "" := by
  obtain ⟨x, hx, _, xk⟩ := (h.entry hi).witness
  intro he
  exact h.names x hx (by rw [key_eq_named xk, he])

/-- two keys of one child never get `identEq` identities: the names tell redundancy groups from each other and from the rest
    (`Inv.named_ne`), and outside redundancy groups every composite key carries the parent, which is the key. -/
theorem key_eq_of_identEq {st : RState} {L : List LDep} (h : Inv st L) {c : Nat} {k k' : GKey} {i i' : Ident}
    (h1 : ((c, k), i) ∈ st.cmap) (h2 : ((c, k'), i') ∈ st.cmap) (he : identEq i' i = true) : k' = k := by
  have e1 := h.entry h1
  have e2 := h.entry h2
  obtain ⟨y, hy, yc, yk⟩ := e2.witness
  have hid := identEq_iff.1 he
  have hname : k'.name = k.name := by rw [← e1.name, ← e2.name]; exact hid.1
  cases k with
  | named n =>
    cases k' with
    | named n' => exact congrArg GKey.named hname
    | parent p' => exact absurd hname.symm (h.named_ne h1)
  | parent p =>
    cases k' with
    | named n' => exact absurd hname (h.named_ne h2)
    | parent p' =>
      -- a composite key of y's group lies in i, hence belongs to some dependency under key `parent p`
      have hy2 : y.d.composite ∈ i'.2 := (e2.keys _).2 ⟨y, hy, yc, yk, rfl⟩
      obtain ⟨z, _, _, zk, zcomp⟩ := (e1.keys _).1 ((hid.2 _).1 hy2)
      have e3 : z.d.parent = y.d.parent := congrArg Prod.fst zcomp
      rw [← (key_eq_parent zk).2, ← (key_eq_parent yk).2, e3]

def without (L : List LDep) (c : Nat) (k : GKey) : List LDep :=
  L.filter (fun x => !(x.d.child == c && x.d.key == k))

theorem mem_without {L : List LDep} {c : Nat} {k : GKey} {x : LDep} :
    x ∈ without L c k ↔ x ∈ L ∧ ¬ (x.d.child = c ∧ x.d.key = k) := by
  simp [without, List.mem_filter, Decidable.imp_iff_not_or]

/-- what one group object holds for `c`, and what `without` leaves out. -/
def slice (L : List LDep) (c : Nat) (k : GKey) : List LDep :=
  L.filter (fun x => x.d.child == c && x.d.key == k)

theorem mem_slice {L : List LDep} {c : Nat} {k : GKey} {x : LDep} :
    x ∈ slice L c k ↔ x ∈ L ∧ x.d.child = c ∧ x.d.key = k := by
  simp [slice, List.mem_filter]

theorem mem_without_or_slice {L : List LDep} {c : Nat} {k : GKey} {y : LDep} :
    y ∈ L ↔ y ∈ without L c k ∨ y ∈ slice L c k := by
  unfold without slice
  rw [or_comm, ← List.mem_append]
  exact (List.filter_append_perm _ L).mem_iff.symm

/-- Left: `unregister … i0 c` takes `x` out of its group.  Right: `x` belongs to the slice that `without L c k` removes
    from the live set.  They agree because two keys of one child never get `identEq` identities (`key_eq_of_identEq`). -/
theorem entry_selects_slice {st : RState} {L : List LDep} (h : Inv st L) {c : Nat} {k : GKey} {i0 i : Ident} {x : LDep}
    (hent : ((c, k), i0) ∈ st.cmap) (hx : x ∈ membersOf st.registry i) :
    (identEq i0 i = true ∧ x.d.child = c) ↔ (x.d.child = c ∧ x.d.key = k) := by
  obtain ⟨_, i', hi', hie⟩ := (h.mem i x).1 hx
  constructor
  · rintro ⟨he, hc⟩
    rw [hc] at hi'
    exact ⟨hc, key_eq_of_identEq h hent hi' (identEq_trans hie (identEq_symm he))⟩
  · rintro ⟨hc, hk⟩
    rw [hc, hk] at hi'
    rw [cmap_entry_unique h.keysNodup hent hi']
    exact ⟨hie, hc⟩

/-- `unregister` filters the child `c` out of the group the entry names; that removes exactly the slice (`c`, `k`), not
    what `c` has under other keys (`entry_selects_slice`). -/
theorem dropGroup_inv {st : RState} {L : List LDep} (h : Inv st L) (c : Nat) (k : GKey) :
    Inv (dropGroup st c k).1 (without L c k) ∧
    (∀ x, x ∈ (dropGroup st c k).2 ↔ x ∈ slice L c k) ∧
    (dropGroup st c k).2.Nodup := by
  unfold dropGroup
  cases hl : cmapLookup st.cmap (c, k) with
  | none =>
    have hno : ∀ x ∈ L, ¬ (x.d.child = c ∧ x.d.key = k) := by
      intro x hx hc
      obtain ⟨i, hi⟩ := h.entry_iff.2 ⟨x, hx, hc⟩
      exact not_mem_of_cmapLookup_eq_none hl i hi
    refine ⟨?_, fun x => ⟨fun hx => (nomatch hx), fun hx => absurd (mem_slice.1 hx).2 (hno x (mem_slice.1 hx).1)⟩,
      List.nodup_nil⟩
    refine h.congr (h.lnodup.filter _) (fun x => ?_)
    rw [mem_without]
    exact ⟨fun hx => ⟨hx, hno x hx⟩, fun hx => hx.1⟩
  | some i0 =>
    have hent := (cmapLookup_eq_some h.keysNodup).1 hl
    have hsnd := unregister_snd c st.registry i0
    simp only  -- reduces the `match`
    refine ⟨⟨?_, ?_, ?_, ?_, ?_, ?_, ?_, ?_, ?_⟩, fun x => ?_, ?_⟩
    · -- lnodup
      exact h.lnodup.filter _
    · -- names
      exact fun x hx => h.names x (mem_without.1 hx).1
    · -- keysNodup
      exact (List.filter_sublist.map _).nodup h.keysNodup
    · -- pw
      exact unregister_fst c i0 _ ▸ upd_PW _ _ _ h.pw
    · -- nonempty
      exact unregister_fst c i0 _ ▸ upd_nonempty h.nonempty
    · -- memNodup
      intro i
      show (membersOf (unregister st.registry i0 c).1 i).Nodup
      rw [unregister_fst, membersOf_upd _ _ _ _ h.pw]
      split
      · exact (h.memNodup i).filter _
      · exact h.memNodup i
    · -- mem
      intro i x
      show x ∈ membersOf (unregister st.registry i0 c).1 i ↔ _
      rw [mem_membersOf_unregister h.pw, mem_without]
      constructor
      · rintro ⟨hx, hn⟩
        obtain ⟨hxL, i', hi', hie⟩ := (h.mem i x).1 hx
        have hnk : ¬ (x.d.child = c ∧ x.d.key = k) := fun hk => hn ((entry_selects_slice h hent hx).2 hk)
        exact ⟨⟨hxL, hnk⟩, i', mem_cmapErase.2 ⟨hi', fun e => hnk (Prod.mk.inj e)⟩, hie⟩
      · rintro ⟨⟨hxL, hnk⟩, i', hi', hie⟩
        have hx := (h.mem i x).2 ⟨hxL, i', (mem_cmapErase.1 hi').1, hie⟩
        exact ⟨hx, fun hc => hnk ((entry_selects_slice h hent hx).1 hc)⟩
    · -- centry
      intro c' k' i hi
      obtain ⟨hi1, hkey⟩ := mem_cmapErase.1 hi
      refine entryOk_congr (h.entry hi1) (fun x xc xk => ⟨fun hx => mem_without.2 ⟨hx, fun hk => hkey ?_⟩,
        fun hx => (mem_without.1 hx).1⟩)
      show (c', k') = (c, k)
      rw [← xc, ← xk, hk.1, hk.2]
    · -- live
      intro x hx
      obtain ⟨hx1, hx2⟩ := mem_without.1 hx
      obtain ⟨i, hi⟩ := h.live x hx1
      exact ⟨i, mem_cmapErase.2 ⟨hi, fun e => hx2 (Prod.mk.inj e)⟩⟩
    · -- what is returned is the slice
      rw [hsnd, List.mem_filter, beq_iff_eq, mem_slice]
      constructor
      · rintro ⟨hx, hc⟩
        exact ⟨((h.mem i0 x).1 hx).1, (entry_selects_slice h hent hx).1 ⟨identEq_refl _, hc⟩⟩
      · rintro ⟨hx, hc, hk⟩
        exact ⟨(h.mem i0 x).2 ⟨hx, i0, by rw [hc, hk]; exact hent, identEq_refl _⟩, hc⟩
    · -- … each once
      rw [hsnd]
      exact (h.memNodup i0).filter _

/-- the shape `AddDependency` and `RemoveDependency` share (checkable-dependency.cpp:83-96, 113-133): take the child's
    dependencies under the key out of their group, change that set by `f`, register a group for the result unless it is empty. -/
def regroup (st : RState) (c : Nat) (k : GKey) (f : List LDep → List LDep) : RState :=
  if (f (dropGroup st c k).2).isEmpty then (dropGroup st c k).1
  else addGroup (dropGroup st c k).1 c k (f (dropGroup st c k).2)

theorem regroup_inv {st : RState} {L : List LDep} (h : Inv st L) (c : Nat) (k : GKey) (f : List LDep → List LDep)
    (hnd : (f (dropGroup st c k).2).Nodup)
    (hD : ∀ x ∈ f (dropGroup st c k).2, x.d.child = c ∧ x.d.key = k ∧ x.d.group ≠ some "") :
    Inv (regroup st c k f) (without L c k ++ f (dropGroup st c k).2) := by
  unfold regroup
  split
  · next hemp =>
    rw [List.isEmpty_iff.1 hemp, List.append_nil]
    exact (dropGroup_inv h c k).1
  · next hne =>
    exact addGroup_inv (dropGroup_inv h c k).1 c k _ (by simpa [List.isEmpty_iff] using hne) hnd hD
      (fun _ hy => (mem_without.1 hy).2)

/-! `dependencies.emplace(dependency)` on a `std::set` (checkable-dependency.cpp:93): append unless present -/

theorem mem_emplace {l : List LDep} {x y : LDep} : y ∈ (if l.contains x then l else l ++ [x]) ↔ y ∈ l ∨ y = x := by
  split
  · next hc => exact ⟨Or.inl, fun h => h.elim id (fun e => e ▸ List.contains_iff_mem.1 hc)⟩
  · rw [List.mem_append, List.mem_singleton]

theorem nodup_emplace {l : List LDep} {x : LDep} (h : l.Nodup) : (if l.contains x then l else l ++ [x]).Nodup := by
  split
  · exact h
  · next hc =>
    rw [List.nodup_append]
    exact ⟨h, List.nodup_cons.2 ⟨List.not_mem_nil, List.nodup_nil⟩, fun a ha b hb e => hc (List.contains_iff_mem.2 (List.mem_singleton.1 hb ▸ e ▸ ha))⟩

theorem mem_liveAfter_add {L : List LDep} {x y : LDep} : y ∈ liveAfter L (.add x) ↔ y ∈ L ∨ y = x := mem_emplace

theorem addDep_eq (st : RState) (x : LDep) :
    addDep st x = regroup st x.d.child x.d.key (fun l => if l.contains x then l else l ++ [x]) := by
  unfold regroup
  rw [if_neg]
  · rfl
  · exact fun he => List.ne_nil_of_mem (mem_emplace.2 (Or.inr rfl)) (List.isEmpty_iff.1 he)

theorem addDep_inv {st : RState} {L : List LDep} (h : Inv st L) (x : LDep) (hname : x.d.group ≠ some "") :
    Inv (addDep st x) (liveAfter L (.add x)) := by
  obtain ⟨_, hmem, hnd⟩ := dropGroup_inv h x.d.child x.d.key
  rw [addDep_eq]
  refine (regroup_inv h _ _ _ (nodup_emplace hnd) ?_).congr (nodup_emplace h.lnodup) (fun y => ?_)
  · intro y hy
    rcases mem_emplace.1 hy with hy | rfl
    · obtain ⟨h1, h2, h3⟩ := mem_slice.1 ((hmem y).1 hy)
      exact ⟨h2, h3, h.names y h1⟩
    · exact ⟨rfl, rfl, hname⟩
  · rw [List.mem_append, mem_emplace, mem_liveAfter_add, hmem y, ← or_assoc, ← mem_without_or_slice]

/-- without an entry nothing is dropped, so `RemoveDependency`'s early return is the general case with nothing
    left to re-register. -/
theorem removeDep_eq (st : RState) (x : LDep) :
    removeDep st x = regroup st x.d.child x.d.key (·.filter (fun y => !(y == x))) := by
  unfold removeDep regroup dropGroup
  cases cmapLookup st.cmap (x.d.child, x.d.key) <;> rfl

theorem mem_filter_ne {l : List LDep} {x y : LDep} : y ∈ l.filter (fun y => !(y == x)) ↔ y ∈ l ∧ y ≠ x := by
  rw [List.mem_filter, Bool.not_eq_true', beq_eq_false_iff_ne]

theorem mem_liveAfter_remove {L : List LDep} {x y : LDep} : y ∈ liveAfter L (.remove x) ↔ y ∈ L ∧ y ≠ x := mem_filter_ne

theorem removeDep_inv {st : RState} {L : List LDep} (h : Inv st L) (x : LDep) :
    Inv (removeDep st x) (liveAfter L (.remove x)) := by
  obtain ⟨_, hmem, hnd⟩ := dropGroup_inv h x.d.child x.d.key
  rw [removeDep_eq]
  refine (regroup_inv h _ _ _ (hnd.filter _) (fun y hy => ?_)).congr (h.lnodup.filter _) (fun y => ?_)
  · obtain ⟨hL, hc, hk⟩ := mem_slice.1 ((hmem y).1 (mem_filter_ne.1 hy).1)
    exact ⟨hc, hk, h.names y hL⟩
  · -- what is dropped and not registered again is `x` alone
    rw [List.mem_append, mem_filter_ne, hmem y, mem_liveAfter_remove,
      mem_without_or_slice (L := L) (c := x.d.child) (k := x.d.key), or_and_right]
    -- outside the slice of `x` every dependency differs from `x` anyway
    exact or_congr_left ⟨fun hw => ⟨hw, fun e => (mem_without.1 hw).2 (e ▸ ⟨rfl, rfl⟩)⟩, And.left⟩

theorem inv_empty : Inv {} [] where
  lnodup := List.nodup_nil
  names := fun _ h => by cases h
  keysNodup := List.nodup_nil
  pw := List.Pairwise.nil
  nonempty := fun _ h => by cases h
  memNodup := fun _ => List.nodup_nil
  mem := fun _ _ => by simp [membersOf]
  centry := fun _ _ _ h => by cases h
  live := fun _ h => by cases h

theorem run_inv : ∀ (ops : List ROp) (st : RState) (L : List LDep), Inv st L →
    (∀ x, ROp.add x ∈ ops → x.d.group ≠ some "") →
    Inv (ops.foldl applyOp st) (ops.foldl liveAfter L) := by
  intro ops
  induction ops with
  | nil => intro st L h _; exact h
  | cons op rest ih =>
    intro st L h hn
    simp only [List.foldl_cons]
    apply ih
    · cases op with
      | add x => exact addDep_inv h x (hn x List.mem_cons_self)
      | remove x => exact removeDep_inv h x
    · intro x hx; exact hn x (List.mem_cons_of_mem _ hx)

theorem run_inv_empty (ops : List ROp) (hn : ∀ x, ROp.add x ∈ ops → x.d.group ≠ some "") :
    Inv (ops.foldl applyOp {}) (ops.foldl liveAfter []) :=
  run_inv ops {} [] inv_empty hn

theorem liveAfter_adds : ∀ (ys L : List LDep), (∀ y ∈ ys, y ∉ L) → ys.Nodup →
    (ys.map ROp.add).foldl liveAfter L = L ++ ys := by
  intro ys
  induction ys with
  | nil => intro L _ _; simp
  | cons y ys ih =>
    intro L hf hnd
    rw [List.nodup_cons] at hnd
    have hy : L.contains y = false := by
      rw [← Bool.not_eq_true, List.contains_iff_mem]
      exact hf y List.mem_cons_self
    simp only [List.map_cons, List.foldl_cons, liveAfter, hy, Bool.false_eq_true, if_false]
    rw [ih (L ++ [y]) ?_ hnd.2, List.append_assoc]
    · rfl
    · intro z hz hm
      rcases List.mem_append.1 hm with hm | hm
      · exact hf z (List.mem_cons_of_mem _ hz) hm
      · exact hnd.1 (List.mem_singleton.1 hm ▸ hz)

theorem liveAfter_removes : ∀ (xs L : List LDep),
    (xs.map ROp.remove).foldl liveAfter L = L.filter (fun y => !xs.contains y) := by
  intro xs
  induction xs with
  | nil => intro L; exact (List.filter_eq_self.2 (fun _ _ => rfl)).symm
  | cons x xs ih =>
    intro L
    simp only [List.map_cons, List.foldl_cons, liveAfter, ih, List.filter_filter]
    refine List.filter_congr (fun y _ => ?_)
    rw [List.contains_cons, Bool.not_or, Bool.and_comm]

theorem addAll_inv (ys : List LDep) (st : RState) (L : List LDep) (h : Inv st L)
    (hn : ∀ y ∈ ys, y.d.group ≠ some "") (hf : ∀ y ∈ ys, y ∉ L) (hnd : ys.Nodup) :
    Inv (ys.foldl addDep st) (L ++ ys) := by
  have := run_inv (ys.map ROp.add) st L h (fun x hx => by
    obtain ⟨y, hy, e⟩ := List.mem_map.1 hx
    exact ROp.add.inj e ▸ hn y hy)
  rw [liveAfter_adds _ _ hf hnd, List.foldl_map] at this
  exact this

theorem removeAll_inv (xs : List LDep) (st : RState) (L : List LDep) (h : Inv st L) :
    Inv (xs.foldl removeDep st) (L.filter (fun y => !xs.contains y)) := by
  have := run_inv (xs.map ROp.remove) st L h (fun x hx => by
    obtain ⟨_, _, e⟩ := List.mem_map.1 hx
    cases e)
  rw [liveAfter_removes, List.foldl_map] at this
  exact this

/-- `L0` is what has been pushed so far (nothing of it under a pair still in `todo`); each step adds the slice of one pair by
    `addGroup_inv`.  Once `todo` covers every pair of `L` the flatMap is `L` (`fresh_load_spec`). -/
theorem pushAll_inv (L : List LDep) (hL : L.Nodup) (hnames : ∀ x ∈ L, x.d.group ≠ some "") :
    ∀ (todo : List (Nat × GKey)) (st : RState) (L0 : List LDep), todo.Nodup →
      (∀ ck ∈ todo, ∃ x ∈ L, (x.d.child, x.d.key) = ck) →
      (∀ x ∈ L0, (x.d.child, x.d.key) ∉ todo) →
      Inv st L0 →
      Inv (pushAll L st todo)
        (L0 ++ todo.flatMap (fun ck => slice L ck.1 ck.2)) := by
  intro todo
  induction todo with
  | nil =>
    intro st L0 _ _ _ h
    simpa [pushAll] using h
  | cons ck rest ih =>
    intro st L0 hnd htodo h0 h
    obtain ⟨c, k⟩ := ck
    rw [List.nodup_cons] at hnd
    obtain ⟨x0, hx0, hx0k⟩ := htodo (c, k) List.mem_cons_self
    have hstep := addGroup_inv h c k (slice L c k) (List.ne_nil_of_mem (mem_slice.2 ⟨hx0, Prod.mk.inj hx0k⟩)) (hL.filter _)
      (fun x hx => ⟨(mem_slice.1 hx).2.1, (mem_slice.1 hx).2.2, hnames x (mem_slice.1 hx).1⟩)
      (fun x hx hc => h0 x hx (by rw [hc.1, hc.2]; exact List.mem_cons_self))
    rw [List.flatMap_cons, ← List.append_assoc]
    refine ih _ _ hnd.2 (fun q hq => htodo q (List.mem_cons_of_mem _ hq)) (fun x hx hq => ?_) hstep
    rcases List.mem_append.1 hx with hx | hx
    · exact h0 x hx (List.mem_cons_of_mem _ hq)
    · obtain ⟨_, xc, xk⟩ := mem_slice.1 hx
      rw [xc, xk] at hq
      exact hnd.1 hq

/-- the view reads exactly what `dropGroup` would take out, so `dropGroup_inv` describes it. -/
theorem viewDeps_eq_drop (st : RState) (c : Nat) (k : GKey) : viewDeps st c k = (dropGroup st c k).2 := by
  unfold viewDeps dropGroup
  cases cmapLookup st.cmap (c, k) with
  | none => rfl
  | some i => simp only [unregister_snd]

theorem mem_viewDeps {st : RState} {L : List LDep} (h : Inv st L) {c : Nat} {k : GKey} {x : LDep} :
    x ∈ viewDeps st c k ↔ x ∈ L ∧ x.d.child = c ∧ x.d.key = k := by
  rw [viewDeps_eq_drop, (dropGroup_inv h c k).2.1 x, mem_slice]

theorem nodup_viewDeps {st : RState} {L : List LDep} (h : Inv st L) (c : Nat) (k : GKey) : (viewDeps st c k).Nodup := by
  rw [viewDeps_eq_drop]
  exact (dropGroup_inv h c k).2.2

/-- identity of the group a fresh load gives to child `c` under key `k`. -/
def specIdent (L : List LDep) (c : Nat) (k : GKey) : Ident :=
  (k.name, (L.filter (fun x => x.d.child == c && x.d.key == k)).map (·.d.composite))

theorem specIdent_eq (L : List LDep) (c : Nat) (k : GKey) :
    specIdent L c k = (k.name, (slice L c k).map (·.d.composite)) := rfl

namespace Inv
theorem entry_ident {st : RState} {L : List LDep} (h : Inv st L) {c : Nat} {k : GKey} {i : Ident}
    (hi : ((c, k), i) ∈ st.cmap) : identEq i (specIdent L c k) = true := by
  rw [identEq_iff]
  refine ⟨(h.entry hi).name, fun ck => ?_⟩
  rw [(h.entry hi).keys ck]
  simp only [specIdent_eq, List.mem_map, mem_slice, and_assoc]
end Inv

/-- the registry is exactly what a fresh load of `L` builds. -/
def RegistryIs (reg : List Group) (L : List LDep) : Prop :=
  PW reg ∧
  (∀ g ∈ reg, g.members ≠ [] ∧ g.members.Nodup ∧
    ∀ x, x ∈ g.members ↔ x ∈ L ∧ identEq (specIdent L x.d.child x.d.key) g.ident = true) ∧
  (∀ x ∈ L, ∃ g ∈ reg, identEq (specIdent L x.d.child x.d.key) g.ident = true)

namespace Inv
theorem registryIs {st : RState} {L : List LDep} (h : Inv st L) : RegistryIs st.registry L := by
  refine ⟨h.pw, ?_, ?_⟩
  · intro g hg
    have hm := membersOf_of_mem _ h.pw g hg
    refine ⟨h.nonempty g hg, hm ▸ h.memNodup g.ident, ?_⟩
    intro x
    rw [← hm, h.mem g.ident x]
    constructor
    · rintro ⟨hx, i', hi', hie⟩
      exact ⟨hx, identEq_trans (identEq_symm (h.entry_ident hi')) hie⟩
    · rintro ⟨hx, hie⟩
      obtain ⟨i', hi'⟩ := h.live x hx
      exact ⟨hx, i', hi', identEq_trans (h.entry_ident hi') hie⟩
  · intro x hx
    obtain ⟨i', hi'⟩ := h.live x hx
    have : x ∈ membersOf st.registry i' := (h.mem i' x).2 ⟨hx, i', hi', identEq_refl _⟩
    obtain ⟨g, hg, he⟩ := exists_of_membersOf_ne_nil _ _ (List.ne_nil_of_mem this)
    exact ⟨g, hg, identEq_trans (identEq_symm (h.entry_ident hi')) (identEq_symm he)⟩
end Inv

/-- two groups of `l1` cannot land on the same group of `l2`. -/
theorem length_le_of_embeds : ∀ (l1 l2 : List Group), PW l1 →
    (∀ a ∈ l1, ∃ b ∈ l2, identEq a.ident b.ident = true) → l1.length ≤ l2.length := by
  intro l1
  induction l1 with
  | nil => intro _ _ _; simp
  | cons a t ih =>
    intro l2 hp hemb
    have hp := List.pairwise_cons.1 hp
    obtain ⟨b, hb, hab⟩ := hemb a List.mem_cons_self
    obtain ⟨s, u, rfl⟩ := List.mem_iff_append.1 hb
    have := ih (s ++ u) hp.2 (by
      intro a' ha'
      obtain ⟨b', hb', hab'⟩ := hemb a' (List.mem_cons_of_mem _ ha')
      refine ⟨b', ?_, hab'⟩
      rcases List.mem_append.1 hb' with h1 | h1
      · exact List.mem_append.2 (Or.inl h1)
      · rcases List.mem_cons.1 h1 with rfl | h1
        · have := hp.1 a' ha'
          rw [identEq_trans hab (identEq_symm hab')] at this; cases this
        · exact List.mem_append.2 (Or.inr h1))
    simp only [List.length_append, List.length_cons] at this ⊢
    omega

theorem registryIs_unique {r1 r2 : List Group} {L : List LDep} (h1 : RegistryIs r1 L) (h2 : RegistryIs r2 L) :
    (∀ g ∈ r1, ∃ g' ∈ r2, identEq g.ident g'.ident = true ∧ ∀ x, x ∈ g.members ↔ x ∈ g'.members) ∧
    r1.length = r2.length := by
  have emb : ∀ {ra rb : List Group}, RegistryIs ra L → RegistryIs rb L →
      ∀ g ∈ ra, ∃ g' ∈ rb, identEq g.ident g'.ident = true ∧ ∀ x, x ∈ g.members ↔ x ∈ g'.members := by
    intro ra rb ha hb g hg
    obtain ⟨hne, _, hm⟩ := ha.2.1 g hg
    obtain ⟨x, hx⟩ := List.exists_mem_of_ne_nil _ hne
    obtain ⟨hxL, hxi⟩ := (hm x).1 hx
    obtain ⟨g', hg', hxi'⟩ := hb.2.2 x hxL
    have hgg : identEq g.ident g'.ident = true := identEq_trans (identEq_symm hxi) hxi'
    refine ⟨g', hg', hgg, fun y => ?_⟩
    rw [hm y, (hb.2.1 g' hg').2.2 y]
    constructor
    · rintro ⟨hy, hyi⟩; exact ⟨hy, identEq_trans hyi hgg⟩
    · rintro ⟨hy, hyi⟩; exact ⟨hy, identEq_trans hyi (identEq_symm hgg)⟩
  refine ⟨emb h1 h2, Nat.le_antisymm ?_ ?_⟩
  · exact length_le_of_embeds r1 r2 h1.1 (fun a ha => by obtain ⟨b, hb, he, _⟩ := emb h1 h2 a ha; exact ⟨b, hb, he⟩)
  · exact length_le_of_embeds r2 r1 h2.1 (fun a ha => by obtain ⟨b, hb, he, _⟩ := emb h2 h1 a ha; exact ⟨b, hb, he⟩)

end Icinga.C07
