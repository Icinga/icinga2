/-
  C07 — the history model composed with the registry model: the registry is driven by the same operations
  (accepted batches through `addDep`, removals through `removeDep`), and every query of the history is answered by
  the walk over the registry's group objects.
-/
import IcingaProofs.C07.History
import IcingaProofs.C07.RegReach
namespace Icinga.C07

def ldepOf (x : Nat × Dep) : LDep := { id := x.1, d := x.2 }

/-- the registry side of one history step (`Dependency::OnAllConfigLoaded` → `AddDependency` for every dependency of an
    accepted batch, `Dependency::Stop` → `RemoveDependency`). -/
def rstep (n : Nat) (hs : HState) (rst : RState) : HOp → RState
  | .load batch =>
    if (runtimeAdd hs.cfg.graph (batch.map (·.2)) n).2 then batch.foldl (fun s x => addDep s (ldepOf x)) rst else rst
  | .remove id => (hs.cfg.live.filter (fun x => x.1 == id)).foldl (fun s x => removeDep s (ldepOf x)) rst
  | _ => rst

/-- well-formed input: a batch brings new objects (ids not live, pairwise different) and non-empty group names. -/
def OpFresh (hs : HState) : HOp → Prop
  | .load batch => (batch.map (·.1)).Nodup ∧ (∀ x ∈ batch, x.1 ∉ hs.cfg.live.map (·.1)) ∧ ∀ x ∈ batch, x.2.group ≠ some ""
  | _ => True

def FreshRun (n : Nat) : HState → List HOp → Prop
  | _, [] => True
  | hs, op :: ops => OpFresh hs op ∧ FreshRun n (hstep n hs op).1 ops

def hrunR (n : Nat) : HState → RState → List HOp → HState × RState
  | hs, rst, [] => (hs, rst)
  | hs, rst, op :: ops => hrunR n (hstep n hs op).1 (rstep n hs rst op) ops

def InStep (hs : HState) (rst : RState) : Prop := Inv rst (hs.cfg.live.map ldepOf)

theorem ldepOf_inj {x y : Nat × Dep} (h : ldepOf x = ldepOf y) : x = y :=
  Prod.ext (congrArg LDep.id h) (congrArg LDep.d h)

theorem liveGraph_cfg (c : Cfg) : liveGraph c.node c.eff (c.live.map ldepOf) = c.graph := by
  simp only [liveGraph, Cfg.graph, List.map_map]
  rfl

theorem query_via_registry {hs : HState} {rst : RState} (h : InStep hs rst) (dt : Aspect) (v : Nat) :
    isReachableR rst hs.cfg.node hs.cfg.eff dt v = isReachable hs.cfg.graph dt v := by
  unfold isReachableR isReachable
  rw [reachableR_eq h hs.cfg.node (keepsShape_cfg hs.cfg) dt topFuel v, liveGraph_cfg]

theorem inStep_step (n : Nat) {hs : HState} {rst : RState} (h : InStep hs rst) (op : HOp) (hf : OpFresh hs op) :
    InStep (hstep n hs op).1 (rstep n hs rst op) := by
  cases op with
  | load batch =>
    obtain ⟨hnd, hnew, hnames⟩ := hf
    rw [hstep_load_fst]
    simp only [rstep, runtimeAdd_snd]
    cases (cycleCheck hs.cfg.graph (batch.map (·.2)) n).accepted with
    | false => exact h
    | true =>
      show Inv _ ((hs.cfg.live ++ batch).map ldepOf)
      rw [List.map_append]
      have := addAll_inv (batch.map ldepOf) rst _ h
        (hn := fun y hy => by obtain ⟨x, hx, rfl⟩ := List.mem_map.1 hy; exact hnames x hx)
        (hf := fun y hy hmem => by
          -- an object of the batch that is live would have a live id
          obtain ⟨x, hx, rfl⟩ := List.mem_map.1 hy
          obtain ⟨z, hz, hzx⟩ := List.mem_map.1 hmem
          exact hnew x hx (List.mem_map.2 ⟨z, hz, congrArg LDep.id hzx⟩))
        -- different ids, hence different objects
        (hnd := List.pairwise_map.2 ((List.pairwise_map.1 hnd).imp (fun hne e => hne (congrArg LDep.id e))))
      rw [List.foldl_map] at this
      exact this
  | remove id =>
    simp only [hstep, rstep, Cfg.next]
    -- the objects removed are those of the live entries with this id
    have hq : ∀ x ∈ hs.cfg.live,
        (!(((hs.cfg.live.filter (fun x => x.1 == id)).map ldepOf).contains (ldepOf x))) = (x.1 != id) := by
      intro x hx
      refine congrArg (!·) ?_
      rw [Bool.eq_iff_iff, List.contains_iff_mem, List.mem_map]
      constructor
      · rintro ⟨x', hx', e⟩
        rw [← ldepOf_inj e]
        exact (List.mem_filter.1 hx').2
      · intro hid
        exact ⟨x, List.mem_filter.2 ⟨hx, hid⟩, rfl⟩
    have h1 := removeAll_inv ((hs.cfg.live.filter (fun x => x.1 == id)).map ldepOf) rst _ h
    -- push the filter through `map ldepOf`, then `hq`
    rw [List.foldl_map, List.filter_map, Function.comp_def, List.filter_congr hq] at h1
    exact h1
  | _ => exact h

theorem inStep_run (n : Nat) {hs : HState} {rst : RState} (h : InStep hs rst) (ops : List HOp)
    (hf : FreshRun n hs ops) : InStep (hrunR n hs rst ops).1 (hrunR n hs rst ops).2 := by
  induction ops generalizing hs rst with
  | nil => exact h
  | cons op ops ih => exact ih (inStep_step n h op hf.1) hf.2

theorem inStep_init (node : Nat → Node) : InStep ({ cfg := { node := node } } : HState) {} :=
  inv_empty

theorem hrunR_fst (n : Nat) : ∀ (ops : List HOp) (hs : HState) (rst : RState),
    (hrunR n hs rst ops).1 = ops.foldl (fun hs op => (hstep n hs op).1) hs := by
  intro ops
  induction ops with
  | nil => intro hs rst; rfl
  | cons op ops ih => intro hs rst; simp only [hrunR, List.foldl_cons]; exact ih _ _

end Icinga.C07
