/-
  C07 — `IsReachable` evaluated through the registry's group objects (`reachableR`, the way the code
  walks `GetDependencyGroups()` / `GetDependenciesForChild()` / `IsRedundancyGroup()`) equals `reachable`
  on the live set, in every state satisfying the registry invariant `Inv`.
-/
import IcingaProofs.C07.Registry
namespace Icinga.C07

/-- the graph `isReachable` is asked about when the live `Dependency` objects are `L`: their values, each passed through
    `eff` (what is not part of the object's identity: is its period closed now). -/
def liveGraph (node : Nat → Node) (eff : Dep → Dep) (L : List LDep) : Graph :=
  { node := node, deps := L.map (fun x => eff x.d) }

theorem mem_liveGraph_deps {node : Nat → Node} {eff : Dep → Dep} {L : List LDep} {d : Dep} :
    d ∈ (liveGraph node eff L).deps ↔ ∃ x ∈ L, eff x.d = d := List.mem_map

/-- so that `eff` moves no dependency to another group of the registry. -/
def KeepsShape (eff : Dep → Dep) : Prop := ∀ d, (eff d).child = d.child ∧ (eff d).key = d.key

theorem keepsShape_id : KeepsShape id := fun _ => ⟨rfl, rfl⟩

theorem keepsShape_cfg (c : Cfg) : KeepsShape c.eff := fun _ => ⟨rfl, rfl⟩

theorem mem_groupsOf {st : RState} {v : Nat} {k : GKey} {i : Ident} :
    (k, i) ∈ groupsOf st v ↔ ((v, k), i) ∈ st.cmap := by
  simp only [groupsOf, List.mem_map, List.mem_filter, beq_iff_eq]
  constructor
  · rintro ⟨⟨⟨c, k'⟩, i'⟩, ⟨hm, hc⟩, heq⟩
    cases heq
    cases (hc : c = v)
    exact hm
  · intro h
    exact ⟨((v, k), i), ⟨h, rfl⟩, rfl⟩

theorem mem_groupDepsR {st : RState} {L : List LDep} (h : Inv st L) (node : Nat → Node) {eff : Dep → Dep}
    (he : KeepsShape eff) {v : Nat} {k : GKey} {i : Ident}
    (hi : ((v, k), i) ∈ st.cmap) (d : Dep) :
    d ∈ groupDepsR st eff v i ↔ d ∈ groupDeps (liveGraph node eff L) v k := by
  have hv : groupDepsR st eff v i = (viewDeps st v k).map (fun x => eff x.d) := by
    simp only [groupDepsR, viewDeps, (cmapLookup_eq_some h.keysNodup).2 hi]
  rw [hv, mem_groupDeps]
  simp only [List.mem_map, mem_viewDeps h, mem_liveGraph_deps]
  constructor
  · rintro ⟨x, ⟨hx, hc, hk⟩, rfl⟩
    exact ⟨⟨x, hx, rfl⟩, (he x.d).1.trans hc, (he x.d).2.trans hk⟩
  · rintro ⟨⟨x, hx, rfl⟩, hc, hk⟩
    exact ⟨x, ⟨hx, (he x.d).1.symm.trans hc, (he x.d).2.symm.trans hk⟩, rfl⟩

/-- they agree because redundancy group names are non-empty (`Inv.names`). -/
theorem identIsRedundancy_eq {st : RState} {L : List LDep} (h : Inv st L) {v : Nat} {k : GKey} {i : Ident}
    (hi : ((v, k), i) ∈ st.cmap) : identIsRedundancy i = k.isRedundancy := by
  unfold identIsRedundancy
  rw [(h.entry hi).name]
  cases k with
  | parent p => rfl
  | named n => simp [GKey.name, GKey.isRedundancy, h.named_ne hi]

theorem mem_groupKeys_live {st : RState} {L : List LDep} (h : Inv st L) (node : Nat → Node) {eff : Dep → Dep}
    (he : KeepsShape eff) {v : Nat} {k : GKey} :
    k ∈ groupKeys (liveGraph node eff L) v ↔ ∃ i, ((v, k), i) ∈ st.cmap := by
  rw [mem_groupKeys, h.entry_iff]
  constructor
  · rintro ⟨d, hd, hc, hkey⟩
    obtain ⟨x, hx, rfl⟩ := mem_liveGraph_deps.1 hd
    exact ⟨x, hx, (he x.d).1.symm.trans hc, (he x.d).2.symm.trans hkey⟩
  · rintro ⟨x, hx, hc, hkey⟩
    exact ⟨eff x.d, mem_liveGraph_deps.2 ⟨x, hx, rfl⟩, (he x.d).1.trans hc, (he x.d).2.trans hkey⟩

theorem reachStepR_eq {st : RState} {L : List LDep} (h : Inv st L) (node : Nat → Node) {eff : Dep → Dep}
    (he : KeepsShape eff) (dt : Aspect) (reach : Nat → Bool) (v : Nat) :
    reachStepR st node eff dt reach v = reachStep (liveGraph node eff L) dt reach v := by
  have key : ∀ k i, ((v, k), i) ∈ st.cmap →
      (groupState reach (available (liveGraph node eff L) dt) (identIsRedundancy i) (groupDepsR st eff v i) = .ok ↔
       groupState reach (available (liveGraph node eff L) dt) k.isRedundancy (groupDeps (liveGraph node eff L) v k) = .ok) := by
    intro k i hi
    rw [identIsRedundancy_eq h hi]
    exact groupState_ok_congr_mem _ _ _ (mem_groupDepsR h node he hi)
  unfold reachStepR reachStep
  congr 1
  rw [Bool.eq_iff_iff]
  simp only [List.all_eq_true, beq_iff_eq]
  constructor
  · intro hall k hk
    obtain ⟨i, hi⟩ := (mem_groupKeys_live h node he).1 hk
    exact (key k i hi).1 (hall (k, i) (mem_groupsOf.2 hi))
  · rintro hall ⟨k, i⟩ hki
    have hi := mem_groupsOf.1 hki
    exact (key k i hi).2 (hall k ((mem_groupKeys_live h node he).2 ⟨i, hi⟩))

theorem reachableR_eq {st : RState} {L : List LDep} (h : Inv st L) (node : Nat → Node) {eff : Dep → Dep}
    (he : KeepsShape eff) (dt : Aspect) :
    ∀ fuel v, reachableR st node eff dt fuel v = reachable (liveGraph node eff L) dt fuel v := by
  intro fuel
  induction fuel with
  | zero => intro v; rfl
  | succ f ih =>
    intro v
    simp only [reachableR, reachable]
    have : reachableR st node eff dt f = reachable (liveGraph node eff L) dt f := funext ih
    rw [this]
    exact reachStepR_eq h node he dt _ v

theorem mem_parentsR {st : RState} {L : List LDep} (h : Inv st L) (v p : Nat) :
    p ∈ parentsR st v ↔ ∃ x ∈ L, x.d.child = v ∧ x.d.parent = p := by
  simp only [parentsR, List.mem_flatMap, List.mem_map]
  constructor
  · rintro ⟨⟨k, i⟩, hki, ck, hck, rfl⟩
    have hi := mem_groupsOf.1 hki
    obtain ⟨x, hx, hc, _, hcomp⟩ := ((h.entry hi).keys ck).1 hck
    exact ⟨x, hx, hc, by rw [← hcomp]; rfl⟩
  · rintro ⟨x, hx, hc, hp⟩
    obtain ⟨i, hi⟩ := h.live x hx
    rw [hc] at hi
    exact ⟨(x.d.key, i), mem_groupsOf.2 hi, x.d.composite, ((h.entry hi).keys _).2 ⟨x, hx, hc, rfl, rfl⟩, hp⟩

end Icinga.C07
