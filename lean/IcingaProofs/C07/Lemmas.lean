/-
  C07 — the model's `available`, `groupState` and one level of `reachable` (`reachStep`) against the
  specification's `availSpec` and `reachClause`.
-/
import IcingaModel.C07.Model
import IcingaModel.C07.Spec

namespace Icinga.C07

theorem stateBit_and_filter (p : Node) (f : Nat) :
    (stateBit p &&& f != 0) = stateListed p f := by
  unfold stateBit stateListed hostUp
  by_cases hs : p.isService
  · simp only [hs, if_true]
    rcases h : p.stateRaw with _ | _ | _ | _ | k
    · simp [Nat.and_comm 1 f]
    · simp [Nat.and_comm 2 f]
    · simp [Nat.and_comm 4 f]
    · simp [Nat.and_comm 8 f]
    · simp [Nat.and_comm 8 f]
  · simp only [hs]
    by_cases h : (p.stateRaw == 0 || p.stateRaw == 1) = true
    · simp [h, Nat.and_comm 16 f]
    · simp [h, Nat.and_comm 32 f]

theorem aspectNotDisabled_eq (dt : Aspect) (d : Dep) : aspectNotDisabled dt d = aspectFree dt d := by
  cases dt <;> simp [aspectNotDisabled, aspectFree]

theorem available_eq (g : Graph) (dt : Aspect) (d : Dep) :
    available g dt d = (d.parent == d.child || availSpec g dt d) := by
  simp only [available, availSpec, stateBit_and_filter, aspectNotDisabled_eq, Bool.or_assoc]
  ac_rfl

theorem ite_ok_iff {a b : Prop} [Decidable a] [Decidable b] :
    (if a then GState.unreachable else if b then .failed else .ok) = .ok ↔ ¬ a ∧ ¬ b := by
  by_cases ha : a <;> by_cases hb : b <;> simp [ha, hb]

theorem groupState_ok_iff (reach : Nat → Bool) (avail : Dep → Bool) (red : Bool) (deps : List Dep) :
    groupState reach avail red deps = .ok ↔
      (if red then ∃ d ∈ deps, reach d.parent = true ∧ avail d = true
       else ∀ d ∈ deps, reach d.parent = true ∧ avail d = true) := by
  -- available ≤ reachable ≤ all, so only the count of reachable and available dependencies matters
  have hle : (deps.filter (fun d => avail d && reach d.parent)).length ≤ (deps.filter (fun d => reach d.parent)).length := by
    rw [← List.filter_filter]
    exact List.length_filter_le _ _
  have hle' := List.length_filter_le (fun d : Dep => reach d.parent) deps
  unfold groupState
  simp only [List.filter_filter]
  cases red
  · rw [if_neg Bool.false_ne_true, if_neg Bool.false_ne_true, ite_ok_iff]
    constructor
    · intro h d hd
      have := (List.length_filter_eq_length_iff (p := fun d => avail d && reach d.parent)).1 (by omega) d hd
      simpa [and_comm] using this
    · intro h
      have := (List.length_filter_eq_length_iff (p := fun d => avail d && reach d.parent) (l := deps)).2 (fun d hd => by simp [h d hd])
      omega
  · rw [if_pos rfl, if_pos rfl, ite_ok_iff, beq_iff_eq, beq_iff_eq]
    constructor
    · intro h
      obtain ⟨d, hd, hp⟩ := List.length_filter_pos_iff.1 (Nat.pos_of_ne_zero h.2)
      exact ⟨d, hd, by simpa [and_comm] using hp⟩
    · rintro ⟨d, hd, h1, h2⟩
      have := (List.length_filter_pos_iff (p := fun d => avail d && reach d.parent)).2 ⟨d, hd, by simp [h1, h2]⟩
      omega

theorem groupState_ok_congr_mem (reach : Nat → Bool) (avail : Dep → Bool) (red : Bool) {l1 l2 : List Dep}
    (hm : ∀ d, d ∈ l1 ↔ d ∈ l2) : groupState reach avail red l1 = .ok ↔ groupState reach avail red l2 = .ok := by
  simp only [groupState_ok_iff, hm]

theorem groupState_congr_reach {R R' : Nat → Bool} (avail : Dep → Bool) (red : Bool) {deps : List Dep}
    (h : ∀ d ∈ deps, R d.parent = R' d.parent) : groupState R avail red deps = groupState R' avail red deps := by
  unfold groupState
  rw [List.filter_congr h]

theorem groupState_congr_avail (R : Nat → Bool) {a a' : Dep → Bool} (red : Bool) {deps : List Dep}
    (h : ∀ d ∈ deps, a d = a' d) : groupState R a red deps = groupState R a' red deps := by
  unfold groupState
  dsimp only
  rw [List.filter_congr (fun d hd => h d (List.mem_filter.1 hd).1)]

theorem hostHardDown_eq (g : Graph) (dt : Aspect) (v : Nat) : hostHardDown g dt v = hostDownSpec g dt v := by
  unfold hostHardDown hostDownSpec hostUp
  cases h1 : (g.node v).isService <;> cases h2 : (g.node v).host <;> simp [h1, h2, Bool.and_assoc]

theorem mem_depsOf {g : Graph} {v : Nat} {d : Dep} : d ∈ depsOf g v ↔ d ∈ g.deps ∧ d.child = v := by
  simp [depsOf, List.mem_filter]

theorem mem_groupKeys {g : Graph} {v : Nat} {k : GKey} :
    k ∈ groupKeys g v ↔ ∃ d ∈ g.deps, d.child = v ∧ d.key = k := by
  simp only [groupKeys, List.mem_eraseDups, List.mem_map, mem_depsOf, and_assoc]

theorem mem_groupDeps {g : Graph} {v : Nat} {k : GKey} {d : Dep} :
    d ∈ groupDeps g v k ↔ d ∈ g.deps ∧ d.child = v ∧ d.key = k := by
  simp [groupDeps, List.mem_filter, mem_depsOf, and_assoc]

theorem key_none {d : Dep} (h : d.group = none) : d.key = .parent d.parent := by simp [Dep.key, h]
theorem key_some {d : Dep} {n : String} (h : d.group = some n) : d.key = .named n := by simp [Dep.key, h]

theorem key_eq_parent {d : Dep} {p : Nat} (h : d.key = .parent p) : d.group = none ∧ d.parent = p := by
  unfold Dep.key at h
  cases hg : d.group <;> simp_all

theorem key_eq_named {d : Dep} {n : String} (h : d.key = .named n) : d.group = some n := by
  unfold Dep.key at h
  cases hg : d.group <;> simp_all

/-- the model asks group object by group object, the specification dependency by dependency: the same thing, since a plain
    key holds the dependencies on one parent and a named key those of one group. -/
theorem groups_ok_iff (g : Graph) (reach : Nat → Bool) (avail : Dep → Bool) (v : Nat) :
    ((groupKeys g v).all (fun k => groupState reach avail k.isRedundancy (groupDeps g v k) == .ok)) = true ↔
    ∀ d ∈ g.deps, d.child = v →
      (match d.group with
       | none => reach d.parent = true ∧ avail d = true
       | some name => ∃ d' ∈ g.deps, d'.child = v ∧ d'.group = some name ∧ reach d'.parent = true ∧ avail d' = true) := by
  simp only [List.all_eq_true, beq_iff_eq, groupState_ok_iff]
  constructor
  · intro h d hd hc
    have hk := h d.key (mem_groupKeys.2 ⟨d, hd, hc, rfl⟩)
    cases hg : d.group with
    | none =>
      simp only [key_none hg, GKey.isRedundancy, Bool.false_eq_true, if_false] at hk
      exact hk d (mem_groupDeps.2 ⟨hd, hc, key_none hg⟩)
    | some name =>
      simp only [key_some hg, GKey.isRedundancy, if_true] at hk
      obtain ⟨d', hd', h1, h2⟩ := hk
      obtain ⟨m1, m2, m3⟩ := mem_groupDeps.1 hd'
      exact ⟨d', m1, m2, key_eq_named m3, h1, h2⟩
  · intro h k hk
    obtain ⟨d, hd, hc, hkey⟩ := mem_groupKeys.1 hk
    cases k with
    | parent p =>
      simp only [GKey.isRedundancy, Bool.false_eq_true, if_false]
      intro d' hd'
      obtain ⟨m1, m2, m3⟩ := mem_groupDeps.1 hd'
      have := h d' m1 m2
      rw [(key_eq_parent m3).1] at this
      exact this
    | named name =>
      simp only [GKey.isRedundancy, if_true]
      have := h d hd hc
      rw [key_eq_named hkey] at this
      obtain ⟨d', m1, m2, m3, h1, h2⟩ := this
      exact ⟨d', mem_groupDeps.2 ⟨m1, m2, key_some m3⟩, h1, h2⟩

def NoSelfDep (g : Graph) : Prop := ∀ d ∈ g.deps, d.parent ≠ d.child

theorem reachStep_eq_clause (g : Graph) (hns : NoSelfDep g) (dt : Aspect) (R : Nat → Bool) (v : Nat) :
    reachStep g dt R v = reachClause g dt R v := by
  have ha : ∀ k, groupState R (available g dt) k.isRedundancy (groupDeps g v k) =
      groupState R (availSpec g dt) k.isRedundancy (groupDeps g v k) :=
    -- without self-dependencies the "same object" escape of `available` (dependency.cpp:283) never fires
    fun k => groupState_congr_avail R _ (fun d hd => by
      rw [available_eq, beq_false_of_ne (hns d (mem_groupDeps.1 hd).1), Bool.false_or])
  unfold reachStep reachClause
  simp only [ha, hostHardDown_eq]
  congr 1
  rw [Bool.eq_iff_iff, groups_ok_iff, List.all_eq_true]
  refine forall₂_congr (fun d hd => ?_)
  by_cases hc : d.child = v
  · cases d.group <;> simp [hc, and_assoc]
  · cases d.group <;> simp [hc]

end Icinga.C07
