/-
  C08 — arithmetic on day numbers that needs nothing of the time zone.  The search loop of FindNthWeekday
  (direction `dir`: +1 from the first of the month, -1 from its last day) is described through `ahead`.  A day
  number is linear in the day-of-month field (which is how `mktime` carries an out-of-range `tm_mday`), so "day 0
  of the next month" is the last day of the month; a time of day beyond 24:00 is the same time of day on the next
  calendar day (`tm_hour += 24`, legacytimeperiod.cpp:440-442).
-/
import IcingaModel.C08.Calendar
namespace Icinga.C08

/-- Steps from `day` in direction `dir` (±1) to the nearest day whose weekday is `w`; `day + 4` is
    `weekdayOf day` before its reduction mod 7 (`ahead_one`). -/
def ahead (dir w day : Int) : Int := (dir * (w - (day + 4))) % 7

theorem ahead_lt (dir w day : Int) : 0 ≤ ahead dir w day ∧ ahead dir w day < 7 := by
  unfold ahead; omega

theorem ahead_one (w day : Int) : ahead 1 w day = (w - weekdayOf day) % 7 := by
  unfold ahead weekdayOf
  rw [Int.one_mul, Int.sub_emod, Int.sub_emod w (_ % 7), Int.emod_emod]

theorem weekdayOf_add_iff (dir w day k : Int) (hdir : dir = 1 ∨ dir = -1) (hw0 : 0 ≤ w) (hw7 : w < 7) :
    weekdayOf (day + dir * k) = w ↔ k % 7 = ahead dir w day := by
  unfold ahead weekdayOf
  -- both sides say that 7 divides a difference; the two differences are equal up to the sign `dir`
  have hw : w % 7 = w := Int.emod_eq_of_lt hw0 hw7
  rw [← hw, Int.emod_eq_emod_iff_emod_sub_eq_zero, Int.emod_eq_emod_iff_emod_sub_eq_zero, hw,
    ← Int.dvd_iff_emod_eq_zero, ← Int.dvd_iff_emod_eq_zero]
  rcases hdir with rfl | rfl
  · rw [show day + 1 * k + 4 - w = k - 1 * (w - (day + 4)) by omega]
  · rw [show day + -1 * k + 4 - w = -(k - -1 * (w - (day + 4))) by omega, Int.dvd_neg]

theorem ahead_step (dir w day : Int) (hdir : dir = 1 ∨ dir = -1) (hw0 : 0 ≤ w) (hw7 : w < 7) :
    (weekdayOf day = w → ahead dir w day = 0 ∧ ahead dir w (day + dir) = 6) ∧
    (weekdayOf day ≠ w → ahead dir w (day + dir) = ahead dir w day - 1) := by
  have hz := weekdayOf_add_iff dir w day 0 hdir hw0 hw7
  rw [Int.mul_zero, Int.add_zero, Int.zero_emod] at hz
  rw [ne_eq, hz]
  unfold ahead
  -- one step changes the argument of `% 7` by one, because `dir * dir = 1`
  have e : dir * (w - (day + dir + 4)) = dir * (w - (day + 4)) - 1 := by
    rcases hdir with rfl | rfl <;> omega
  rw [e]
  generalize dir * (w - (day + 4)) = x
  omega

theorem findNthLoop_eq (w dir : Int) (hdir : dir = 1 ∨ dir = -1) (hw0 : 0 ≤ w) (hw7 : w < 7) :
    ∀ (fuel n : Nat) (day : Int), ahead dir w day + 7 * (n : Int) < fuel →
      findNthLoop w dir fuel (n + 1) day = some (day + dir * (ahead dir w day + 7 * (n : Int))) := by
  -- by induction on the fuel, for all `n` and `day`: a step either meets the weekday (`ahead` goes from 0 to 6
  -- and one occurrence less is wanted) or not (`ahead` falls by one), so `ahead + 7 * n` falls by one each step
  intro fuel
  induction fuel with
  | zero => intro n day h; have := ahead_lt dir w day; omega
  | succ f ih =>
    intro n day h
    obtain ⟨hhit, hmiss⟩ := ahead_step dir w day hdir hw0 hw7
    have e : ∀ a, day + dir + dir * a = day + dir * (a + 1) := fun a => by
      rw [Int.mul_add, Int.mul_one]; omega
    rw [findNthLoop]
    by_cases hwd : weekdayOf day = w
    · -- `day` has weekday `w`
      obtain ⟨h0, h6⟩ := hhit hwd
      rw [if_pos hwd, h0]
      cases n with
      | zero => rw [if_pos (Nat.le_refl 1)]; simp   -- it was the last one wanted
      | succ m =>
        rw [if_neg (by omega), Nat.add_sub_cancel, ih m (day + dir) (by rw [h6]; omega), h6, e]
        -- the two step counts agree: `6 + 7 * m + 1 = 0 + 7 * (m + 1)`
        congr 3
        omega
    · rw [if_neg hwd, ih n (day + dir) (by rw [hmiss hwd]; omega), hmiss hwd, e]
      -- the two step counts agree: `ahead - 1 + 7 * n + 1 = ahead + 7 * n`
      congr 3
      omega

/-- The fuel `7 * m` is what `findNthWeekday` gives the loop for the `m`-th such day. -/
theorem findNthLoop_week (w dir : Int) (hdir : dir = 1 ∨ dir = -1) (hw0 : 0 ≤ w) (hw7 : w < 7)
    (m : Nat) (hm : 1 ≤ m) (start : Int) :
    findNthLoop w dir (7 * m) m start = some (start + dir * (ahead dir w start + 7 * ((m : Int) - 1))) ∧
      weekdayOf (start + dir * (ahead dir w start + 7 * ((m : Int) - 1))) = w := by
  obtain ⟨n, rfl⟩ : ∃ n, m = n + 1 := ⟨m - 1, by omega⟩
  have hl := ahead_lt dir w start
  rw [show ((n + 1 : Nat) : Int) - 1 = n by omega]
  exact ⟨findNthLoop_eq w dir hdir hw0 hw7 _ n start (by omega),
    (weekdayOf_add_iff dir w start _ hdir hw0 hw7).mpr (by omega)⟩

/-- The end `hi` is a variable with `h7` beside it so that the statement applies to a block whose end is written
    otherwise (`first + 7 * n`, `last - 7 * (-n - 1) + 1`). -/
theorem weekday_unique (lo hi D day : Int) (h7 : hi = lo + 7) (hd : lo ≤ day ∧ day < hi) :
    D = day ↔ weekdayOf D = weekdayOf day ∧ lo ≤ D ∧ D < hi := by
  unfold weekdayOf
  omega

theorem daysFromCivil_day (y m d : Int) : daysFromCivil y m d = daysFromCivil y m 1 + (d - 1) := by
  unfold daysFromCivil; simp only; omega

theorem daysFromCivil_zero (y m : Int) : daysFromCivil y m 0 = daysFromCivil y m 1 - 1 :=
  daysFromCivil_day y m 0

theorem mkDay_next_day (tz : Tz) (D s : Int) : mkDay tz D (s + 24 * 3600) = mkDay tz (D + 1) s := by
  unfold mkDay
  have : D * 86400 + (s + 24 * 3600) = (D + 1) * 86400 + s := by omega
  rw [this]

end Icinga.C08
