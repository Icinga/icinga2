/-
  C08 — nested include/exclude forests: definitions (evaluation leaves-first through the model's
  `updateRegion`, and the property's recursive meaning) and two mutual inductions: the evaluated segments
  mean `sem` for every forest and region; they are non-empty when the forest's own segments are.
-/
import IcingaProofs.C08.Update
namespace Icinga.C08

/-- A time period together with the periods it includes and excludes (any nesting depth). -/
inductive PTree where
  | node (prefer : Bool) (own : List Seg) (incs excs : List PTree)

mutual
/-- Leaves first: every included/excluded period is updated (clearing) over the same region before
    the period that refers to it — `TimePeriod::UpdateRegion` then reads their segment lists. -/
def PTree.evalP (b e : Int) : PTree → Period
  | .node pr own incs excs =>
    ({} : Period).updateRegion { prefer := pr, own := own, incs := evalList b e incs, excs := evalList b e excs } b e true
def evalList (b e : Int) : List PTree → List (List Seg)
  | [] => []
  | T :: Ts => (T.evalP b e).segs :: evalList b e Ts
end

mutual
/-- What the property says a (nested) period is at instant `t`. -/
def PTree.sem (t : Int) : PTree → Bool
  | .node pr own incs excs =>
    if pr then (inside own t && !semAny t excs) || semAny t incs
    else (inside own t || semAny t incs) && !semAny t excs
def semAny (t : Int) : List PTree → Bool
  | [] => false
  | T :: Ts => T.sem t || semAny t Ts
end

mutual
def PTree.WF : PTree → Prop
  | .node _ own incs excs => (∀ s ∈ own, s.1 < s.2) ∧ WFs incs ∧ WFs excs
def WFs : List PTree → Prop
  | [] => True
  | T :: Ts => T.WF ∧ WFs Ts
end

theorem evalP_node (b e : Int) (pr : Bool) (own : List Seg) (incs excs : List PTree) :
    (PTree.node pr own incs excs).evalP b e =
      ({} : Period).region { prefer := pr, own := own, incs := evalList b e incs, excs := evalList b e excs } b e := by
  rw [PTree.evalP]
  rfl

mutual
theorem evalP_sem (b e t : Int) : (T : PTree) → inside (T.evalP b e).segs t = T.sem t
  | .node pr own incs excs => by
    rw [evalP_node, region_inside]
    simp only [formula, inside_nil, Bool.false_and, Bool.false_or, evalList_sem b e t incs, evalList_sem b e t excs]
    unfold PTree.sem
    rfl
theorem evalList_sem (b e t : Int) : (Ts : List PTree) → (evalList b e Ts).any (fun L => inside L t) = semAny t Ts
  | [] => by simp [evalList, semAny]
  | T :: Ts => by rw [evalList, List.any_cons, evalP_sem b e t T, evalList_sem b e t Ts, semAny]
end

mutual
theorem evalP_wf (b e : Int) : (T : PTree) → T.WF → SegsWF (T.evalP b e).segs
  | .node pr own incs excs, h => by
    unfold PTree.WF at h
    rw [evalP_node]
    exact region_wf {} ⟨pr, own, _, _⟩ b e segsWF_nil h.1 (evalList_wf b e incs h.2.1)
theorem evalList_wf (b e : Int) : (Ts : List PTree) → WFs Ts → ∀ L ∈ evalList b e Ts, SegsWF L
  | [], _ => by simp [evalList]
  | T :: Ts, h => by
    unfold WFs at h
    rw [evalList]
    exact List.forall_mem_cons.mpr ⟨evalP_wf b e T h.1, evalList_wf b e Ts h.2⟩
end

/-- `hbe` is not used, `WFs Ts` only by the first half. -/
theorem evalList_ok (b e : Int) (hbe : b ≤ e) : (Ts : List PTree) → WFs Ts →
    (∀ L ∈ evalList b e Ts, ∀ s ∈ L, s.1 < s.2) ∧ ∀ t, (evalList b e Ts).any (fun L => inside L t) = semAny t Ts :=
  fun Ts h => ⟨evalList_wf b e Ts h, fun t => evalList_sem b e t Ts⟩

theorem evalP_covers (b e : Int) (T : PTree) : (T.evalP b e).covers b e := by
  cases T with
  | node pr own incs excs => rw [evalP_node]; exact region_covers _ _ b e

end Icinga.C08
