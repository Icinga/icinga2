/-
  C08 — lemmas about the token-level calendar core (IcingaModel/C08/Calendar.lean): properties
  assumed of the time-zone parameter, monotonicity of local midnights, the per-entry / per-day /
  day-loop characterisations that `scriptFunc_spec` is assembled from; the lookup by which the name tables
  are compared with the source.
-/
import IcingaProofs.C08.Lemmas
import IcingaProofs.C08.CalArith

namespace Icinga.C08

/-- What the theorems assume of the time-zone parameter (libc + tzdata are not verified; the driver
    evaluates `tzOkOn` on the probed offset list of every run):
    every local day lasts between 23 and 46 hours, and `localDay` is the day whose midnights
    enclose the instant.  23 h is what `loopFuel` divides by (each pass of the day loop advances at least
    that much); 46 h bounds how far before `begin` the midnight of its day can lie (`loopFuel_enough`). -/
structure TzOk (tz : Tz) : Prop where
  dayLen : ∀ D, 82800 ≤ mkDay tz (D + 1) 0 - mkDay tz D 0 ∧ mkDay tz (D + 1) 0 - mkDay tz D 0 ≤ 165600
  localDay : ∀ t, mkDay tz (localDay tz t) 0 ≤ t ∧ t < mkDay tz (localDay tz t + 1) 0

/-- UTC offsets at two local midnights differ by less than 12 hours: then the rounding
    `(tsref - tsbegin + 43200) / 86400` of `IsInTimeRange` is the distance in calendar days.  (`tzOkOn` asks
    for less than 6 h from the first day of its window, hence less than 12 h between any two days of it.) -/
def TzDrift (tz : Tz) : Prop :=
  ∀ D D', D ≤ D' → -43200 < mkDay tz D' 0 - mkDay tz D 0 - 86400 * (D' - D) ∧
                    mkDay tz D' 0 - mkDay tz D 0 - 86400 * (D' - D) < 43200

theorem midnight_add (tz : Tz) (h : TzOk tz) (n : Nat) (D : Int) :
    mkDay tz D 0 + 82800 * (n : Int) ≤ mkDay tz (D + n) 0 := by
  induction n with
  | zero => simp
  | succ k ih =>
    have e : D + ((k + 1 : Nat) : Int) = (D + k) + 1 := by omega
    rw [e]
    have := (h.dayLen (D + k)).1
    omega

theorem midnight_gap (tz : Tz) (h : TzOk tz) (D D' : Int) (hle : D ≤ D') :
    mkDay tz D 0 + 82800 * (D' - D) ≤ mkDay tz D' 0 := by
  have := midnight_add tz h (D' - D).toNat D
  rwa [Int.toNat_of_nonneg (by omega), show D + (D' - D) = D' by omega] at this

theorem midnight_lt_iff (tz : Tz) (h : TzOk tz) (D D' : Int) : mkDay tz D 0 < mkDay tz D' 0 ↔ D < D' := by
  constructor
  · intro hl
    by_cases hc : D < D'
    · exact hc
    · have := midnight_gap tz h D' D (by omega)
      omega
  · intro hlt
    have := midnight_gap tz h D D' (by omega)
    omega

theorem midnight_le_iff (tz : Tz) (h : TzOk tz) (D D' : Int) : mkDay tz D 0 ≤ mkDay tz D' 0 ↔ D ≤ D' := by
  rw [← Int.not_lt, ← Int.not_lt, midnight_lt_iff tz h]

/-- The comparisons of instants are comparisons of days; what is left of the time zone is the day
    index the stride is counted with. -/
theorem isInTimeRange_eq (tz : Tz) (h : TzOk tz) (b e stride D : Int) :
    isInTimeRange tz b e stride D =
      (decide (b ≤ D) && decide (D < e) &&
        !(decide (1 < stride) && decide (0 < (mkDay tz D 0 - mkDay tz b 0 + 43200) / 86400 % stride))) := by
  unfold isInTimeRange
  dsimp only
  by_cases hb : b ≤ D
  · have hb' := Int.not_lt.mpr ((midnight_le_iff tz h b D).mpr hb)
    by_cases he : D < e
    · have he' := Int.not_le.mpr ((midnight_lt_iff tz h D e).mpr he)
      simp [hb, he, hb', he']
    · have he' := (midnight_le_iff tz h e D).mpr (by omega)
      simp [hb, he, he']
  · have hb' := (midnight_lt_iff tz h D b).mpr (by omega)
    simp [hb, hb']

theorem isInTimeRange_days_nostride (tz : Tz) (h : TzOk tz) (b e stride D : Int) (hs : stride ≤ 1) :
    isInTimeRange tz b e stride D = (decide (b ≤ D) && decide (D < e)) := by
  rw [isInTimeRange_eq tz h, decide_eq_false (Int.not_lt.mpr hs), Bool.false_and, Bool.not_false, Bool.and_true]

theorem isInTimeRange_single (tz : Tz) (h : TzOk tz) (d stride D : Int) :
    isInTimeRange tz d (d + 1) stride D = decide (D = d) := by
  rw [isInTimeRange_eq tz h]
  by_cases hD : D = d
  · subst hD
    simp [show D < D + 1 by omega]
  · have : ¬ (d ≤ D ∧ D < d + 1) := by omega
    simp [hD, this]

/-- The instant `t` lies in one of the ranges of entry `en` evaluated on day `D`, and `D` matches the
    entry's day definition. -/
def EntryCovers (tz : Tz) (en : EntryTok) (D t : Int) : Prop :=
  ∃ df rs, en.dayDef = some df ∧ dayMatchesTok tz df D = some true ∧ en.ranges = some rs ∧
    ∃ r ∈ rs, (rangeSeg tz r D).1 ≤ t ∧ t < (rangeSeg tz r D).2

theorem mem_rangesSegs (tz : Tz) (rs : List (Int × Int)) (D : Int) (s : Seg) :
    s ∈ rangesSegs tz rs D ↔ ∃ r ∈ rs, rangeSeg tz r D = s ∧ s.1 < s.2 := by
  unfold rangesSegs
  rw [List.mem_filterMap]
  refine exists_congr fun r => and_congr_right fun _ => ?_
  dsimp only
  split
  · exact ⟨nofun, by rintro ⟨rfl, _⟩; omega⟩
  · constructor
    · rintro ⟨⟩
      exact ⟨rfl, by omega⟩
    · rintro ⟨rfl, _⟩
      rfl

/-- `s` is a segment that entry `en` contributes on day `D`.  Both what `ScriptFunc` covers and that its
    segments are non-empty are read off the membership characterisation of its result in these terms. -/
def EntrySeg (tz : Tz) (en : EntryTok) (D : Int) (s : Seg) : Prop :=
  ∃ df rs, en.dayDef = some df ∧ dayMatchesTok tz df D = some true ∧ en.ranges = some rs ∧
    s ∈ rangesSegs tz rs D

theorem EntrySeg.lt {tz : Tz} {en : EntryTok} {D : Int} {s : Seg} (h : EntrySeg tz en D s) : s.1 < s.2 := by
  obtain ⟨_, rs, _, _, _, hs⟩ := h
  obtain ⟨_, _, _, hlt⟩ := (mem_rangesSegs tz rs D s).mp hs
  exact hlt

theorem entryCovers_iff (tz : Tz) (en : EntryTok) (D t : Int) :
    EntryCovers tz en D t ↔ ∃ s, EntrySeg tz en D s ∧ s.1 ≤ t ∧ t < s.2 := by
  constructor
  · rintro ⟨df, rs, h1, h2, h3, r, hr, hc⟩
    exact ⟨_, ⟨df, rs, h1, h2, h3, (mem_rangesSegs tz rs D _).mpr ⟨r, hr, rfl, by omega⟩⟩, hc⟩
  · rintro ⟨s, ⟨df, rs, h1, h2, h3, hs⟩, hc⟩
    obtain ⟨r, hr, rfl, _⟩ := (mem_rangesSegs tz rs D s).mp hs
    exact ⟨df, rs, h1, h2, h3, r, hr, hc⟩

theorem mem_entrySegs {tz : Tz} {en : EntryTok} {D : Int} {l : List Seg} (h : entrySegs tz en D = some l)
    (s : Seg) : s ∈ l ↔ EntrySeg tz en D s := by
  unfold entrySegs at h
  unfold EntrySeg
  split at h
  · cases h
  next df hdf =>
  split at h
  · cases h
  · next hm =>
    cases h
    simp [hdf, hm]
  · next hm =>
    split at h
    · cases h
    · next rs hr =>
      cases h
      simp [hdf, hm, hr]

/-- The step of the fold in `dayEntriesTok` (`dayEntriesTok_eq`). -/
def appendEntry (tz : Tz) (D : Int) (acc : Option (List Seg)) (en : EntryTok) : Option (List Seg) :=
  match acc, entrySegs tz en D with
  | some l, some s => some (l ++ s)
  | _, _ => none

theorem dayEntriesTok_eq (tz : Tz) (entries : List EntryTok) (D : Int) :
    dayEntriesTok tz entries D = entries.foldl (appendEntry tz D) (some []) := rfl

theorem foldl_appendEntry_none (tz : Tz) (entries : List EntryTok) (D : Int) :
    entries.foldl (appendEntry tz D) none = none := by
  induction entries with
  | nil => rfl
  | cons en rest ih => exact ih

theorem mem_foldl_appendEntry (tz : Tz) (entries : List EntryTok) (D : Int) (s : Seg) :
    ∀ (acc l : List Seg), entries.foldl (appendEntry tz D) (some acc) = some l →
      (s ∈ l ↔ s ∈ acc ∨ ∃ en ∈ entries, EntrySeg tz en D s) := by
  induction entries with
  | nil => intro acc l h; simp at h; subst h; simp
  | cons en rest ih =>
    intro acc l h
    rw [List.foldl_cons] at h
    cases hs : entrySegs tz en D with
    | none =>
      simp only [appendEntry, hs] at h
      rw [foldl_appendEntry_none] at h
      cases h
    | some s0 =>
      simp only [appendEntry, hs] at h
      rw [ih (acc ++ s0) l h, List.mem_append, mem_entrySegs hs, or_assoc]
      simp only [List.mem_cons, exists_eq_or_imp]

theorem mem_dayEntries {tz : Tz} {entries : List EntryTok} {D : Int} {l : List Seg}
    (h : dayEntriesTok tz entries D = some l) (s : Seg) :
    s ∈ l ↔ ∃ en ∈ entries, EntrySeg tz en D s := by
  rw [dayEntriesTok_eq] at h
  simpa using mem_foldl_appendEntry tz entries D s [] l h

/-- The reference days the loop visits, in order. -/
def loopDays (tz : Tz) (e : Int) : Nat → Int → List Int
  | 0, _ => []
  | fuel + 1, D => if mkDay tz D 0 ≤ e then D :: loopDays tz e fuel (D + 1) else []

theorem loopDays_spec (tz : Tz) (h : TzOk tz) (e : Int) (fuel : Nat) (D0 : Int) (hf : e < mkDay tz (D0 + fuel) 0) :
    (∀ D, D ∈ loopDays tz e fuel D0 ↔ D0 ≤ D ∧ mkDay tz D 0 ≤ e) ∧ (loopDays tz e fuel D0).Pairwise (· < ·) := by
  fun_induction loopDays tz e fuel D0 with
  | case1 D0 =>   -- fuel exhausted: by `hf` the midnight of `D0` is already past `e`
    rw [Int.natCast_zero, Int.add_zero] at hf
    exact ⟨fun D => ⟨nofun, fun ⟨h1, h2⟩ => by have := (midnight_le_iff tz h D0 D).mpr h1; omega⟩, .nil⟩
  | case2 fuel D0 hc ih =>   -- `D0` is visited
    have hf' : e < mkDay tz (D0 + 1 + fuel) 0 := by rw [Int.add_assoc, Int.add_comm 1]; exact hf
    obtain ⟨ihm, ihp⟩ := ih hf'
    refine ⟨fun D => ?_, List.pairwise_cons.mpr ⟨fun D hD => by have := ((ihm D).mp hD).1; omega, ihp⟩⟩
    rw [List.mem_cons, ihm]
    constructor
    · rintro (rfl | ⟨h1, h2⟩)
      · exact ⟨Int.le_refl _, hc⟩
      · exact ⟨by omega, h2⟩
    · rintro ⟨h1, h2⟩
      by_cases hD : D = D0
      · exact Or.inl hD
      · exact Or.inr ⟨by omega, h2⟩
  | case3 fuel D0 hc =>   -- the loop stops: the midnight of `D0` is past `e` (`hc`)
    exact ⟨fun D => ⟨nofun, fun ⟨h1, h2⟩ => by have := (midnight_le_iff tz h D0 D).mpr h1; omega⟩, .nil⟩

theorem mem_dayLoop {tz : Tz} {entries : List EntryTok} {e : Int} {fuel : Nat} {D0 : Int} {segs : List Seg}
    (h : dayLoopTok tz entries e fuel D0 = some segs) (s : Seg) :
    s ∈ segs ↔ ∃ D ∈ loopDays tz e fuel D0, ∃ en ∈ entries, EntrySeg tz en D s := by
  fun_induction dayLoopTok tz entries e fuel D0 generalizing segs with
  | case1 => cases h; simp [loopDays]
  | case2 fuel D0 hc a b hb ha ih =>
    cases h
    rw [loopDays, if_pos hc, List.mem_append, mem_dayEntries ha, ih hb]
    simp only [List.mem_cons, exists_eq_or_imp]
  | case3 => cases h
  | case4 fuel D0 hc => cases h; simp [loopDays, hc]

theorem dayLoop_spec {tz : Tz} {entries : List EntryTok} {e : Int} {fuel : Nat} {D0 : Int} {segs : List Seg}
    (h : dayLoopTok tz entries e fuel D0 = some segs) (t : Int) :
    inside segs t = true ↔ ∃ D ∈ loopDays tz e fuel D0, ∃ en ∈ entries, EntryCovers tz en D t := by
  simp only [inside_iff_exists, mem_dayLoop h, entryCovers_iff]
  constructor
  · rintro ⟨s, ⟨D, hD, en, hen, hs⟩, ht⟩
    exact ⟨D, hD, en, hen, s, hs, ht⟩
  · rintro ⟨D, hD, en, hen, s, hs, ht⟩
    exact ⟨s, ⟨D, hD, en, hen, hs⟩, ht⟩

/-- `ProcessTimeRanges` skips empty results. -/
theorem scriptFunc_wf (tz : Tz) (entries : List EntryTok) (b e : Int) (segs : List Seg)
    (h : scriptFuncTok tz entries b e = some segs) : ∀ s ∈ segs, s.1 < s.2 := by
  intro s hs
  obtain ⟨_, _, _, _, hs⟩ := (mem_dayLoop h s).mp hs
  exact hs.lt

/-- The fuel of `scriptFuncTok` suffices: the loop ends because its condition fails.  Of the `+ 3` in `loopFuel`,
    two days are for the midnight of `begin`'s day, which lies up to 46 h = 2 · 23 h before `begin`, one for the
    division rounding down. -/
theorem loopFuel_enough (tz : Tz) (h : TzOk tz) (b e : Int) :
    e < mkDay tz (localDay tz b + (loopFuel b e : Nat)) 0 := by
  have h1 := midnight_add tz h (loopFuel b e) (localDay tz b)
  have h2 := (h.localDay b).2
  have h3 := (h.dayLen (localDay tz b)).2
  unfold loopFuel at *
  omega

/-- Lookup in a name table as generated from the source (first match; the tables have distinct names). -/
def lookupName : List (String × Int) → String → Option Int
  | [], _ => none
  | (k, v) :: rest, s => if s = k then some v else lookupName rest s

theorem lookupName_none (tbl : List (String × Int)) (s : String) (h : ∀ kv ∈ tbl, ¬ s = kv.1) :
    lookupName tbl s = none := by
  induction tbl with
  | nil => rfl
  | cons kv rest ih =>
    obtain ⟨h1, h2⟩ := List.forall_mem_cons.mp h
    rw [lookupName, if_neg h1, ih h2]

end Icinga.C08
