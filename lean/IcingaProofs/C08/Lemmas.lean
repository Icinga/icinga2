/-
  C08 — the interval algebra on segment lists: what `inside` answers after AddSegment and RemoveSegment, as Bool
  equations so that the folds of Merge are chains of rewrites; that both keep segments non-empty (`SegsWF`); and
  that the steps of the canonical form keep the covered set.  The lemmas about the list itself (`inside_cons`,
  `inside_append`, `inside_insertSeg`, `inside_mergeRun`) are iffs, the form `omega` reads.
-/
import IcingaModel.C08.Model

namespace Icinga.C08

def In (b e t : Int) : Prop := b ≤ t ∧ t < e

def SegsWF (L : List Seg) : Prop := ∀ s ∈ L, s.1 < s.2

theorem segsWF_nil : SegsWF [] := nofun

theorem segsWF_cons {s : Seg} {S : List Seg} : SegsWF (s :: S) ↔ s.1 < s.2 ∧ SegsWF S :=
  List.forall_mem_cons

theorem inside_nil (t : Int) : inside [] t = false := rfl

theorem inside_cons (s : Seg) (S : List Seg) (t : Int) :
    inside (s :: S) t = true ↔ (s.1 ≤ t ∧ t < s.2) ∨ inside S t = true := by
  unfold inside
  rw [List.any_cons, Bool.or_eq_true, Bool.and_eq_true, decide_eq_true_eq, decide_eq_true_eq]

theorem inside_append (A B : List Seg) (t : Int) :
    inside (A ++ B) t = true ↔ inside A t = true ∨ inside B t = true := by
  unfold inside
  rw [List.any_append, Bool.or_eq_true]

theorem inside_iff_exists (S : List Seg) (t : Int) :
    inside S t = true ↔ ∃ s ∈ S, s.1 ≤ t ∧ t < s.2 := by
  unfold inside
  simp only [List.any_eq_true, Bool.and_eq_true, decide_eq_true_eq]

theorem any_inside_flatten (Ls : List (List Seg)) (t : Int) :
    Ls.any (fun L => inside L t) = inside Ls.flatten t := by
  unfold inside
  rw [List.any_flatten]

theorem inside_flatten (Ls : List (List Seg)) (t : Int) :
    inside Ls.flatten t = true ↔ ∃ L ∈ Ls, inside L t = true := by
  rw [← any_inside_flatten, List.any_eq_true]

theorem decide_not_in (b e t : Int) : (!(decide (b ≤ t) && decide (t < e))) = true ↔ ¬ (b ≤ t ∧ t < e) := by
  rw [Bool.not_eq_true', ← Bool.decide_and, decide_eq_false_iff_not]

/-- Every merging branch of AddSegment replaces the head by a segment that covers what the head
    covered and `[b, e)`. -/
theorem inside_head_add {s s' : Seg} {b e t : Int} (rest : List Seg)
    (h : (s'.1 ≤ t ∧ t < s'.2) ↔ (s.1 ≤ t ∧ t < s.2) ∨ (b ≤ t ∧ t < e)) :
    inside (s' :: rest) t = (inside (s :: rest) t || (decide (b ≤ t) && decide (t < e))) := by
  rw [Bool.eq_iff_iff, Bool.or_eq_true, inside_cons, inside_cons, h, or_right_comm]
  simp only [Bool.and_eq_true, decide_eq_true_eq]

theorem inside_addSeg (S : List Seg) (b e t : Int) :
    inside (addSeg S b e) t = (inside S t || (decide (b ≤ t) && decide (t < e))) := by
  fun_induction addSeg S b e with
  | case1 => exact (Bool.or_false _).trans (Bool.false_or _).symm
  | case2 s rest b e h => exact inside_head_add rest (by omega)
  | case3 s rest b e _ h => exact inside_head_add rest (by dsimp only; omega)
  | case4 s rest b e _ h2 h => exact inside_head_add rest (by dsimp only; omega)
  | case5 s rest b e _ h2 _ h => exact inside_head_add rest (by dsimp only; omega)
  | case6 s rest b e _ _ _ _ ih =>
    show (_ || inside (addSeg rest b e) t) = (_ || inside rest t || _)
    rw [ih, Bool.or_assoc]

theorem addSeg_wf (S : List Seg) (b e : Int) (hbe : b < e) (hwf : SegsWF S) : SegsWF (addSeg S b e) := by
  fun_induction addSeg S b e with
  | case1 => exact segsWF_cons.mpr ⟨hbe, hwf⟩
  | case2 => exact hwf
  | case3 => exact segsWF_cons.mpr ⟨hbe, (segsWF_cons.mp hwf).2⟩
  | case4 s rest b e _ _ h =>
    obtain ⟨hs, hr⟩ := segsWF_cons.mp hwf
    exact segsWF_cons.mpr ⟨Int.lt_of_lt_of_le hs h.2, hr⟩
  | case5 s rest b e _ _ _ h =>
    obtain ⟨hs, hr⟩ := segsWF_cons.mp hwf
    exact segsWF_cons.mpr ⟨Int.lt_of_le_of_lt h.1 hs, hr⟩
  | case6 s rest b e _ _ _ _ ih =>
    obtain ⟨hs, hr⟩ := segsWF_cons.mp hwf
    exact segsWF_cons.mpr ⟨hs, ih hbe hr⟩

theorem adjust_cases (s : Seg) (b e : Int) :
    adjust s b e =
      (if s.1 ≥ b ∧ s.1 < e then e else s.1, if s.2 > b ∧ s.2 ≤ e then b else s.2) := by
  unfold adjust
  by_cases h1 : s.1 ≥ b ∧ s.1 < e <;> by_cases h2 : s.2 > b ∧ s.2 ≤ e <;> simp [h1, h2]

/-- Every branch of RemoveSegment replaces the head `s` by segments `H` (none, one or two) that
    cover what `s` covered outside `[b, e)`. -/
theorem inside_head_remove {s : Seg} {H rest rest' : List Seg} {b e t : Int}
    (hH : inside H t = true ↔ (s.1 ≤ t ∧ t < s.2) ∧ ¬ (b ≤ t ∧ t < e))
    (ih : inside rest' t = (inside rest t && !(decide (b ≤ t) && decide (t < e)))) :
    inside (H ++ rest') t = (inside (s :: rest) t && !(decide (b ≤ t) && decide (t < e))) := by
  rw [Bool.eq_iff_iff, inside_append, hH, ih]
  simp only [Bool.and_eq_true, inside_cons, or_and_right, decide_not_in]

theorem adjust_inside (s : Seg) (b e t : Int) (h : ¬ (s.1 < b ∧ s.2 > e)) :
    ((adjust s b e).1 ≤ t ∧ t < (adjust s b e).2) ↔ (s.1 ≤ t ∧ t < s.2) ∧ ¬ (b ≤ t ∧ t < e) := by
  rw [adjust_cases]
  dsimp only
  omega

theorem adjust_wf (s : Seg) (b e : Int) (hs : s.1 < s.2) (h : ¬ (s.1 ≥ b ∧ s.2 ≤ e)) :
    (adjust s b e).1 < (adjust s b e).2 := by
  rw [adjust_cases]
  dsimp only
  omega

/-- No hypothesis on the stored segments or on `b`, `e` (comparisons as repaired for F-C08a, commit 9b846ed): with
    `e < b` a segment that is cut is split into two overlapping halves, so nothing is removed. -/
theorem inside_removeSeg (S : List Seg) (b e t : Int) :
    inside (removeSeg S b e) t = (inside S t && !(decide (b ≤ t) && decide (t < e))) := by
  fun_induction removeSeg S b e with
  | case1 => rfl
  | case2 s rest b e h ih =>
    exact inside_head_remove (H := []) (by simp only [inside_nil, Bool.false_eq_true, false_iff]; omega) ih
  | case3 s rest b e _ h ih =>
    exact inside_head_remove (H := [s]) (by simp only [inside_cons, inside_nil, Bool.false_eq_true, or_false]; omega) ih
  | case4 s rest b e _ _ h ih =>
    exact inside_head_remove (H := [(s.1, b), (e, s.2)])
      (by simp only [inside_cons, inside_nil, Bool.false_eq_true, or_false]; omega) ih
  | case5 s rest b e _ _ h3 ih =>
    refine inside_head_remove (H := [adjust s b e]) ?_ ih
    simp only [inside_cons, inside_nil, Bool.false_eq_true, or_false]
    exact adjust_inside s b e t h3

theorem removeSeg_wf (S : List Seg) (b e : Int) (hwf : SegsWF S) : SegsWF (removeSeg S b e) := by
  fun_induction removeSeg S b e with
  | case1 => exact hwf
  | case2 s rest b e _ ih => exact ih (segsWF_cons.mp hwf).2
  | case3 s rest b e _ _ ih =>
    obtain ⟨hs, hr⟩ := segsWF_cons.mp hwf
    exact segsWF_cons.mpr ⟨hs, ih hr⟩
  | case4 s rest b e _ _ h ih =>
    exact segsWF_cons.mpr ⟨h.1, segsWF_cons.mpr ⟨h.2, ih (segsWF_cons.mp hwf).2⟩⟩
  | case5 s rest b e h1 _ _ ih =>
    obtain ⟨hs, hr⟩ := segsWF_cons.mp hwf
    exact segsWF_cons.mpr ⟨adjust_wf s b e hs h1, ih hr⟩

theorem inside_addAll (S X : List Seg) (t : Int) :
    inside (addAll S X) t = (inside S t || inside X t) := by
  induction X generalizing S with
  | nil => exact (Bool.or_false _).symm
  | cons x xs ih =>
    show inside (addAll (addSeg S x.1 x.2) xs) t = (inside S t || (_ || inside xs t))
    rw [ih, inside_addSeg, Bool.or_assoc]

theorem addAll_wf (S X : List Seg) (hS : SegsWF S) (hX : SegsWF X) : SegsWF (addAll S X) :=
  List.foldlRecOn (motive := SegsWF) X _ hS fun S hS x hx => addSeg_wf S x.1 x.2 (hX x hx) hS

theorem removeAll_wf (S X : List Seg) (hS : SegsWF S) : SegsWF (removeAll S X) :=
  List.foldlRecOn (motive := SegsWF) X _ hS fun S hS x _ => removeSeg_wf S x.1 x.2 hS

theorem inside_removeAll (S X : List Seg) (t : Int) :
    inside (removeAll S X) t = (inside S t && !inside X t) := by
  induction X generalizing S with
  | nil => exact (Bool.and_true _).symm
  | cons x xs ih =>
    show inside (removeAll (removeSeg S x.1 x.2) xs) t = (inside S t && !(_ || inside xs t))
    rw [ih, inside_removeSeg, Bool.and_assoc, Bool.not_or]

/-- `hX` and `hS` are not used. -/
theorem removeAll_inside_sound (X S : List Seg) (t : Int) (hX : ∀ s ∈ X, s.1 < s.2)
    (hS : ∀ s ∈ S, s.1 < s.2) :
    (inside (removeAll S X) t = true → inside S t = true) ∧
    (inside S t = true → inside X t = false → inside (removeAll S X) t = true) := by
  rw [inside_removeAll S X t]
  cases inside S t <;> cases inside X t <;> simp

theorem inside_insertSeg (s : Seg) (L : List Seg) (t : Int) :
    inside (insertSeg s L) t = true ↔ (s.1 ≤ t ∧ t < s.2) ∨ inside L t = true := by
  fun_induction insertSeg s L with
  | case1 => exact inside_cons s [] t
  | case2 x xs h => exact inside_cons _ _ t
  | case3 x xs h ih => rw [inside_cons, ih, inside_cons, or_left_comm]

theorem inside_sortSegs (L : List Seg) (t : Int) : inside (sortSegs L) t = inside L t := by
  induction L with
  | nil => rfl
  | cons s rest ih =>
    rw [Bool.eq_iff_iff]
    show inside (insertSeg s (sortSegs rest)) t = true ↔ _
    rw [inside_insertSeg, inside_cons, ih]

theorem inside_mergeRun (L : List Seg) (cur : Seg) (t : Int) :
    inside (mergeRun cur L) t = true ↔ (cur.1 ≤ t ∧ t < cur.2) ∨ inside L t = true := by
  fun_induction mergeRun cur L with
  | case1 cur => exact inside_cons cur [] t
  | case2 cur x xs h ih =>
    -- overlapping or touching: the hull covers what the two cover
    rw [ih, inside_cons, ← or_assoc]
    refine or_congr_left ?_
    dsimp only
    omega
  | case3 cur x xs h ih => rw [inside_cons, ih, inside_cons]

theorem inside_filter (P : Seg → Bool) (S : List Seg) (t : Int) (h : ∀ s : Seg, s.1 ≤ t → t < s.2 → P s = true) :
    inside (S.filter P) t = inside S t := by
  rw [Bool.eq_iff_iff, inside_iff_exists, inside_iff_exists]
  constructor
  · rintro ⟨s, hs, h1, h2⟩
    exact ⟨s, (List.mem_filter.mp hs).1, h1, h2⟩
  · rintro ⟨s, hs, h1, h2⟩
    exact ⟨s, List.mem_filter.mpr ⟨hs, h s h1 h2⟩, h1, h2⟩

end Icinga.C08
