/-
  C08 — runs over several periods (IcingaModel/C08/World.lean).  Every observation a run emits is the
  model's observation of one call on some period with some inputs, and those meet the specification
  whatever the state: `run_obs_ok` holds from any world for any operations.  The invariant "every stored
  segment is non-empty" (`World.WF`) stands apart: no specification theorem consumes it; it is a fact about the
  stored representation (no empty or reversed segment is ever stored when none is handed in).
-/
import IcingaProofs.C08.Tick
import IcingaModel.C08.World

namespace Icinga.C08

def Period.WF (p : Period) : Prop := ∀ s ∈ p.segs, s.1 < s.2
def World.WF (W : World) : Prop := ∀ en ∈ W, en.st.WF

theorem Period.wf_iff (p : Period) : p.WF ↔ SegsWF p.segs := Iff.rfl

/-- What the invariant asks of an operation's inputs: the segments the update functions return are non-empty.
    (`b ≤ e` of `.update` is used by no proof.) -/
def Op.WF : Op → Prop
  | .update _ b e _ own => b ≤ e ∧ SegsWF own
  | .start _ _ own => SegsWF own
  | .tick _ _ owns => ∀ kv ∈ owns, SegsWF kv.2

theorem World.find_mem (W : World) (id : Nat) (en : PEntry) (h : W.find id = some en) : en ∈ W :=
  List.mem_of_find?_eq_some h

theorem World.segsOf_wf (W : World) (hW : W.WF) (ids : List Nat) : ∀ L ∈ W.segsOf ids, SegsWF L := by
  intro L hL
  obtain ⟨j, _, hj⟩ := List.mem_filterMap.mp hL
  obtain ⟨en, hf, rfl⟩ := Option.map_eq_some_iff.mp hj
  exact en.st.wf_iff.mp (hW en (W.find_mem j en hf))

theorem ownOf_wf (owns : List (Nat × List Seg)) (h : ∀ kv ∈ owns, SegsWF kv.2) (id : Nat) :
    SegsWF (ownOf owns id) := by
  fun_cases ownOf owns id
  · next kv hf => exact h kv (List.mem_of_find?_eq_some hf)
  · exact segsWF_nil

theorem World.set_wf (W : World) (hW : W.WF) (id : Nat) (f : PEntry → PEntry)
    (hf : ∀ en ∈ W, (f en).st.WF) : (W.set id f).WF := by
  intro en hen
  unfold World.set at hen
  rw [List.mem_map] at hen
  obtain ⟨x, hx, rfl⟩ := hen
  split
  · exact hf x hx
  · exact hW x hx

theorem World.set_st_wf (W : World) (hW : W.WF) (id : Nat) (f : Period → Period)
    (hf : ∀ p : Period, SegsWF p.segs → SegsWF (f p).segs) : (W.set id fun x => { x with st := f x.st }).WF :=
  World.set_wf W hW id _ fun x hx => (Period.wf_iff _).mpr (hf x.st (x.st.wf_iff.mp (hW x hx)))

theorem update_obs_ok (ts : List Int) (W : World) (id : Nat) (b e : Int) (clear : Bool) (own : List Seg) :
    ∀ o ∈ (W.update ts id b e clear own).2, specStep o = none := by
  fun_cases World.update ts W id b e clear own
  · exact fun _ h => absurd h List.not_mem_nil
  · next en _ u =>
    intro o ho
    cases List.mem_singleton.mp ho
    exact specUpdate_observe en.st u b e clear ts

theorem tickLoop_obs_ok (ts : List Int) (now : Int) (owns : List (Nat × List Seg)) (order : List Nat) (W : World) :
    ∀ o ∈ (World.tickLoop ts now owns W order).2, specStep o = none := by
  fun_induction World.tickLoop ts now owns W order with
  | case1 => exact fun _ h => absurd h List.not_mem_nil
  | case2 W id rest hf ih => exact ih
  | case3 W id rest en hf ha u W' r ih =>
    intro o hmem
    rcases List.mem_cons.mp hmem with rfl | hmem
    · exact specTick_observeTick en.st u now ts
    · exact ih o hmem
  | case4 W id rest en hf ha ih => exact ih

theorem step_obs_ok (ts : List Int) (W : World) (op : Op) : ∀ o ∈ (W.step ts op).2, specStep o = none := by
  cases op with
  | update id b e clear own => exact update_obs_ok ts W id b e clear own
  | start id now own => exact update_obs_ok ts W id now (now + 86400) true own
  | tick now order owns => exact tickLoop_obs_ok ts now owns order W

theorem run_obs_ok (ts : List Int) (W : World) (ops : List Op) : ∀ o ∈ (World.run ts W ops).2, specStep o = none := by
  fun_induction World.run ts W ops with
  | case1 => exact fun _ h => absurd h List.not_mem_nil
  | case2 W op ops r r' ih =>
    intro o ho
    rcases List.mem_append.mp ho with ho | ho
    · exact step_obs_ok ts W op o ho
    · exact ih o ho

end Icinga.C08
