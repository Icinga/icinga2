/-
  C08 — one run of the 300 s update timer on one period (PurgeSegments, then a non-clearing UpdateRegion):
  what the purge keeps, and the window and the formula of the model's observation after the run.
-/
import IcingaProofs.C08.Update

namespace Icinga.C08

theorem purge_ve (p : Period) (c : Int) : (p.purge c).ve = p.ve := by
  fun_cases Period.purge p c <;> rfl

theorem purge_vb (p : Period) (c : Int) :
    (p.purge c).vb = match p.vb with
      | some x => some (if x < c then c else x)
      | none => none := by
  fun_cases Period.purge p c
  · next h => rw [h]
  · next x h hc => rw [h]; exact congrArg some (by omega)
  · next x h hc => rw [h]; exact congrArg some (by omega)

theorem purge_inside (p : Period) (c t : Int) (ht : c ≤ t) : inside (p.purge c).segs t = inside p.segs t := by
  fun_cases Period.purge p c
  · rfl
  · rfl
  · -- a dropped segment ends before `c ≤ t`
    exact inside_filter _ _ t fun s _ h2 => decide_eq_true (Int.le_of_lt (Int.lt_of_le_of_lt ht h2))

theorem covers_purge_iff (p : Period) (c b e : Int) (hb : c ≤ b) : (p.purge c).covers b e ↔ p.covers b e := by
  unfold Period.covers
  rw [purge_ve, purge_vb]
  cases p.vb with
  | none => simp
  | some x =>
    constructor
    · rintro ⟨vb, ve, h1, h2, h3, h4⟩
      cases h1
      exact ⟨x, ve, rfl, h2, by omega, h4⟩
    · rintro ⟨vb, ve, h1, h2, h3, h4⟩
      cases h1
      exact ⟨_, ve, rfl, h2, by omega, h4⟩

theorem purge_wf (p : Period) (c : Int) (h : SegsWF p.segs) : SegsWF (p.purge c).segs := by
  fun_cases Period.purge p c
  · exact h
  · exact h
  · exact fun s hs => h s (List.mem_filter.mp hs).1

theorem skips_purge (p : Period) (c e : Int) (clear : Bool) : (p.purge c).skips e clear = p.skips e clear := by
  unfold Period.skips
  rw [purge_ve]

theorem tick_eq (p : Period) (u : UpdIn) (now : Int) :
    p.tick u now = (p.purge (now - 3600)).updateRegion u (numOf p.ve) (now + 86400) false := by
  show (p.purge (now - 3600)).updateRegion u (numOf (p.purge (now - 3600)).ve) (now + 86400) false = _
  rw [purge_ve]

theorem tick_wf (p : Period) (u : UpdIn) (now : Int)
    (hp : SegsWF p.segs) (hown : SegsWF u.own) (hinc : ∀ L ∈ u.incs, SegsWF L) :
    SegsWF (p.tick u now).segs := by
  rw [tick_eq]
  exact updateRegion_wf _ u _ _ false (purge_wf p _ hp) hown hinc

theorem tick_eq_purge (p : Period) (u : UpdIn) (now : Int) (h : p.skips (now + 86400) false = true) :
    p.tick u now = p.purge (now - 3600) := by
  rw [tick_eq, updateRegion_eq, skips_purge, h, if_pos rfl]

theorem tick_eq_region (p : Period) (u : UpdIn) (now : Int) (h : p.skips (now + 86400) false = false) :
    p.tick u now = (p.purge (now - 3600)).region u (numOf p.ve) (now + 86400) := by
  rw [tick_eq, updateRegion_eq, skips_purge, h, if_neg Bool.false_ne_true, if_neg Bool.false_ne_true,
    ← purge_ve p (now - 3600), effBegin_self]

theorem tick_covers (p : Period) (u : UpdIn) (now : Int) (h : p.skips (now + 86400) false = false) :
    (p.tick u now).covers (numOf p.ve) (now + 86400) ∧
    ∀ x, p.vb = some x → (p.tick u now).covers (if x < now - 3600 then now - 3600 else x) (now + 86400) := by
  rw [tick_eq_region p u now h]
  refine ⟨region_covers _ u _ _, fun x hx => region_covers_of _ u _ _ _ _ (covers_remove_lo _ _ _ _ ?_)⟩
  rw [purge_vb, hx]

theorem observeTick_noop (p : Period) (u : UpdIn) (now : Int) (ts : List Int) :
    (observeTick p u now ts).upd.noop = p.skips (now + 86400) false := rfl

theorem observeTick_effB (p : Period) (u : UpdIn) (now : Int) (ts : List Int) :
    (observeTick p u now ts).upd.effB = numOf p.ve :=
  effBegin_self p

/-- The begin a purge at a cut-off `c ≤ now` leaves is at most `now` or the old begin: what the specification
    asks of the cut-off. -/
theorem purged_begin_le (c now x : Int) (hc : c ≤ now) :
    (if x < c then c else x) ≤ if x < now then now else x := by
  omega

/-- The begin is at most `now` or the old begin because the purge leaves it at most at `now - 1 h` or
    where it was, and `region` only lowers it. -/
theorem specTickWindow_observeTick (p : Period) (u : UpdIn) (now : Int) (ts : List Int) :
    specTickWindow (observeTick p u now ts) = none := by
  unfold specTickWindow
  dsimp only
  rw [observeTick_noop, observeTick_effB]
  simp only [observeTick]
  cases h : p.skips (now + 86400) false
  · obtain ⟨⟨vb, ve, cvb, cve, h1, h2⟩, hlo⟩ := tick_covers p u now h
    simp only [Bool.false_eq_true, if_false, cvb, cve]
    refine if_pos ⟨h1, h2, ?_⟩
    cases hp : p.vb with
    | none => rfl
    | some x => exact decide_eq_true (Int.le_trans ((hlo x hp).vb_le cvb) (purged_begin_le (now - 3600) now x (by omega)))
  · simp only [if_true, tick_eq_purge p u now h, purge_ve, purge_vb]
    cases p.vb with
    | none => rfl
    | some x => exact if_pos ⟨trivial, decide_eq_true (purged_begin_le (now - 3600) now x (by omega))⟩

theorem tick_inside (p : Period) (u : UpdIn) (now : Int) (ts : List Int) (t : Int)
    (ht : now - 3600 ≤ t) :
    inside (p.tick u now).segs t = expectTick (observeTick p u now ts) t := by
  unfold expectTick
  rw [observeTick_noop]
  cases h : p.skips (now + 86400) false
  · rw [if_neg Bool.false_ne_true, tick_eq_region p u now h, region_inside, purge_inside p _ t ht,
      expectInside_eq, observeTick_effB]
    rfl
  · rw [if_pos rfl, tick_eq_purge p u now h, purge_inside p _ t ht]
    rfl

theorem specTickQuery_eq (k : TickObs) (q : Int × Bool) :
    specTickQuery k q =
      if q.1 < k.cutoff then none else windowQuery k.upd.vb k.upd.ve (expectTick k) .tickInside q := rfl

theorem specTickQuery_isInside (k : TickObs) (q : Period) (t : Int) (hvb : k.upd.vb = q.vb) (hve : k.upd.ve = q.ve)
    (h : k.cutoff ≤ t → inside q.segs t = expectTick k t) : specTickQuery k (t, q.isInside t) = none := by
  rw [specTickQuery_eq, hvb, hve]
  by_cases hc : t < k.cutoff
  · exact if_pos hc
  · exact (if_neg hc).trans (windowQuery_isInside q _ _ t (h (by omega)))

theorem specTickQueries_map (k : TickObs) (f : Int → Bool) (h : ∀ t, specTickQuery k (t, f t) = none) (ts : List Int) :
    specTickQueries k (ts.map (fun t => (t, f t))) = none := by
  induction ts with
  | nil => rfl
  | cons x xs ih => simp only [List.map_cons, specTickQueries, h x, ih]

theorem specTick_observeTick (p : Period) (u : UpdIn) (now : Int) (ts : List Int) :
    specTick (observeTick p u now ts) = none := by
  unfold specTick
  rw [specTickWindow_observeTick]
  exact specTickQueries_map _ _ (fun t => specTickQuery_isInside _ (p.tick u now) t rfl rfl
    (tick_inside p u now ts t)) ts

end Icinga.C08
