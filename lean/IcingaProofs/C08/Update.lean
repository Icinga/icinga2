/-
  C08 — one `UpdateRegion` call on one period.  `Merge` over several periods is `Merge` of the
  concatenated lists, so `region` is three merges after one `RemoveSegment`; its segment list is
  read off through the list-level folds (`region_inside`), its window through `covers` (`region_covers`).
-/
import IcingaProofs.C08.Lemmas
import IcingaModel.C08.Spec

namespace Icinga.C08

theorem merge_segs (o : List Seg) (incl : Bool) (p : Period) :
    (p.merge o incl).segs = if incl then addAll p.segs o else removeAll p.segs o := by
  cases incl
  · exact (List.foldl_hom Period.segs fun _ _ => rfl).symm
  · exact (List.foldl_hom Period.segs fun _ _ => rfl).symm

theorem mergeAll_eq (os : List (List Seg)) (incl : Bool) (p : Period) :
    p.mergeAll os incl = p.merge os.flatten incl :=
  List.foldl_flatten.symm

theorem region_eq (p : Period) (u : UpdIn) (b e : Int) :
    p.region u b e =
      if u.prefer then (((p.remove (b, e)).merge u.own true).merge u.excs.flatten false).merge u.incs.flatten true
      else (((p.remove (b, e)).merge u.own true).merge u.incs.flatten true).merge u.excs.flatten false := by
  unfold Period.region
  simp only [mergeAll_eq]
  rfl

theorem region_segs (p : Period) (u : UpdIn) (b e : Int) :
    (p.region u b e).segs =
      if u.prefer then addAll (removeAll (addAll (removeSeg p.segs b e) u.own) u.excs.flatten) u.incs.flatten
      else removeAll (addAll (addAll (removeSeg p.segs b e) u.own) u.incs.flatten) u.excs.flatten := by
  rw [region_eq]
  cases u.prefer <;> simp only [merge_segs, Bool.false_eq_true, if_false, if_true] <;> rfl

theorem region_wf (p : Period) (u : UpdIn) (b e : Int)
    (hS : SegsWF p.segs) (hown : SegsWF u.own) (hinc : ∀ L ∈ u.incs, SegsWF L) :
    SegsWF (p.region u b e).segs := by
  rw [region_segs]
  have w := addAll_wf _ u.own (removeSeg_wf p.segs b e hS) hown
  have hI : SegsWF u.incs.flatten := List.forall_mem_flatten.mpr hinc
  cases u.prefer
  · exact removeAll_wf _ _ (addAll_wf _ _ w hI)
  · exact addAll_wf _ _ (removeAll_wf _ _ w) hI

theorem updateRegion_wf (p : Period) (u : UpdIn) (b e : Int) (clear : Bool)
    (hp : SegsWF p.segs) (hown : SegsWF u.own) (hinc : ∀ L ∈ u.incs, SegsWF L) :
    SegsWF (p.updateRegion u b e clear).segs := by
  fun_cases Period.updateRegion p u b e clear
  · exact region_wf _ u b e segsWF_nil hown hinc
  · exact hp
  · exact region_wf p u _ e hp hown hinc

/-- The property's formula at one instant (the specification's `expectInside`, `expectInside_eq`): `kept` — stored
    before the call and outside the refreshed region —, `own` — in a segment the update function returned —,
    `inc` / `exc` — in some included / excluded list. -/
def formula (prefer kept own inc exc : Bool) : Bool :=
  if prefer then ((kept || own) && !exc) || inc else ((kept || own) || inc) && !exc

theorem expectInside_eq (o : UpdObs) (t : Int) :
    expectInside o t =
      formula o.prefer (if o.clear then false else inside o.preSegs t && !(decide (o.effB ≤ t) && decide (t < o.e)))
        (inside o.own t) (o.incs.any fun L => inside L t) (o.excs.any fun L => inside L t) :=
  rfl

theorem expectWithRefs_eq (o : UpdObs) (t : Int) (h : o.noop = false) :
    expectWithRefs o (o.incs.any fun L => inside L t) (o.excs.any fun L => inside L t) t = expectInside o t := by
  unfold expectWithRefs ownPart
  rw [h]
  rfl

theorem region_inside (p : Period) (u : UpdIn) (b e t : Int) :
    inside (p.region u b e).segs t =
      formula u.prefer (inside p.segs t && !(decide (b ≤ t) && decide (t < e))) (inside u.own t)
        (u.incs.any fun L => inside L t) (u.excs.any fun L => inside L t) := by
  rw [region_segs, any_inside_flatten, any_inside_flatten]
  unfold formula
  cases u.prefer
  · rw [if_neg Bool.false_ne_true, if_neg Bool.false_ne_true, inside_removeAll, inside_addAll, inside_addAll,
      inside_removeSeg]
  · rw [if_pos rfl, if_pos rfl, inside_addAll, inside_removeAll, inside_addAll, inside_removeSeg]

theorem formula_iff (pr k o i x : Bool) :
    formula pr k o i x = true ↔
      if pr = true then ((k = true ∨ o = true) ∧ ¬ x = true) ∨ i = true
      else ((k = true ∨ o = true) ∨ i = true) ∧ ¬ x = true := by
  cases pr <;> simp [formula]

theorem widenLo_spec (v : Option Int) (b : Int) : ∃ x, widenLo v b = some x ∧ x ≤ b ∧ (∀ y, v = some y → x ≤ y) := by
  fun_cases widenLo v b
  · exact ⟨b, rfl, Int.le_refl _, nofun⟩
  · next y h => exact ⟨b, rfl, Int.le_refl _, by rintro z ⟨⟩; omega⟩
  · next y h => exact ⟨y, rfl, by omega, by rintro z ⟨⟩; omega⟩

theorem widenHi_spec (v : Option Int) (e : Int) : ∃ x, widenHi v e = some x ∧ e ≤ x ∧ (∀ y, v = some y → y ≤ x) := by
  fun_cases widenHi v e
  · exact ⟨e, rfl, Int.le_refl _, nofun⟩
  · next y h => exact ⟨e, rfl, Int.le_refl _, by rintro z ⟨⟩; omega⟩
  · next y h => exact ⟨y, rfl, by omega, by rintro z ⟨⟩; omega⟩

/-- Every fact about `valid_begin` / `valid_end` is said through this: AddSegment and RemoveSegment only widen the
    window (`covers_widen`), so what `RemoveSegment(b, e)` at the head of `region` covers stays covered
    (`region_covers_of`). -/
def Period.covers (p : Period) (b e : Int) : Prop :=
  ∃ vb ve, p.vb = some vb ∧ p.ve = some ve ∧ vb ≤ b ∧ e ≤ ve

theorem Period.covers.vb_le {p : Period} {b e v : Int} (h : p.covers b e) (hv : p.vb = some v) : v ≤ b := by
  obtain ⟨vb, _, h1, _, h3, _⟩ := h
  cases hv.symm.trans h1
  exact h3

theorem isInside_iff (p : Period) (t : Int) :
    p.isInside t = true ↔ ¬ p.covers t t ∨ inside p.segs t = true := by
  unfold Period.isInside Period.covers
  cases p.vb <;> cases p.ve <;> simp
  next vb ve =>
  by_cases h : t < vb ∨ ve < t
  · simp [h]; omega
  · simp [h]; intro _; omega

theorem isInside_in_window {p : Period} {t vb ve : Int} (hvb : p.vb = some vb) (hve : p.ve = some ve)
    (h1 : vb ≤ t) (h2 : t ≤ ve) : p.isInside t = inside p.segs t := by
  unfold Period.isInside
  rw [hvb, hve]
  exact if_neg (by omega)

theorem isInside_of_covers {p : Period} {b e t : Int} (h : p.covers b e) (hb : b ≤ t) (he : t ≤ e) :
    p.isInside t = inside p.segs t := by
  obtain ⟨vb, ve, h1, h2, h3, h4⟩ := h
  exact isInside_in_window h1 h2 (by omega) (by omega)

theorem covers_widen {p q : Period} {s : Seg} {b e : Int}
    (hvb : q.vb = widenLo p.vb s.1) (hve : q.ve = widenHi p.ve s.2) (h : p.covers b e) : q.covers b e := by
  obtain ⟨vb, ve, h1, h2, h3, h4⟩ := h
  obtain ⟨x, hx, _, hx2⟩ := widenLo_spec p.vb s.1
  obtain ⟨y, hy, _, hy2⟩ := widenHi_spec p.ve s.2
  have := hx2 vb h1
  have := hy2 ve h2
  exact ⟨x, y, hvb.trans hx, hve.trans hy, by omega, by omega⟩

theorem covers_merge (o : List Seg) (incl : Bool) (p : Period) (b e : Int) (h : p.covers b e) :
    (p.merge o incl).covers b e :=
  List.foldlRecOn (motive := fun q : Period => q.covers b e) o _ h fun q hq x _ => by
    show (if incl then q.add x else q.remove x).covers b e
    cases incl <;> exact covers_widen rfl rfl hq

theorem covers_remove_self (p : Period) (b e : Int) : (p.remove (b, e)).covers b e := by
  obtain ⟨x, hx, hx1, _⟩ := widenLo_spec p.vb b
  obtain ⟨y, hy, hy1, _⟩ := widenHi_spec p.ve e
  exact ⟨x, y, hx, hy, hx1, hy1⟩

theorem covers_remove_lo (p : Period) (b e l : Int) (h : p.vb = some l) : (p.remove (b, e)).covers l e := by
  obtain ⟨x, hx, _, hx2⟩ := widenLo_spec p.vb b
  obtain ⟨y, hy, hy1, _⟩ := widenHi_spec p.ve e
  exact ⟨x, y, hx, hy, hx2 l h, hy1⟩

theorem region_covers_of (p : Period) (u : UpdIn) (b e x y : Int) (h : (p.remove (b, e)).covers x y) :
    (p.region u b e).covers x y := by
  rw [region_eq]
  have h2 := covers_merge u.own true _ x y h
  cases u.prefer
  · exact covers_merge _ _ _ x y (covers_merge _ _ _ x y h2)
  · exact covers_merge _ _ _ x y (covers_merge _ _ _ x y h2)

theorem region_covers (p : Period) (u : UpdIn) (b e : Int) : (p.region u b e).covers b e :=
  region_covers_of p u b e b e (covers_remove_self p b e)

/-- The early return of `UpdateRegion` (timeperiod.cpp:230-231).  The model has the condition in
    `Period.updateRegion` and `Period.asked`, the specification in `UpdObs.noop`; for the model's own observation
    they coincide (`observe_noop`). -/
def Period.skips (p : Period) (e : Int) (clear : Bool) : Bool := !clear && decide (e < numOf p.ve)

theorem observe_noop (p : Period) (u : UpdIn) (b e : Int) (clear : Bool) (ts : List Int) :
    (observe p u b e clear ts).noop = p.skips e clear := rfl

theorem observe_effB (p : Period) (u : UpdIn) (b e : Int) (clear : Bool) (ts : List Int) :
    (observe p u b e clear ts).effB = p.effBegin b clear := rfl

theorem asked_eq (p : Period) (b e : Int) (clear : Bool) :
    p.asked b e clear = if p.skips e clear then none else some (p.effBegin b clear, e) := rfl

theorem effBegin_self (p : Period) : p.effBegin (numOf p.ve) false = numOf p.ve :=
  (if_neg Bool.false_ne_true).trans (if_neg (Int.lt_irrefl _))

theorem updateRegion_eq (p : Period) (u : UpdIn) (b e : Int) (clear : Bool) :
    p.updateRegion u b e clear =
      if p.skips e clear then p
      else (if clear then { p with segs := [] } else p).region u (p.effBegin b clear) e := by
  unfold Period.updateRegion Period.effBegin Period.skips
  cases clear
  · by_cases h : e < numOf p.ve <;> simp [h]
  · rfl

theorem start_eq (p : Period) (u : UpdIn) (now : Int) :
    p.start u now = p.updateRegion u now (now + 86400) true := rfl

theorem updateRegion_covers (p : Period) (u : UpdIn) (b e : Int) (clear : Bool) (h : p.skips e clear = false) :
    (p.updateRegion u b e clear).covers (p.effBegin b clear) e := by
  rw [updateRegion_eq, h, if_neg Bool.false_ne_true]
  exact region_covers _ u _ e

theorem updateRegion_inside (p : Period) (u : UpdIn) (b e : Int) (clear : Bool) (t : Int)
    (h : p.skips e clear = false) :
    inside (p.updateRegion u b e clear).segs t =
      formula u.prefer
        (if clear then false else inside p.segs t && !(decide (p.effBegin b clear ≤ t) && decide (t < e)))
        (inside u.own t) (u.incs.any fun L => inside L t) (u.excs.any fun L => inside L t) := by
  rw [updateRegion_eq, h, if_neg Bool.false_ne_true, region_inside]
  cases clear <;> rfl

theorem specWindow_of_covers (o : UpdObs) (q : Period) (hvb : o.vb = q.vb) (hve : o.ve = q.ve)
    (h : q.covers o.effB o.e) : specWindow o = none := by
  obtain ⟨vb, ve, h1, h2, h3, h4⟩ := h
  unfold specWindow
  rw [hvb, hve, h1, h2]
  exact if_pos ⟨h3, h4⟩

theorem specQueries_map (o : UpdObs) (f : Int → Bool) (h : ∀ t, specQuery o (t, f t) = none) (ts : List Int) :
    specQueries o (ts.map (fun t => (t, f t))) = none := by
  induction ts with
  | nil => rfl
  | cons x xs ih => simp only [List.map_cons, specQueries, h x, ih]

/-- What both query clauses of the specification (`specQuery`, `specTickQuery`) check of one answer `q.2` at the
    instant `q.1`. -/
def windowQuery (vb ve : Option Int) (E : Int → Bool) (c : Clause) (q : Int × Bool) : Option Clause :=
  match vb, ve with
  | some vb, some ve =>
    if q.1 < vb ∨ q.1 > ve then (if q.2 = true then none else some .outsideWindow)
    else if q.2 = E q.1 then none else some c
  | _, _ => if q.2 = true then none else some .outsideWindow

theorem specQuery_eq (o : UpdObs) (q : Int × Bool) :
    specQuery o q = windowQuery o.vb o.ve (expectInside o) .insideFormula q := rfl

theorem windowQuery_isInside (q : Period) (E : Int → Bool) (c : Clause) (t : Int) (h : inside q.segs t = E t) :
    windowQuery q.vb q.ve E c (t, q.isInside t) = none := by
  unfold windowQuery Period.isInside
  cases q.vb <;> cases q.ve <;> try rfl
  next vb ve =>
  dsimp only
  by_cases hout : t < vb ∨ t > ve
  · simp only [if_pos hout, ↓reduceIte]
  · simp only [if_neg hout, h, ↓reduceIte]

theorem specQuery_isInside (o : UpdObs) (q : Period) (t : Int) (hvb : o.vb = q.vb) (hve : o.ve = q.ve)
    (h : inside q.segs t = expectInside o t) : specQuery o (t, q.isInside t) = none := by
  rw [specQuery_eq, hvb, hve]
  exact windowQuery_isInside q _ _ t h

theorem specUpdate_observe (p : Period) (u : UpdIn) (b e : Int) (clear : Bool) (ts : List Int) :
    specUpdate (observe p u b e clear ts) = none := by
  unfold specUpdate
  rw [observe_noop]
  cases hs : p.skips e clear
  · -- effective: the window covers the refreshed region and the segments follow the formula
    rw [if_neg Bool.false_ne_true, specWindow_of_covers (observe p u b e clear ts) _ rfl rfl
      (updateRegion_covers p u b e clear hs)]
    exact specQueries_map _ _ (fun t => specQuery_isInside _ _ t rfl rfl
      ((updateRegion_inside p u b e clear t hs).trans (expectInside_eq (observe p u b e clear ts) t).symm)) ts
  · -- ends before the old valid_end: nothing happens
    rw [if_pos rfl]
    show (if canon (p.updateRegion u b e clear).segs = canon p.segs then none else _) = none
    rw [updateRegion_eq, hs, if_pos rfl, if_pos rfl]

/-- `UpdateRegion` asks the update function for exactly the region it refreshes; only the old `valid_end`
    enters. -/
theorem specAsk_asked (o : UpdObs) (q : Period) (hve : o.preVe = q.ve) :
    specAsk o (q.asked o.b o.e o.clear) = none := by
  have hn : o.noop = q.skips o.e o.clear := by unfold UpdObs.noop Period.skips; rw [hve]
  have hb : o.effB = q.effBegin o.b o.clear := by unfold UpdObs.effB Period.effBegin; rw [hve]
  unfold specAsk
  rw [asked_eq, hn, hb]
  cases q.skips o.e o.clear
  · rw [if_neg Bool.false_ne_true, if_neg Bool.false_ne_true]
    exact if_pos ⟨Int.le_refl _, Int.le_refl _⟩
  · rfl

end Icinga.C08
