/-
  C19 — property theorems; `./check C19` requires each `theorem` of this file by name and runs `#print axioms` on it.
  The tables read from /repo on every run are IcingaProofs/Gen/SandboxGuards.lean, turned into a `Cfg` by
  IcingaProofs/C19/Tables.lean (`genCfg`).  `gen/c19_switch.py known|fixed` swaps the block `F-C19 fixed` below with
  the commented-out block `F-C19 known`: what holds of a tree in which `SetConstExpression::DoEvaluate` has no sandbox
  guard (F-C19a, repaired in /repo by 03364e3).
-/
import IcingaProofs.C19.Obs
import IcingaProofs.C19.Computational
import IcingaProofs.C19.Tables
import IcingaModel.C19.Spec

namespace Icinga.C19
open Icinga.Gen

/-- **sandbox_noninterference.**  For every guard table in which each mutating node kind is guarded,
    with the call check and the callback tests of the higher-order natives (`CbChecks`) in place, every native
    that is flagged side-effect free actually leaving the protected state alone, `Reference#set` (which writes
    through a reference) not flagged so, and no type whose construction has a process-wide effect (`ctorEffect`:
    constructor calls run BEFORE the whitelist test, expression.cpp:463-474 — F-C19c, repaired by ac7cac3): for
    every program, every environment and every amount of fuel, evaluating the program sandboxed ends — with a
    value or with an error — in an environment whose globals, constants, config objects, files, registries and
    application singleton (`Env.prot`) are exactly the initial ones. -/
theorem sandbox_noninterference (cfg : Cfg)
    (hg : ∀ k, mutating k = true → cfg.guard k = true) (hct : ∀ t, cfg.ctorEffect t = false) (hcc : cfg.callCheck = true) (hcb : CbChecks cfg)
    (hp : SafeNativesPure cfg) (hset : RefSetUnsafe cfg) (fuel : Nat) (e : Expr) (env : Env) :
    (eval cfg true fuel e env).2.prot = env.prot :=
  (eval_pres_protEq cfg hg hct hcc hcb hp hset fuel e).h env

/-- **sandbox_only_safe_calls.**  With the call check and the callback tests (`CbChecks`) in place, whatever the guard table says: every
    entry of the ghost call log after a sandboxed evaluation is an entry of the log before it or a native flagged
    side-effect free.  From an empty log: every function the evaluation invokes is such a native — never a non-safe
    native, never a script function.  (By membership: a callee already in the log before is not told from a new one.) -/
theorem sandbox_only_safe_calls (cfg : Cfg) (hcc : cfg.callCheck = true) (hcb : CbChecks cfg) (fuel : Nat) (e : Expr) (env : Env) :
    ∀ c ∈ (eval cfg true fuel e env).2.calls, c ∈ env.calls ∨ safeCallee cfg c = true :=
  (eval_pres_callsOk cfg hcc hcb fuel e).h env

/- The theorems of this section run the interpreter on one node, or on the helper behind it (`hofInvoke`, `getField`,
   `refRead`).  Those about a node hold for every guard table, so their proofs first split on whether the kinds of the
   nodes they run through are guarded: a guarded node is refused, which the conclusions allow for — or a hypothesis
   `hng` rules out. -/
section
attribute [local simp] eval_succ guardCheck Expr.kind evalNode chk bind M.bind pure M.pure M.fail M.get outcomeOf

/-- **unsafe_native_call_rejected.**  With the call check in place, calling a native that is not flagged
    side-effect free is refused with the sandbox error before any argument is evaluated; nothing at all changes. -/
theorem unsafe_native_call_rejected (cfg : Cfg) (hcc : cfg.callCheck = true) (name : String) (f : Native)
    (hn : cfg.native name = some f) (hs : f.safe = false) (args : List Expr) (n : Nat) (env : Env) :
    outcomeOf (eval cfg true (n + 2) (.call (.lit (.fn name)) args) env).1 = .sandbox ∧
    (eval cfg true (n + 2) (.call (.lit (.fn name)) args) env).2 = env := by
  by_cases hg : cfg.guard "FunctionCallExpression" = true
  · simp [hg]
  · by_cases hl : cfg.guard "LiteralExpression" = true
    · simp [hg, hl]
    · simp [hg, hl, callValue, hn, hs, hcc]

/-- **computed_callee_checked** (expression.cpp:454-461, :478-482).  The whitelist test does not depend on HOW the callee
    was obtained: whatever expression `f` computes the function value — `(a || b)`, `(c && d)`, a call that returns a
    function, … — if it evaluates to a native without the side-effect-free flag or to a script function, the call
    `f(args)` in a sandboxed frame is refused with the sandbox error, no argument is evaluated, nothing is invoked, and
    the state is exactly the one reached after evaluating `f` — or the initial one, where the table guards
    `FunctionCallExpression` itself and `f` is not evaluated either. -/
theorem computed_callee_checked (cfg : Cfg) (hcc : cfg.callCheck = true) (n : Nat) (f : Expr) (args : List Expr)
    (env env1 : Env) (vf : Value) (h1 : eval cfg true n f env = (.ok (vf, .ok), env1))
    (hu : (∃ name nf, vf = .fn name ∧ cfg.native name = some nf ∧ nf.safe = false) ∨ (∃ id, vf = .closure id)) :
    outcomeOf (eval cfg true (n + 1) (.call f args) env).1 = .sandbox ∧
    ((eval cfg true (n + 1) (.call f args) env).2 = env ∨ (eval cfg true (n + 1) (.call f args) env).2 = env1) := by
  by_cases hg : cfg.guard "FunctionCallExpression" = true
  · simp [hg]
  · rcases hu with ⟨name, nf, rfl, hn, hs⟩ | ⟨id, rfl⟩
    · simp [hg, h1, callValue, hn, hs, hcc]
    · simp [hg, h1, callValue, hcc]

/-- **unsafe_callback_rejected** (array-script.cpp, the test `vframe->Sandboxed && !function->IsSideEffectFree()` in
    `ArraySort`, `ArrayMap`, `ArrayReduce`, `ArrayFilter`, `ArrayAny`, `ArrayAll`).  A higher-order native whose body has
    the callback test (`cfg.cbCheck`), applied to an array and handed a native WITHOUT the side-effect-free flag or a script
    function in a sandboxed frame, raises the sandbox error; the only new entry of the call log is the higher-order
    native itself and nothing else of the state changes. -/
theorem unsafe_callback_rejected (cfg : Cfg) (ev : Expr → M Out) (name : String) (hcb : cfg.cbCheck name = true)
    (l : List String) (cbv : Value) (rest : List Value) (env : Env)
    (hu : (∃ cb g, cbv = .fn cb ∧ cfg.native cb = some g ∧ g.safe = false) ∨ (∃ id, cbv = .closure id)) :
    outcomeOf (hofInvoke cfg true ev name (.arr l) (cbv :: rest) env).1 = .sandbox ∧
    (hofInvoke cfg true ev name (.arr l) (cbv :: rest) env).2 = { env with calls := .native name :: env.calls } := by
  rcases hu with ⟨cb, g, rfl, hg, hs⟩ | ⟨id, rfl⟩
  · simp [hofInvoke, M.modify, hg, hs, hcb]
  · simp [hofInvoke, M.modify, hcb]

/-- **sandbox_hidden_fields** (object.cpp:106-126).  With the no_user_view check in place, reading a
    hidden field of a live object in a sandboxed frame yields the "not allowed in sandbox mode" error and
    never the value — through `VMOps::GetField`, hence through `o.f`, `o["f"]` and method-call lookup. -/
theorem sandbox_hidden_fields (cfg : Cfg) (hf : cfg.fieldCheck = true) (name field : String) (o : Obj) (v : Value)
    (env : Env) (ho : lookup name env.prot.objects = some o) (hv : lookup field o.attrs = some v)
    (hh : cfg.hidden o.type field = true) :
    getField cfg true (.obj name) field env = (.error (.hidden o.type field), env) := by
  simp [getField, ho, hv, hf, hh]

/-- The same at the level of the indexer node: whatever sub-expressions produce the object and the
    field name, `a[b]` / `a.b` is an error. -/
theorem sandbox_hidden_fields_indexer (cfg : Cfg) (hf : cfg.fieldCheck = true) (n : Nat) (oe fe : Expr)
    (name field : String) (o : Obj) (v : Value) (env env1 env2 : Env)
    (h1 : eval cfg true n oe env = (.ok (.obj name, .ok), env1))
    (h2 : eval cfg true n fe env1 = (.ok (.str field, .ok), env2))
    (ho : lookup name env2.prot.objects = some o) (hv : lookup field o.attrs = some v)
    (hh : cfg.hidden o.type field = true) :
    ∃ err, (eval cfg true (n + 1) (.index oe fe) env).1 = .error err ∧ outcomeOf (.error err : Except Err Out) ≠ .ok := by
  by_cases hg : cfg.guard "IndexerExpression" = true
  · exact ⟨.sandbox "IndexerExpression", by simp [hg], by simp⟩
  · refine ⟨.hidden o.type field, ?_, by simp⟩
    have hgf := sandbox_hidden_fields cfg hf name field o v env2 ho hv hh
    simp [hg, h1, h2, Value.toStr, hgf]

/-- **sandbox_hidden_fields_reference** (reference.cpp:20-23).  A read THROUGH a reference — `*(&o.f)`
    (DerefExpression) and `(&o.f).get()` (Reference#get) both end in `refRead` — obeys the same
    no_user_view rule as the direct read, provided `Reference::Get` passes `sandboxed = true`. -/
theorem sandbox_hidden_fields_reference (cfg : Cfg) (hf : cfg.fieldCheck = true) (hr : cfg.refGetSandboxed = true)
    (name field : String) (o : Obj) (v : Value) (env : Env)
    (ho : lookup name env.prot.objects = some o) (hv : lookup field o.attrs = some v)
    (hh : cfg.hidden o.type field = true) :
    refRead cfg (.refr (.obj name) field) env = (.error (.hidden o.type field), env) := by
  simp only [refRead, RefParent.toValue, hr]
  exact sandbox_hidden_fields cfg hf name field o v env ho hv hh

/-- … at the level of whole programs: `*(&o.f)` on a hidden field of a live object is an error. -/
theorem sandbox_hidden_fields_deref (cfg : Cfg) (hf : cfg.fieldCheck = true) (hr : cfg.refGetSandboxed = true)
    (hng : ∀ k, k ∈ ["DerefExpression", "RefExpression", "LiteralExpression"] → cfg.guard k = false)
    (name field : String) (o : Obj) (v : Value) (env : Env) (n : Nat)
    (ho : lookup name env.prot.objects = some o) (hv : lookup field o.attrs = some v)
    (hh : cfg.hidden o.type field = true) :
    (eval cfg true (n + 3) (.deref (.ref (.index (.lit (.obj name)) (.lit (.str field))))) env).1
      = .error (.hidden o.type field) := by
  have h1 := hng "DerefExpression" (by simp)
  have h2 := hng "RefExpression" (by simp)
  have h3 := hng "LiteralExpression" (by simp)
  have hgf := sandbox_hidden_fields_reference cfg hf hr name field o v env ho hv hh
  simp [h1, h2, h3, Value.toStr, hgf]

/-- **sandbox_hidden_fields_import** (vmops.hpp:43-53).  After `using <object>` a BARE identifier is looked up in
    the imported object; that read goes through the same no_user_view rule, provided `FindVarImport` hands the
    frame's sandbox flag to `GetField`. -/
theorem sandbox_hidden_fields_import (cfg : Cfg) (hf : cfg.fieldCheck = true) (hi : cfg.importSandboxed = true)
    (hng : ∀ k, k ∈ ["VariableExpression", "LiteralExpression"] → cfg.guard k = false)
    (name field : String) (o : Obj) (v : Value) (env : Env) (n : Nat) (rest : List Expr)
    (hl : lookup field env.locals = none)
    (ho : lookup name env.prot.objects = some o) (hv : lookup field o.attrs = some v)
    (hh : cfg.hidden o.type field = true) :
    (eval cfg true (n + 2) (.varIn (.lit (.obj name) :: rest) field) env).1 = .error (.hidden o.type field) := by
  have h1 := hng "VariableExpression" (by simp)
  have h2 := hng "LiteralExpression" (by simp)
  have hgf := sandbox_hidden_fields cfg hf name field o v env ho hv hh
  simp [h1, h2, findImport, hl, hasOwnField, ho, hv, hi, hgf]

end

/-- **model_obs_meets_spec.**  Under the hypotheses of the noninterference theorem every observation the
    model can produce for a sandboxed program satisfies the specification predicate that the driver
    evaluates on the implementation's observations. -/
theorem model_obs_meets_spec (cfg : Cfg)
    (hg : ∀ k, mutating k = true → cfg.guard k = true) (hct : ∀ t, cfg.ctorEffect t = false) (hcc : cfg.callCheck = true) (hcb : CbChecks cfg)
    (hp : SafeNativesPure cfg) (hset : RefSetUnsafe cfg) (fuel : Nat) (e : Expr) (env : Env) :
    specStep (modelObs cfg .program false fuel e env) = none :=
  specStep_modelObs (fun _ => ⟨nofun, nofun⟩) (sandbox_noninterference cfg hg hct hcc hcb hp hset fuel e env)
    (sandbox_only_safe_calls cfg hcc hcb fuel e env)

/-- … and for the call of a native that is not flagged safe (the `N` lines of the harness). -/
theorem model_native_obs_meets_spec (cfg : Cfg) (hcc : cfg.callCheck = true) (name : String) (f : Native)
    (hn : cfg.native name = some f) (hs : f.safe = false) (args : List Expr) (n : Nat) (env : Env) :
    specStep (modelObs cfg .native false (n + 2) (.call (.lit (.fn name)) args) env) = none := by
  obtain ⟨h1, h2⟩ := unsafe_native_call_rejected cfg hcc name f hn hs args n env
  exact specStep_modelObs (fun h => by simp [h1] at h) (by rw [h2]) (by rw [h2]; exact fun _ => Or.inl)

/-- **push_event_noninterference** (eventqueue.cpp:250-275).  Handing one event to ANY list of subscribers' filters —
    whatever each of them is, whether it yields a value or raises, in whatever order — leaves the protected state
    exactly as it was: each filter runs in a frame of its own that is sandboxed, errors are swallowed, nothing is
    rolled back and nothing needs to be. -/
theorem push_event_noninterference (cfg : Cfg)
    (hg : ∀ k, mutating k = true → cfg.guard k = true) (hct : ∀ t, cfg.ctorEffect t = false) (hcc : cfg.callCheck = true) (hcb : CbChecks cfg)
    (hp : SafeNativesPure cfg) (hset : RefSetUnsafe cfg) (fuel : Nat) :
    ∀ (filters : List Expr) (env : Env), (pushEvent cfg fuel filters env).2.prot = env.prot :=
  fun filters => pushEvent_pres frameOk_protEq filters fun f _ => eval_pres_protEq cfg hg hct hcc hcb hp hset fuel f

/-- **push_event_only_safe_calls.**  … and every entry of the call log afterwards is an entry of the log before or a native
    flagged side-effect free (by membership, as in `sandbox_only_safe_calls`). -/
theorem push_event_only_safe_calls (cfg : Cfg) (hcc : cfg.callCheck = true) (hcb : CbChecks cfg) (fuel : Nat) :
    ∀ (filters : List Expr) (env : Env),
      ∀ c ∈ (pushEvent cfg fuel filters env).2.calls, c ∈ env.calls ∨ safeCallee cfg c = true :=
  fun filters => pushEvent_pres (protOk_callsOk cfg).frameOk filters fun f _ => eval_pres_callsOk cfg hcc hcb fuel f

/-- **push_event_delivers_only_on_value.**  A subscriber receives the event only if its own filter evaluated to a
    value (a filter that is refused or raises never matches). -/
theorem push_event_delivers_only_on_value (cfg : Cfg) (fuel : Nat) :
    ∀ (filters : List Expr) (env : Env), ∀ p ∈ (pushEvent cfg fuel filters env).1, p.1 = true → p.2 = .ok :=
  pushEvent_delivered_ok cfg fuel

/-- **model_events_obs_meets_spec.**  The observation the model produces for one event and any list of filters
    satisfies the specification predicate (the `E` lines of the harness). -/
theorem model_events_obs_meets_spec (cfg : Cfg)
    (hg : ∀ k, mutating k = true → cfg.guard k = true) (hct : ∀ t, cfg.ctorEffect t = false) (hcc : cfg.callCheck = true) (hcb : CbChecks cfg)
    (hp : SafeNativesPure cfg) (hset : RefSetUnsafe cfg) (fuel : Nat) (filters : List Expr) (env : Env) :
    specStep (modelEventsObs cfg fuel filters env) = none :=
  specStep_modelEventsObs (push_event_noninterference cfg hg hct hcc hcb hp hset fuel filters env)
    (push_event_only_safe_calls cfg hcc hcb fuel filters env)

/-- One operation of a run, as the harness issues them: a program (P lines), the call of one native that is not
    flagged side-effect free (N lines of that kind), or one event handed to several filters (E lines) — each from an
    arbitrary start environment. -/
inductive Op
  | program (e : Expr) (env : Env)
  | unsafeNative (name : String) (args : List Expr) (env : Env)
  | events (filters : List Expr) (env : Env)

def Op.obs (cfg : Cfg) (fuel : Nat) : Op → Obs
  | .program e env => modelObs cfg .program false fuel e env
  | .unsafeNative name args env => modelObs cfg .native false (fuel + 2) (.call (.lit (.fn name)) args) env
  | .events filters env => modelEventsObs cfg fuel filters env

/-- **model_trace_meets_spec** — the whole-trace theorem.  Under the hypotheses of the noninterference theorem the
    specification predicate accepts the trace of the model's observations of EVERY finite sequence of operations, each
    from a start environment of its own. -/
theorem model_trace_meets_spec (cfg : Cfg)
    (hg : ∀ k, mutating k = true → cfg.guard k = true) (hct : ∀ t, cfg.ctorEffect t = false) (hcc : cfg.callCheck = true) (hcb : CbChecks cfg)
    (hp : SafeNativesPure cfg) (hset : RefSetUnsafe cfg) (fuel : Nat) :
    ∀ ops : List Op, (∀ op ∈ ops, ∀ name args env, op = .unsafeNative name args env →
        ∃ f, cfg.native name = some f ∧ f.safe = false) →
      specTrace (ops.map (Op.obs cfg fuel)) = none := by
  intro ops hops
  refine specTrace_none fun o ho => ?_
  obtain ⟨op, hop, rfl⟩ := List.mem_map.1 ho
  cases op with
  | program e env => exact model_obs_meets_spec cfg hg hct hcc hcb hp hset fuel e env
  | unsafeNative name args env =>
    obtain ⟨f, hn, hs⟩ := hops _ hop name args env rfl
    exact model_native_obs_meets_spec cfg hcc name f hn hs args fuel env
  | events filters env => exact model_events_obs_meets_spec cfg hg hct hcc hcb hp hset fuel filters env

/-- The translator found exactly the node classes the model has a constructor for: a new `DoEvaluate`
    in expression.cpp without a model clause, or a vanished one, breaks this. -/
theorem translator_covers_model_kinds :
    (∀ k ∈ allKinds, (lookup k SandboxGuards.nodeGuards).isSome = true) ∧
    (∀ k ∈ SandboxGuards.nodeGuards.map Prod.fst, allKinds.contains k = true) := by decide +kernel

/-- Call check (expression.cpp:481-482), no_user_view check (object.cpp:119-124), inheritance of
    `Sandboxed` by nested frames (scriptframe.cpp:59-69) and script functions being created non-safe
    (vmops.hpp:115) are all present in the source. -/
theorem call_and_field_checks_present :
    SandboxGuards.callCheck = true ∧ SandboxGuards.fieldCheck = true ∧
    SandboxGuards.frameInherits = true ∧ SandboxGuards.scriptFunctionsUnsafe = true := by decide +kernel

/-- References: `Reference::Get` reads with the literal `sandboxed = true` (reference.cpp:22), the built-in
    writer `Reference#set` is registered NOT side-effect free and the reader `Reference#get` side-effect free
    (reference-script.cpp), and `IndexerExpression::GetReference` switches `init_dict` off in a sandboxed frame
    (expression.cpp:761-762). -/
theorem reference_checks_present :
    SandboxGuards.refGetSandboxed = true ∧ SandboxGuards.initDictOff = true ∧
    genSafe "Reference#set" = some false ∧ genSafe "Reference#get" = some true := by decide +kernel

/-- `VMOps::FindVarImport` reads an imported name through `GetField(…, frame.Sandboxed, …)` (vmops.hpp:43-53). -/
theorem import_reads_respect_sandbox : SandboxGuards.importReadSandboxed = true := by decide +kernel

/-- Every native that invokes a script-supplied function AND is flagged side-effect free tests the
    callback's own flag under `Sandboxed` first (array-script.cpp:83-216). -/
theorem safe_callback_invokers_checked :
    ∀ r ∈ SandboxGuards.callbackInvokers, r.2.1 = true → r.2.2 = true := by decide +kernel

/-- **callback_checks_present** (array-script.cpp:83-216).  Every higher-order native the model interprets
    (`Array#sort/map/reduce/filter/any/all`) is found by the translator and its body tests the callback's flag under
    `Sandboxed` before invoking it. -/
theorem callback_checks_present (native : String → Option Native) (hidden : String → String → Bool) :
    CbChecks (genCfg native hidden) := by
  show ∀ n ∈ hofNames, genCbCheck n = true
  decide +kernel

/-- No `GetReference` (the l-value path) can write in a sandboxed frame
    (IndexerExpression::GetReference forces `init_dict = false`, expression.cpp:761-762). -/
theorem reference_paths_cannot_write :
    ∀ r ∈ SandboxGuards.refGuards, r.2 = true := by decide +kernel

/-- The node kinds the property record names as guarded are guarded (defence in depth beyond the
    mutating ones: While, For, Import, ImportDefaultTemplates, Library). -/
theorem documented_guards_present : ∀ k ∈ documentedGuards, genGuard k = true := by decide +kernel

/- BEGIN F-C19 known (disabled)
/- Full statement (false on the pinned tree, see `setconst_counterexample`):

     theorem all_mutating_nodes_guarded : ∀ k, mutating k = true → genGuard k = true
-/

/-- **all_mutating_nodes_guarded_partial.**  Every mutating node kind except `SetConstExpression` is
    guarded in the table generated from the source. -/
theorem all_mutating_nodes_guarded_partial :
    ∀ k, mutating k = true → k ≠ "SetConstExpression" → genGuard k = true := by
  have h : ∀ k ∈ mutatingKinds, k ≠ "SetConstExpression" → genGuard k = true := by decide +kernel
  intro k hk
  exact h k (by simpa [mutating] using hk)

/-- **setconst_counterexample.**  With the tables as generated, noninterference is FALSE: `const X = 42`
    evaluated in a sandboxed frame from the empty environment defines the global constant `X`
    (expression.cpp:674-685 has no `frame.Sandboxed` test).  Replayed on the real evaluator by the check. -/
theorem setconst_counterexample :
    ¬ (∀ (fuel : Nat) (e : Expr) (env : Env),
        (eval (genCfg (fun _ => none) (fun _ _ => false)) true fuel e env).2.prot = env.prot) := by
  intro h
  have := h 2 (.setConst "X" (.lit (.num 42))) {}
  revert this
  decide +kernel

/-- **sandbox_noninterference_repaired.**  With the one missing guard added to the generated table (and
    nothing else assumed about it), noninterference holds for every program, environment and fuel and
    every table of natives whose safe-flagged entries are pure. -/
theorem sandbox_noninterference_repaired (native : String → Option Native) (hidden : String → String → Bool)
    (hp : SafeNativesPure { genCfg native hidden with guard := repairedGuard })
    (fuel : Nat) (e : Expr) (env : Env) :
    (eval { genCfg native hidden with guard := repairedGuard } true fuel e env).2.prot = env.prot := by
  apply sandbox_noninterference _ _ (fun _ => rfl) _ (callback_checks_present _ _) hp
  · intro k hk
    by_cases hks : k = "SetConstExpression"
    · simp [repairedGuard, hks]
    · simp [repairedGuard, all_mutating_nodes_guarded_partial k hk hks]
  · exact call_and_field_checks_present.1
END F-C19 known (disabled) -/

-- BEGIN F-C19 fixed
/-- **all_mutating_nodes_guarded.**  Every node kind whose clause writes protected state is guarded in
    the table generated from the source on this run. -/
theorem all_mutating_nodes_guarded : ∀ k, mutating k = true → genGuard k = true := by
  have h : ∀ k ∈ mutatingKinds, genGuard k = true := by decide +kernel
  exact fun k hk => h k (List.contains_iff_mem.1 hk)

/-- **application_dtor_keeps_singleton** (F-C19c, repaired by ac7cac3).  `Application::~Application` resets
    `Application::m_Instance` only under a condition (read from lib/base/application.cpp on this run), so no
    type's constructor call — made before the whitelist test, expression.cpp:463-474 — has a process-wide effect
    in the model configured by the generated tables. -/
theorem application_dtor_keeps_singleton :
    SandboxGuards.appDtorClearsSingleton = false ∧ ∀ native hidden t, (genCfg native hidden).ctorEffect t = false := by
  have h : SandboxGuards.appDtorClearsSingleton = false := by decide +kernel
  exact ⟨h, fun _ _ t => by simp [genCfg, appDerivedTypes, h]⟩

/-- **sandbox_noninterference_pinned.**  Noninterference for the model configured by the generated
    tables as they are: every program, environment, fuel, and every table of natives whose flags are the
    registered ones and whose safe-flagged entries are pure. -/
theorem sandbox_noninterference_pinned (native : String → Option Native) (hidden : String → String → Bool)
    (hfl : NativeFlagsFromTable native)
    (hp : SafeNativesPure (genCfg native hidden)) (fuel : Nat) (e : Expr) (env : Env) :
    (eval (genCfg native hidden) true fuel e env).2.prot = env.prot :=
  sandbox_noninterference (genCfg native hidden) all_mutating_nodes_guarded
    (application_dtor_keeps_singleton.2 native hidden) call_and_field_checks_present.1 (callback_checks_present _ _) hp
    (refSetUnsafe_of_flags hfl reference_checks_present.2.2.1) fuel e env

/-- **application_dtor_guard_is_necessary** (what F-C19c was, kept as a statement about the UNREPAIRED destructor).
    Give `IcingaApplication` the constructor effect it had before ac7cac3 (`Application::~Application` clearing the
    singleton unconditionally) and noninterference is false: `IcingaApplication()` evaluated sandboxed from the
    empty environment clears the application singleton, because the constructor call is made before the
    side-effect-free test.  So the model is sensitive to exactly the condition the repair added. -/
theorem application_dtor_guard_is_necessary :
    ¬ (∀ (fuel : Nat) (e : Expr) (env : Env),
        (eval { genCfg (fun _ => none) (fun _ _ => false) with ctorEffect := fun t => t == "IcingaApplication" }
            true fuel e env).2.prot = env.prot) := by
  intro h
  have := h 3 (.call (.lit (.type_ "IcingaApplication")) []) {}
  revert this
  decide +kernel

theorem driver_natives_meet_hypotheses (hidden : String → String → Bool) :
    NativeFlagsFromTable driverNative ∧ SafeNativesPure (genCfg driverNative hidden) := by
  have h : ∀ n f, driverNative n = some f →
      genSafe n = some f.safe ∧ (f.safe = true → ∀ self args p, (f.run self args p).2 = p) := by
    intro n f hf
    obtain ⟨b, hb, rfl⟩ := Option.map_eq_some_iff.1 hf
    exact ⟨hb, fun (h : b = true) _ _ _ => by simp [h]⟩
  exact ⟨fun n f hf => (h n f hf).1, fun n f hf hs => (h n f hf).2 hs⟩

/-- **driver_model_trace_meets_spec** — the whole-trace theorem at the model the driver actually runs
    (`genCfg driverNative hidden`: guard table, checks, native flags and the destructor flag as GENERATED from the source
    on this run), for every hidden-field table, fuel and sequence of operations.  No hypothesis on the configuration is
    left; `hops` says of the operations that a native called as "not flagged" is registered without the flag. -/
theorem driver_model_trace_meets_spec (hidden : String → String → Bool) (fuel : Nat) (ops : List Op)
    (hops : ∀ op ∈ ops, ∀ name args env, op = .unsafeNative name args env → genSafe name = some false) :
    specTrace (ops.map (Op.obs (genCfg driverNative hidden) fuel)) = none := by
  obtain ⟨hfl, hp⟩ := driver_natives_meet_hypotheses hidden
  refine model_trace_meets_spec (genCfg driverNative hidden)
    all_mutating_nodes_guarded (application_dtor_keeps_singleton.2 driverNative hidden) call_and_field_checks_present.1 (callback_checks_present _ _) hp
    (refSetUnsafe_of_flags hfl reference_checks_present.2.2.1) fuel ops ?_
  intro op hop name args env heq
  have hs := hops op hop name args env heq
  obtain ⟨f, hf⟩ : ∃ f, driverNative name = some f := by rw [driverNative, hs]; exact ⟨_, rfl⟩
  exact ⟨f, hf, safe_of_flag hfl hf hs⟩

/-- **setconst_guard_is_necessary** (what F-C19a was, kept as a statement about the UNREPAIRED table).
    Take the one guard of `SetConstExpression` out of the generated table again and noninterference is
    false: `const X = 42` evaluated sandboxed from the empty environment defines the constant `X`.  So the
    model is sensitive to exactly the guard that commit 03364e3 added. -/
theorem setconst_guard_is_necessary :
    ¬ (∀ (fuel : Nat) (e : Expr) (env : Env),
        (eval { genCfg (fun _ => none) (fun _ _ => false) with
                  guard := fun k => genGuard k && k != "SetConstExpression" } true fuel e env).2.prot = env.prot) := by
  intro h
  have := h 2 (.setConst "X" (.lit (.num 42))) {}
  revert this
  decide +kernel
-- END F-C19 fixed


/-- **computational_expressions_pure.**  An expression built from operators, literals, reads, array literals, blocks,
    conditionals, throw and try/except alone (`Computational`) leaves the protected state exactly as it was and invokes
    nothing, for EVERY configuration (no guard, no call check, no assumption about natives is needed), sandboxed or
    not: the operator nodes (expression.cpp:193-447) only combine the values of their operands through the free
    functions of value-operators.cpp. -/
theorem computational_expressions_pure (cfg : Cfg) (sb : Bool) (fuel : Nat) (e : Expr) (env : Env) (hc : Computational e) :
    (eval cfg sb fuel e env).2.prot = env.prot ∧ (eval cfg sb fuel e env).2.calls = env.calls :=
  Prod.mk.inj
    ((pres_protCallsEq_of_computational cfg sb fuel e hc).h env)

theorem computational_obs_meets_spec (cfg : Cfg) (fuel : Nat) (e : Expr) (env : Env) (hc : Computational e) :
    specStep (modelObs cfg .program false fuel e env) = none := by
  obtain ⟨hp, hcl⟩ := computational_expressions_pure cfg true fuel e env hc
  exact specStep_modelObs (fun _ => ⟨nofun, nofun⟩) hp (by rw [hcl]; exact fun _ => Or.inl)

/-- **pinned_secrets_unreadable.**  The attributes the property names outright (`secretAttrs`: passwords, password hash,
    ticket salt — listed in Spec.lean, not read from the implementation): in every configuration whose no_user_view
    table covers them and whose field check is in place, the observation of a sandboxed read of one of them on any live
    object satisfies the specification predicate, which judges such a read as a read of a hidden field WHATEVER flag the
    implementation reports (the driver sets `flagged := nuv || isSecretAttr type field`). -/
theorem pinned_secrets_unreadable (cfg : Cfg) (hf : cfg.fieldCheck = true)
    (hsec : ∀ p ∈ secretAttrs, cfg.hidden p.1 p.2 = true)
    (name field : String) (o : Obj) (v : Value) (env : Env)
    (ho : lookup name env.prot.objects = some o) (hv : lookup field o.attrs = some v)
    (hs : isSecretAttr o.type field = true) :
    specStep { kind := .field, flagged := isSecretAttr o.type field,
               outcome := outcomeOf (getField cfg true (.obj name) field env).1,
               changed := decide ((getField cfg true (.obj name) field env).2.prot ≠ env.prot), leak := false } = none := by
  have hh : cfg.hidden o.type field = true := hsec (o.type, field) (by simpa [isSecretAttr] using hs)
  rw [sandbox_hidden_fields cfg hf name field o v env ho hv hh]
  simp [specStep, outcomeOf, hs]


/-- **sandbox_reads_only_visible.**  With the call check, the callback tests and the no_user_view check in place, `Reference::Get`
    passing `sandboxed = true` and `FindVarImport` passing the frame's flag: for EVERY program, environment and fuel, every
    attribute of a live config object whose value a sandboxed evaluation hands to the script (ghost read log of
    `Object::GetFieldByName`, object.cpp:106-126 — reached from `a.b`, `a[b]`, method-call receivers, `*r`, `r.get()`, bare names
    after `using`, compound assignments, callbacks of higher-order natives …) is a field that is NOT hidden from API users
    or was in the read log before — whatever the guard table says and whatever the natives do to the state. -/
theorem sandbox_reads_only_visible (cfg : Cfg) (hcc : cfg.callCheck = true) (hcb : CbChecks cfg)
    (hf : cfg.fieldCheck = true) (hr : cfg.refGetSandboxed = true) (hi : cfg.importSandboxed = true)
    (fuel : Nat) (e : Expr) (env : Env) :
    ∀ x ∈ (eval cfg true fuel e env).2.reads, x ∈ env.reads ∨ cfg.hidden x.1 x.2 = false :=
  (eval_pres_readsOk cfg hcc hcb hf hr hi fuel e).h env

/-- **sandbox_reads_only_visible_pinned.**  The same at the model configured by the tables GENERATED from the source on
    this run, for every table of natives and every no_user_view table: no hypothesis is left. -/
theorem sandbox_reads_only_visible_pinned (native : String → Option Native) (hidden : String → String → Bool)
    (fuel : Nat) (e : Expr) (env : Env) :
    ∀ x ∈ (eval (genCfg native hidden) true fuel e env).2.reads, x ∈ env.reads ∨ hidden x.1 x.2 = false :=
  sandbox_reads_only_visible (genCfg native hidden) call_and_field_checks_present.1 (callback_checks_present native hidden)
    call_and_field_checks_present.2.1 reference_checks_present.1 import_reads_respect_sandbox fuel e env

/-- **sandbox_never_reads_pinned_secrets.**  Hence, in every configuration whose no_user_view table covers the attributes the
    property names outright (`secretAttrs`), no sandboxed program ever obtains the value of a password, password hash or
    ticket salt of a live object through a field read. -/
theorem sandbox_never_reads_pinned_secrets (cfg : Cfg) (hcc : cfg.callCheck = true) (hcb : CbChecks cfg)
    (hf : cfg.fieldCheck = true) (hr : cfg.refGetSandboxed = true) (hi : cfg.importSandboxed = true)
    (hsec : ∀ p ∈ secretAttrs, cfg.hidden p.1 p.2 = true) (fuel : Nat) (e : Expr) (env : Env) :
    ∀ x ∈ (eval cfg true fuel e env).2.reads, x ∈ env.reads ∨ x ∉ secretAttrs := by
  intro x hx
  exact (sandbox_reads_only_visible cfg hcc hcb hf hr hi fuel e env x hx).imp_right
    fun h hm => absurd (hsec x hm) (by simp [h])


deriving instance DecidableEq for Except

/-- A configuration meeting every hypothesis of `sandbox_noninterference` (the `example`s below), with one pure safe
    native and one mutating non-safe native. -/
def exCfg : Cfg :=
  { guard := fun k => mutating k, callCheck := true, fieldCheck := true,
    native := fun n =>
      if n = "System#len" then some { safe := true, run := fun _ _ p => (.ok (.num 3), p) }
      else if n = "System#log" then some { safe := false, run := fun _ _ p => (.ok .empty, { p with files := [("log", "x")] }) }
      else none,
    hidden := fun t f => t == "ApiUser" && f == "password" }

def exEnv : Env :=
  { prot := { globals := [("g", .num 5)],
              objects := [("u", { type := "ApiUser", attrs := [("password", .str "secret")] })] } }

example : (∀ k, mutating k = true → exCfg.guard k = true) ∧ exCfg.callCheck = true := ⟨fun _ h => h, rfl⟩
example : SafeNativesPure exCfg := by
  intro n f hn hs self args p
  simp only [exCfg] at hn
  split at hn
  · cases hn; rfl
  · split at hn
    · cases hn; simp at hs
    · cases hn
example : RefSetUnsafe exCfg := by
  intro f hf; simp [exCfg] at hf
-- the hypotheses do not make evaluation trivial: a sandboxed program computes a value through a safe native …
example : (eval exCfg true 9 (.binop .add (.var "g") (.call (.lit (.fn "System#len")) [.lit (.str "abc")])) exEnv).1
    = .ok (.num 8, .ok) := by decide +kernel
-- … the same configuration UNsandboxed really mutates (so the theorem is about the guards, not about a model that cannot write) …
example : (eval exCfg false 9 (.setConst "X" (.lit (.num 42))) exEnv).2.prot.consts = [("X", .num 42)] := by decide +kernel
example : (eval exCfg false 9 (.call (.lit (.fn "System#log")) []) exEnv).2.prot.files = [("log", "x")] := by decide +kernel
-- … errors keep the state reached so far (try/except continues from it) …
example : (eval exCfg false 9 (.tryExcept (.dict true [.setConst "X" (.lit (.num 1)), .throw_ (.lit (.str "x"))]) (.lit .empty)) exEnv).2.prot.consts
    = [("X", .num 1)] := by decide +kernel
-- … and the hidden-field hypotheses are satisfiable: the read is refused sandboxed, allowed otherwise.
example : (eval exCfg true 9 (.index (.lit (.obj "u")) (.lit (.str "password"))) exEnv).1 = .error (.hidden "ApiUser" "password") := by decide +kernel
example : (eval exCfg false 9 (.index (.lit (.obj "u")) (.lit (.str "password"))) exEnv).1 = .ok (.str "secret", .ok) := by decide +kernel
-- references: the read through a reference is refused exactly like the direct one (also in an unsandboxed
-- frame: the flag is the literal in Reference::Get), a visible field comes through, a write through a
-- reference happens unsandboxed
example : (eval exCfg true 9 (.deref (.ref (.index (.lit (.obj "u")) (.lit (.str "password"))))) exEnv).1
    = .error (.hidden "ApiUser" "password") := by decide +kernel
example : (eval exCfg false 9 (.deref (.ref (.index (.lit (.obj "u")) (.lit (.str "password"))))) exEnv).1
    = .error (.hidden "ApiUser" "password") := by decide +kernel
example : (eval { exCfg with refGetSandboxed := false } true 9
            (.deref (.ref (.index (.lit (.obj "u")) (.lit (.str "password"))))) exEnv).1 = .ok (.str "secret", .ok) := by decide +kernel
example : (eval exCfg true 9 (.deref (.ref (.var "g"))) exEnv).1 = .ok (.num 5, .ok) := by decide +kernel
example : (eval exCfg false 9 (.setDeref (.ref (.var "g")) .add (.lit (.num 1))) exEnv).2.prot.globals = [("g", .num 6)] := by decide +kernel
-- `using u` then the bare identifier `password`: refused sandboxed, readable otherwise, and readable sandboxed if
-- FindVarImport did not pass the flag on
example : (eval exCfg true 9 (.varIn [.lit (.obj "u")] "password") exEnv).1 = .error (.hidden "ApiUser" "password") := by decide +kernel
example : (eval exCfg false 9 (.varIn [.lit (.obj "u")] "password") exEnv).1 = .ok (.str "secret", .ok) := by decide +kernel
example : (eval { exCfg with importSandboxed := false } true 9 (.varIn [.lit (.obj "u")] "password") exEnv).1
    = .ok (.str "secret", .ok) := by decide +kernel
example : (eval exCfg true 9 (.varIn [.lit (.obj "u")] "g") exEnv).1 = .ok (.num 5, .ok) := by decide +kernel
-- init_dict: unsandboxed, `globals.d.x = 1` first creates the missing `d`
example : (eval exCfg false 9 (.setField (.index (.getScope .globals) (.lit (.str "d"))) "x" .literal (.lit (.num 1))) exEnv).2.prot.globals
    = [("g", .num 5), ("d", .dict [])] := by decide +kernel
-- the call log is not vacuous: the safe native is logged, the non-safe one never appears
example : (eval exCfg true 9 (.call (.lit (.fn "System#len")) []) exEnv).2.calls = [.native "System#len"] := by decide +kernel
example : (eval exCfg true 9 (.call (.lit (.fn "System#log")) []) exEnv).1 = .error (.notSafe (.native "System#log")) := by decide +kernel

-- the event-stream site: a filter that raises does not stop the next one from being evaluated — still sandboxed —, only
-- filters that yield a true value deliver, and the whole-trace theorem's operations are not all refusals
example : (pushEvent exCfg 9 [.throw_ (.lit (.str "x")), .setScoped .globals "g" .literal (.lit (.num 1)), .lit (.bool true), .var "g"] exEnv).1
    = [(false, .err), (false, .sandbox), (true, .ok), (true, .ok)] := by decide +kernel
example : (pushEvent exCfg 9 [.throw_ (.lit (.str "x")), .setScoped .globals "g" .literal (.lit (.num 1))] exEnv).2.prot = exEnv.prot := by decide +kernel
example : (Op.obs exCfg 9 (.events [.lit (.bool true), .throw_ (.lit (.str "x"))] exEnv)).outcome = .err := by decide +kernel
example : (Op.obs exCfg 9 (.program (.binop .add (.var "g") (.lit (.num 1))) exEnv)).outcome = .ok := by decide +kernel
example : specTrace ([Op.program (.binop .add (.var "g") (.lit (.num 1))) exEnv, .unsafeNative "System#log" [] exEnv,
                      .events [.lit (.bool true), .setConst "X" (.lit (.num 1))] exEnv].map (Op.obs exCfg 9)) = none := by decide +kernel
-- the trace theorem's side condition is needed: a native that IS flagged safe may return a value, which the spec accepts
-- only for natives carrying the flag (kind/flagged of the observation)
example : specStep (modelObs exCfg .native false 9 (.call (.lit (.fn "System#len")) []) exEnv) = some .onlySafeCalls := by decide +kernel
-- a constructor call with a process-wide effect is NOT stopped by the whitelist test (F-C19c) …
example : (eval { exCfg with ctorEffect := fun t => t == "IcingaApplication" } true 9 (.call (.lit (.type_ "IcingaApplication")) []) exEnv).2.prot.app
    = false := by decide +kernel
-- … while an ordinary one computes a value and changes nothing
example : (eval exCfg true 9 (.call (.lit (.type_ "String")) [.lit (.num 1)]) exEnv).1 = .ok (.str "1", .ok) ∧
    (eval exCfg true 9 (.call (.lit (.type_ "String")) [.lit (.num 1)]) exEnv).2.prot = exEnv.prot := by decide +kernel
example : specStep { kind := .events, flagged := false, outcome := .sandbox, changed := false, leak := false, matchedDespiteError := true }
    = some .sandboxedAtSite := by decide +kernel

-- computational expressions: the class is not empty (`h.groups + null + [ "web" ]` is in it) and not trivial —
-- `h.groups + [ "web" ]` computes a fresh array, also UNsandboxed and with no guard and no call check at all …
def exConcat : Expr := .binop .add (.binop .add (.index (.lit (.obj "h")) (.lit (.str "groups"))) (.lit .empty)) (.array [.lit (.str "web")])
def exEnvH : Env := { prot := { objects := [("h", { type := "Host", attrs := [("groups", .arr ["linux"])] })] } }
example : Computational exConcat :=
  .binop _ (.binop _ (.index (.lit _) (.lit _)) (.lit _)) (.array (by intro e he; simp at he; subst he; exact .lit _))
example : (eval { exCfg with guard := fun _ => false, callCheck := false } false 9
            (.binop .add (.index (.lit (.obj "h")) (.lit (.str "groups"))) (.array [.lit (.str "web")])) exEnvH).1
    = .ok (.arr ["linux", "web"], .ok) := by decide +kernel
-- … while a NON-computational program in that unguarded configuration does write (the theorem is about the node class)
example : (eval { exCfg with guard := fun _ => false, callCheck := false } true 9
            (.setField (.lit (.obj "h")) "groups" .add (.array [.lit (.str "web")])) exEnvH).2.prot ≠ exEnvH.prot := by decide +kernel
-- computed callees: `(false || log)("x")` is refused like `log("x")`, `(false || len)("abc")` computes; without the call
-- check the computed callee runs the unsafe native (the theorem's hypothesis is needed)
example : (eval exCfg true 9 (.call (.lor (.lit (.bool false)) (.lit (.fn "System#log"))) [.lit (.str "x")]) exEnv).1
    = .error (.notSafe (.native "System#log")) := by decide +kernel
example : (eval exCfg true 9 (.call (.lor (.lit (.bool false)) (.lit (.fn "System#len"))) [.lit (.str "abc")]) exEnv).1
    = .ok (.num 3, .ok) := by decide +kernel
example : (eval { exCfg with callCheck := false } true 9 (.call (.lor (.lit (.bool false)) (.lit (.fn "System#log"))) []) exEnv).2.prot.files
    = [("log", "x")] := by decide +kernel

-- higher-order natives (array-script.cpp): `[ "a" ].map(log)` and `[ "a" ].map((x) => x)` are refused, `[ "a", "b" ].map(len)`
-- invokes `len` once per element; with the callback tests taken out (`cbCheck := fun _ => false`) the unsafe callback runs in the sandbox
def exCfgH : Cfg :=
  { exCfg with native := fun n => if n = "Array#map" then some { safe := true, run := fun _ _ p => (.ok .empty, p) } else exCfg.native n }
example : CbChecks exCfgH := fun _ _ => rfl
example : (eval exCfgH true 9 (.mcall (.array [.lit (.str "a")]) "map" [.lit (.fn "System#log")]) exEnv).1
    = .error (.notSafe (.native "System#log")) := by decide +kernel
example : (eval exCfgH true 9 (.mcall (.array [.lit (.str "a")]) "map" [.function "l" ["x"] (.var "x")]) exEnv).1
    = .error (.notSafe (.script "l")) := by decide +kernel
example : (eval exCfgH true 9 (.mcall (.array [.lit (.str "a"), .lit (.str "b")]) "map" [.lit (.fn "System#len")]) exEnv).2.calls
    = [.native "System#len", .native "System#len", .native "Array#map"] := by decide +kernel
example : (eval { exCfgH with cbCheck := fun _ => false } true 9 (.mcall (.array [.lit (.str "a")]) "map" [.lit (.fn "System#log")]) exEnv).2.prot.files
    = [("log", "x")] := by decide +kernel
example : (eval { exCfgH with cbCheck := fun _ => false } true 9
            (.mcall (.array [.lit (.str "a")]) "map" [.function "l" ["x"] (.call (.lit (.fn "System#len")) [.var "x"])]) exEnv).2.calls
    = [.native "System#len", .script "l", .native "Array#map"] := by decide +kernel

/-- **callback_check_is_necessary.**  Take the callback tests out (`cbCheck := fun _ => false`; the witness needs
    only that of `Array#map`, array-script.cpp:127-128) and noninterference is false although every node guard and
    the call check are in place: `[ "a" ].map(log)` runs the unflagged native inside the sandbox.  So the model is
    sensitive to exactly the per-native test that `callback_checks_present` reads from the source. -/
theorem callback_check_is_necessary :
    ¬ (∀ (fuel : Nat) (e : Expr) (env : Env),
        (eval { exCfgH with cbCheck := fun _ => false } true fuel e env).2.prot = env.prot) := by
  intro h
  have := h 9 (.mcall (.array [.lit (.str "a")]) "map" [.lit (.fn "System#log")]) exEnv
  revert this
  decide +kernel

-- `secretAttrs`: a successful read of the ticket salt is a violation even if the implementation reports the field as visible;
-- the hypothesis of `pinned_secrets_unreadable` is satisfiable
example : specStep { kind := .field, flagged := false || isSecretAttr "ApiListener" "ticket_salt", outcome := .ok, changed := false, leak := false }
    = some .hiddenFieldUnreadable := by decide +kernel
example : specStep { kind := .field, flagged := false || isSecretAttr "Host" "display_name", outcome := .ok, changed := false, leak := false } = none := by decide +kernel
example : ∀ p ∈ secretAttrs, ({ exCfg with hidden := fun t f => isSecretAttr t f }).hidden p.1 p.2 = true := by decide +kernel

-- the ghost read log is not vacuous: a visible attribute read sandboxed is logged, a hidden one is logged when read
-- UNsandboxed, and each of the hypotheses `hf`, `hr`, `hi` of `sandbox_reads_only_visible` is needed
example : (eval exCfg true 9 (.index (.lit (.obj "h")) (.lit (.str "groups"))) exEnvH).2.reads = [("Host", "groups")] := by decide +kernel
example : (eval exCfg false 9 (.index (.lit (.obj "u")) (.lit (.str "password"))) exEnv).2.reads = [("ApiUser", "password")] := by decide +kernel
example : (eval exCfg true 9 (.index (.lit (.obj "u")) (.lit (.str "password"))) exEnv).2.reads = [] := by decide +kernel
example : (eval { exCfg with fieldCheck := false } true 9 (.index (.lit (.obj "u")) (.lit (.str "password"))) exEnv).2.reads
    = [("ApiUser", "password")] := by decide +kernel
example : (eval { exCfg with refGetSandboxed := false } true 9
            (.deref (.ref (.index (.lit (.obj "u")) (.lit (.str "password"))))) exEnv).2.reads = [("ApiUser", "password")] := by decide +kernel
example : (eval { exCfg with importSandboxed := false } true 9 (.varIn [.lit (.obj "u")] "password") exEnv).2.reads
    = [("ApiUser", "password")] := by decide +kernel

-- the specification predicate rejects wrong traces (it is not vacuous)
example : specTrace [{ kind := .program, flagged := false, outcome := .ok, changed := false, leak := false },
                     { kind := .program, flagged := false, outcome := .ok, changed := true, leak := false }]
    = some .stateUnchanged := by decide +kernel
example : specStep { kind := .native, flagged := false, outcome := .ok, changed := false, leak := false } = some .onlySafeCalls := by decide +kernel
example : specStep { kind := .program, flagged := false, outcome := .err, changed := false, leak := false, unsafeInvoked := true }
    = some .onlySafeCalls := by decide +kernel
example : specStep { kind := .native, flagged := false, outcome := .err, changed := false, leak := false } = none := by decide +kernel
example : specStep { kind := .field, flagged := true, outcome := .ok, changed := false, leak := false } = some .hiddenFieldUnreadable := by decide +kernel
example : specStep { kind := .program, flagged := false, outcome := .ok, changed := false, leak := true } = some .noLeak := by decide +kernel
example : specStep { kind := .native, flagged := true, outcome := .err, changed := false, leak := false } = none := by decide +kernel

end Icinga.C19
