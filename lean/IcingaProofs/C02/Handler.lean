/-
  C02 — what runs of the suppressed-notification handler do to a withheld state notification, in closed form
  (`Released`): it is released iff the release conditions hold at one of the runs (`ready`), at most once, and
  kept with the remembered state otherwise.
-/
import IcingaProofs.C02.Lemmas

namespace Icinga.C02
open Icinga.C01

/-- The conditions of the property's release clause, in the property's terms (`imminent`, not the code's
    `likelySoon`). -/
def ready (s : St) (e : FEnv) : Bool :=
  !e.paused && e.enabled && !e.stateSuppressed && s.core.stype == .hard && !imminent e && !e.parentRecent

/-- A handler run leaves the C01 state alone (`Released.core`): whether a later run is ready is asked of the state
    the runs start in. -/
theorem ready_congr {s s' : St} (h : s'.core = s.core) : ready s' = ready s := by
  funext e
  unfold ready
  rw [h]

theorem ready_eq (s : St) (e : FEnv) : ready s e = (!(e.paused || !e.enabled) && releaseNow s e) := by
  unfold ready releaseNow
  rw [imminent_eq_likelySoon]
  cases e.paused <;> cases e.enabled <;> rfl

/-- `r`: the release conditions held at one of the handler runs starting in `s`.  The flapping bits and requests are
    not described. -/
structure Released (c : Cfg) (s : St) (r : Bool) (out : St × List Notif) : Prop where
  requests : statePart out.2 =
    if s.sup.hasState && r && differs c s.core.state s.sbs
    then [⟨if isOK c.kind s.core.state then .recovery else .problem, s.core.state⟩] else []
  hasState : out.1.sup.hasState = (s.sup.hasState && !r)
  sbs : out.1.sbs = s.sbs
  core : out.1.core = s.core

theorem released_none (c : Cfg) (s : St) : Released c s false (s, []) := ⟨by simp [statePart], by simp, rfl, rfl⟩

theorem fireStep_released (c : Cfg) (s : St) (e : FEnv) : Released c s (ready s e) (fireStep c s e) := by
  rw [ready_eq]
  cases hoff : (e.paused || !e.enabled)
  · have hstep := fireStep_on c s e hoff
    refine ⟨?_, ?_, by rw [hstep], by rw [hstep]⟩
    · rw [(fireStep_parts c s e hoff).1]
      unfold fireState
      cases s.sup.hasState <;> cases releaseNow s e <;> rfl
    · rw [hstep]
      show (s.sup.problem && !(fireState c s e).1 || s.sup.recovery && !(fireState c s e).1) = _
      rw [← Bool.and_or_distrib_right]
      show (s.sup.hasState && !(fireState c s e).1) = _
      unfold fireState
      cases s.sup.hasState <;> cases releaseNow s e <;> rfl
  · rw [fireStep_off c s e hoff]
    exact released_none c s

def fireRun (c : Cfg) : St → List FEnv → St × List Notif
  | s, [] => (s, [])
  | s, e :: es => ((fireRun c (fireStep c s e).1 es).1, (fireStep c s e).2 ++ (fireRun c (fireStep c s e).1 es).2)

theorem fireRun_released (c : Cfg) (s : St) (es : List FEnv) : Released c s (es.any (ready s)) (fireRun c s es) := by
  induction es generalizing s with
  | nil => exact released_none c s
  | cons e es ih =>
    obtain ⟨a1, a2, a3, a4⟩ := fireStep_released c s e
    obtain ⟨i1, i2, i3, i4⟩ := ih (fireStep c s e).1
    have hr := ready_congr a4
    refine ⟨?_, ?_, i3.trans a3, i4.trans a4⟩
    · -- the first run releases, or it keeps the event and the remaining runs act as from `s`
      show statePart ((fireStep c s e).2 ++ (fireRun c (fireStep c s e).1 es).2) = _
      rw [statePart_append, a1, i1, a2, a3, a4, hr, List.any_cons]
      cases s.sup.hasState <;> cases ready s e <;> simp
    · show (fireRun c (fireStep c s e).1 es).1.sup.hasState = _
      rw [i2, a2, hr, List.any_cons, Bool.and_assoc, ← Bool.not_or]

end Icinga.C02
