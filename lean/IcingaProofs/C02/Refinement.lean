/-
  C02 — the refinement: `specOf` reads the specification's bookkeeping off the model's bit masks and commutes with
  every operation (`step_spec`), hence with every trace (`trace_spec`).  A result and a handler run both act
  separately on the state bits (with `state_before_suppression`) and on the two flapping bits; each half is compared
  with its half of the specification, and the halves meet again in `specOf`.  A handler run and a result processed
  meanwhile that the model runs one after the other (`fireResultStep`, F-C02c) are two steps of the refinement.
-/
import IcingaProofs.C02.Handler

namespace Icinga.C02
open Icinga.C01

def pendOf (has : Bool) (sbs : SState) : Option SState := if has then some sbs else none

/-- `s3`, `s4`: the stored FlappingStart and FlappingEnd bits; never both are stored (`StartOK`). -/
def flapOf (s3 s4 : Bool) : Option Bool := if s3 then some true else if s4 then some false else none

/-- The specification's bookkeeping as read off an object's attributes (a restored or synchronised
    object: `suppressed_notifications`, `state_before_suppression`, state, state type). -/
def specOf (s : St) : SpecSt :=
  { state := s.core.state, stype := s.core.stype, pending := pendOf s.sup.hasState s.sbs,
    flapPending := flapOf s.sup.flapStart s.sup.flapEnd }

/-- A start state the code can be in: an OK/Up state is hard (C01 invariant) and FlappingStart and
    FlappingEnd are not both withheld (they cancel when stashed). -/
def StartOK (c : Cfg) (s : St) : Prop :=
  (isOK c.kind s.core.state = true → s.core.stype = .hard) ∧ (s.sup.flapStart && s.sup.flapEnd) = false

/-- `sp = specOf s ∧ StartOK c s` written out as one relation (`rel_iff`). -/
def Rel (c : Cfg) (sp : SpecSt) (s : St) : Prop :=
  sp.state = s.core.state ∧ sp.stype = s.core.stype ∧
  (isOK c.kind s.core.state = true → s.core.stype = .hard) ∧
  sp.pending = pendOf s.sup.hasState s.sbs ∧
  sp.flapPending = flapOf s.sup.flapStart s.sup.flapEnd ∧
  (s.sup.flapStart && s.sup.flapEnd) = false

theorem rel_iff {c : Cfg} {sp : SpecSt} {s : St} : Rel c sp s ↔ sp = specOf s ∧ StartOK c s := by
  obtain ⟨a, b, p, f⟩ := sp
  constructor
  · rintro ⟨rfl, rfl, hok, rfl, rfl, hx⟩
    exact ⟨rfl, hok, hx⟩
  · rintro ⟨h, hok, hx⟩
    cases h
    exact ⟨rfl, rfl, hok, rfl, rfl, hx⟩

theorem rel_specOf {c : Cfg} {s : St} (h : StartOK c s) : Rel c (specOf s) s := rel_iff.mpr ⟨rfl, h⟩

theorem startOK_init (c : Cfg) : StartOK c init := by
  refine ⟨?_, rfl⟩
  cases c.kind <;> simp [init, C01.pending, isOK, hostUp]

theorem rel_init (c : Cfg) : Rel c specInit init := rel_specOf (startOK_init c)

inductive Op
  | result (r : Res) (e : REnv)
  | fire (e : FEnv)

def applyOp (c : Cfg) (s : St) : Op → St × Obs
  | .result r e =>
    let o := resultStep c s r e
    (o.1, .result o.2.2 o.1.core.state o.1.core.stype e o.2.1 o.1.sup.hasState o.1.sbs)
  | .fire e =>
    let o := fireStep c s e
    (o.1, .fire e o.2 o.1.sup.hasState o.1.sbs)

def traceOf (c : Cfg) : St → List Op → List Obs
  | _, [] => []
  | s, op :: rest => let p := applyOp c s op; p.2 :: traceOf c p.1 rest

/-- `s3`, `s4`: the stored flapping bits.  The bits on the right are those of the stash merge, in the shape
    `stash_eq` gives them. -/
theorem result_flap_spec (e : REnv) (ns : SState) (s3 s4 : Bool) (hx : (s3 && s4) = false) :
    let f := flapPartOf e ns
    specFlapR (flapOf s3 s4) e ns f.2 =
      (none, flapOf ((s3 || f.1.flapStart) && !(s4 || f.1.flapEnd)) ((s4 || f.1.flapEnd) && !(s3 || f.1.flapStart))) := by
  have keep : flapOf (s3 && !s4) (s4 && !s3) = flapOf s3 s4 := by
    revert hx; cases s3 <;> cases s4 <;> simp
  simp only [flapPartOf_eq, specFlapR]
  cases ht : ((e.wasFlapping != e.isFlapping) && !e.paused)
  · simp [keep]
  · cases hd : e.inDowntime
    · simp [keep]
    · revert hx
      cases s3 <;> cases s4 <;> cases e.isFlapping <;> simp [flapOf]

/-- The result's hard event is written as the code's `send` with the code's type (`hardEvent_eq`). -/
theorem result_state_spec (send rec has : Bool) (sbs hardBefore : SState) (e : REnv) (ns : SState) :
    let s := statePartOf send rec has e ns
    specStateR (if send then some (if rec then .recovery else .problem) else none) (pendOf has sbs) hardBefore e ns
        s.2 =
      (none, pendOf (has || s.1.hasState) (if !has && s.1.hasState then hardBefore else sbs)) := by
  cases send
  · simp [statePartOf_eq, specStateR, Sup.hasState]
  · -- the model tests `!isFlapping && !paused`, the spec `isFlapping || paused`
    simp only [statePartOf_eq, specStateR, if_true, Bool.true_and, ← Bool.not_or]
    cases (e.isFlapping || e.paused)
    · cases (!e.notifReachable || e.inDowntime || e.acked) <;> cases has <;> simp [pendOf, Sup.hasState]
    · simp [Sup.hasState]

theorem notifyOnResult_spec (c : Cfg) (old new : C01.St) (sup : Sup) (sbs : SState) (e : REnv)
    (ho : isOK c.kind old.state = true → old.stype = .hard) (hn : isOK c.kind new.state = true → new.stype = .hard)
    (hx : (sup.flapStart && sup.flapEnd) = false) :
    let q := notifyOnResult c old new sup sbs e
    specResult c (specOf ⟨old, sup, sbs⟩) new.state new.stype e q.2.2 = (none, specOf ⟨new, q.1, q.2.1⟩) := by
  obtain ⟨p1, p2⟩ := notifyOnResult_parts c old new sup sbs e
  have hF := result_flap_spec e new.state sup.flapStart sup.flapEnd hx
  have hE := hardEvent_eq c old new.state new.stype ho hn
  have hS := result_state_spec (sendOf c old new.state new.stype) (isOK c.kind new.state && !isOK c.kind old.state)
    sup.hasState sbs (if old.stype == .hard then old.state else .ok) e new.state
  -- the record is written out first: `simp` unfolding `specOf` would leave it inside the `Decidable` instance of
  -- the `if` on `sp.stype`, and `hS` would no longer match
  show specResult c ⟨old.state, old.stype, pendOf sup.hasState sbs, flapOf sup.flapStart sup.flapEnd⟩ _ _ _ _ = _
  simp only [specResult, p1, p2, hF, hE, hS]
  show _ = (none, SpecSt.mk _ _ (pendOf (stash _ _ _ _ _).1.hasState (stash _ _ _ _ _).2)
    (flapOf (stash _ _ _ _ _).1.flapStart (stash _ _ _ _ _).1.flapEnd))
  rw [stash_hasState, stash_eq _ _ _ _ _ hx]
  rfl

theorem fire_state_spec (c : Cfg) (s : St) (e : FEnv) :
    specFireState c (specOf s) e (statePart (fireStep c s e).2) =
      (none, pendOf (fireStep c s e).1.sup.hasState (fireStep c s e).1.sbs) := by
  obtain ⟨a1, a2, a3, _⟩ := fireStep_released c s e
  rw [a1, a2, a3]
  unfold specFireState ready specOf
  cases s.sup.hasState
  · rfl
  · -- the specification tests `paused || !enabled`, `ready` has `!paused && enabled`
    cases e.paused <;> cases e.enabled
    · rfl
    · cases e.stateSuppressed
      · rcases Bool.eq_false_or_eq_true (s.core.stype == .hard && !imminent e && !e.parentRecent) with h | h <;>
          simp [h, pendOf, differs]
      · rfl
    · rfl
    · rfl

theorem fire_flap_spec (c : Cfg) (s : St) (e : FEnv) (hx : (s.sup.flapStart && s.sup.flapEnd) = false) :
    specFireFlap (specOf s) e (flapPart (fireStep c s e).2) =
      (none, flapOf (fireStep c s e).1.sup.flapStart (fireStep c s e).1.sup.flapEnd) ∧
    ((fireStep c s e).1.sup.flapStart && (fireStep c s e).1.sup.flapEnd) = false := by
  unfold specFireFlap specOf
  cases hoff : (e.paused || !e.enabled)
  · rw [(fireStep_parts c s e hoff).2, fireStep_on c s e hoff]
    rw [imminent_eq_likelySoon]
    unfold fireFlapOne
    revert hx
    cases s.sup.flapStart <;> cases s.sup.flapEnd <;> intro hx
    · simp [flapOf]
    · cases e.isFlapping <;> cases (!e.inDowntime && !e.likelySoon && !e.parentRecent) <;> simp [flapOf]
    · cases e.isFlapping <;> cases (!e.inDowntime && !e.likelySoon && !e.parentRecent) <;> simp [flapOf]
    · cases hx
  · rw [fireStep_off c s e hoff]
    revert hx
    cases s.sup.flapStart <;> cases s.sup.flapEnd <;> simp [flapOf, flapPart]

theorem fireStep_spec (c : Cfg) (s : St) (e : FEnv) (h : StartOK c s) :
    specFire c (specOf s) e (fireStep c s e).2 = (none, specOf (fireStep c s e).1) ∧ StartOK c (fireStep c s e).1 := by
  obtain ⟨hB, hx'⟩ := fire_flap_spec c s e h.2
  refine ⟨?_, (fireStep_released c s e).core ▸ h.1, hx'⟩
  simp only [specFire, fire_state_spec c s e, hB]
  show (none, SpecSt.mk s.core.state s.core.stype _ _) = _
  rw [← (fireStep_released c s e).core]
  rfl

/-- From the clauses about requests to all clauses: the attributes an operation shows are those of the state it
    leaves, and `specOf` reads what is remembered off them. -/
theorem specStep_applyOp (c : Cfg) (sp : SpecSt) (s : St) (op : Op)
    (h : specStepCore c sp (applyOp c s op).2 = (none, specOf (applyOp c s op).1)) :
    specStep c sp (applyOp c s op).2 = (none, specOf (applyOp c s op).1) := by
  have ho : (applyOp c s op).2.supState = (applyOp c s op).1.sup.hasState ∧
      (applyOp c s op).2.sbs = (applyOp c s op).1.sbs := by
    cases op <;> exact ⟨rfl, rfl⟩
  simp only [specStep, h, ho.1, ho.2, specOf]
  cases (applyOp c s op).1.sup.hasState <;> simp [pendOf, specRemembered]

theorem step_spec_core (c : Cfg) (s : St) (op : Op) (h : StartOK c s) :
    specStepCore c (specOf s) (applyOp c s op).2 = (none, specOf (applyOp c s op).1) ∧ StartOK c (applyOp c s op).1 := by
  cases op with
  | result r e =>
    cases hst : stale s.core r
    · have hn := stepCore_ok_hard c s.core r
      have h1 := notifyOnResult_spec c s.core (stepCore c s.core r).1 s.sup s.sbs e h.1 hn h.2
      simp only [applyOp, resultStep_of_not_stale c s r e hst]
      exact ⟨h1, hn, stash_excl _ _ _ _ _ h.2⟩
    · simp only [applyOp, resultStep_of_stale c s r e hst]
      exact ⟨rfl, h⟩
  | fire e => exact fireStep_spec c s e h

theorem step_spec (c : Cfg) (s : St) (op : Op) (h : StartOK c s) :
    specStep c (specOf s) (applyOp c s op).2 = (none, specOf (applyOp c s op).1) ∧ StartOK c (applyOp c s op).1 :=
  ⟨specStep_applyOp c _ s _ (step_spec_core c s op h).1, (step_spec_core c s op h).2⟩

theorem step_rel (c : Cfg) (sp : SpecSt) (s : St) (op : Op) (hr : Rel c sp s) :
    (specStep c sp (applyOp c s op).2).1 = none ∧ Rel c (specStep c sp (applyOp c s op).2).2 (applyOp c s op).1 := by
  obtain ⟨rfl, h⟩ := rel_iff.mp hr
  obtain ⟨h1, h2⟩ := step_spec c s op h
  rw [h1]
  exact ⟨rfl, rel_specOf h2⟩

theorem specTrace_cons_ok (c : Cfg) (sp sp' : SpecSt) (o : Obs) (rest : List Obs) (h : specStep c sp o = (none, sp')) :
    specTrace c sp (o :: rest) = specTrace c sp' rest := by
  simp only [specTrace, h]

/-- `model_trace_meets_spec_from` without `1 ≤ max_check_attempts`, which no step needs. -/
theorem trace_spec (c : Cfg) (s : St) (h : StartOK c s) (ops : List Op) :
    specTrace c (specOf s) (traceOf c s ops) = none := by
  induction ops generalizing s with
  | nil => rfl
  | cons op rest ih =>
    obtain ⟨h1, h2⟩ := step_spec c s op h
    rw [traceOf, specTrace_cons_ok c _ _ _ _ h1]
    exact ih _ h2

theorem mem_splits (a b : List Notif) : (a, b) ∈ splits (a ++ b) := by
  refine List.mem_map.mpr ⟨a.length, List.mem_range.mpr (by simp; omega), ?_⟩
  rw [List.take_left', List.drop_left'] <;> rfl

/-- The pair is accepted as "handler, then result": the cut between the handler's requests and the result's is
    among the attributions `specFireResult` tries.  `hseq`: the schedule point of `fireResultStep` is not reached. -/
theorem handler_result_pair_sequential (c : Cfg) (s : St) (ef ef' : FEnv) (r : Res) (er : REnv)
    (h : StartOK c s) (hseq : (s.sup.flapStart || s.sup.flapEnd || (fireStep c s ef).2.isEmpty) = true) :
    let o := fireResultStep c s ef r er
    (specFireResult c (specOf s) ef ef' o.2.2.1 o.1.core.state o.1.core.stype er o.2.1 o.1.sup.hasState o.1.sbs).1 =
      none := by
  intro o
  obtain ⟨f1, f2⟩ := fireStep_spec c s ef h
  obtain ⟨g1, _⟩ := step_spec c _ (.result r er) f2
  rw [show o = _ from fireResultStep_sequential c s ef r er hseq]
  simp only [specFireResult]
  cases hA : (splits _).findSome? _ with
  | some sp' => rfl
  | none =>
    have := List.findSome?_eq_none_iff.mp hA _ (mem_splits _ _)
    simp only [specStepCore, f1] at this
    simp only [applyOp] at g1
    simp [g1] at this

end Icinga.C02
