/-
  C02 — the composed system (IcingaModel/C02/System.lean): on the acknowledgement side every operation is an
  `ackStep` (`sysStep_ack`), on the notification side an `applyOp` under the `IsAcknowledged()` value the code
  reads from the attributes, or nothing (`sysStep_spec`); the two refinements then run side by side.
-/
import IcingaProofs.C02.Refinement
import IcingaProofs.C02.Ack
import IcingaModel.C02.System
namespace Icinga.C02
open Icinga.C01

theorem sysStep_ack (c : Cfg) (y : Sys) (now : Int) (op : SysOp) :
    (sysStep c y now op).2.2 = (now, sysAckOp c y.s op, ackObs y.a now (sysAckOp c y.s op)) ∧
    (sysStep c y now op).1.a = ackStep y.a now (sysAckOp c y.s op) := by
  cases op <;> exact ⟨rfl, rfl⟩

theorem sysStep_spec (c : Cfg) (y : Sys) (now : Int) (op : SysOp) (h : StartOK c y.s) :
    (match (sysStep c y now op).2.1 with
     | some o => specStep c (specOf y.s) o = (none, specOf (sysStep c y now op).1.s)
     | none => (sysStep c y now op).1.s = y.s) ∧
    StartOK c (sysStep c y now op).1.s := by
  cases op with
  | result r e =>
    exact step_spec c y.s (.result r { e with acked := ackObs y.a now (sysAckOp c y.s (.result r e)) }) h
  | fire e =>
    exact step_spec c y.s
      (.fire { e with stateSuppressed := e.stateSuppressed || ackObs y.a now (sysAckOp c y.s (.fire e)) }) h
  | ackSet _ _ => exact ⟨rfl, h⟩
  | ackClear => exact ⟨rfl, h⟩

end Icinga.C02
