/-
  C02 — equations of the model's definitions (`sendOf`, `resultStep`, `stash`, `fireStep`, `fireResultStep`, the
  imminence clamp) and the split of a list of requests into its state and its flapping part.
-/
import IcingaModel.C02.Model
import IcingaModel.C02.Spec
import IcingaProofs.C01.Lemmas

namespace Icinga.C02
open Icinga.C01

theorem stepCore_ok_hard (c : Cfg) (s : C01.St) (r : Res)
    (h : isOK c.kind (stepCore c s r).1.state = true) : (stepCore c s r).1.stype = .hard :=
  congrArg Prod.fst (nextTypeAttempt_ok c s h)

/-- The property's hard event is the code's `send_notification` (checkable-check.cpp:319-333) together with the
    code's choice of type: Recovery iff the object returns to OK/Up.  `ho`, `hn`: an OK/Up state is hard; of the new
    state that is `stepCore_ok_hard`, of the old one the first half of `StartOK`. -/
theorem hardEvent_eq (c : Cfg) (old : C01.St) (new : SState) (nt : SType)
    (ho : isOK c.kind old.state = true → old.stype = .hard) (hn : isOK c.kind new = true → nt = .hard) :
    hardEvent c old.state old.stype new nt =
      if sendOf c old new nt then some (if isOK c.kind new && !isOK c.kind old.state then .recovery else .problem)
      else none := by
  unfold sendOf hardEvent hardChangeOf
  rw [stateChange_eq_proj]
  cases hon : isOK c.kind new <;> cases hoo : isOK c.kind old.state
  · cases c.volatile <;> cases nt <;> cases old.stype <;> cases (proj c.kind old.state != proj c.kind new) <;> rfl
  · rw [ho hoo, proj_ne_of_ok c.kind old.state new hoo hon]
    cases c.volatile <;> cases nt <;> rfl
  · rw [hn hon, proj_ne_of_ok' c.kind old.state new hoo hon]
    cases c.volatile <;> cases old.stype <;> rfl
  · rw [hn hon, ho hoo, proj_eq_of_ok c.kind old.state new hoo hon]
    cases c.volatile <;> rfl

theorem statePart_append (a b : List Notif) : statePart (a ++ b) = statePart a ++ statePart b :=
  List.filter_append ..

theorem flapPart_append (a b : List Notif) : flapPart (a ++ b) = flapPart a ++ flapPart b :=
  List.filter_append ..

theorem parts_of_state {l : List Notif} (h : ∀ n ∈ l, isFlap n = false) : statePart l = l ∧ flapPart l = [] :=
  ⟨List.filter_eq_self.mpr fun n hn => by simp [h n hn], List.filter_eq_nil_iff.mpr fun n hn => by simp [h n hn]⟩

theorem parts_of_flap {l : List Notif} (h : ∀ n ∈ l, isFlap n = true) : statePart l = [] ∧ flapPart l = l :=
  ⟨List.filter_eq_nil_iff.mpr fun n hn => by simp [h n hn], List.filter_eq_self.mpr fun n hn => by simp [h n hn]⟩

theorem flapPartOf_eq (e : REnv) (ns : SState) :
    flapPartOf e ns =
      if (e.wasFlapping != e.isFlapping) && !e.paused then
        if e.inDowntime then ({ flapStart := e.isFlapping, flapEnd := !e.isFlapping }, [])
        else ({}, [⟨if e.isFlapping then .flapStart else .flapEnd, ns⟩])
      else ({}, []) := by
  unfold flapPartOf
  cases e.wasFlapping <;> cases e.isFlapping <;> cases e.paused <;> rfl

theorem flapPartOf_only_flap (e : REnv) (ns : SState) : ∀ n ∈ (flapPartOf e ns).2, isFlap n = true := by
  rw [flapPartOf_eq]
  intro n hn
  split at hn
  · split at hn
    · cases hn
    · cases List.mem_singleton.mp hn
      cases e.isFlapping <;> rfl
  · cases hn

theorem statePartOf_eq (send rec has : Bool) (e : REnv) (ns : SState) :
    statePartOf send rec has e ns =
      if send && !e.isFlapping && !e.paused then
        if (!e.notifReachable || e.inDowntime || e.acked) || has then ({ problem := !rec, recovery := rec }, [])
        else ({}, [⟨if rec then .recovery else .problem, ns⟩])
      else ({}, []) := by
  unfold statePartOf
  cases rec <;> rfl

theorem statePartOf_snd (send rec has : Bool) (e : REnv) (ns : SState) :
    (statePartOf send rec has e ns).2 =
      if send && !e.isFlapping && !e.paused && !((!e.notifReachable || e.inDowntime || e.acked) || has)
      then [⟨if rec then .recovery else .problem, ns⟩] else [] := by
  rw [statePartOf_eq]
  cases (send && !e.isFlapping && !e.paused) <;> cases ((!e.notifReachable || e.inDowntime || e.acked) || has) <;> rfl

theorem statePartOf_only_state (send rec has : Bool) (e : REnv) (ns : SState) :
    ∀ n ∈ (statePartOf send rec has e ns).2, isFlap n = false := by
  rw [statePartOf_snd]
  intro n hn
  split at hn
  · cases List.mem_singleton.mp hn
    cases rec <;> rfl
  · cases hn

theorem notifyOnResult_parts (c : Cfg) (old new : C01.St) (sup : Sup) (sbs : SState) (e : REnv) :
    flapPart (notifyOnResult c old new sup sbs e).2.2 = (flapPartOf e new.state).2 ∧
    statePart (notifyOnResult c old new sup sbs e).2.2 =
      (statePartOf (sendOf c old new.state new.stype) (isOK c.kind new.state && !isOK c.kind old.state)
        sup.hasState e new.state).2 := by
  obtain ⟨f1, f2⟩ := parts_of_flap (flapPartOf_only_flap e new.state)
  obtain ⟨s1, s2⟩ := parts_of_state (statePartOf_only_state (sendOf c old new.state new.stype)
    (isOK c.kind new.state && !isOK c.kind old.state) sup.hasState e new.state)
  simp only [notifyOnResult, flapPart_append, statePart_append, f1, f2, s1, s2, List.append_nil, List.nil_append,
    and_self]

theorem resultStep_of_stale (c : Cfg) (s : St) (r : Res) (e : REnv) (h : stale s.core r = true) :
    resultStep c s r e = (s, [], false) := by
  simp only [resultStep, h, if_true]

theorem resultStep_of_not_stale (c : Cfg) (s : St) (r : Res) (e : REnv) (h : stale s.core r = false) :
    resultStep c s r e =
      ({ core := (stepCore c s.core r).1, sup := (notifyOnResult c s.core (stepCore c s.core r).1 s.sup s.sbs e).1,
         sbs := (notifyOnResult c s.core (stepCore c s.core r).1 s.sup s.sbs e).2.1 },
       (notifyOnResult c s.core (stepCore c s.core r).1 s.sup s.sbs e).2.2, true) := by
  simp only [resultStep, h, Bool.false_eq_true, if_false]

theorem Sup.eq_of_isEmpty {s : Sup} (h : s.isEmpty = true) : s = {} := by
  simp only [Sup.isEmpty, Bool.not_eq_true', Bool.or_eq_false_iff] at h
  obtain ⟨p, r, a, b⟩ := s
  obtain ⟨⟨⟨rfl, rfl⟩, rfl⟩, rfl⟩ := h
  rfl

theorem or_or_or_comm (a b c d : Bool) : ((a || b) || (c || d)) = ((a || c) || (b || d)) := by
  cases a <;> cases b <;> cases c <;> rfl

theorem stash_hasState (sup st : Sup) (sbs os : SState) (ot : SType) :
    (stash sup sbs st ot os).1.hasState = (sup.hasState || st.hasState) := by
  unfold stash
  by_cases h : st.isEmpty = true
  · rw [if_pos h]
    cases Sup.eq_of_isEmpty h
    exact (Bool.or_false _).symm
  · rw [if_neg h]
    -- cancelling the flapping bits leaves the state bits
    show (if _ then _ else _ : Sup).hasState = _
    split <;> exact or_or_or_comm ..

/-- checkable-check.cpp:522-551.  `hx` is needed for the early return on an empty `st` only: it keeps two stored
    flapping bits, which the general path would cancel. -/
theorem stash_eq (sup st : Sup) (sbs os : SState) (ot : SType) (hx : (sup.flapStart && sup.flapEnd) = false) :
    stash sup sbs st ot os =
      ({ problem := sup.problem || st.problem, recovery := sup.recovery || st.recovery,
         flapStart := (sup.flapStart || st.flapStart) && !(sup.flapEnd || st.flapEnd),
         flapEnd := (sup.flapEnd || st.flapEnd) && !(sup.flapStart || st.flapStart) },
       if !sup.hasState && st.hasState then (if ot == .hard then os else .ok) else sbs) := by
  unfold stash
  by_cases h : st.isEmpty = true
  · rw [if_pos h]
    cases Sup.eq_of_isEmpty h
    obtain ⟨p, r, fs, fe⟩ := sup
    revert hx
    cases fs <;> cases fe <;> simp [Sup.hasState]
  · rw [if_neg h]
    cases (sup.flapStart || st.flapStart) <;> cases (sup.flapEnd || st.flapEnd) <;> rfl

theorem stash_excl (sup st : Sup) (sbs os : SState) (ot : SType) (hx : (sup.flapStart && sup.flapEnd) = false) :
    ((stash sup sbs st ot os).1.flapStart && (stash sup sbs st ot os).1.flapEnd) = false := by
  rw [stash_eq sup st sbs os ot hx]
  cases (sup.flapStart || _) <;> cases (sup.flapEnd || _) <;> rfl

theorem soonThreshold_eq (i : Int) : soonThreshold i = min 60000000 (max 0 (i - 10000000)) := by
  unfold soonThreshold
  simp only []
  omega

/-- The code's `IsLikelyToBeCheckedSoon()` with its hand-written clamp (checkable-notification.cpp:325-341) is the
    property's "imminent". -/
theorem imminent_eq_likelySoon (e : FEnv) : imminent e = e.likelySoon := by
  unfold imminent FEnv.likelySoon
  rw [soonThreshold_eq]
  cases e.activeChecks <;> simp

theorem fireState_only_state (c : Cfg) (s : St) (e : FEnv) : ∀ n ∈ (fireState c s e).2, isFlap n = false := by
  intro n hn
  simp only [fireState] at hn
  split at hn
  · split at hn
    · cases List.mem_singleton.mp hn
      cases isOK c.kind s.core.state <;> rfl
    · cases hn
  · cases hn

theorem fireFlapOne_eq (e : FEnv) (cur : SState) (has applies : Bool) (t : NType) :
    fireFlapOne e cur has applies t =
      (has && (!applies || (!e.inDowntime && !e.likelySoon && !e.parentRecent)),
       if has && applies && (!e.inDowntime && !e.likelySoon && !e.parentRecent) then [⟨t, cur⟩] else []) := by
  unfold fireFlapOne
  cases has <;> cases applies <;> cases (!e.inDowntime && !e.likelySoon && !e.parentRecent) <;> rfl

theorem fireFlapOne_only_flap (e : FEnv) (cur : SState) (has applies : Bool) (t : NType) (ht : isFlap ⟨t, cur⟩ = true) :
    ∀ n ∈ (fireFlapOne e cur has applies t).2, isFlap n = true := by
  rw [fireFlapOne_eq]
  intro n hn
  split at hn
  · cases List.mem_singleton.mp hn
    exact ht
  · cases hn

theorem fireStep_off (c : Cfg) (s : St) (e : FEnv) (h : (e.paused || !e.enabled) = true) :
    fireStep c s e = (s, []) := by
  simp [fireStep, h]

/-- With notifications on, the `if (!suppressed_types) return;` is subsumed by the general path. -/
theorem fireStep_on (c : Cfg) (s : St) (e : FEnv) (h : (e.paused || !e.enabled) = false) :
    let a := fireState c s e
    let fs := fireFlapOne e s.core.state s.sup.flapStart e.isFlapping .flapStart
    let fe := fireFlapOne e s.core.state s.sup.flapEnd (!e.isFlapping) .flapEnd
    fireStep c s e =
      ({ s with sup := { problem := s.sup.problem && !a.1, recovery := s.sup.recovery && !a.1,
                         flapStart := s.sup.flapStart && !fs.1, flapEnd := s.sup.flapEnd && !fe.1 } },
       a.2 ++ fs.2 ++ fe.2) := by
  obtain ⟨core, sup, sbs⟩ := s
  simp only [fireStep, h, Bool.false_or]
  split
  next hE =>
    cases Sup.eq_of_isEmpty hE
    rfl
  next => rfl

theorem fireStep_parts (c : Cfg) (s : St) (e : FEnv) (h : (e.paused || !e.enabled) = false) :
    statePart (fireStep c s e).2 = (fireState c s e).2 ∧
    flapPart (fireStep c s e).2 =
      (fireFlapOne e s.core.state s.sup.flapStart e.isFlapping .flapStart).2 ++
      (fireFlapOne e s.core.state s.sup.flapEnd (!e.isFlapping) .flapEnd).2 := by
  obtain ⟨a1, a2⟩ := parts_of_state (fireState_only_state c s e)
  obtain ⟨b1, b2⟩ := parts_of_flap (fireFlapOne_only_flap e s.core.state s.sup.flapStart e.isFlapping .flapStart rfl)
  obtain ⟨c1, c2⟩ := parts_of_flap (fireFlapOne_only_flap e s.core.state s.sup.flapEnd (!e.isFlapping) .flapEnd rfl)
  simp only [fireStep_on c s e h, statePart_append, flapPart_append, a1, a2, b1, b2, c1, c2, List.append_nil,
    List.nil_append, and_self]

theorem fireResultStep_sequential (c : Cfg) (s : St) (ef : FEnv) (r : Res) (er : REnv)
    (h : (s.sup.flapStart || s.sup.flapEnd || (fireStep c s ef).2.isEmpty) = true) :
    fireResultStep c s ef r er =
      ((resultStep c (fireStep c s ef).1 r er).1, (fireStep c s ef).2 ++ (resultStep c (fireStep c s ef).1 r er).2.1,
       (resultStep c (fireStep c s ef).1 r er).2.2, false) := by
  simp only [fireResultStep, h, if_true]

end Icinga.C02
