/-
  C02 — flapping detection (IcingaModel/C02/Flap.lean).  First: the ring buffer read from its oldest entry is the
  sliding window over the last 20 results (`FlapRel`, `flapRel_run`).  Then, on the window alone: a result that
  repeats the state slides a `false` in at the new end, which does not raise the weighted total
  (`windowSum_slide_false`) and after 20 such results leaves no state change in the window (`window_after_stable`).
-/
import IcingaModel.C02.Flap
namespace Icinga.C02
open Icinga.C01

/-- `f.idx`, the slot written next, holds the oldest entry. -/
structure FlapRel (f : FlapSt) (sf : SpecFlap) : Prop where
  bufLen : f.buf.length = 20
  idxLt : f.idx < 20
  winLen : sf.window.length = 20
  window : ∀ i, i < 20 → sf.window.getD i false = f.buf.getD ((f.idx + i) % 20) false
  last : sf.last = f.last
  flapping : sf.flapping = f.flapping

theorem flapRel_init : FlapRel {} {} := ⟨rfl, by decide, rfl, by decide +kernel, rfl, rfl⟩

theorem specFlapStep_window_length (fc : FlapCfg) (sf : SpecFlap) (new : SState) (h : sf.window.length = 20) :
    (specFlapStep fc sf new).1.window.length = 20 := by
  simp [specFlapStep]
  omega

theorem windowSumFrom_append (k : Nat) (a b : List Bool) :
    windowSumFrom k (a ++ b) = windowSumFrom k a + windowSumFrom (k + a.length) b := by
  induction a generalizing k with
  | nil => simp [windowSumFrom]
  | cons x xs ih =>
    simp only [List.cons_append, windowSumFrom, ih, List.length_cons]
    have : k + 1 + xs.length = k + (xs.length + 1) := by omega
    rw [this]; omega

theorem windowSum_take_eq_ringSumUpTo (w buf : List Bool) (start : Nat) (n : Nat) (hn : n ≤ w.length)
    (h : ∀ i, i < n → w.getD i false = buf.getD ((start + i) % 20) false) :
    windowSumFrom 0 (w.take n) = ringSumUpTo buf start n := by
  induction n with
  | zero => simp [windowSumFrom, ringSumUpTo]
  | succ n ih =>
    have hlt : n < w.length := by omega
    have e2 : w[n] = buf.getD ((start + n) % 20) false := by
      have := h n (by omega)
      simpa [List.getD_eq_getElem?_getD, List.getElem?_eq_getElem hlt] using this
    rw [List.take_succ_eq_append_getElem hlt, windowSumFrom_append, ih (by omega) (fun i hi => h i (by omega))]
    simp only [ringSumUpTo, windowSumFrom, List.length_take, Nat.zero_add, Nat.add_zero, e2]
    have : min n w.length = n := by omega
    rw [this]

theorem windowSum_eq_ringSum (w buf : List Bool) (start : Nat) (hl : w.length = 20)
    (h : ∀ i, i < 20 → w.getD i false = buf.getD ((start + i) % 20) false) :
    windowSum w = ringSum buf start := by
  have := windowSum_take_eq_ringSumUpTo w buf start 20 (by omega) h
  rw [← hl, List.take_length] at this
  rw [windowSum, ringSum, this, hl]

/-- Writing slot `idx` and advancing the index is dropping the oldest entry and appending the new one: window
    position `i < 19` reads one slot further than before, which the write did not touch, position 19 reads the slot
    just written. -/
theorem flapRel_step (fc : FlapCfg) (f : FlapSt) (sf : SpecFlap) (new : SState) (h : FlapRel f sf) :
    FlapRel (flapUpdate fc f new).1 (specFlapStep fc sf new).1 ∧
    (flapUpdate fc f new).2 = (specFlapStep fc sf new).2 := by
  obtain ⟨hbuf, hidx, hwin, hwindow, hlast, hflap⟩ := h
  have hw : ∀ i, i < 20 → (sf.window.drop 1 ++ [new != sf.last]).getD i false =
      (f.buf.set f.idx (new != f.last)).getD (((f.idx + 1) % 20 + i) % 20) false := by
    intro i hi
    by_cases h19 : i < 19
    · have hq : ((f.idx + 1) % 20 + i) % 20 = (f.idx + (i + 1)) % 20 := by
        rw [Nat.mod_add_mod, Nat.add_assoc, Nat.add_comm 1 i]
      have hp : f.idx ≠ (f.idx + (i + 1)) % 20 := by omega
      have := hwindow (i + 1) (by omega)
      simp only [List.getD_eq_getElem?_getD] at this ⊢
      rw [hq, List.getElem?_append_left (by simp; omega), List.getElem?_drop, List.getElem?_set_ne hp,
        Nat.add_comm 1 i]
      exact this
    · have hi' : i = 19 := by omega
      subst hi'
      have hp : ((f.idx + 1) % 20 + 19) % 20 = f.idx := by
        rw [Nat.mod_add_mod, Nat.add_assoc, Nat.add_mod_right, Nat.mod_eq_of_lt hidx]
      simp only [List.getD_eq_getElem?_getD]
      rw [hp, List.getElem?_append_right (by simp; omega)]
      simp [hwin, hbuf, hidx, hlast]
  have hlen := specFlapStep_window_length fc sf new hwin
  have hsum : windowSum (sf.window.drop 1 ++ [new != sf.last]) =
      ringSum (f.buf.set f.idx (new != f.last)) ((f.idx + 1) % 20) :=
    windowSum_eq_ringSum _ _ _ hlen hw
  refine ⟨⟨(List.length_set ..).trans hbuf, Nat.mod_lt _ (by decide), hlen, hw, rfl, ?_⟩, ?_⟩
  -- the flapping flag, then the exact tie: both are `flapDecide` of the same total
  · simp only [specFlapStep, flapUpdate, hsum, hflap]
  · simp only [specFlapStep, flapUpdate, hsum, hflap]

def flapRun (fc : FlapCfg) : FlapSt → List SState → List (Bool × Bool)
  | _, [] => []
  | f, r :: rest => ((flapUpdate fc f r).1.flapping, (flapUpdate fc f r).2) :: flapRun fc (flapUpdate fc f r).1 rest

def specFlapRun (fc : FlapCfg) : SpecFlap → List SState → List (Bool × Bool)
  | _, [] => []
  | f, r :: rest => ((specFlapStep fc f r).1.flapping, (specFlapStep fc f r).2) :: specFlapRun fc (specFlapStep fc f r).1 rest

theorem flapRel_run (fc : FlapCfg) (f : FlapSt) (sf : SpecFlap) (h : FlapRel f sf) (rs : List SState) :
    flapRun fc f rs = specFlapRun fc sf rs := by
  induction rs generalizing f sf with
  | nil => rfl
  | cons r rest ih =>
    obtain ⟨a, b⟩ := flapRel_step fc f sf r h
    simp only [flapRun, specFlapRun, b, ih _ _ a, a.flapping]

theorem windowSumFrom_shift (k : Nat) (w : List Bool) : windowSumFrom k w ≤ windowSumFrom (k + 1) w := by
  induction w generalizing k with
  | nil => simp [windowSumFrom]
  | cons x xs ih =>
    simp only [windowSumFrom]
    have := ih (k + 1)
    cases x <;> simp [flapWeight] <;> omega

theorem windowSum_slide_false (w : List Bool) : windowSum (w.drop 1 ++ [false]) ≤ windowSum w := by
  cases w with
  | nil => simp [windowSum, windowSumFrom]
  | cons x xs =>
    simp only [windowSum, List.drop_succ_cons, List.drop_zero, windowSumFrom_append, windowSumFrom]
    have := windowSumFrom_shift 0 xs
    simp at this ⊢
    omega

theorem window_after_stable (fc : FlapCfg) (n : Nat) (sf : SpecFlap) (hn : n ≤ sf.window.length) :
    ((List.replicate n sf.last).foldl (fun f r => (specFlapStep fc f r).1) sf).window =
      sf.window.drop n ++ List.replicate n false := by
  induction n generalizing sf with
  | zero => simp
  | succ n ih =>
    have hl : (specFlapStep fc sf sf.last).1.last = sf.last := rfl
    have hw : (specFlapStep fc sf sf.last).1.window = sf.window.drop 1 ++ [false] := by simp [specFlapStep]
    have i1 := ih (specFlapStep fc sf sf.last).1 (by rw [hw, List.length_append, List.length_drop, List.length_singleton]; omega)
    rw [hl] at i1
    simp only [List.replicate_succ, List.foldl_cons]
    rw [i1, hw, List.drop_append_of_le_length (by simp; omega), List.drop_drop, List.append_assoc]
    simp [Nat.add_comm]

theorem windowSumFrom_replicate_false (k n : Nat) : windowSumFrom k (List.replicate n false) = 0 := by
  induction n generalizing k with
  | zero => rfl
  | succ n ih => simp [List.replicate_succ, windowSumFrom, ih]

theorem flapDecide_false (fc : FlapCfg) (was : Bool) (S : Nat) :
    (flapDecide fc was S).1 = false ↔ S ≤ 20 * (if was then fc.low else fc.high) := by
  simp only [flapDecide, decide_eq_false_iff_not, Nat.not_lt]

theorem specFlapStep_flapping (fc : FlapCfg) (sf : SpecFlap) (new : SState) :
    (specFlapStep fc sf new).1.flapping =
      (flapDecide fc sf.flapping (windowSum (specFlapStep fc sf new).1.window)).1 := rfl

end Icinga.C02
