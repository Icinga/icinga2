/-
  C02 — the acknowledgement layer (IcingaModel/C02/Ack.lean): the code's two attributes with their lazy expiry
  answer `IsAcknowledged()` like the acknowledgement the operations put in force.  `AckInv` relates the two;
  every operation but `clear` ends with a read, so one lemma about a read (`ackInv_query`) carries them.
-/
import IcingaModel.C02.Ack
namespace Icinga.C02

/-- Simulation invariant at time `last`: the attributes hold the acknowledgement the operations put in place, or
    were cleared lazily by a read after its expiry time had passed. -/
def AckInv (a : AckSt) (sa : SpecAck) (last : Int) : Prop :=
  (sa.cur = none ∧ a = ackCleared) ∨
  (∃ st e, sa.cur = some (st, e) ∧ (a = ackSet st e ∨ (a = ackCleared ∧ e ≠ 0 ∧ e < last)))

theorem ackInv_none {sa : SpecAck} {t : Int} (h : sa.cur = none) : AckInv ackCleared sa t := Or.inl ⟨h, rfl⟩

theorem ackInv_set {sa : SpecAck} {st : Bool} {e t : Int} (h : sa.cur = some (st, e)) :
    AckInv (ackSet st e) sa t := Or.inr ⟨st, e, h, Or.inl rfl⟩

theorem ackInv_lapsed {sa : SpecAck} {st : Bool} {e t : Int} (h : sa.cur = some (st, e)) (h0 : e ≠ 0) (hlt : e < t) :
    AckInv ackCleared sa t := Or.inr ⟨st, e, h, Or.inr ⟨rfl, h0, hlt⟩⟩

theorem getAck_cleared (now : Int) : getAck ackCleared now = (ackCleared, .none) := by
  simp [getAck, ackExpired, ackCleared]

theorem getAck_set (st : Bool) (e now : Int) :
    getAck (ackSet st e) now =
      if e ≠ 0 ∧ e < now then (ackCleared, .none) else (ackSet st e, if st then .sticky else .normal) := by
  cases st <;> simp [getAck, ackExpired, ackSet]

theorem getAck_set_zero (st : Bool) (now : Int) :
    getAck (ackSet st 0) now = (ackSet st 0, if st then .sticky else .normal) := by
  simp [getAck_set]

/-- The clock (`hm`) is needed in the last case only: attributes that a read after the expiry time `e` has cleared
    would give the wrong answer at a time `≤ e`. -/
theorem ackInv_query (a : AckSt) (sa : SpecAck) (last now : Int) (h : AckInv a sa last) (hm : last ≤ now) :
    isAcked a now = sa.inForce now ∧ AckInv (getAck a now).1 sa now := by
  rcases h with ⟨h1, rfl⟩ | ⟨st, e, h1, rfl | ⟨rfl, h3, h4⟩⟩
  · rw [isAcked, getAck_cleared]
    exact ⟨by simp [SpecAck.inForce, h1], ackInv_none h1⟩
  · -- the read clears the attributes iff the expiry time has passed, i.e. iff the acknowledgement is out of force
    rw [isAcked, getAck_set]
    by_cases hx : e ≠ 0 ∧ e < now
    · rw [if_pos hx]
      have : ¬ now ≤ e := by omega
      exact ⟨by simp [SpecAck.inForce, h1, this, hx.1], ackInv_lapsed h1 hx.1 hx.2⟩
    · rw [if_neg hx]
      have : (e == 0 || decide (now ≤ e)) = true := by
        have hy : e = 0 ∨ now ≤ e := by omega
        rcases hy with h | h <;> simp [h]
      exact ⟨by cases st <;> simp [SpecAck.inForce, h1, this], ackInv_set h1⟩
  · -- `e < last ≤ now`: still out of force
    rw [isAcked, getAck_cleared]
    have : ¬ now ≤ e := by omega
    exact ⟨by simp [SpecAck.inForce, h1, h3, this], ackInv_lapsed h1 h3 (by omega)⟩

theorem getAck_idem (a : AckSt) (now : Int) :
    (getAck a now).2 = (getAck a now).1.ty ∧ getAck (getAck a now).1 now = getAck a now := by
  unfold getAck
  split
  · exact ⟨rfl, rfl⟩
  · simp

/-- The clearing on a state change (checkable-check.cpp:277-285) in terms of the attributes after the lazy expiry;
    the code's repeated calls of `GetAcknowledgement()` collapse by `getAck_idem`. -/
theorem ackOnResult_change (a : AckSt) (now : Int) (ok : Bool) :
    ackOnResult a now true ok =
      if (getAck a now).1.ty == .normal || (getAck a now).1.ty == .sticky && ok then ackCleared
      else (getAck a now).1 := by
  obtain ⟨h1, h2⟩ := getAck_idem a now
  simp only [ackOnResult, if_true, h2, h1]
  cases (getAck a now).1.ty == .normal <;> rfl

theorem ackInv_step (a : AckSt) (sa : SpecAck) (last now : Int) (op : AckOp) (h : AckInv a sa last) (hm : last ≤ now) :
    ackObs a now op = (specAckStep sa op).inForce now ∧ AckInv (ackStep a now op) (specAckStep sa op) now := by
  cases op with
  | set st e =>
    exact ackInv_query _ ⟨some (st, e)⟩ now now (ackInv_set rfl) (Int.le_refl _)
  | clear =>
    exact ⟨by simp [ackObs, specAckStep, SpecAck.inForce], ackInv_none rfl⟩
  | query => exact ackInv_query a sa last now h hm
  | result sc ok =>
    cases sc with
    | false =>
      -- no state change: the attributes stay, the operation is a read
      have : specAckStep sa (.result false ok) = sa := by
        simp only [specAckStep]; rcases sa.cur with _ | ⟨st, e⟩ <;> simp
      rw [this]
      exact ackInv_query a sa last now h hm
    | true =>
      have key : AckInv (ackOnResult a now true ok) (specAckStep sa (.result true ok)) now := by
        rw [ackOnResult_change]
        -- by the attributes after the read's lazy expiry; the `if` of `ackOnResult_change` then computes on them
        rcases (ackInv_query a sa last now h hm).2 with ⟨hcur, ha⟩ | ⟨st, e, hcur, ha | ⟨ha, he0, hlt⟩⟩ <;> rw [ha]
        · -- nothing in place
          exact ackInv_none (by simp [specAckStep, hcur])
        · -- in place and set: a normal acknowledgement ends, a sticky one ends with the recovery
          cases st <;> cases ok
          · exact ackInv_none (by simp [specAckStep, hcur])
          · exact ackInv_none (by simp [specAckStep, hcur])
          · exact ackInv_set (st := true) (e := e) (by simp [specAckStep, hcur])
          · exact ackInv_none (by simp [specAckStep, hcur])
        · -- in place, cleared by an earlier read; `hends`: the acknowledgement ends at this state change
          by_cases hends : (!st || ok) = true
          · exact ackInv_none (by simp [specAckStep, hcur, hends])
          · exact ackInv_lapsed (st := st) (e := e) (by simp [specAckStep, hcur, hends]) he0 hlt
      exact ackInv_query _ _ now now key (Int.le_refl _)

theorem specAckTrace_cons_ok (sa : SpecAck) (i : Nat) (now : Int) (op : AckOp) (obs : Bool) (rest : List (Int × AckOp × Bool))
    (h : obs = (specAckStep sa op).inForce now) :
    specAckTrace sa i ((now, op, obs) :: rest) = specAckTrace (specAckStep sa op) (i + 1) rest := by
  simp [specAckTrace, h]

theorem ackInv_trace (a : AckSt) (sa : SpecAck) (t0 : Int) (i : Nat) (h : AckInv a sa t0) (ops : List (Int × AckOp))
    (hm : monotoneFrom t0 ops = true) : specAckTrace sa i (ackTraceOf a ops) = none := by
  induction ops generalizing a sa t0 i with
  | nil => rfl
  | cons x rest ih =>
    obtain ⟨now, op⟩ := x
    simp only [monotoneFrom, Bool.and_eq_true, decide_eq_true_eq] at hm
    obtain ⟨s1, s2⟩ := ackInv_step a sa t0 now op h hm.1
    rw [ackTraceOf, specAckTrace_cons_ok _ _ _ _ _ _ s1]
    exact ih _ _ now (i + 1) s2 hm.2

end Icinga.C02
