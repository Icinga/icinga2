/-
  C07 — property theorems.  Every `theorem` in this file is a proof obligation of the check
  (`./check C07` lists them and runs `#print axioms` on each).

  "Acyclic" is stated through a ranking certificate (`Ranked g rank`: every dependency's parent ranks
  strictly below its child; `RankedS succ rank` for an arbitrary edge function).  A ranking excludes
  every cycle (`ranked_excludes_cycles`), and as ranks strictly decrease along a chain of dependencies,
  `rank v` bounds the length of every chain above `v`: "`rank ≤ 256`" is "at most 256 levels deep".
-/
import IcingaProofs.C07.Cycle
import IcingaProofs.C07.Registry
import IcingaProofs.C07.History
import IcingaProofs.C07.RegReach
import IcingaProofs.C07.HistReg
import IcingaProofs.C07.Examples
import IcingaProofs.Gen.DepConsts

namespace Icinga.C07

/-- **available_spec** — `Dependency::IsAvailable(dt)` is the property's five-way disjunction, for each
    aspect, for every dependency between two different checkables. -/
theorem available_spec (g : Graph) (dt : Aspect) (d : Dep) (hne : d.parent ≠ d.child) :
    available g dt d = true ↔
      ((g.node d.parent).checked = false                                  -- never checked
       ∨ stateListed (g.node d.parent) d.stateFilter = true               -- state listed in the filter
       ∨ (d.ignoreSoft = true ∧ (g.node d.parent).hard = false)           -- soft ∧ ignore_soft_states
       ∨ d.periodClosed = true                                            -- period closed
       ∨ (dt = .checkExec ∧ d.disableChecks = false)                      -- aspect not disabled
       ∨ (dt = .notification ∧ d.disableNotifications = false)) := by
  rw [available_eq, beq_false_of_ne hne, Bool.false_or]
  simp only [availSpec, aspectFree, Bool.or_eq_true, Bool.and_eq_true, Bool.not_eq_true', beq_iff_eq, or_assoc]

/-- an escape the property's disjunction does not list, the code's first guard (dependency.cpp:283): a dependency of a
    checkable on itself is always available.  Such a dependency is a cycle and cannot be loaded (`self_dependency_rejected`). -/
theorem available_self (g : Graph) (dt : Aspect) (d : Dep) (h : d.parent = d.child) :
    available g dt d = true := by
  simp [available, h]

/-- **group_state_spec** — `DependencyGroup::GetState` is `Ok` iff, for a redundancy group, at least one
    dependency has a reachable parent and is available; outside a redundancy group, all of them. -/
theorem group_state_spec (reach : Nat → Bool) (avail : Dep → Bool) (red : Bool) (deps : List Dep) :
    groupState reach avail red deps = .ok ↔
      (if red then ∃ d ∈ deps, reach d.parent = true ∧ avail d = true
       else ∀ d ∈ deps, reach d.parent = true ∧ avail d = true) :=
  groupState_ok_iff reach avail red deps

/-- **unset_states_spec** — a dependency configured without `states`: its parent "is in a state listed in the
    dependency's state filter" exactly when the parent is Up (host: OK or WARNING plugin state) resp. OK or
    Warning (service) — `Dependency::OnConfigLoaded`'s default, for every parent state. -/
theorem unset_states_spec (x : DepDecl) (hs : x.states = none) (p : Node) :
    stateListed p (x.resolve p.isService).stateFilter = (p.stateRaw == 0 || p.stateRaw == 1) := by
  simp only [DepDecl.resolve, hs, Option.getD_none, defaultFilter, stateListed]
  cases hp : p.isService
  · simp
  · simp

def bareDecl (c p : Nat) : DepDecl :=
  { child := c, parent := p, group := none, states := none, ignoreSoft := none, period := none,
    disableChecks := none, disableNotifications := none }

/-- **unset_flags_spec** — availability of a dependency configured with nothing but child and parent, for each
    aspect: never-checked parent, parent Up / OK / Warning, parent in a soft state (`ignore_soft_states` defaults to
    true), or — `disable_checks` defaulting to false, `disable_notifications` to true — the question being about
    check execution.  Checks of the child are NOT suppressed by default, notifications are. -/
theorem unset_flags_spec (g : Graph) (dt : Aspect) (c p : Nat) (hne : p ≠ c) :
    available g dt ((bareDecl c p).resolve (g.node p).isService) = true ↔
      ((g.node p).checked = false ∨ ((g.node p).stateRaw = 0 ∨ (g.node p).stateRaw = 1) ∨ (g.node p).hard = false ∨
       dt = .checkExec) := by
  have hd : ((bareDecl c p).resolve (g.node p).isService).parent ≠ ((bareDecl c p).resolve (g.node p).isService).child := hne
  rw [available_spec g dt _ hd]
  have hl := unset_states_spec (bareDecl c p) rfl (g.node p)
  have hp : ((bareDecl c p).resolve (g.node p).isService).parent = p := rfl
  rw [hp, hl]
  simp [bareDecl, DepDecl.resolve]

example : (({ child := 1, parent := 0, group := none, states := some 0, ignoreSoft := none, period := none,
              disableChecks := none, disableNotifications := none } : DepDecl).resolve false).stateFilter = 0 := by decide +kernel
example : (({ child := 1, parent := 0, group := none, states := none, ignoreSoft := none, period := none,
              disableChecks := none, disableNotifications := none } : DepDecl).resolve true).stateFilter = 3 := by decide +kernel

/-! The constants of the model against the source: lean/IcingaProofs/Gen/DepConsts.lean is regenerated by
    gen/c07_consts.py from /repo at the start of every run. -/

section SourceConstants
open Icinga.Gen.DepConsts

/-- **recursion_limit_matches_source** — the model evaluates the levels `rstack = 0 … l_MaxDependencyRecursionLevel`
    (`rstack > limit ⇒ false`, checkable-dependency.cpp:191). -/
theorem recursion_limit_matches_source : topFuel = maxDependencyRecursionLevelSrc + 1 := by decide

/-- **state_filter_bits_match_source** — the bit the model tests for each parent kind and state is the source's
    `StateFilter*` enumerator (hosts: OK/WARNING plugin state = Up). -/
theorem state_filter_bits_match_source :
    (∀ h c hd, stateBit { isService := true, host := h, checked := c, stateRaw := 0, hard := hd } = stateFilterOKSrc) ∧
    (∀ h c hd, stateBit { isService := true, host := h, checked := c, stateRaw := 1, hard := hd } = stateFilterWarningSrc) ∧
    (∀ h c hd, stateBit { isService := true, host := h, checked := c, stateRaw := 2, hard := hd } = stateFilterCriticalSrc) ∧
    (∀ h c hd, stateBit { isService := true, host := h, checked := c, stateRaw := 3, hard := hd } = stateFilterUnknownSrc) ∧
    (∀ h c hd, stateBit { isService := false, host := h, checked := c, stateRaw := 0, hard := hd } = stateFilterUpSrc) ∧
    (∀ h c hd, stateBit { isService := false, host := h, checked := c, stateRaw := 1, hard := hd } = stateFilterUpSrc) ∧
    (∀ h c hd, stateBit { isService := false, host := h, checked := c, stateRaw := 2, hard := hd } = stateFilterDownSrc) ∧
    (∀ h c hd, stateBit { isService := false, host := h, checked := c, stateRaw := 3, hard := hd } = stateFilterDownSrc) := by
  refine ⟨?_, ?_, ?_, ?_, ?_, ?_, ?_, ?_⟩ <;> intro _ _ _ <;> rfl

/-- **config_defaults_match_source** — what `DepDecl.resolve` substitutes for unset attributes is what
    `Dependency::OnConfigLoaded` and dependency.ti say in the checked tree. -/
theorem config_defaults_match_source :
    defaultFilter false = defaultFilterHostParentSrc ∧ defaultFilter true = defaultFilterServiceParentSrc ∧
    (∀ c p s, ((bareDecl c p).resolve s).ignoreSoft = ignoreSoftStatesDefaultSrc) ∧
    (∀ c p s, ((bareDecl c p).resolve s).disableChecks = disableChecksDefaultSrc) ∧
    (∀ c p s, ((bareDecl c p).resolve s).disableNotifications = disableNotificationsDefaultSrc) := by
  refine ⟨by decide, by decide, ?_, ?_, ?_⟩ <;> intro _ _ _ <;> rfl

end SourceConstants

/-- **reachable_spec** — on an acyclic dependency graph at most 256 levels deep, `IsReachable`
    (started with `rstack = 0`) *is* the property's predicate: it satisfies "reachable exactly when
    host not hard Down ∧ every plain dependency has a reachable parent and is available ∧ every
    redundancy group has one such" at every checkable, and it is the only assignment that does. -/
theorem reachable_spec (g : Graph) (dt : Aspect) (rank : Nat → Nat) (hr : Ranked g rank)
    (hdepth : ∀ v, rank v ≤ 256) :
    (∀ v, isReachable g dt v = reachClause g dt (isReachable g dt) v) ∧
    (∀ R : Nat → Bool, (∀ v, R v = reachClause g dt R v) → ∀ v, R v = isReachable g dt v) := by
  constructor
  · exact fun v => isReachable_eq_clause hr dt (hdepth v)
  · intro R hR v
    exact solution_unique_on hr dt (fun _ => True) (fun _ _ _ => trivial) (fun v _ => hdepth v) R (fun v _ => hR v) v trivial

/-- **too_deep_unreachable** — the error branch of the recursion limit: a checkable below a chain of
    257 dependencies outside redundancy groups is reported unreachable whatever the states are. -/
theorem too_deep_unreachable (g : Graph) (dt : Aspect) (v : Nat) (h : PlainChain g 257 v) :
    isReachable g dt v = false :=
  reachable_false_of_chain g dt 257 v h

/-- **model_query_meets_spec** — the specification predicate the driver evaluates on the
    implementation's observations accepts the model's own answers (all three aspects, dependency
    counts of the live set), for every acyclic graph at most 256 levels deep. -/
theorem model_query_meets_spec (n : Nat) (g : Graph) (rank : Nat → Nat) (hr : Ranked g rank)
    (hdepth : ∀ v, rank v ≤ 256) :
    specQuery n g (isReachable g) (fun v => (depsOf g v).length) = none :=
  query_meets_spec n hr hdepth

theorem ranked_excludes_cycles (succ : Nat → List Nat) (rank : Nat → Nat) (hr : RankedS succ rank)
    (v : Nat) : ¬ Path succ v v :=
  ranked_no_cycle hr v

/-- **cycle_check_sound** — if the registered graph is acyclic and `BeforeOnAllConfigLoadedHandler`
    accepts a batch of new dependencies (searching only from the parents of the new dependencies),
    then the registered graph plus the batch, with the implicit service → host edges, is acyclic:
    no checkable lies on a cycle. -/
theorem cycle_check_sound (g : Graph) (new : List Dep) (bound : Nat)
    (hg : ∃ rg, RankedS (succs g) rg) (h : (cycleCheck g new bound).accepted = true) :
    (∃ r, RankedS (succs (withNew g new)) r) ∧ ∀ v, ¬ Path (succs (withNew g new)) v v := by
  obtain ⟨r, hr⟩ := accepted_ranked hg h
  exact ⟨⟨r, hr⟩, ranked_no_cycle hr⟩

/-- **initial_load_sound** — the case of a fresh load: nothing registered yet, every dependency is in
    the batch. -/
theorem initial_load_sound (g : Graph) (hw : WellFormed g) (he : g.deps = []) (new : List Dep) (bound : Nat)
    (h : (cycleCheck g new bound).accepted = true) :
    ∀ v, ¬ Path (succs (withNew g new)) v v :=
  (cycle_check_sound g new bound ⟨_, implicit_ranked g hw he⟩ h).2

/-- **cycle_check_complete** — conversely an acyclic result is accepted: if registered graph plus
    batch admit a ranking whose values at the batch's parents do not exceed `bound` (the number of
    checkables; the height of an acyclic graph is below it), the search neither reports a cycle nor
    exhausts the model's fuel. -/
theorem cycle_check_complete (g : Graph) (new : List Dep) (bound : Nat) (r : Nat → Nat)
    (hr : RankedS (succs (withNew g new)) r) (hb : ∀ d ∈ new, r d.parent ≤ bound) :
    (cycleCheck g new bound).accepted = true := by
  rw [cycleCheck_def]
  apply dfsList_complete
  intro fin w hw
  obtain ⟨d, hd, rfl⟩ := List.mem_map.1 hw
  exact dfs_complete _ r hr (bound + 1) [] fin d.parent (Nat.lt_succ_of_le (hb d hd)) (fun _ h => nomatch h)

/-- **cycle_check_iff_acyclic** — both directions against the specification's own, DFS-independent
    acyclicity decision (`acyclicSpec`: repeatedly remove the checkables without outgoing edges): with
    `n` checkables `0 … n-1`, all edges among them, and an acyclic registered graph, a batch is accepted
    exactly when registered graph + batch + implicit service → host edges are acyclic. -/
theorem cycle_check_iff_acyclic (n : Nat) (g : Graph) (new : List Dep)
    (hc : Closed n (withNew g new)) (hg : ∃ rg, RankedS (succs g) rg) :
    (cycleCheck g new n).accepted = true ↔ acyclicSpec n (withNew g new) = true := by
  constructor
  · exact accepted_acyclicSpec n hg
  · intro h
    exact cycle_check_complete g new n _ (ranked_of_acyclicSpec n _ hc h) (fun d _ => survive_le _ n _ d.parent)

/-- **acyclic_iff_no_closed_walk** — the specification's peeling decision is the standard notion: for
    `n` checkables with all edges among them, peeling empties the graph exactly when there is no
    non-empty closed walk (`Path succ v v`) along dependencies and implicit service → host edges. -/
theorem acyclic_iff_no_closed_walk (n : Nat) (g : Graph) (hc : Closed n g) :
    acyclicSpec n g = true ↔ ∀ v, ¬ Path (succs g) v v := by
  constructor
  · intro h v
    exact ranked_no_cycle (ranked_of_acyclicSpec n g hc h) v
  · exact acyclicSpec_of_no_cycle n g

/-- **no_cycle_iff_ranked** — ranking certificates are exactly acyclicity (finite closed graphs). -/
theorem no_cycle_iff_ranked (n : Nat) (g : Graph) (hc : Closed n g) :
    (∀ v, ¬ Path (succs g) v v) ↔ ∃ r, RankedS (succs g) r := by
  constructor
  · intro h
    exact ⟨_, ranked_of_acyclicSpec n g hc (acyclicSpec_of_no_cycle n g h)⟩
  · rintro ⟨r, hr⟩ v
    exact ranked_no_cycle hr v

/-- **cycle_check_iff_no_cycle** — the cycle checker against the standard definition of a cycle: with an
    acyclic registered graph, a batch is accepted exactly when registered graph + batch + implicit
    service → host edges contain no non-empty closed walk. -/
theorem cycle_check_iff_no_cycle (n : Nat) (g : Graph) (new : List Dep)
    (hc : Closed n (withNew g new)) (hg : ∀ v, ¬ Path (succs g) v v) :
    (cycleCheck g new n).accepted = true ↔ ∀ v, ¬ Path (succs (withNew g new)) v v := by
  rw [cycle_check_iff_acyclic n g new hc ((no_cycle_iff_ranked n g hc.of_withNew).1 hg)]
  exact acyclic_iff_no_closed_walk n _ hc

/-- **runtime_add_refused_unchanged** — a dependency (batch) added at runtime that closes a cycle is
    refused and the registered graph stays exactly as it was; an addition that closes none is applied. -/
theorem runtime_add_refused_unchanged (n : Nat) (g : Graph) (new : List Dep)
    (hc : Closed n (withNew g new)) (hg : ∀ v, ¬ Path (succs g) v v) :
    ((∃ v, Path (succs (withNew g new)) v v) → runtimeAdd g new n = (g, false)) ∧
    ((∀ v, ¬ Path (succs (withNew g new)) v v) → runtimeAdd g new n = (withNew g new, true)) := by
  have hiff := cycle_check_iff_no_cycle n g new hc hg
  refine ⟨fun ⟨v, hv⟩ => runtimeAdd_refused ?_, fun h => runtimeAdd_accepted (hiff.2 h)⟩
  cases hacc : (cycleCheck g new n).accepted with
  | false => rfl
  | true => exact absurd hv (hiff.1 hacc v)

/-- **runtime_adds_stay_acyclic** — whatever sequence of batches is attempted at runtime, the registered
    graph never contains a cycle (so `IsReachable` keeps terminating, `terminates_on_accepted`). -/
theorem runtime_adds_stay_acyclic (n : Nat) (batches : List (List Dep)) :
    ∀ g : Graph, (∃ r, RankedS (succs g) r) → ∃ r, RankedS (succs (runtimeAdds n g batches)) r := by
  induction batches with
  | nil => intro g hg; exact hg
  | cons b bs ih =>
    intro g hg
    apply ih
    cases hacc : (cycleCheck g b n).accepted with
    | false => rw [runtimeAdd_refused hacc]; exact hg
    | true => rw [runtimeAdd_accepted hacc]; exact accepted_ranked hg hacc

/-- **model_runtime_add_meets_spec** — the specification predicate evaluated on every observed runtime
    addition (cycle ⇒ refused; refused ⇒ dependency counts unchanged; accepted ⇒ exactly the batch added)
    accepts the model's own behaviour. -/
theorem model_runtime_add_meets_spec (n : Nat) (g : Graph) (new : List Dep) (hg : ∃ rg, RankedS (succs g) rg) :
    specRuntimeAdd n g new (runtimeAdd g new n).2 (fun v => (depsOf (runtimeAdd g new n).1 v).length) = none :=
  runtimeAdd_meets_spec n g new hg

/-- **model_load_meets_spec** — the specification predicate the driver evaluates on the implementation's
    accepted/rejected answer ("a configuration containing a cycle is rejected", decided by peeling,
    independently of the DFS) accepts the model's own verdict for every batch. -/
theorem model_load_meets_spec (n : Nat) (g : Graph) (new : List Dep) (bound : Nat)
    (hg : ∃ rg, RankedS (succs g) rg) :
    specLoad n (withNew g new) (cycleCheck g new bound).accepted = none := by
  unfold specLoad
  cases hacc : (cycleCheck g new bound).accepted with
  | false => simp
  | true => simp [accepted_acyclicSpec n hg hacc]

/-- **self_dependency_rejected** — a dependency of a checkable on itself is never accepted. -/
theorem self_dependency_rejected (g : Graph) (new : List Dep) (bound : Nat) (hg : ∃ rg, RankedS (succs g) rg)
    (d : Dep) (hd : d ∈ new) (hs : d.parent = d.child) :
    (cycleCheck g new bound).accepted = false := by
  cases hacc : (cycleCheck g new bound).accepted with
  | false => rfl
  | true =>
    exfalso
    refine (cycle_check_sound g new bound hg hacc).2 d.child (Path.single ?_)
    exact mem_succs_withNew.2 (Or.inr ⟨d, hd, rfl, hs⟩)

/-- **terminates_on_accepted** — on every accepted configuration some `N` exists beyond which additional fuel no longer
    changes the answer of `IsReachable`, for every checkable and aspect.  Here `N` is taken from a ranking of the edges
    (`reachable_stabilises`), and what acceptance gives is `reachable_fuel_indep`: the answer at `v` is settled as soon as the
    fuel exceeds `rank v`, the depth of the recursion.  The statement itself is weaker: the answers grow with the fuel, so
    they settle on every finite graph. -/
theorem terminates_on_accepted (g : Graph) (new : List Dep) (bound : Nat)
    (hg : ∃ rg, RankedS (succs g) rg) (h : (cycleCheck g new bound).accepted = true) :
    ∃ N, ∀ dt f v, N ≤ f → reachable (withNew g new) dt f v = reachable (withNew g new) dt N v := by
  obtain ⟨r, hr⟩ := accepted_ranked hg h
  exact reachable_stabilises (rankedS_ranked hr)

/-- **history_step_meets_spec** — in every state a history can reach (`HInv`: registered graph acyclic,
    reverse-dependency container mirroring the live set) the observation the model produces for ANY next
    operation — a load or runtime creation (accepted or refused), a removal, a state or period change, a
    query of all three aspects, a read-out of parents / children / reverse dependencies — satisfies the
    specification predicate the driver evaluates on the implementation's observation of that step. -/
theorem history_step_meets_spec (n : Nat) (hs : HState) (hi : HInv hs) (op : HOp) :
    specObs n hs.cfg (hstep n hs op).2 = none :=
  hstep_meets_spec n hi op

/-- **history_meets_spec** — for every set of checkables (services' hosts being hosts) and EVERY sequence of the
    operations of `history_step_meets_spec` starting from the empty configuration (cyclic batches are refused by the
    model's cycle checker) the specification predicate evaluated over the recorded history finds no violated clause:
    every accepted load leaves the graph acyclic, after every refused one each checkable has as many dependencies as
    before, every query inside the property's scope answers the "reachable exactly when" equation for all three aspects
    on the live set, and parents / children / reverse dependencies equal the live set.  No hypothesis on the reached
    graph: acyclicity is an invariant established by the cycle checker itself. -/
theorem history_meets_spec (n : Nat) (node : Nat → Node)
    (hw : WellFormed { node := node, deps := [] }) (ops : List HOp) :
    specTrace n { node := node } (hrun n { cfg := { node := node } } ops) = none :=
  hrun_meets_spec n ops _ (hinv_init node hw)

/-- **history_stays_acyclic** — after every history the registered graph, together with the implicit
    service → host edges, contains no cycle (so `IsReachable` terminates without its limit,
    `terminates_on_accepted`), and the reverse-dependency container holds exactly the live dependencies. -/
theorem history_stays_acyclic (n : Nat) (node : Nat → Node)
    (hw : WellFormed { node := node, deps := [] }) (ops : List HOp) :
    let final := ops.foldl (fun hs op => (hstep n hs op).1) ({ cfg := { node := node } } : HState)
    (∀ v, ¬ Path (succs final.cfg.graph) v v) ∧ final.rev = final.cfg.live.map (fun x => (x.2.parent, x)) := by
  have hi := List.foldlRecOn (motive := HInv) ops _ (hinv_init node hw) (fun _ hi op _ => hstep_inv n hi op)
  obtain ⟨r, hr⟩ := hi.acyclic
  exact ⟨ranked_no_cycle hr, hi.rev⟩

/-- **registry_refines_set** — for every sequence of runtime `AddDependency`/`RemoveDependency` calls
    (duplicates, repeated adds, removals of absent objects, groups shared between children), starting from
    the empty registry: (1) the per-child view — `GetDependenciesForChild(child)` on the group the
    checkable holds under a key — lists exactly the live dependencies of that child with that key, each
    once, and the checkable holds a group under a key iff such a dependency exists; (2) the registry *is*
    what a fresh load of the live set builds (`RegistryIs`: pairwise different, non-empty groups, one per
    identity occurring among the live (child, key) groups, each holding all live dependencies of that
    identity).  Redundancy group names are non-empty (an empty name means "no group" in the code). -/
theorem registry_refines_set (ops : List ROp) (hn : ∀ x, ROp.add x ∈ ops → x.d.group ≠ some "") :
    let st := ops.foldl applyOp {}
    let live := ops.foldl liveAfter []
    (∀ c k, (∀ x, x ∈ viewDeps st c k ↔ x ∈ live ∧ x.d.child = c ∧ x.d.key = k) ∧ (viewDeps st c k).Nodup ∧
            ((cmapLookup st.cmap (c, k)).isSome ↔ ∃ x ∈ live, x.d.child = c ∧ x.d.key = k)) ∧
    RegistryIs st.registry live := by
  intro st live
  have h : Inv st live := run_inv_empty ops hn
  refine ⟨fun c k => ⟨fun x => mem_viewDeps h, nodup_viewDeps h c k, ?_⟩, h.registryIs⟩
  rw [← h.entry_iff, Option.isSome_iff_exists]
  exact exists_congr (fun i => cmapLookup_eq_some h.keysNodup)

/-- **fresh_load_spec** — `PushDependencyGroupsToRegistry` after a load: whatever the order in which the
    checkables push their pending groups (each (child, key) pair once), the result satisfies the invariant
    `Inv` from which the characterisation of `registry_refines_set` is read off. -/
theorem fresh_load_spec (L : List LDep) (hL : L.Nodup) (hn : ∀ x ∈ L, x.d.group ≠ some "")
    (todo : List (Nat × GKey)) (hnd : todo.Nodup)
    (hcov : ∀ ck, ck ∈ todo ↔ ∃ x ∈ L, (x.d.child, x.d.key) = ck) :
    Inv (pushAll L {} todo) L := by
  refine (pushAll_inv L hL hn todo {} [] hnd (fun ck hck => (hcov ck).1 hck) (fun _ h => nomatch h) inv_empty).congr hL
    (fun x => ?_)
  simp only [List.nil_append, List.mem_flatMap, mem_slice]
  constructor
  · rintro ⟨_, _, hx, _⟩
    exact hx
  · intro hx
    exact ⟨(x.d.child, x.d.key), (hcov _).2 ⟨x, hx, rfl⟩, hx, rfl, rfl⟩

/-- **runtime_equals_fresh_load** — "adding and removing dependencies at runtime leaves the graph equal to
    what a fresh load of the same set would give": the registry reached by any runtime sequence and the
    registry of a fresh load of the resulting live set have the same number of groups, and correspond
    group by group (same identity, same members); the per-child views coincide. -/
theorem runtime_equals_fresh_load (ops : List ROp) (hn : ∀ x, ROp.add x ∈ ops → x.d.group ≠ some "")
    (todo : List (Nat × GKey)) (hnd : todo.Nodup)
    (hcov : ∀ ck, ck ∈ todo ↔ ∃ x ∈ ops.foldl liveAfter [], (x.d.child, x.d.key) = ck) :
    let rt := ops.foldl applyOp {}
    let fresh := pushAll (ops.foldl liveAfter []) {} todo
    rt.registry.length = fresh.registry.length ∧
    (∀ g ∈ rt.registry, ∃ g' ∈ fresh.registry, identEq g.ident g'.ident = true ∧ ∀ x, x ∈ g.members ↔ x ∈ g'.members) ∧
    (∀ c k x, x ∈ viewDeps rt c k ↔ x ∈ viewDeps fresh c k) := by
  intro rt fresh
  have h1 : Inv rt (ops.foldl liveAfter []) := run_inv_empty ops hn
  have h2 : Inv fresh (ops.foldl liveAfter []) := fresh_load_spec _ h1.lnodup h1.names todo hnd hcov
  obtain ⟨hu1, hu2⟩ := registryIs_unique h1.registryIs h2.registryIs
  refine ⟨hu2, hu1, fun c k x => ?_⟩
  rw [mem_viewDeps h1, mem_viewDeps h2]

/-- **reachable_via_registry** — `Checkable::IsReachable` as the code walks it (the group objects the checkable
    holds in `m_DependencyGroups`, each group's `IsRedundancyGroup()` taken from the GROUP's name, each group's
    `GetDependenciesForChild(this)` read from the shared registry entry) gives, after EVERY sequence of runtime
    `AddDependency`/`RemoveDependency` calls from the empty registry, exactly the answer of `isReachable` on the graph
    of the live dependencies — the function `reachable_spec` / `history_meets_spec` are about.  Groups shared between
    children, merged and split again by additions and removals, never leak another child's dependencies or
    another group's redundancy semantics into the evaluation.  `eff` supplies per-dependency facts that are not part
    of the object's identity (is its period closed now); it must keep child and group key (`KeepsShape`; `id` and
    `Cfg.eff` do). -/
theorem reachable_via_registry (ops : List ROp) (hn : ∀ x, ROp.add x ∈ ops → x.d.group ≠ some "")
    (node : Nat → Node) (eff : Dep → Dep) (he : KeepsShape eff) (dt : Aspect) (v : Nat) :
    isReachableR (ops.foldl applyOp {}) node eff dt v =
      isReachable (liveGraph node eff (ops.foldl liveAfter [])) dt v :=
  reachableR_eq (run_inv_empty ops hn) node he dt topFuel v

/-- **reachable_via_fresh_load** — the same for the registry a fresh load builds (`PushDependencyGroupsToRegistry`
    in any order), hence runtime history and fresh load of the same set answer every reachability question
    alike. -/
theorem reachable_via_fresh_load (ops : List ROp) (hn : ∀ x, ROp.add x ∈ ops → x.d.group ≠ some "")
    (todo : List (Nat × GKey)) (hnd : todo.Nodup)
    (hcov : ∀ ck, ck ∈ todo ↔ ∃ x ∈ ops.foldl liveAfter [], (x.d.child, x.d.key) = ck)
    (node : Nat → Node) (eff : Dep → Dep) (he : KeepsShape eff) (dt : Aspect) (v : Nat) :
    isReachableR (ops.foldl applyOp {}) node eff dt v =
      isReachableR (pushAll (ops.foldl liveAfter []) {} todo) node eff dt v := by
  have h1 := run_inv_empty ops hn
  have h2 := fresh_load_spec _ h1.lnodup h1.names todo hnd hcov
  unfold isReachableR
  rw [reachableR_eq h1 node he, reachableR_eq h2 node he]

/-- **registry_query_meets_spec** — the specification predicate of a query accepts the answers computed on the
    registry's group objects after every runtime sequence whose live graph is acyclic and at most 256 levels
    deep (`eff`: which periods are closed now, or the identity). -/
theorem registry_query_meets_spec (n : Nat) (ops : List ROp) (hn : ∀ x, ROp.add x ∈ ops → x.d.group ≠ some "")
    (node : Nat → Node) (eff : Dep → Dep) (he : KeepsShape eff) (rank : Nat → Nat)
    (hr : Ranked (liveGraph node eff (ops.foldl liveAfter [])) rank) (hdepth : ∀ v, rank v ≤ 256) :
    specQuery n (liveGraph node eff (ops.foldl liveAfter []))
      (isReachableR (ops.foldl applyOp {}) node eff)
      (fun v => (depsOf (liveGraph node eff (ops.foldl liveAfter [])) v).length) = none := by
  have : isReachableR (ops.foldl applyOp {}) node eff = isReachable (liveGraph node eff (ops.foldl liveAfter [])) := by
    funext dt v; exact reachable_via_registry ops hn node eff he dt v
  rw [this]
  exact model_query_meets_spec n _ rank hr hdepth

/-- **parents_via_registry** — `Checkable::GetParents()` as the code computes it (the parents named by the composite
    keys of every group object the checkable holds, `DependencyGroup::LoadParents`) is, after every runtime
    sequence, as a set exactly the parents of the checkable's live dependencies (the specification's clause
    `edges_equal_live_set` compares that set as an ascending list, `parentsSpec`; the list is not what is stated here):
    sharing a group with other children adds no foreign parent, removals leave no stale key. -/
theorem parents_via_registry (ops : List ROp) (hn : ∀ x, ROp.add x ∈ ops → x.d.group ≠ some "") (v p : Nat) :
    p ∈ parentsR (ops.foldl applyOp {}) v ↔ ∃ x ∈ ops.foldl liveAfter [], x.d.child = v ∧ x.d.parent = p :=
  mem_parentsR (run_inv_empty ops hn) v p

/-- **history_queries_via_registry** — the two models composed: run ANY history and drive the registry model with the
    same operations (`hrunR`: every dependency of an accepted batch through `AddDependency`, every removal through
    `RemoveDependency`; refused batches touch nothing).  After every such history — hence at every query point, each
    prefix being a history — `IsReachable` evaluated over the registry's group objects answers, for every aspect and
    checkable, exactly what the history model answers (the function `history_meets_spec` is about), and the history
    state is the one of `history_stays_acyclic`.  Hypothesis `FreshRun`: input well-formedness only — a batch brings
    NEW Dependency objects (ids pairwise different and not live) with non-empty redundancy group names. -/
theorem history_queries_via_registry (n : Nat) (node : Nat → Node) (ops : List HOp)
    (hf : FreshRun n { cfg := { node := node } } ops) (dt : Aspect) (v : Nat) :
    let fin := hrunR n { cfg := { node := node } } {} ops
    isReachableR fin.2 fin.1.cfg.node fin.1.cfg.eff dt v = isReachable fin.1.cfg.graph dt v ∧
    fin.1 = ops.foldl (fun hs op => (hstep n hs op).1) ({ cfg := { node := node } } : HState) := by
  intro fin
  exact ⟨query_via_registry (inStep_run n (inStep_init node) ops hf) dt v, hrunR_fst n ops _ _⟩

-- non-vacuity: a history with a load, a query and a removal that meets `FreshRun`
example : FreshRun 4 { cfg := { node := fun _ => { isService := false, host := none, checked := true, stateRaw := 0, hard := true } } }
    [.load [(0, { child := 1, parent := 0, group := none, stateFilter := 16, ignoreSoft := false, periodClosed := false,
                  disableChecks := true, disableNotifications := true })], .query, .remove 0] := by
  exact ⟨⟨by decide +kernel, by decide +kernel, by decide +kernel⟩, trivial, trivial, trivial⟩

section RegistryExamples

def rx (id c p : Nat) (grp : Option String) (isf : Bool) : LDep :=
  { id := id, d := { child := c, parent := p, group := grp, stateFilter := 16, ignoreSoft := isf, periodClosed := false,
                     disableChecks := true, disableNotifications := true } }

/-- children 2 and 3 both depend on {0, 1} in redundancy group "g1": one shared group with 4 members. -/
def exOps : List ROp :=
  [ROp.add (rx 0 2 0 (some "g1") false), ROp.add (rx 1 2 1 (some "g1") false),
   ROp.add (rx 2 3 0 (some "g1") false), ROp.add (rx 3 3 1 (some "g1") false)]

example : ((exOps.foldl applyOp {}).registry.map (fun g : Group => g.members.length)) = [4] := by decide +kernel
-- removing one member of child 2 splits the group; adding it back (new object) merges again
example : (((exOps ++ [ROp.remove (rx 0 2 0 (some "g1") false)]).foldl applyOp {}).registry.map (fun g : Group => g.members.length)) = [2, 1] := by decide +kernel
example : (((exOps ++ [ROp.remove (rx 0 2 0 (some "g1") false), ROp.add (rx 4 2 0 (some "g1") false)]).foldl applyOp {}).registry.map
    (fun g : Group => g.members.length)) = [4] := by decide +kernel
-- the per-child view after the removal
example : ((viewDeps ((exOps ++ [ROp.remove (rx 0 2 0 (some "g1") false)]).foldl applyOp {}) 2 (.named "g1")).map (·.id)) = [1] := by decide +kernel
-- duplicates outside a redundancy group with different ignore_soft_states: one group, two keys
example : (([ROp.add (rx 0 1 0 none false), ROp.add (rx 1 1 0 none true)].foldl applyOp {}).registry.map
    (fun g : Group => (g.ident.2.length, g.members.length))) = [(2, 2)] := by decide +kernel
-- the hypothesis of `registry_refines_set` holds for `exOps`
example : ∀ x, ROp.add x ∈ exOps → x.d.group ≠ some "" := by
  intro x hx
  simp only [exOps, List.mem_cons, List.not_mem_nil, or_false, ROp.add.injEq] at hx
  rcases hx with rfl | rfl | rfl | rfl <;> decide
-- a fresh load of the same four dependencies gives the same single group
example : ((pushAll ((exOps.foldl liveAfter [])) {} [(2, .named "g1"), (3, .named "g1")]).registry.map
    (fun g : Group => g.members.length)) = [4] := by decide +kernel

-- reachability through the registry: host 1 hard Down ⇒ child 2 (redundancy group over {0, 1}) stays reachable,
-- after member 0 is removed it is not; a plain dependency of child 3 on host 1 makes child 3 unreachable
def rxNode : Nat → Node
  | 1 => { isService := false, host := none, checked := true, stateRaw := 2, hard := true }
  | _ => { isService := false, host := none, checked := true, stateRaw := 0, hard := true }
example : isReachableR (exOps.foldl applyOp {}) rxNode id .state 2 = true := by decide +kernel
example : isReachableR ((exOps ++ [ROp.remove (rx 0 2 0 (some "g1") false)]).foldl applyOp {}) rxNode id .state 2 = false := by decide +kernel
example : isReachableR ((exOps ++ [ROp.add (rx 5 3 1 none false)]).foldl applyOp {}) rxNode id .state 3 = false := by decide +kernel
example : isReachableR ((exOps ++ [ROp.add (rx 5 3 1 none false)]).foldl applyOp {}) rxNode id .state 2 = true := by decide +kernel

example : parentsR (exOps.foldl applyOp {}) 2 = [0, 1] := by decide +kernel
example : parentsR ((exOps ++ [ROp.remove (rx 0 2 0 (some "g1") false)]).foldl applyOp {}) 2 = [1] := by decide +kernel
example : parentsR ((exOps ++ [ROp.remove (rx 0 2 0 (some "g1") false)]).foldl applyOp {}) 3 = [0, 1] := by decide +kernel

end RegistryExamples

section Examples

def exDep (c p : Nat) (grp : Option String) (dn : Bool) : Dep :=
  { child := c, parent := p, group := grp, stateFilter := 16, ignoreSoft := true, periodClosed := false,
    disableChecks := true, disableNotifications := dn }

/-- over the checkables `exNode`: s2 depends on h1 (plain, only in `exG'`) and, in redundancy group "dns", on h1
    and h3; h1 depends on h0 (plain). -/
def exG : Graph :=
  { node := exNode,
    deps := [exDep 2 1 (some "dns") true, exDep 2 3 (some "dns") true, exDep 1 0 none true] }

def exG' : Graph := { exG with deps := exDep 2 1 none false :: exG.deps }

def exRank : Nat → Nat | 0 => 0 | 1 => 1 | 2 => 2 | _ => 0

example : Ranked exG' exRank ∧ ∀ v, exRank v ≤ 256 := by
  constructor
  · unfold Ranked
    decide +kernel
  · intro v; unfold exRank; split <;> omega

-- redundancy group: one of two parents Down ⇒ still reachable; plain dependency on the Down parent ⇒ not
example : isReachable exG .state 2 = true := by decide +kernel
example : isReachable exG' .state 2 = false := by decide +kernel
example : isReachable exG' .checkExec 2 = false := by decide +kernel
example : (Aspect.all.map (fun dt => isReachable exG' dt 1)) = [true, true, true] := by decide +kernel
-- unavailability, and three of the disjuncts of `available_spec`: aspect not disabled, state listed, period closed
example : available exG .state (exDep 2 1 none true) = false := by decide +kernel
example : available exG .notification (exDep 2 1 none false) = true := by decide +kernel
example : available exG .state { exDep 2 1 none true with stateFilter := 32 } = true := by decide +kernel
example : available exG .state { exDep 2 1 none true with periodClosed := true } = true := by decide +kernel
-- the spec predicate rejects a wrong trace: claiming s2 reachable in `exG'` (state aspect)
example : specQuery 4 exG' (fun dt v => if dt = .state ∧ v = 2 then true else isReachable exG' dt v)
    (fun v => (depsOf exG' v).length) = some .reachState := by decide +kernel
-- … and a wrong dependency count
example : specQuery 4 exG (isReachable exG) (fun _ => 0) = some .liveSet := by decide +kernel
-- and accepts the model's answers (instance of `model_query_meets_spec`)
example : specQuery 4 exG' (isReachable exG') (fun v => (depsOf exG' v).length) = none := by decide +kernel

-- cycle checker: the example graph loads; closing a cycle h0 → s2 (through the implicit edge s2 → h0)
-- or h0 → h1 is rejected at runtime; a self-dependency is rejected
def exEmpty : Graph := { exG with deps := [] }
example : (cycleCheck exEmpty exG'.deps 4).accepted = true := by decide +kernel
example : cycleCheck exG' [exDep 0 2 none true] 4 = .cycle := by decide +kernel
example : cycleCheck exG' [exDep 0 1 none true] 4 = .cycle := by decide +kernel
example : cycleCheck exG' [exDep 3 3 none true] 4 = .cycle := by decide +kernel
example : (cycleCheck exG' [exDep 3 0 none true] 4).accepted = true := by decide +kernel
example : WellFormed exEmpty := by
  intro v h h1 h2
  obtain ⟨rfl, rfl⟩ := exNode_service h1 h2
  rfl
-- the spec's own acyclicity decision agrees and rejects an accepted cyclic load
example : acyclicSpec 4 exG' = true := by decide +kernel
example : Closed 4 (withNew exG' [exDep 0 2 none true]) := by
  constructor
  · show ∀ d ∈ (withNew exG' [exDep 0 2 none true]).deps, d.child < 4 ∧ d.parent < 4
    decide +kernel
  · intro v h h1 h2
    obtain ⟨rfl, rfl⟩ := exNode_service h1 h2
    decide
example : specLoad 4 (withNew exG' [exDep 0 2 none true]) true = some .cycleRejected := by decide +kernel
-- the fuel branch: a 2-cycle built behind the checker's back answers "unreachable"
set_option maxRecDepth 20000 in
example : isReachable { exG with deps := [exDep 0 1 none true, exDep 1 0 none true] } .checkExec 0 = false := by decide +kernel

end Examples

section HistoryExamples

def hxDep (c p : Nat) (grp : Option String) (per : Option Nat) : Dep :=
  { child := c, parent := p, group := grp, stateFilter := 16, ignoreSoft := false, periodClosed := false,
    disableChecks := true, disableNotifications := true, period := per }

/-- hosts 0, 1, 3 and the service 2 of host 0.  Loaded: 2 → 1 (plain, period 0) and 3 → 1 in group "g"; then a
    runtime creation 0 → 2 that closes a cycle through the implicit edge 2 ~> 0 (refused), host 1 is set hard
    Down (`exNode` has it so from the start: the step changes nothing), period 0 closes, the first dependency is removed. -/
def hxOps : List HOp :=
  [.load [(0, hxDep 2 1 none (some 0)), (1, hxDep 3 1 (some "g") none)], .edges, .query,
   .load [(2, hxDep 0 2 none none)], .edges,
   .setState 1 true 2 true, .query, .setPeriod 0 true, .query, .remove 0, .edges, .query]

def hxInit : HState := { cfg := { node := exNode } }

-- the hypothesis of `history_meets_spec` holds
example : WellFormed { node := exNode, deps := [] } := by
  intro v h h1 h2
  obtain ⟨rfl, rfl⟩ := exNode_service h1 h2
  rfl

-- what the history does: the cyclic creation is refused, the parent (hard Down from the start) makes the service unreachable,
-- closing the period frees the service again, the removal leaves one reverse dependency on host 1
example : (hrun 4 hxInit hxOps).filterMap (fun o => match o with | .load _ acc _ => some acc | _ => none) = [true, false] := by
  decide +kernel
example : ((hxOps.take 7).foldl (fun hs op => (hstep 4 hs op).1) hxInit).cfg.graph.deps.length = 2 := by decide +kernel
example : (Aspect.all.map (fun dt => isReachable ((hxOps.take 7).foldl (fun hs op => (hstep 4 hs op).1) hxInit).cfg.graph dt 2))
    = [false, false, false] := by decide +kernel
example : isReachable ((hxOps.take 9).foldl (fun hs op => (hstep 4 hs op).1) hxInit).cfg.graph .state 2 = true := by decide +kernel
example : (hxOps.foldl (fun hs op => (hstep 4 hs op).1) hxInit).reverse 1 = [1] := by decide +kernel
example : (hxOps.foldl (fun hs op => (hstep 4 hs op).1) hxInit).children 1 = [3] := by decide +kernel
-- the specification rejects wrong histories: a stale reverse dependency after the removal …
example : specEdges 4 [(1, hxDep 3 1 (some "g") none)] (fun v => if v = 3 then [1] else [])
    (fun v => if v = 1 then [3] else []) (fun v => if v = 1 then [0, 1] else []) = some .edges := by decide +kernel
-- … a missing parent …
example : specEdges 4 [(1, hxDep 3 1 (some "g") none)] (fun _ => [])
    (fun v => if v = 1 then [3] else []) (fun v => if v = 1 then [1] else []) = some .edges := by decide +kernel
-- … an accepted cyclic creation, and a refused one that nevertheless left its dependency behind
example : specObs 4 ((hxOps.take 3).foldl (fun hs op => (hstep 4 hs op).1) hxInit).cfg
    (.load [(2, hxDep 0 2 none none)] true (fun _ => 0)) = some .cycleRejected := by decide +kernel
example : specObs 4 ((hxOps.take 3).foldl (fun hs op => (hstep 4 hs op).1) hxInit).cfg
    (.load [(2, hxDep 0 2 none none)] false (fun v => if v = 0 then 1 else if v = 2 then 1 else if v = 3 then 1 else 0))
    = some .refusedUnchanged := by decide +kernel
-- and the correct observations pass
example : specEdges 4 [(1, hxDep 3 1 (some "g") none)] (fun v => if v = 3 then [1] else [])
    (fun v => if v = 1 then [3] else []) (fun v => if v = 1 then [1] else []) = none := by decide +kernel

end HistoryExamples

end Icinga.C07
