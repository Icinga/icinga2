/-
  C02 — property theorems.  Every `theorem` in this file is a proof obligation of the check.

  The model (IcingaModel/C02/Model.lean) transcribes the code *after* two repairs (`fix:` commits in /repo):
  F-C02a (37a9385: hosts compare UP/DOWN when releasing) and F-C02b (6126182: volatile objects do not request
  a Recovery when leaving a soft problem state).  With them the property holds for operations that happen one
  after the other; for a result processed while the handler runs it is false (F-C02c, last section).
-/
import IcingaProofs.C02.Refinement
import IcingaProofs.C02.Ack
import IcingaProofs.C02.System
import IcingaProofs.C02.Flap

namespace Icinga.C02
open Icinga.C01

/-- One processed result: the requests satisfy the property's clauses for
    results (flapping exactly on a toggle; Problem/Recovery exactly on a hard event; nothing while
    flapping, paused, suppressed or while earlier events are withheld), the two attributes remember the
    withheld event and the hard state before suppression began, and the relation is re-established. -/
theorem result_step_meets_spec (c : Cfg) (hmax : 1 ≤ c.max) (sp : SpecSt) (s : St) (r : Res) (e : REnv)
    (hr : Rel c sp s) :
    (specStep c sp (applyOp c s (.result r e)).2).1 = none ∧
    Rel c (specStep c sp (applyOp c s (.result r e)).2).2 (applyOp c s (.result r e)).1 :=
  step_rel c sp s _ hr

/-- One run of the suppressed-notification handler: never while a suppression
    reason holds, never without a withheld event, no release before the object rests in a hard state
    and is settled (next check not imminent — computed from `enable_active_checks`, `check_interval`
    and `next_check`, not taken from the implementation —, no parent recovered since the last
    result), at release exactly one notification iff the state differs from the remembered one
    (Recovery iff OK/Up now), afterwards nothing is withheld; the attributes agree with that. -/
theorem fire_step_meets_spec (c : Cfg) (sp : SpecSt) (s : St) (e : FEnv) (hr : Rel c sp s) :
    (specStep c sp (applyOp c s (.fire e)).2).1 = none ∧
    Rel c (specStep c sp (applyOp c s (.fire e)).2).2 (applyOp c s (.fire e)).1 :=
  step_rel c sp s _ hr

/-- The whole property, from any start.  For every configuration with
    `max_check_attempts ≥ 1`, every start state satisfying `StartOK` — whatever is withheld and
    remembered in it, e.g. after a restart or a failover — and every finite sequence of check results
    and handler runs with arbitrary environments at every step, the model's trace satisfies the
    executable specification started from the bookkeeping read off that state. -/
theorem model_trace_meets_spec_from (c : Cfg) (hmax : 1 ≤ c.max) (s0 : St) (h0 : StartOK c s0) (ops : List Op) :
    specTrace c (specOf s0) (traceOf c s0 ops) = none :=
  trace_spec c s0 h0 ops

/-- The whole property, from a never-checked object. -/
theorem model_trace_meets_spec (c : Cfg) (hmax : 1 ≤ c.max) (ops : List Op) :
    specTrace c specInit (traceOf c init ops) = none :=
  model_trace_meets_spec_from c hmax init (startOK_init c) ops

/-- While a suppression reason holds the handler requests no state
    notification and keeps the withheld event. -/
theorem never_while_suppressed (c : Cfg) (s : St) (e : FEnv) (h : e.stateSuppressed = true) :
    statePart (fireStep c s e).2 = [] ∧ (fireStep c s e).1.sup.hasState = s.sup.hasState := by
  obtain ⟨a1, a2, _, _⟩ := fireStep_released c s e
  have hr : ready s e = false := by simp [ready, h]
  rw [a1, a2, hr]
  simp

/-- Over any number of consecutive handler runs, from any state and under arbitrary
    environments, at most one state notification is requested in total; none at all if nothing is
    withheld at the start. -/
theorem never_two (c : Cfg) (s : St) (es : List FEnv) :
    (statePart (fireRun c s es).2).length ≤ 1 ∧
    (s.sup.hasState = false → statePart (fireRun c s es).2 = []) := by
  rw [(fireRun_released c s es).requests]
  constructor
  · split <;> simp
  · intro h
    simp [h]

/-- Handler runs at which the release conditions do not all hold
    (any of: paused, notifications off, a suppression reason, soft state, imminent check, recent
    parent recovery) request no state notification and keep the withheld event and the remembered
    state — however many there are. -/
theorem withheld_event_kept_until_ready (c : Cfg) (s : St) (es : List FEnv)
    (hn : ∀ e ∈ es, ready s e = false) :
    statePart (fireRun c s es).2 = [] ∧ (fireRun c s es).1.sup.hasState = s.sup.hasState ∧
    (fireRun c s es).1.sbs = s.sbs ∧ (fireRun c s es).1.core = s.core := by
  have hany : es.any (ready s) = false := by simpa using hn
  obtain ⟨a1, a2, a3, a4⟩ := fireRun_released c s es
  rw [a1, a2, hany]
  exact ⟨by simp, by simp, a3, a4⟩

/-- With state notifications withheld: over handler runs of which `e` is the first to meet the release conditions
    (`ready`), whatever runs follow it, exactly one state notification is requested in all iff the (projected)
    state differs from the remembered one, of type Recovery iff the state is OK/Up, and none otherwise; after
    `e` nothing is withheld.  The runs before `e` request none and keep the event
    (`withheld_event_kept_until_ready`), so the request falls on `e`. -/
theorem release_at_first_ready_firing (c : Cfg) (s : St) (es : List FEnv) (e : FEnv) (later : List FEnv)
    (hp : s.sup.hasState = true) (hn : ∀ e' ∈ es, ready s e' = false) (hr : ready s e = true) :
    statePart (fireRun c s (es ++ e :: later)).2 =
      (if proj c.kind s.core.state != proj c.kind s.sbs
       then [⟨if isOK c.kind s.core.state then .recovery else .problem, s.core.state⟩] else []) ∧
    (fireRun c s (es ++ [e])).1.sup.hasState = false := by
  have h1 : (es ++ e :: later).any (ready s) = true := by simp [hr]
  have h2 : (es ++ [e]).any (ready s) = true := by simp [hr]
  rw [(fireRun_released c s _).requests, (fireRun_released c s _).hasState, hp, h1, h2]
  exact ⟨rfl, rfl⟩

/-- The first sentence of the property, on the model: a processed result requests a
    state notification at once iff it is a hard event of the property, the object is neither flapping
    nor paused, no suppression reason holds and nothing is withheld; its type is Recovery iff the
    object returned to OK/Up. -/
theorem immediate_request (c : Cfg) (hmax : 1 ≤ c.max) (s : St) (r : Res) (e : REnv)
    (hok : isOK c.kind s.core.state = true → s.core.stype = .hard) (hst : stale s.core r = false) :
    let s' := (stepCore c s.core r).1
    statePart (resultStep c s r e).2.1 =
      (match hardEvent c s.core.state s.core.stype s'.state s'.stype with
       | some t =>
         if !e.isFlapping && !e.paused && !(!e.notifReachable || e.inDowntime || e.acked) && !s.sup.hasState
         then [⟨t, s'.state⟩] else []
       | none => []) := by
  intro s'
  rw [resultStep_of_not_stale c s r e hst, (notifyOnResult_parts c s.core s' s.sup s.sbs e).2,
    hardEvent_eq c s.core s'.state s'.stype hok (stepCore_ok_hard c s.core r), statePartOf_snd]
  cases sendOf c s.core s'.state s'.stype
  · rfl
  · simp only [Bool.true_and, Bool.not_or, Bool.and_assoc, if_true]

/-! ## The suppression reason "acknowledged" (acknowledgement set / clear / expiry)

  The code keeps two attributes and clears them lazily inside `GetAcknowledgement()` when the expiry time
  has passed; the property speaks about the acknowledgement that the operations put in force. -/

/-- For every sequence of acknowledgement operations (set — also on top of an
    acknowledgement already in place —, clear, accepted results with or without a state change / a
    recovery, reads) at non-decreasing virtual times, after every operation `IsAcknowledged()` answers
    exactly "an acknowledgement was set, not cleared since, not ended by a state change (normal) / the
    recovery (sticky), and its own expiry time — if it has one — has not passed": the newest
    acknowledgement replaces the one in place, including its expiry. -/
theorem ack_trace_meets_spec (ops : List (Int × AckOp)) (t0 : Int) (hm : monotoneFrom t0 ops = true) :
    specAckTrace {} 0 (ackTraceOf ackCleared ops) = none :=
  ackInv_trace ackCleared {} t0 0 (ackInv_none rfl) ops hm

/-- An acknowledgement set without expiry — whatever was in place before, e.g. one with an expiry time —
    is still in place after any number of reads of `IsAcknowledged()`, at whatever times they happen, and
    is reported when asked at any of those times. -/
theorem ack_without_expiry_stays_in_force (a : AckSt) (sticky : Bool) (t : Int) (reads : List Int) :
    ∀ now ∈ reads, isAcked (reads.foldl (fun a' n => ackStep a' n .query) (ackStep a t (.set sticky 0))) now = true := by
  have hfix : ∀ l : List Int, l.foldl (fun a' n => ackStep a' n .query) (ackSet sticky 0) = ackSet sticky 0 := by
    intro l
    induction l with
    | nil => rfl
    | cons x xs ih => simpa only [List.foldl_cons, ackStep, getAck_set_zero] using ih
  have h0 : ackStep a t (.set sticky 0) = ackSet sticky 0 := by simp only [ackStep, getAck_set_zero]
  intro now _
  rw [h0, hfix, isAcked, getAck_set_zero]
  cases sticky <;> rfl

/-- The hypothesis of `ack_trace_meets_spec` is needed (and is what the virtual clock guarantees): with a
    clock that runs backwards the lazily cleared attributes forget an acknowledgement that is in force. -/
example : specAckTrace {} 0 (ackTraceOf ackCleared [(10, .set true 20), (21, .query), (15, .query)]) = some 2 := by decide +kernel

/-- Non-vacuity: a sticky acknowledgement with expiry, replaced by one without, read after the first one's expiry
    time, kept over a change between problem states, ended by the recovery; a normal one with expiry time 40, in
    force at 40, gone at 41. -/
example : (ackTraceOf ackCleared [(10, .set true 20), (11, .set true 0), (30, .query), (31, .result true false),
    (32, .result true true), (33, .set false 40), (40, .query), (41, .query)]).map (·.2.2) =
    [true, true, true, true, false, true, true, false] := by decide +kernel

/-- The specification rejects a trace in which the acknowledgement without expiry that replaced one
    expiring at 20 is gone at time 30 (the older expiry time was kept). -/
example : specAckTrace {} 0 [(10, .set true 20, true), (11, .set true 0, true), (30, .query, false)] = some 2 := by decide +kernel

/-- … and one in which a sticky acknowledgement is dropped by a change between problem states. -/
example : specAckTrace {} 0 [(10, .set true 0, true), (11, .result true false, false)] = some 1 := by decide +kernel

def exCfg : Cfg := { kind := .service, max := 1, volatile := false }
def envClean : REnv := ⟨true, false, false, false, false, false⟩
def envDowntime : REnv := ⟨true, true, false, false, false, false⟩
/-- active checks, check_interval 5 min, next check in 4 min -/
def fireClean : FEnv := ⟨false, true, false, false, false, true, 300000000, 240000000, false⟩
/-- active checks, check_interval 30 s, next check in 25 s: not imminent (25 s > 30 s − 10 s) -/
def fireShort : FEnv := { fireClean with interval := 30000000, nextIn := 25000000 }

def fireSuppressed : FEnv := { fireClean with stateSuppressed := true }
def fireSoon : FEnv := { fireShort with nextIn := 20000000 }

def notifsOf : Obs → List Notif | .result _ _ _ _ ns _ _ => ns | .fire _ ns _ _ => ns

/-- OK, then CRITICAL inside a downtime (withheld, remembered state OK), then release: one Problem. -/
example : (traceOf exCfg init [.result ⟨.ok, 1, 1⟩ envClean, .result ⟨.critical, 2, 2⟩ envDowntime, .fire fireClean]).map notifsOf =
    [[], [], [⟨.problem, .critical⟩]] := by decide +kernel

/-- The same with a 30 s check interval and the next check 25 s away: released (not imminent); with the
    next check 20 s away: kept. -/
example : (traceOf exCfg init [.result ⟨.ok, 1, 1⟩ envClean, .result ⟨.critical, 2, 2⟩ envDowntime,
    .fire fireSoon, .fire fireShort, .fire fireShort]).map notifsOf =
    [[], [], [], [⟨.problem, .critical⟩], []] := by decide +kernel

/-- `release_at_first_ready_firing` applies to a concrete state: hypotheses are satisfiable. -/
example : ∃ s : St, s.sup.hasState = true ∧ ready s fireSuppressed = false ∧ ready s fireShort = true :=
  ⟨{ core := { state := .critical, stype := .hard, attempt := 1, lastHard := .critical, lastExec := some 2 },
     sup := { problem := true }, sbs := .ok }, by decide +kernel⟩

/-- `model_trace_meets_spec_from`: a restored object with a withheld Recovery and remembered WARNING. -/
def exRestored : St :=
  { core := { state := .ok, stype := .hard, attempt := 1, lastHard := .ok, lastExec := some 2 },
    sup := { recovery := true, flapEnd := true }, sbs := .warning }
example : StartOK exCfg exRestored := by
  constructor <;> decide

/-- The specification rejects a trace in which the withheld Problem is released while still suppressed. -/
example : specTrace exCfg specInit
    [.result true .ok .hard envClean [] false .ok, .result true .critical .hard envDowntime [] true .ok,
     .fire fireSuppressed [⟨.problem, .critical⟩] true .ok] = some .fireSuppressed := by decide +kernel

/-- … one in which a Recovery is requested for a soft problem that went away … -/
example : specTrace { kind := .service, max := 3, volatile := false } specInit
    [.result true .ok .hard envClean [] false .ok, .result true .critical .soft envClean [] false .ok,
     .result true .ok .hard envClean [⟨.recovery, .ok⟩] false .ok] = some .stateNone := by decide +kernel

/-- … one in which the withheld Problem is not released although the 30 s-interval object's next check
    is 25 s away (as a handler does that takes "within a minute" for imminent whatever the interval) … -/
example : specTrace exCfg specInit
    [.result true .ok .hard envClean [] false .ok, .result true .critical .hard envDowntime [] true .ok,
     .fire fireShort [] true .ok] = some .fireRelease := by decide +kernel

/-- … and one in which the remembered state is not the hard state before suppression began. -/
example : specTrace exCfg specInit
    [.result true .warning .hard envClean [⟨.problem, .warning⟩] false .ok,
     .result true .critical .hard envDowntime [] true .ok] = some .remembered := by decide +kernel

/-! ## Flapping detection (the toggle the property takes as given) -/

/-- For every sequence of results the code's ring buffer with its
    rotating index (checkable-flapping.cpp:39-90) decides exactly like a sliding window over the last
    20 results whose state-change flags weigh 0.8 (oldest) … 1.18 (newest): same flapping state and same
    exact ties with the threshold after every result, from a new object (from any pair of related states:
    `flapRel_run`). -/
theorem flapping_ring_is_sliding_window (fc : FlapCfg) (rs : List SState) :
    flapRun fc {} rs = specFlapRun fc {} rs :=
  flapRel_run fc {} {} flapRel_init rs

/-- With `flapping_threshold_low ≤ flapping_threshold_high`: an
    object that is not flapping and whose weighted total is not above the high threshold (true of every
    non-flapping state the detection itself produced, second part) does not start flapping on a result
    that repeats the previous state — so a FlappingStart can only be due on a result that changes the
    state. -/
theorem flapping_starts_only_on_state_change (fc : FlapCfg) (hlh : fc.low ≤ fc.high) (sf : SpecFlap) (new : SState) :
    (sf.flapping = false → windowSum sf.window ≤ 20 * fc.high → new = sf.last →
      (specFlapStep fc sf new).1.flapping = false) ∧
    ((specFlapStep fc sf new).1.flapping = false → windowSum (specFlapStep fc sf new).1.window ≤ 20 * fc.high) := by
  rw [specFlapStep_flapping, flapDecide_false]
  constructor
  · intro hf hs hn
    subst hn
    have := windowSum_slide_false sf.window
    simp only [specFlapStep, hf, bne_self_eq_false, Bool.false_eq_true, if_false]
    omega
  · intro h
    split at h <;> omega

/-- After 20 consecutive results that repeat the state, the window holds
    no state change and the object is not flapping — whatever the window, the thresholds and the
    flapping state were before (a FlappingEnd is due then at the latest). -/
theorem stable_object_stops_flapping (fc : FlapCfg) (sf : SpecFlap) (hlen : sf.window.length = 20) :
    ((List.replicate 20 sf.last).foldl (fun f r => (specFlapStep fc f r).1) sf).flapping = false := by
  have hw := window_after_stable fc 20 sf (by omega)
  have h0 : sf.window.drop 20 = [] := by rw [← hlen]; simp
  rw [h0, List.nil_append] at hw
  -- the flag is decided at each result from the window after it: the last result is split off, it sees no change
  have hsplit : List.replicate 20 sf.last = List.replicate 19 sf.last ++ [sf.last] := by
    rw [← List.replicate_succ']
  rw [hsplit, List.foldl_append] at hw ⊢
  simp only [List.foldl_cons, List.foldl_nil] at hw ⊢
  have hz : windowSum (List.replicate 20 false) = 0 := windowSumFrom_replicate_false 0 20
  rw [specFlapStep_flapping, hw, hz, flapDecide_false]
  omega

/-- Non-vacuity: a service alternating between OK and CRITICAL starts flapping at the sixth result
    (six state changes weighing 1.08 … 1.18: 33.9 % > 30 %). -/
example : (flapRun {} {} [.ok, .critical, .ok, .critical, .ok, .critical, .ok, .critical]).map (·.1) =
    [false, false, false, false, false, true, true, true] := by decide +kernel

/-- The hypotheses of `flapping_starts_only_on_state_change` hold of a new object. -/
example : ({} : SpecFlap).flapping = false ∧ windowSum ({} : SpecFlap).window ≤ 20 * ({} : FlapCfg).high := by decide +kernel

/-- The hypothesis of `stable_object_stops_flapping` holds of a new object (and is preserved by every result:
    `specFlapStep_window_length`). -/
example : ({} : SpecFlap).window.length = 20 := by decide +kernel

/-- Exact ties exist (six state changes weighing 6.00 in total = 30 %): there binary64 rounding decides in the code. -/
example : (flapDecide {} false 600).2 = true ∧ (flapDecide {} false 600).1 = false ∧ (flapDecide {} true 502).1 = true := by decide +kernel

/-- `IsAcknowledged()` is not an input here: for every
    configuration, every start (bookkeeping related to the attributes, acknowledgement related to the two
    acknowledgement attributes) and every sequence of results, handler runs, acknowledgement set (also
    on top of one in place) and clear at non-decreasing virtual times — all other environment facts
    arbitrary at every step — (1) the requests and the two suppression attributes satisfy the
    specification of the property, where the environment's "acknowledged" is what the code reads from
    its lazily expiring attributes after the result's own clearing, and (2) that value is at every
    operation the acknowledgement in force according to the operations performed. -/
theorem system_trace_meets_spec_from (c : Cfg) (hmax : 1 ≤ c.max) (ops : List (Int × SysOp)) :
    ∀ (y : Sys) (sp : SpecSt) (sa : SpecAck) (t0 : Int) (i : Nat),
      Rel c sp y.s → AckInv y.a sa t0 → sysMonotoneFrom t0 ops = true →
      specTrace c sp ((sysTrace c y ops).filterMap (·.1)) = none ∧
      specAckTrace sa i ((sysTrace c y ops).map (·.2)) = none := by
  induction ops with
  | nil => intro _ _ _ _ _ _ _ _; exact ⟨rfl, rfl⟩
  | cons x rest ih =>
    intro y sp sa t0 i hr ha hm
    obtain ⟨now, op⟩ := x
    obtain ⟨rfl, hstart⟩ := rel_iff.mp hr
    simp only [sysMonotoneFrom, Bool.and_eq_true, decide_eq_true_eq] at hm
    obtain ⟨hobs, hinv⟩ := ackInv_step y.a sa t0 now (sysAckOp c y.s op) ha hm.1
    obtain ⟨hrec, hattrs⟩ := sysStep_ack c y now op
    obtain ⟨hstep, hstart'⟩ := sysStep_spec c y now op hstart
    -- the rest runs from the next system; its acknowledgement attributes are `ackStep`'s (`hattrs`)
    obtain ⟨ihSpec, ihAck⟩ :=
      ih (sysStep c y now op).1 _ _ now (i + 1) (rel_specOf hstart') (hattrs ▸ hinv) hm.2
    rw [sysTrace, List.map_cons, hrec, specAckTrace_cons_ok _ _ _ _ _ _ hobs]
    refine ⟨?_, ihAck⟩
    -- the specification's run skips an operation that shows nothing
    cases ho : (sysStep c y now op).2.1 with
    | none =>
      simp only [ho] at hstep
      simp only [List.filterMap_cons, ho]
      exact hstep ▸ ihSpec
    | some o =>
      simp only [ho] at hstep
      simp only [List.filterMap_cons, ho]
      rw [specTrace_cons_ok c _ _ _ _ hstep]
      exact ihSpec

/-- From a never-checked, never-acknowledged object. -/
theorem system_trace_meets_spec (c : Cfg) (hmax : 1 ≤ c.max) (ops : List (Int × SysOp)) (t0 : Int)
    (hm : sysMonotoneFrom t0 ops = true) :
    specTrace c specInit ((sysTrace c ⟨init, ackCleared⟩ ops).filterMap (·.1)) = none ∧
    specAckTrace {} 0 ((sysTrace c ⟨init, ackCleared⟩ ops).map (·.2)) = none :=
  system_trace_meets_spec_from c hmax ops ⟨init, ackCleared⟩ specInit {} t0 0 (rel_init c) (ackInv_none rfl) hm

/-- Non-vacuity: CRITICAL, sticky acknowledgement expiring at 20 replaced by one without expiry, WARNING
    (withheld: acknowledged), handler at 400 (still acknowledged: kept), clear, handler (released). -/
example : ((sysTrace exCfg ⟨init, ackCleared⟩
    [(1, .result ⟨.ok, 1, 1⟩ envClean), (2, .result ⟨.critical, 2, 2⟩ envClean), (3, .ackSet true 20), (4, .ackSet true 0),
     (5, .result ⟨.warning, 5, 5⟩ envClean), (400, .fire fireClean), (401, .ackClear), (402, .fire fireClean)]).filterMap (·.1)).map notifsOf =
    [[], [⟨.problem, .critical⟩], [], [], [⟨.problem, .warning⟩]] := by decide +kernel

/-- The clock hypothesis of `system_trace_meets_spec` on the run above up to the handler run at 400. -/
example : sysMonotoneFrom 0 [(1, .result ⟨.ok, 1, 1⟩ envClean), (2, .result ⟨.critical, 2, 2⟩ envClean), (3, .ackSet true 20),
    (4, .ackSet true 0), (5, .result ⟨.warning, 5, 5⟩ envClean), (400, .fire fireClean)] = true := by decide +kernel

/-! ## The handler and a concurrent result (F-C02c)

  Full statement — FALSE of the unchanged code, see `handler_result_pair_counterexample`:

    theorem handler_result_pair (c) (hmax : 1 ≤ c.max) (sp s ef ef' r er) (hr : Rel c sp s) :
      let o := fireResultStep c s ef r er
      (specFireResult c sp ef ef' o.2.2.1 o.1.core.state o.1.core.stype er o.2.1 o.1.sup.hasState o.1.sbs).1 = none

  i.e. a handler run and a check result processed by another thread in between the handler's unlocked read
  of `suppressed_notifications` (checkable-notification.cpp:143) and its write (:237-245) look like one of
  the two sequential orders. -/

/-- When the handler requests nothing at that run (there is no point at
    which the result could slip in between its decision and its bookkeeping), the pair satisfies the
    property as "handler, then result" — for every state and all environments. -/
theorem handler_result_pair_partial (c : Cfg) (hmax : 1 ≤ c.max) (sp : SpecSt) (s : St) (ef ef' : FEnv) (r : Res) (er : REnv)
    (hr : Rel c sp s) (hq : (fireStep c s ef).2 = []) :
    let o := fireResultStep c s ef r er
    (specFireResult c sp ef ef' o.2.2.1 o.1.core.state o.1.core.stype er o.2.1 o.1.sup.hasState o.1.sbs).1 = none := by
  obtain ⟨rfl, h⟩ := rel_iff.mp hr
  exact handler_result_pair_sequential c s ef ef' r er h (by simp [hq])

def cxS : St :=
  { core := { state := .critical, stype := .hard, attempt := 1, lastHard := .critical, lastExec := some 2 },
    sup := { problem := true }, sbs := .ok }

/-- F-C02c, reproduced on the real code by corpus/C02/f_c02c_result_during_handler.ops.  The handler requests the Problem; the OK result that
    arrives before the handler's subtraction is stashed as "pending" (the old bits are still set) and
    then cleared unseen: a Problem was notified, the object is OK, nothing is withheld, and no Recovery
    is or ever will be requested — neither "handler, then result" (Problem, Recovery) nor "result,
    then handler" (nothing). -/
theorem handler_result_pair_counterexample :
    let o := fireResultStep exCfg cxS fireClean ⟨.ok, 3, 3⟩ envClean
    o.2.1 = [⟨.problem, .critical⟩] ∧ o.1.core.state = .ok ∧ o.1.sup.hasState = false ∧
    (specFireResult exCfg (specOf cxS) fireClean fireClean o.2.2.1 o.1.core.state o.1.core.stype envClean o.2.1
      o.1.sup.hasState o.1.sbs).1 = some .lostUpdate := by decide +kernel

end Icinga.C02
