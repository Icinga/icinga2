/-
  C10 — property theorems.  Every `theorem` in this file is a proof obligation of the check:
  `./check C10` lists them, runs `#print axioms` on each and fails if a required one is missing.
-/
import IcingaProofs.C10.Trace
import IcingaProofs.C10.Links

namespace Icinga.C10

def exCfg : ObjCfg := { name := [0x68, 0x31], runOnce := true, active := true }

def ob (p : Bool) (pc rc : Nat) : Obj := { paused := p, pauses := pc, resumes := rc }

/-- The zone's members reach `UpdateObjectAuthority` in the iteration order of a `std::set<Endpoint::Ptr>`
    (by address, different on every node): the verdict does not depend on that order. -/
theorem authority_order_irrelevant (ms₁ ms₂ : List Name) (h : ms₁.Perm ms₂) (self : Name) (conn : Name → Bool)
    (start now : Int) (name : Name) :
    authority (some ms₁) self conn start now name = authority (some ms₂) self conn start now name :=
  authority_congr (h.filter _) (by rw [h.length_eq]) start now name

/-- Any number of members that all see each other: every one of them decides,
    and the one that decides "authority" is the same member `o` of the zone for all of them (names being the
    identities of endpoints, exactly one is active).  The two-member property is the case `ms.length = 2`. -/
theorem exactly_one_general (ms : List Name) (hne : ms ≠ []) (name : Name) :
    ∃ o ∈ ms, ∀ self ∈ ms, ∀ (msS : List Name) (conn : Name → Bool) (start now : Int),
      msS.Perm ms → (∀ e ∈ ms, e ≠ self → conn e = true) →
      authority (some msS) self conn start now name = .set (o == self) := by
  obtain ⟨o, hom, ho⟩ := ownerOf_sort hne name
  refine ⟨o, hom, fun self _ msS conn start now hperm hconn => ?_⟩
  rw [authority_order_irrelevant msS ms hperm]
  exact authority_all (fun e he => (Decidable.em (e = self)).imp_right (hconn e he)) ho start now

example : ∃ o ∈ [[0x61], [0x62], [0x63]], ∀ self ∈ [[0x61], [0x62], [0x63]], ∀ (msS : List Name) (conn : Name → Bool)
    (start now : Int), msS.Perm [[0x61], [0x62], [0x63]] → (∀ e ∈ [[0x61], [0x62], [0x63]], e ≠ self → conn e = true) →
    authority (some msS) self conn start now [0x68, 0x31] = .set (o == self) :=
  exactly_one_general [[0x61], [0x62], [0x63]] (by decide +kernel) [0x68, 0x31]

/-- Two distinct endpoints of a two-member zone that see each other: for *every* object name —
    whatever the iteration order of the members on either node, whatever the start times and clocks — both
    decide, and exactly one of them decides "authority". -/
theorem exactly_one (nA nB : Name) (hne : nA ≠ nB) (msA msB : List Name)
    (hA : msA.Perm [nA, nB]) (hB : msB.Perm [nA, nB])
    (connA connB : Name → Bool) (hcA : connA nB = true) (hcB : connB nA = true)
    (startA nowA startB nowB : Int) (name : Name) :
    ∃ a b, authority (some msA) nA connA startA nowA name = .set a ∧
           authority (some msB) nB connB startB nowB name = .set b ∧ a = !b := by
  obtain ⟨o, hom, ho⟩ := exactly_one_general [nA, nB] (List.cons_ne_nil _ _) name
  refine ⟨_, _, ho nA (.head _) msA connA startA nowA hA (by simp [hcA]),
    ho nB (.tail _ (.head _)) msB connB startB nowB hB (by simp [hcB]), beq_pair hne hom⟩

example : ∃ a b, authority (some [[0x62], [0x61]]) [0x61] (· == [0x62]) 100 100 [0x68, 0x31] = .set a ∧
    authority (some [[0x61], [0x62]]) [0x62] (· == [0x61]) 0 5 [0x68, 0x31] = .set b ∧ a = !b :=
  exactly_one [0x61] [0x62] (by decide +kernel) _ _ (List.Perm.swap _ _ _) (List.Perm.refl _) _ _ (by decide +kernel) (by decide +kernel) _ _ _ _ _

/-- Two nodes whose candidate sets (connected members plus self) are the same *set*
    compute the same owner for every name, from the name and that set alone: neither the iteration order,
    nor the start times, nor the clocks enter.  Whenever a node decides, its decision is "the owner is me". -/
theorem same_split_independently (ms₁ ms₂ : List Name) (self₁ self₂ : Name) (conn₁ conn₂ : Name → Bool)
    (s₁ n₁ s₂ n₂ : Int) (name : Name) (a₁ a₂ : Bool)
    (h : (candidates ms₁ self₁ conn₁).Perm (candidates ms₂ self₂ conn₂))
    (h₁ : authority (some ms₁) self₁ conn₁ s₁ n₁ name = .set a₁)
    (h₂ : authority (some ms₂) self₂ conn₂ s₂ n₂ name = .set a₂) :
    ∃ o, ownerOf (sortNames (candidates ms₁ self₁ conn₁)) name = some o ∧
         ownerOf (sortNames (candidates ms₂ self₂ conn₂)) name = some o ∧
         a₁ = (o == self₁) ∧ a₂ = (o == self₂) := by
  obtain ⟨o₁, ho₁, rfl⟩ := authority_set_inv h₁
  obtain ⟨o₂, ho₂, rfl⟩ := authority_set_inv h₂
  rw [← sortNames_congr h] at ho₂ ⊢
  cases ho₁.symm.trans ho₂
  exact ⟨o₁, ho₁, ho₁, rfl, rfl⟩

example : ∃ o, ownerOf (sortNames (candidates [[0x62], [0x61]] [0x61] (fun _ => true))) [0x68, 0x31] = some o ∧
    ownerOf (sortNames (candidates [[0x61], [0x62]] [0x62] (fun _ => true))) [0x68, 0x31] = some o ∧
    false = (o == [0x61]) ∧ true = (o == [0x62]) :=
  same_split_independently [[0x62], [0x61]] [[0x61], [0x62]] [0x61] [0x62] (fun _ => true) (fun _ => true) 0 0 5 9
    [0x68, 0x31] false true (List.Perm.swap _ _ _) (by decide +kernel) (by decide +kernel)

/-- The peer(s) disconnected and the start-up grace period over: the remaining endpoint
    decides "authority" for every name. -/
theorem alone_after_grace (ms : List Name) (self : Name) (conn : Name → Bool) (start now : Int) (name : Name)
    (hnd : ms.Nodup) (hself : self ∈ ms) (hconn : ∀ e ∈ ms, e ≠ self → conn e = false)
    (hstart : start ≠ 0) (hage : 30 ≤ now - start) :
    authority (some ms) self conn start now name = .set true := by
  rw [authority_alone hnd hself hconn, inGrace_old hstart hage, Bool.and_false]
  rfl

example : authority (some [[0x61], [0x62]]) [0x62] (fun _ => false) 1000 1030 [0xff] = .set true :=
  alone_after_grace _ _ _ _ _ _ (by decide +kernel) (by decide +kernel) (by intros; rfl) (by decide +kernel) (by decide +kernel)

/-- More than one member, nobody else connected, and the process younger than 30 s (or its
    start time not yet known): the run decides nothing, and no object is touched. -/
theorem cold_start_no_change (ms : List Name) (self : Name) (conn : Name → Bool) (start now : Int) (name : Name)
    (hnd : ms.Nodup) (hself : self ∈ ms) (hmany : 1 < ms.length) (hconn : ∀ e ∈ ms, e ≠ self → conn e = false)
    (hyoung : start = 0 ∨ now - start < 30) (c : ObjCfg) (o : Obj) :
    authority (some ms) self conn start now name = .keep ∧
    applyVerdict c o (authority (some ms) self conn start now name) = o := by
  rw [authority_alone hnd hself hconn, (inGrace_iff start now).2 hyoung, decide_eq_true hmany]
  exact ⟨rfl, applyVerdict_keep c o⟩

example : authority (some [[0x61], [0x62]]) [0x61] (fun _ => false) 1000 1029 [0x68] = .keep :=
  (cold_start_no_change _ _ _ _ _ _ (by decide +kernel) (by decide +kernel) (by decide +kernel) (by intros; rfl) (Or.inr (by decide +kernel))
    { name := [], runOnce := true, active := true } (ob true 0 0)).1

/-- Without a local zone every run decides "authority" for every name, and after one run
    over any set of objects every active run-once object is unpaused. -/
theorem no_zone_all_active (self : Name) (conn : List Client) (start now : Int) (cfgs : List ObjCfg) (objs : List Obj) :
    (∀ name, authority none self (connectedTo conn) start now name = .set true) ∧
    ∀ (i : Nat) (c : ObjCfg) (o : Obj),
      cfgs[i]? = some c →
      (Node.update cfgs { zone := none, self := self, clients := conn, start := start, objs := objs } now).objs[i]? = some o →
      touched c = true → o.paused = false := by
  refine ⟨fun _ => rfl, fun i c o hc ho ht => ?_⟩
  rw [Node.update_getElem?, hc] at ho
  obtain ⟨o0, -, rfl⟩ := Option.map_eq_some_iff.1 ho
  exact applyVerdict_set_paused ht o0 true

example : (Node.update [exCfg] { zone := none, self := [0x61], clients := [], start := 0, objs := [fresh exCfg] } 7).objs
    = [(ob false 0 1)] := by decide +kernel

/-- A zone of one's own (one member) behaves like no zone at all: always "authority", never a cold start. -/
theorem single_member_all_active (self : Name) (conn : Name → Bool) (start now : Int) (name : Name) :
    authority (some [self]) self conn start now name = .set true :=
  authority_single self conn start now name

/-- The `% 0` of apilistener-authority.cpp:71 is unreachable when the local endpoint is a member of its zone. -/
theorem never_undefined (ms : List Name) (self : Name) (conn : Name → Bool) (start now : Int) (name : Name)
    (hself : self ∈ ms) : authority (some ms) self conn start now name ≠ .undefined := by
  have hmem : self ∈ candidates ms self conn := List.mem_filter.2 ⟨hself, by simp⟩
  obtain ⟨o, _, ho⟩ := ownerOf_sort (List.ne_nil_of_mem hmem) name
  simp only [authority, ho]
  split <;> simp

example : authority (some [[0x62], [0x61]]) [0x61] (fun _ => false) 0 0 [0xff] ≠ .undefined :=
  never_undefined _ _ _ _ _ _ (by decide +kernel)

/-- The number of false→true changes along `prev :: as`. -/
def ups (prev : Bool) : List Bool → Nat
  | [] => 0
  | a :: as => (if !prev && a then 1 else 0) + ups a as

/-- The number of true→false changes along `prev :: as`. -/
def downs (prev : Bool) : List Bool → Nat
  | [] => 0
  | a :: as => (if prev && !a then 1 else 0) + downs a as

/-- Over any sequence of authority decisions applied to an object the number of
    `Resume()` calls is the number of false→true changes of the authority and the number of `Pause()` calls the
    number of true→false changes (the authority before the sequence being `!paused`); afterwards `paused` is the
    negation of the last decision. -/
theorem pause_resume_once_per_change (ds : List Bool) : ∀ (o : Obj),
    (ds.foldl setAuthority o).resumes = o.resumes + ups (!o.paused) ds ∧
    (ds.foldl setAuthority o).pauses = o.pauses + downs (!o.paused) ds ∧
    (∀ a, ds.getLast? = some a → (ds.foldl setAuthority o).paused = !a) := by
  induction ds with
  | nil => exact fun o => ⟨rfl, rfl, nofun⟩
  | cons d ds ih =>
    intro o
    obtain ⟨h1, h2, h3⟩ := ih (setAuthority o d)
    rw [setAuthority_paused, Bool.not_not] at h1 h2
    refine ⟨?_, ?_, fun a ha => ?_⟩
    -- `setAuthority_eq` counts `d && o.paused`, `ups (!o.paused)` counts `!!o.paused && d` (likewise `downs`)
    · rw [List.foldl_cons, h1, setAuthority_eq, Nat.add_assoc, Bool.and_comm]
      simp only [ups, Bool.not_not]
    · rw [List.foldl_cons, h2, setAuthority_eq, Nat.add_assoc, Bool.and_comm]
      simp only [downs]
    · cases ds with
      | nil =>
        cases ha
        exact setAuthority_paused o d
      | cons d' ds' => exact h3 a (by simpa [List.getLast?_cons_cons] using ha)

example : ([true, true, false, false, true].foldl setAuthority (ob true 0 0)) = (ob false 1 2) := by decide +kernel

/-- What the `ObjectLock` in `SetAuthority` (configobject.cpp:450, test *inside* the lock)
    guarantees for two overlapping authority runs that decide the same value: the second call finds nothing to do, so
    the pair pauses / resumes the object exactly as often as one call (the harness checks this against two real
    threads blocked on the object's lock). -/
theorem overlapping_runs_are_one (o : Obj) (v : Bool) : setAuthority (setAuthority o v) v = setAuthority o v := by
  rcases o with ⟨_ | _, _, _, _, _, _⟩ <;> cases v <;> rfl

example : setAuthority (setAuthority (ob true 0 0) true) true = ob false 0 1 := by decide +kernel

/-- "A paused endpoint neither executes checks nor sends notifications for that object."
    For an object that is paused on a node: a requested notification is not sent (it is skipped, or stashed while no
    authority run has completed yet), a due check is not executed, and on a node with a local endpoint the
    notification timer sends nothing for it either — whether or not an authority run has completed (`u`). -/
theorem paused_node_is_silent (u : Bool) (c : ObjCfg) (o : Obj) (hp : o.paused = true) :
    (requestObj u c o).execs = o.execs ∧ (dueObj c o).execs = o.execs ∧
    (ntimerObj u true c o).execs = o.execs :=
  ⟨(requestObj_work u c o).quiet rfl hp, (dueObj_work c o).quiet rfl hp, (ntimerObj_work u true c o).quiet rfl hp⟩

/-- In the cold-start window (paused, no authority run completed yet) a requested notification is stashed and the
    notification timer leaves the stash alone and sends nothing: it waits for the authority decision. -/
theorem cold_start_notification_waits (c : ObjCfg) (o : Obj) (hk : c.kind = .notification) (hp : o.paused = true) :
    requestObj false c o = { o with stash := o.stash + 1 } ∧ ntimerObj false true c o = o := by
  unfold requestObj ntimerObj
  cases ha : c.active <;> simp [hk, hp]

example : ntimerObj false true { name := [0x6e], runOnce := true, active := true, kind := .notification }
    { paused := true, pauses := 0, resumes := 0, execs := 0, stash := 2 }
    = { paused := true, pauses := 0, resumes := 0, execs := 0, stash := 2 } := by decide +kernel

/-- Two members that are settled with each other (`a.paused = !b.paused`, what
    `one_round_settles` gives): a check of an active checkable that becomes due on both is executed by exactly one of them,
    and a notification requested on both (authority known, nothing stashed) is sent by exactly one of them. -/
theorem exactly_one_does_the_work (c : ObjCfg) (a b : Obj) (hab : a.paused = !b.paused) :
    (c.kind = .checkable → c.active = true →
      (dueObj c a).execs + (dueObj c b).execs = a.execs + b.execs + 1) ∧
    (c.kind = .notification → a.stash = 0 → b.stash = 0 →
      (requestObj true c a).execs + (requestObj true c b).execs = a.execs + b.execs + 1) := by
  refine ⟨fun hk ha => ?_, fun hk hsa hsb => ?_⟩
  · exact one_of_two (f := Obj.execs) hab ((dueObj_work c a).quiet rfl) ((dueObj_work c b).quiet rfl)
      (dueObj_runs hk ha) (dueObj_runs hk ha)
  · exact one_of_two (f := Obj.execs) hab ((requestObj_work true c a).quiet rfl) ((requestObj_work true c b).quiet rfl)
      (requestObj_sends hk hsa) (requestObj_sends hk hsb)

/-- "Is active on exactly one endpoint", about the objects, not the verdicts.  From ANY state of the two
    members — whatever happened before, whatever the object's state, start times and clocks — once each of them holds at least
    one connection to the other and each has run `UpdateObjectAuthority` once (in either order), an active run-once object is
    active on exactly one of them; and a further run on either side leaves it there. -/
theorem one_round_settles (nA nB : Name) (hne : nA ≠ nB) (c : ObjCfg) (ht : touched c = true) (p : Pair)
    (hA : p.a.sees = true) (hB : p.b.sees = true) (nowA nowB : Int) :
    let p1 := step .pair nA nB c (step .pair nA nB c p (.upd .A nowA)) (.upd .B nowB)
    let p2 := step .pair nA nB c (step .pair nA nB c p (.upd .B nowB)) (.upd .A nowA)
    p1.a.obj.paused = !p1.b.obj.paused ∧ p2.a.obj.paused = !p2.b.obj.paused ∧
    ∀ (s : Side) (now : Int), (step .pair nA nB c p1 (.upd s now)).a.obj.paused = p1.a.obj.paused ∧
                              (step .pair nA nB c p1 (.upd s now)).b.obj.paused = p1.b.obj.paused := by
  intro p1 p2
  have ha : p1.a.obj.paused = !own nA nB c.name .A := upd_paired_paused ht .A p.a hA nowA
  have hb : p1.b.obj.paused = !own nA nB c.name .B := upd_paired_paused ht .B p.b hB nowB
  have h1 : p1.a.obj.paused = !p1.b.obj.paused := by rw [ha, hb, own_xor nA nB c.name hne]
  -- each run touches its own side only, so `p2` is `p1`
  refine ⟨h1, h1, fun s now => ?_⟩
  cases s with
  | A => exact ⟨(upd_paired_paused ht .A p1.a hA now).trans ha.symm, rfl⟩
  | B => exact ⟨rfl, (upd_paired_paused ht .B p1.b hB now).trans hb.symm⟩

example : let p := step .pair [0x61] [0x62] exCfg (step .pair [0x61] [0x62] exCfg
      (step .pair [0x61] [0x62] exCfg (step .pair [0x61] [0x62] exCfg (initPair exCfg) (.link .A 2 true)) (.link .B 0 true))
      (.upd .A 7)) (.upd .B 9)
    p.a.obj.paused = true ∧ p.b.obj.paused = false := by decide +kernel

/-- `alone_after_grace` about the object: from any state, a member of the two-member zone that holds no connection to
    the other one and whose start-up grace period is over has every active run-once object unpaused after one run. -/
theorem alone_after_grace_is_active (nA nB : Name) (hne : nA ≠ nB) (c : ObjCfg) (ht : touched c = true) (s : Side) (h : Half)
    (hs : h.sees = false) (now : Int) (hstart : h.start ≠ 0) (hage : 30 ≤ now - h.start) :
    (stepHalf .pair nA nB c s h (.upd s now)).obj.paused = false := by
  rw [upd_alone hne ht s h hs (inGrace_old hstart hage), setAuthority_paused]
  rfl

/-- "The set of connected endpoints": an endpoint is connected as long as at least one of its connections is left.  Over ANY
    sequence of attach / remove events with arbitrary connection numbers (both members dial each other, a redundant connection
    is closed, an event is repeated …) on a member's connections to the other one, the member sees the other one afterwards iff
    there is a connection whose LAST event was "attach" (or that was open before and has had no event) — and the object is not
    touched by any of this. -/
theorem connected_while_a_connection_is_left (l : Layout) (nA nB : Name) (c : ObjCfg) (s : Side) (h : Half)
    (evs : List (Nat × Bool)) :
    let h' := evs.foldl (fun h e => stepHalf l nA nB c s h (.link s e.1 e.2)) h
    (h'.sees = true ↔ ∃ id, openAfter (decide (id ∈ h.conns)) id evs = true) ∧ h'.obj = h.obj ∧ h'.start = h.start := by
  obtain ⟨hm, hf⟩ := links_fold l nA nB c s evs h
  exact ⟨(sees_iff _).trans (exists_congr hm), hf⟩

/-- Both members dialled each other (connections 0 and 1 attached), the redundant one is closed: still connected. -/
example : (([(0, true), (1, true), (0, false)] : List (Nat × Bool)).foldl
    (fun h e => stepHalf .pair [0x61] [0x62] exCfg .A h (.link .A e.1 e.2)) (initPair exCfg).a).sees = true := by decide +kernel

/-- A member that holds a further connection to the other one and closes one
    (or attaches one more) decides exactly as before: the verdict of the next authority run — for every object, start time and
    clock — is the one it would have been without the event. -/
theorem closing_one_of_several_changes_nothing (l : Layout) (nA nB : Name) (c : ObjCfg) (s : Side) (h : Half)
    (id other : Nat) (up : Bool) (hother : other ∈ h.conns) (hne : other ≠ id) (now : Int) :
    stepHalf l nA nB c s (stepHalf l nA nB c s h (.link s id up)) (.upd s now)
      = { stepHalf l nA nB c s h (.upd s now) with conns := (stepHalf l nA nB c s h (.link s id up)).conns } := by
  have h1 : h.sees = true := (sees_iff h).2 ⟨other, hother⟩
  have h2 := link_keeps_sees l nA nB c s s hother hne up
  -- both runs see the other member (`h1` before, `h2` after the link event), and `sees` is all a run reads of `conns`
  simp only [stepHalf] at h2 ⊢
  simp only [h1, h2]

/-- The two-member system's "sees the other member" is `Endpoint::GetConnected()` of the node-level
    model (the one the driver runs next to the real nodes): an authority run of a `Node` whose client set holds exactly the
    member's connections to the other one decides what `stepHalf` decides. -/
theorem half_is_endpoint_set (l : Layout) (nA nB : Name) (c : ObjCfg) (s : Side) (h : Half) (now : Int) :
    (Node.update [c] { zone := zoneOf l nA nB s, self := selfOf nA nB s, start := h.start, objs := [h.obj],
                       clients := h.conns.map (fun i => (otherOf nA nB s, i)) } now).objs
      = [(stepHalf l nA nB c s h (.upd s now)).obj] := by
  have hf : connectedTo (h.conns.map (fun i => (otherOf nA nB s, i))) = (fun e => h.sees && e == otherOf nA nB s) :=
    funext (connectedTo_map _ _)
  simp [Node.update, stepHalf, hf]

/-- A zone with further members that this node does not see (not connected) decides exactly
    like the two-member zone — cold start, alone after the grace period, split with the other member — for every name, start
    time and clock.  (The correspondence run evaluates the two-member specification on the real nodes of such zones for as
    long as no further member has been connected.) -/
theorem unseen_members_do_not_matter (nA nB : Name) (extras : List Name) (self : Name) (conn : Name → Bool)
    (hx : ∀ e ∈ extras, e ≠ self ∧ conn e = false) (start now : Int) (name : Name) :
    authority (some (nA :: nB :: extras)) self conn start now name = authority (some [nA, nB]) self conn start now name :=
  authority_congr (.of_eq (candidates_append_unseen [nA, nB] hx)) ⟨fun _ => Nat.one_lt_two, fun _ => Nat.le_add_left 2 _⟩
    start now name

example : authority (some [[0x61], [0x62], [0x63], [0x64]]) [0x62] (· == [0x61]) 0 5 [0x68, 0x31]
    = authority (some [[0x61], [0x62]]) [0x62] (· == [0x61]) 0 5 [0x68, 0x31] :=
  unseen_members_do_not_matter _ _ _ _ _ (by decide +kernel) _ _ _

/-- However the process ended and whether or not its state file is restored into the new objects
    (`keep`), an active run-once object comes back paused with no `Pause()`/`Resume()` call and no execution behind it — it waits for an
    authority run — and an active run-everywhere object comes back resumed exactly once. -/
theorem restart_has_no_authority (c : ObjCfg) (old : Obj) (keep : Bool) :
    freshLike c (restart c old keep) = true ∧
    (touched c = true → (restart c old keep).paused = true ∧ (restart c old keep).resumes = 0 ∧ (restart c old keep).pauses = 0) ∧
    (c.active = true → c.runOnce = false → (restart c old keep).paused = false ∧ (restart c old keep).resumes = 1) := by
  refine ⟨freshLike_fresh c _, fun ht => ?_, fun ha hr => ?_⟩
  · simp [restart, fresh_touched ht]
  · simp [restart, fresh_everywhere ha hr]

example : restart exCfg { paused := false, pauses := 3, resumes := 4, execs := 9, stash := 2 } true
    = { paused := true, pauses := 0, resumes := 0, execs := 0, stash := 2 } := by decide +kernel

/-- "Is active on exactly one endpoint", for objects that come into being while the cluster runs (comments, downtimes,
    API-created hosts …).  From ANY state of two members that hold a connection to each other — whatever
    authority runs, link changes and work happened before; no memory of an earlier run enters a decision — an active run-once object
    created at runtime on both is active on NEITHER right after the creation (no authority decision has been taken for it), and after
    the next authority run on each it is active on exactly one, with one `Resume()` call and no `Pause()` call in total. -/
theorem runtime_created_object_settles (nA nB : Name) (hne : nA ≠ nB) (c : ObjCfg) (ht : touched c = true) (p : Pair)
    (hA : p.a.sees = true) (hB : p.b.sees = true) (nowA nowB : Int) :
    let p0 := step .pair nA nB c (step .pair nA nB c p (.create .A)) (.create .B)
    let p1 := step .pair nA nB c (step .pair nA nB c p0 (.upd .A nowA)) (.upd .B nowB)
    (p0.a.obj.paused = true ∧ p0.b.obj.paused = true) ∧
    p1.a.obj.paused = !p1.b.obj.paused ∧
    p1.a.obj.resumes + p1.b.obj.resumes = 1 ∧ p1.a.obj.pauses = 0 ∧ p1.b.obj.pauses = 0 := by
  intro p0 p1
  have hf := fresh_touched ht
  have ha : p1.a.obj = setAuthority (fresh c) (own nA nB c.name .A) := upd_paired ht .A p0.a hA nowA
  have hb : p1.b.obj = setAuthority (fresh c) (own nA nB c.name .B) := upd_paired ht .B p0.b hB nowB
  refine ⟨⟨congrArg Obj.paused hf, congrArg Obj.paused hf⟩, ?_⟩
  rw [ha, hb, hf, own_xor nA nB c.name hne]
  cases own nA nB c.name .B <;> exact ⟨rfl, rfl, rfl, rfl⟩

/-- The n-member form of `runtime_created_object_settles`.  Any number of zone members that all
    see each other: there is ONE member `o` of the zone such that, whichever member `self` runs `UpdateObjectAuthority` over an active
    run-once object that was created at runtime — in whatever iteration order, at whatever time — the object ends up unpaused there iff
    `self` is `o`, with one `Resume()` on `o`, none elsewhere and no `Pause()` anywhere.  The last conjunct records that `.create`
    discards the object that had the name before (`old`); it holds by the definition of `created`. -/
theorem created_object_one_owner_general (ms : List Name) (hne : ms ≠ []) (c : ObjCfg) (ht : touched c = true) :
    ∃ o ∈ ms, ∀ self ∈ ms, ∀ (msS : List Name) (conn : Name → Bool) (start now : Int) (old : Obj),
      msS.Perm ms → (∀ e ∈ ms, e ≠ self → conn e = true) →
      let o' := applyVerdict c (created c) (authority (some msS) self conn start now c.name)
      o'.paused = !(o == self) ∧ o'.pauses = 0 ∧ o'.resumes = (if o == self then 1 else 0) ∧
      o' = applyVerdict c (stepHalf .pair [] [] c .A { conns := [], start := 0, obj := old } (.create .A)).obj
             (authority (some msS) self conn start now c.name) := by
  obtain ⟨o, hom, ho⟩ := exactly_one_general ms hne c.name
  refine ⟨o, hom, fun self hself msS conn start now old hperm hconn => ?_⟩
  have hf : created c = { paused := true, pauses := 0, resumes := 0 } := fresh_touched ht
  simp only [ho self hself msS conn start now hperm hconn, applyVerdict_set ht, hf, stepHalf]
  cases o == self <;> exact ⟨rfl, rfl, rfl, trivial⟩

example : ∃ o ∈ [[0x61], [0x62], [0x63]], ∀ self ∈ [[0x61], [0x62], [0x63]], ∀ (msS : List Name) (conn : Name → Bool)
    (start now : Int) (old : Obj), msS.Perm [[0x61], [0x62], [0x63]] → (∀ e ∈ [[0x61], [0x62], [0x63]], e ≠ self → conn e = true) →
    let o' := applyVerdict exCfg (created exCfg) (authority (some msS) self conn start now exCfg.name)
    o'.paused = !(o == self) ∧ o'.pauses = 0 ∧ o'.resumes = (if o == self then 1 else 0) ∧
    o' = applyVerdict exCfg (stepHalf .pair [] [] exCfg .A { conns := [], start := 0, obj := old } (.create .A)).obj
           (authority (some msS) self conn start now exCfg.name) :=
  created_object_one_owner_general _ (by decide +kernel) exCfg rfl

/-- "A paused endpoint [does not send] notifications for that object", for the notification a checkable requests itself out of
    the suppressed-notifications timer, which is what `fireObj` transcribes (the harness drives an acknowledgement and a hard
    state change of a processed result onto the same event).  A member
    that is paused for the checkable requests nothing and changes nothing; of two settled members (`a.paused = !b.paused`, what
    `one_round_settles` gives) exactly one requests the notification; no check runs and the authority stays. -/
theorem pending_notification_requested_once (c : ObjCfg) (a b : Obj) :
    (a.paused = true → fireObj c a = a) ∧
    (c.kind = .checkable → c.active = true → a.paused = (!b.paused) →
      (fireObj c a).reqs + (fireObj c b).reqs = a.reqs + b.reqs + 1) ∧
    (fireObj c a).paused = a.paused ∧ (fireObj c a).execs = a.execs := by
  refine ⟨fireObj_paused c, fun hk ha hab => ?_, (fireObj_keeps c a).1, (fireObj_keeps c a).2.1⟩
  exact one_of_two (f := Obj.reqs) hab (fun hp => congrArg Obj.reqs (fireObj_paused c hp))
    (fun hp => congrArg Obj.reqs (fireObj_paused c hp)) (fireObj_fires hk ha) (fireObj_fires hk ha)

example : let p0 := step .pair [0x61] [0x62] exCfg (step .pair [0x61] [0x62] exCfg
      (step .pair [0x61] [0x62] exCfg (step .pair [0x61] [0x62] exCfg
        (step .pair [0x61] [0x62] exCfg (step .pair [0x61] [0x62] exCfg (initPair exCfg) (.link .A 0 true)) (.link .B 0 true))
        (.upd .A 7)) (.upd .B 9)) (.create .A)) (.create .B)
    let p1 := step .pair [0x61] [0x62] exCfg (step .pair [0x61] [0x62] exCfg p0 (.upd .A 20)) (.upd .B 21)
    p0.a.obj.paused = true ∧ p0.b.obj.paused = true ∧ p1.a.obj = ob true 0 0 ∧ p1.b.obj = ob false 0 1 := by decide +kernel

example : fireObj { name := [0x68], runOnce := true, active := true, kind := .checkable } (ob false 0 1)
    = { paused := false, pauses := 0, resumes := 1, reqs := 1 } ∧
    fireObj { name := [0x68], runOnce := true, active := true, kind := .checkable } (ob true 0 0) = ob true 0 0 := by decide +kernel

/-- The specification rejects a trace in which the member that is paused for a checkable requests the pending notification … -/
example :
    specTrace .pair { name := [0x68], runOnce := true, active := true, kind := .checkable }
      (specInit { name := [0x68], runOnce := true, active := true, kind := .checkable })
      [(.boot .A 1000 false, ob true 0 0, ob true 0 0),
       (.fire .A, { paused := true, pauses := 0, resumes := 0, reqs := 1 }, ob true 0 0)]
      = some .pausedNodeIsSilent := by decide +kernel

/-- … one in which a runtime-created object is active before any authority run has decided about it … -/
example :
    specTrace .pair exCfg (specInit exCfg)
      [(.boot .A 1000 false, ob true 0 0, ob true 0 0), (.create .A, ob false 0 1, ob true 0 0)]
      = some .freshAfterBoot := by decide +kernel

/-- … and one in which an object created after the first authority run stays paused on a member that is alone after the grace period
    (an authority run that only remembers that the set of endpoints has not changed). -/
example :
    specTrace .pair exCfg (specInit exCfg)
      [(.boot .A 1000 false, ob true 0 0, ob true 0 0), (.upd .A 1040, ob false 0 1, ob true 0 0),
       (.create .A, ob true 0 0, ob true 0 0), (.upd .A 1050, ob true 0 0, ob true 0 0)]
      = some .aloneAllActive := by decide +kernel

/-- Runtime creation and the suppressed-notifications timer at node level (two of the events the driver replays next to the real
    nodes) are the per-object functions of the two-member system applied to the addressed object and nothing else. -/
theorem node_create_fire_pointwise (cfgs : List ObjCfg) (n : Node) (i j : Nat) (c : ObjCfg) (o : Obj)
    (hc : cfgs[j]? = some c) (ho : n.objs[j]? = some o) :
    (n.create cfgs i).objs[j]? = some (if j == i then created c else o) ∧
    (n.fire cfgs i).objs[j]? = some (if j == i then fireObj c o else o) :=
  ⟨atList_getElem (fun c _ => created c) i cfgs 0 hc ho, atList_getElem fireObj i cfgs 0 hc ho⟩

/-- The node-level run is the per-object verdict applied to every object (the loop of apilistener-authority.cpp:56-81). -/
theorem node_update_pointwise (cfgs : List ObjCfg) (n : Node) (now : Int) (i : Nat) (c : ObjCfg) (o : Obj)
    (hc : cfgs[i]? = some c) (ho : n.objs[i]? = some o) :
    (n.update cfgs now).objs[i]? =
      some (applyVerdict c o (authority n.zone n.self (connectedTo n.clients) n.start now c.name)) := by
  rw [Node.update_getElem?, hc, ho]
  rfl

/-- The whole property as one statement.  For every layout of the property (no zone,
    a zone of one's own, one zone with both members), every two distinct endpoint names, every object (any name,
    run-once or run-everywhere, active or not) and every finite sequence of (re)starts — with new objects only or through the
    state file of the old process —, attach / remove events of arbitrarily numbered connections (an endpoint is connected while
    one is left), authority runs with arbitrary clocks and other events on both members, the observed trace of the model
    satisfies the executable specification `specTrace`: exactly one active whenever both are settled with each
    other, the same split every time, all active when alone after the grace period / without a zone, nothing
    changes during the cold start or without an authority run, `Pause`/`Resume` exactly once per change. -/
theorem model_trace_meets_spec (l : Layout) (nA nB : Name) (hne : nA ≠ nB) (c : ObjCfg) (es : List Ev) :
    specTrace l c (specInit c) (trace l nA nB c (initPair c) es) = none :=
  trace_ok l nA nB hne c es _ _ (rel_init nA nB c)

/-- Non-vacuity: a concrete history in which both members settle and split the object. -/
example :
    (trace .pair [0x61] [0x62] exCfg (initPair exCfg)
      [.boot .A 1000 false, .boot .B 1000 false, .link .A 0 true, .link .B 0 true, .upd .A 1001, .upd .B 1001]).getLast?
      = some (.upd .B 1001, (ob true 0 0), (ob false 0 1)) := by decide +kernel

/-- The specification is not vacuous: it rejects a trace in which both members end up active. -/
example :
    specTrace .pair exCfg (specInit exCfg)
      [(.boot .A 1000 false, (ob true 0 0), (ob true 0 0)), (.boot .B 1000 false, (ob true 0 0), (ob true 0 0)),
       (.link .A 0 true, (ob true 0 0), (ob true 0 0)), (.link .B 0 true, (ob true 0 0), (ob true 0 0)),
       (.upd .A 1001, (ob false 0 1), (ob true 0 0)), (.upd .B 1001, (ob false 0 1), (ob false 0 1))]
      = some .exactlyOne := by decide +kernel

/-- … one in which a member that closed ONE of its two connections to the other member takes everything over although the
    two still see each other … -/
example :
    specTrace .pair exCfg (specInit exCfg)
      [(.boot .A 1000 false, (ob true 0 0), (ob true 0 0)), (.boot .B 1000 false, (ob true 0 0), (ob true 0 0)),
       (.link .A 0 true, (ob true 0 0), (ob true 0 0)), (.link .A 1 true, (ob true 0 0), (ob true 0 0)),
       (.link .B 0 true, (ob true 0 0), (ob true 0 0)),
       (.upd .A 1040, (ob true 0 0), (ob true 0 0)), (.upd .B 1040, (ob true 0 0), (ob false 0 1)),
       (.link .A 0 false, (ob true 0 0), (ob false 0 1)),
       (.upd .A 1050, (ob false 0 1), (ob false 0 1))]
      = some .exactlyOne := by decide +kernel

/-- … one in which a process restarted through its state file comes back active without any authority decision … -/
example :
    specTrace .pair exCfg (specInit exCfg)
      [(.boot .A 1000 false, (ob true 0 0), (ob true 0 0)), (.upd .A 1040, (ob false 0 1), (ob true 0 0)),
       (.boot .A 1100 true, (ob false 0 0), (ob true 0 0))]
      = some .freshAfterBoot := by decide +kernel

/-- … one in which `Resume()` ran twice for one change … -/
example :
    specTrace .noZone exCfg (specInit exCfg)
      [(.upd .A 5, (ob false 0 2), (ob true 0 0))] = some .oncePerChange := by decide +kernel

/-- … one in which a node sends a notification for an object that is paused on it (cold start, nothing decided yet) … -/
example :
    specTrace .pair { name := [0x6e], runOnce := true, active := true, kind := .notification }
      (specInit { name := [0x6e], runOnce := true, active := true, kind := .notification })
      [(.boot .A 1000 false, ob true 0 0, ob true 0 0),
       (.request .A, { paused := true, pauses := 0, resumes := 0, execs := 0, stash := 1 }, ob true 0 0),
       (.ntimer .A, { paused := true, pauses := 0, resumes := 0, execs := 1, stash := 0 }, ob true 0 0)]
      = some .pausedNodeIsSilent := by decide +kernel

/-- … and one in which the active node does not run a due check. -/
example :
    specTrace .noZone { name := [0x68], runOnce := true, active := true, kind := .checkable }
      (specInit { name := [0x68], runOnce := true, active := true, kind := .checkable })
      [(.upd .A 5, ob false 0 1, ob true 0 0), (.due .A, ob false 0 1, ob true 0 0)]
      = some .dueCheckRuns := by decide +kernel

/-- The model's own trace through the cold-start stash: requested while undecided, delivered once alone after the grace period. -/
example :
    (trace .pair [0x61] [0x62] { name := [0x6e], runOnce := true, active := true, kind := .notification }
      (initPair { name := [0x6e], runOnce := true, active := true, kind := .notification })
      [.boot .A 1000 false, .request .A, .ntimer .A, .upd .A 1031, .ntimer .A]).getLast?
      = some (.ntimer .A, { paused := false, pauses := 0, resumes := 1, execs := 1, stash := 0 }, ob true 0 0) := by decide +kernel

/-- The hash on concrete values: sign extension of bytes ≥ 0x80 and the 64-bit wrap-around (the harness compares `sdbm` with
    `Utility::SDBM` on generated names, bytes ≥ 0x80 among them). -/
example : (sdbm [0x68, 0x31]).toNat = 6822345 := by decide +kernel
example : (sdbm [0xff, 0x80]).toNat = 18446744073709485889 := by decide +kernel

end Icinga.C10
