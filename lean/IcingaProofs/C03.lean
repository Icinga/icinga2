/-
  C03 — property theorems.  Every `theorem` in this file is a proof obligation of the check.

  Model: IcingaModel/C03/Model.lean (`beginExec` = Notification::BeginExecuteNotification with
  CheckNotificationUserFilters, `sendStep` = Checkable::SendNotifications, `tickStep` =
  NotificationComponent::NotificationTimerHandler incl. the period-suppressed types).  The property is the
  conjunction of the checkers over the observed trace (`specTrace`, IcingaModel/C03/Spec.lean); `traceOf c init ops` is
  the trace the model produces for an arbitrary configuration `c` and an arbitrary finite list of
  operations `ops`, each with an arbitrary environment (states, times, periods, flags, users with
  arbitrary filters) — nothing is bounded.

  F-C03a (DESIGN.md §3 F-C03; repaired in /repo by cec0506): a Recovery discarded by the notification's type
  filter used to return before `notified_problem_users` was cleared, so the list survived into the next
  incident and an Acknowledgement reached users who were not sent that incident's Problem.  The model
  transcribes the code after the repair; the former witness is a passing regression `example` below.

  What "the current incident" means for a notification object: it ends when the object *processes* a
  Recovery — sends it to its users, or discards it by its type filter.  A Recovery that is only withheld
  because the notification period is closed does not end it: the code keeps it (suppressed_notifications)
  and re-sends it when the period reopens, to exactly the users who were sent the incident's Problem —
  which is what the property demands of that Recovery, and which would be impossible had the list been
  forgotten when it was withheld.  If a new Problem neutralises the withheld Recovery, those users were
  never told that the problem ended, and the incident continues for them.  A Recovery request that
  `Checkable::SendNotifications` drops because notifications are switched off ends the incident too; the code
  does not notice (F-C03b), so the second sentence holds of the traces without such a request
  (`recovery_ack_recipients_partial`).
-/
import IcingaProofs.C03.Lemmas

namespace Icinga.C03

/-- **delivery_only_if** (first sentence).  In every trace of the model, a notification is delivered to a
    user only if — unless forced — notifications are enabled globally and for the checkable, the
    notification object is not paused, its period is open, its type filter admits the type, for Problem
    its state filter admits the state and the `times` window is open, and the user is enabled, the user's
    period is open, the user's type filter admits the type and (for every type but Recovery) the user's
    state filter admits the state; forced: only the user's enable flag, the pause, out of the timer the two enable
    flags, and (on a request) that force_next_notification was set. -/
theorem delivery_only_if (c : Cfg) (s : St) (ops : List Op) :
    deliveryTrace c (traceOf c s ops) = none := by
  unfold deliveryTrace
  exact runTrace_ok (deliveryObs c) (fun _ _ => True) (fun _ => True) c
    (fun g s op _ _ => ⟨delivery_op c g s op, trivial⟩) ops () s trivial (fun _ _ => trivial)

/- **recovery_ack_recipients** (second sentence, first half) — the full statement, which the unchanged code (hence the
   model) does NOT satisfy (F-C03b, `recovery_ack_recipients_counterexample` below):

     theorem recovery_ack_recipients (c : Cfg) (ops : List Op) : recipientsTrace (traceOf c init ops) = none

   In every trace, Recovery and Acknowledgement notifications — forced or not — go only to users who were sent a
   Problem for the current incident, or who do not subscribe to Problem.  The incident ends when the notification
   object sends a Recovery or discards it by its type filter, and when the checkable requests a Recovery that
   `Checkable::SendNotifications` drops because notifications are switched off (checkable-notification.cpp:43-49); a
   Recovery merely withheld by the closed notification period does not end it. -/

/-- **recovery_ack_recipients_partial**: the statement above for every trace in which no Recovery request is dropped by
    the enable flags (`recoveryDropped`: an unforced `send recovery` to an object that is not paused, while notifications
    are disabled globally or for the checkable).  Without the hypothesis the statement fails: see the counterexample. -/
theorem recovery_ack_recipients_partial (c : Cfg) (ops : List Op)
    (h : ∀ o ∈ traceOf c init ops, recoveryDropped o = false) :
    recipientsTrace (traceOf c init ops) = none := by
  unfold recipientsTrace
  exact runTrace_ok recipientsObs RecInv (fun o => recoveryDropped o = false) c
    (fun g s op hi hp => recipients_op c g s op hi hp) ops [] init (fun x hx => by simp [init] at hx) h

/-- Without that hypothesis a weaker statement still holds, from any state: a dropped Recovery request sends nothing and
    leaves `notified_problem_users` as it was (`dropped_noop`: the whole state) — so the only thing that goes wrong is
    that the users of the finished incident are remembered. -/
theorem dropped_recovery_request_is_a_noop (c : Cfg) (s : St) (op : Op)
    (h : recoveryDropped (applyOp c s op).2 = true) :
    (applyOp c s op).1.npu = s.npu ∧ (applyOp c s op).2.events = [] := by
  obtain ⟨a, b⟩ := dropped_noop c s op h
  exact ⟨by rw [a], b⟩

/-! The former witness of F-C03a: a notification object whose type filter lacks Recovery (48 = Problem |
    Acknowledgement), two users subscribed to everything.  Problem to both; Recovery (discarded by the type
    filter — since cec0506 the incident's users are forgotten here); next incident: Problem while user 1 is
    disabled (only user 0 is told); the Acknowledgement reaches user 0 only (before the repair: both). -/

def cxCfg : Cfg := { isHost := false, interval := 60, tbegin := none, tend := none, typeFilter := 48, stateFilter := 15 }
def cxUser (i : Nat) (en : Bool) : UEnv := { id := i, enabled := en, periodOpen := true, typeFilter := 511, stateFilter := 15 }
def cxEnv (now : Int) (state : Nat) (u1 : Bool) : Env :=
  { now := now, state := state, hard := true, lhsc := now, volatile := false, reachable := true, inDowntime := false,
    acked := false, flapping := false, ckProblemPending := false, periodOpen := true, globalEnabled := true,
    ckEnabled := true, paused := false, haSkip := false, likelySoon := false, problemApplies := state != 0,
    recoveryApplies := state == 0, force := false, authUpdated := true, users := [cxUser 0 true, cxUser 1 u1] }
def cxOps : List Op :=
  [.send .problem (cxEnv 100 2 true), .send .recovery (cxEnv 200 0 true), .send .problem (cxEnv 300 2 false),
   .send .ack (cxEnv 310 2 true)]

/-- F-C03b, the witness: Problem to users 0 and 1; notifications are switched off for the checkable while it recovers
    (the Recovery request is dropped, `notified_problem_users` survives); next incident: the WARNING Problem reaches
    user 0 only (user 1 is disabled at that moment); the Acknowledgement of that incident goes to user 1 as well,
    who was never told about it. -/
def cxDropOps : List Op :=
  [.send .problem (cxEnv 100 2 true), .send .recovery { cxEnv 200 0 true with ckEnabled := false },
   .send .problem (cxEnv 300 1 false), .send .ack (cxEnv 310 1 true)]
def cxAll : Cfg := { cxCfg with typeFilter := 511 }

theorem recovery_ack_recipients_counterexample :
    recipientsTrace (traceOf cxAll init cxDropOps) = some .recoveryAckRecipients ∧
    (traceOf cxAll init cxDropOps).map (fun o => o.events) =
      [[⟨.problem, false, true, false, [0, 1]⟩], [], [⟨.problem, false, true, false, [0]⟩], [⟨.ack, false, true, false, [0, 1]⟩]] := by
  decide +kernel

/-- The same stale bookkeeping has a second effect the property (an "only if") does not cover: the next incident's
    Problem for the *same* state is sent to nobody — `last_notified_state_per_user` survives the dropped request too. -/
example :
    (traceOf cxAll init [.send .problem (cxEnv 100 2 true), .send .recovery { cxEnv 200 0 true with ckEnabled := false },
                         .send .problem (cxEnv 300 2 true)]).map (fun o => o.events) =
      [[⟨.problem, false, true, false, [0, 1]⟩], [], [⟨.problem, false, true, false, []⟩]] := by
  decide +kernel

/-- Regression for F-C03a: the specification accepts what the repaired code does on the former witness. -/
example :
    specTrace cxCfg (traceOf cxCfg init cxOps) = none ∧
    (traceOf cxCfg init cxOps).map (fun o => o.events) =
      [[⟨.problem, false, true, false, [0, 1]⟩], [⟨.recovery, false, false, false, []⟩], [⟨.problem, false, true, false, [0]⟩],
       [⟨.ack, false, true, false, [0]⟩]] := by
  decide +kernel

/-- A Recovery withheld by the closed period is released by the timer to exactly the users of its incident
    (both), and the specification accepts that. -/
example :
    let closed (e : Env) : Env := { e with periodOpen := false }
    let cfg : Cfg := { cxCfg with typeFilter := 511 }
    let ops : List Op := [.send .problem (cxEnv 100 2 true), .send .recovery (closed (cxEnv 200 0 true)),
                          .tick { cxEnv 300 0 true with lhsc := 200 }]
    specTrace cfg (traceOf cfg init ops) = none ∧
    (traceOf cfg init ops).map (fun o => o.events) =
      [[⟨.problem, false, true, false, [0, 1]⟩], [⟨.recovery, false, false, false, []⟩], [⟨.recovery, false, true, false, [0, 1]⟩]] := by
  decide +kernel

/-- **no_duplicate_problem** (second sentence, second half).  Unless the checkable is volatile, no user is
    sent a non-reminder Problem for the state of the Problem that user was sent last, without a Recovery call of
    the notification object in between — any such call counts, also one the closed period only withholds: the code
    clears `last_notified_state_per_user` first thing in every Recovery call (notification.cpp:236-241). -/
theorem no_duplicate_problem (c : Cfg) (ops : List Op) :
    noDupTrace (traceOf c init ops) = none := by
  unfold noDupTrace
  exact runTrace_ok noDupObs DupInv (fun _ => True) c
    (fun g s op hi _ => noDup_op c g s op hi) ops (fun _ => none) init
    (fun u st h => by simp at h) (fun _ _ => trivial)

/-- **reminder_only_in_hard_unsuppressed_problem** (third sentence, first part).  From any state whatsoever:
    an operation produces a reminder only if it is a timer run, the reminder is a Problem, the checkable is
    in a hard non-OK state, reachable, not in a downtime, not acknowledged and not flapping, and the initial
    Problem is not still held back — neither on the checkable (pending after a suppression) nor, after the
    operation, on the notification object (pending after a closed period). -/
theorem reminder_only_in_hard_unsuppressed_problem (c : Cfg) (s : St) (op : Op) :
    ∀ ev ∈ (applyOp c s op).2.events, ev.reminder = true →
      (applyOp c s op).2.kind = .tick ∧ ev.ty = .problem ∧
      (applyOp c s op).2.env.hard = true ∧ (applyOp c s op).2.env.state ≠ 0 ∧
      (applyOp c s op).2.env.reachable = true ∧ (applyOp c s op).2.env.inDowntime = false ∧
      (applyOp c s op).2.env.acked = false ∧ (applyOp c s op).2.env.flapping = false ∧
      (applyOp c s op).2.env.ckProblemPending = false ∧ (applyOp c s op).2.heldAfter = false := by
  intro ev hm hr
  obtain ⟨hk, hty, hc, a7⟩ := reminder_event c s op ev hm hr
  simp only [remCondOk, Bool.and_eq_true, Bool.not_eq_true', beq_eq_false_iff_ne] at hc
  obtain ⟨⟨⟨⟨⟨a1, a2⟩, a3⟩, a4⟩, a5⟩, a6⟩ := hc
  exact ⟨hk, hty, a1, a2, a3, a4, a5, a6, a7, reminder_not_held c s op ev hm hr⟩

/- **reminder_spacing** (third sentence, second part) — the full statement, which the unchanged code (hence the model)
   does NOT satisfy for `interval ≤ 0` (F-C03c, `reminder_interval0_counterexample` below):

     theorem reminder_spacing (c : Cfg) (ops : List Op) : reminderTrace c (traceOf c init ops) = none

   In every trace, within a stretch without a hard state change and with a clock that does not run backwards: a reminder
   comes at least `interval` seconds after the last unforced Problem (reminder or not) of the notification object, and
   with `interval ≤ 0` no reminder follows such a Problem until a Recovery has been processed.  (Also: reminders only
   from the timer and only in a hard, unsuppressed, non-flapping problem state.)  The stretch condition is necessary:
   `times.begin` re-arms `next_notification` relative to a new hard state change (notification.cpp:303), Q-C03. -/

/-- **reminder_spacing_partial**: the full statement for every trace without a re-arming event — in particular, without
    any hypothesis, for every notification object with `interval > 0` (next theorem). -/
theorem reminder_spacing_partial (c : Cfg) (ops : List Op) (h : NoRearmTrace c (traceOf c init ops)) :
    reminderTrace c (traceOf c init ops) = none :=
  reminder_ops true c ops {} init (fun t1 l hl => by simp at hl) (fun _ => h)

/-- **reminder_spacing_positive_interval**: with `interval > 0` no event re-arms anything (`rearms_of_pos`), so the third
    sentence holds of every trace. -/
theorem reminder_spacing_positive_interval (c : Cfg) (ops : List Op) (hpos : 0 < c.interval) :
    reminderTrace c (traceOf c init ops) = none := by
  exact reminder_spacing_partial c ops fun _ _ ev _ => rearms_of_pos hpos ev

/-- **reminder_spacing_rearmed**: for every trace, the third sentence in the weaker reading the code implements — with
    `interval ≤ 0` no reminder follows a Problem until a Recovery *or any other notification type but Custom* has been
    processed; all other clauses of the checker (timer only, hard unsuppressed non-flapping problem, spacing) as stated. -/
theorem reminder_spacing_rearmed (c : Cfg) (ops : List Op) :
    reminderTraceLoose c (traceOf c init ops) = none :=
  reminder_ops false c ops {} init (fun t1 l hl => by simp at hl) nofun

/-! F-C03c, the witness: `interval = 0`; Problem sent; a FlappingEnd notification passes (re-arms:
    no_more_notifications := false, notification.cpp:396-397); the next timer run sends a reminder for the same
    incident. -/
def cx0Cfg : Cfg := { cxAll with interval := 0 }
def cx0Ops : List Op := [.send .problem (cxEnv 100 2 true), .send .flapEnd { cxEnv 160 2 true with lhsc := 100 },
                         .tick { cxEnv 220 2 true with lhsc := 100 }]

theorem reminder_interval0_counterexample :
    reminderTrace cx0Cfg (traceOf cx0Cfg init cx0Ops) = some .reminderInterval0 ∧
    (traceOf cx0Cfg init cx0Ops).map (fun o => o.events) =
      [[⟨.problem, false, true, false, [0, 1]⟩], [⟨.flapEnd, false, true, false, [0, 1]⟩], [⟨.problem, true, true, false, [0, 1]⟩]] := by
  decide +kernel

/-- The hypothesis of `reminder_spacing_partial` is satisfiable on a non-trivial `interval = 0` trace: Problem, Custom,
    timer (nothing), Recovery, next incident's Problem. -/
example : NoRearmTrace cx0Cfg (traceOf cx0Cfg init
    [.send .problem (cxEnv 100 2 true), .send .custom { cxEnv 160 2 true with lhsc := 100 }, .tick { cxEnv 220 2 true with lhsc := 100 },
     .send .recovery (cxEnv 300 0 true), .send .problem (cxEnv 400 2 true)]) := by
  unfold NoRearmTrace; decide +kernel

/-- **forced_timer_notifications_are_owed** ("forced notifications bypass every filter" — only they).  The timer never
    forces anything of its own: in every trace, a forced event of a timer run has the type of an earlier forced request
    that produced no notification when it arrived (stashed during the cold-start phase or queued behind the stash). -/
theorem forced_timer_notifications_are_owed (c : Cfg) (ops : List Op) : owedTrace (traceOf c init ops) = none := by
  unfold owedTrace
  exact runTrace_ok owedObs OwedInv (fun _ => True) c (fun g s op hi _ => owed_op c g s op hi) ops [] init
    (fun p hp => by simp [init] at hp) (fun _ _ => trivial)

/-- **timer_forced_only_from_stash**: from any state, every forced event of one timer run is the replay of a stashed
    request `(type, force = true)`, and whatever is still stashed afterwards was stashed before. -/
theorem timer_forced_only_from_stash (c : Cfg) (s : St) (e : Env) :
    (∀ p ∈ (tickStep c s e).1.stash, p ∈ s.stash) ∧
    ∀ ev ∈ (tickStep c s e).2, ev.force = true → (ev.ty, true) ∈ s.stash :=
  tick_forced_from_stash c s e

/-- The specification rejects a forced notification out of the timer that no forced request is waiting for … -/
example : specTrace cxAll [⟨.send, cxEnv 100 2 true, [], false, some .problem⟩,
    ⟨.tick, cxEnv 110 2 true, [⟨.problem, false, true, true, [0, 1]⟩], false, none⟩] = some .forceClaim := by decide +kernel
/-- … and accepts it after a forced request that went unanswered (cold start). -/
example : specTrace cxAll [⟨.send, { cxEnv 100 2 true with force := true, authUpdated := false }, [], false, some .problem⟩,
    ⟨.tick, cxEnv 110 2 true, [⟨.problem, false, true, true, [0, 1]⟩], false, none⟩] = none := by decide +kernel

/-- **forced_bypasses_user_filters** ("forced notifications bypass every filter except the user's enable flag", the positive
    half).  In every trace, a forced notification of a type without per-user incident rules (everything but Problem,
    Recovery, Acknowledgement) that is sent at all reaches every attached user whose enable flag is set, whatever the
    users' periods, type filters and state filters say. -/
theorem forced_bypasses_user_filters (c : Cfg) (s : St) (ops : List Op) : bypassTrace (traceOf c s ops) = true :=
  traceOf_ind c (fun _ tr => bypassTrace tr = true) (fun _ => rfl)
    (fun s op tr ih => by simp only [bypassTrace, bypass_op, Bool.true_and]; exact ih) ops s

/-- The specification rejects a forced Custom notification that skips an enabled user (whose period is closed). -/
example : specTrace cxAll [⟨.send, { cxEnv 100 2 true with force := true, users := [cxUser 0 true, { cxUser 1 true with periodOpen := false }] },
    [⟨.custom, false, true, true, [0]⟩], false, some .custom⟩] = some .forcedBypass := by decide +kernel

/- **model_trace_meets_spec** (the whole property) — full statement, false of the unchanged code because of F-C03b and F-C03c:

     theorem model_trace_meets_spec (c : Cfg) (ops : List Op) : specTrace c (traceOf c init ops) = none -/

/-- **model_trace_meets_spec_partial**.  For every configuration of the notification object and every finite sequence of
    notification requests and timer runs under arbitrary environments in which no Recovery request is dropped by the
    enable flags and (for `interval ≤ 0`) no other notification type re-arms the reminder, the model's trace satisfies
    the whole executable specification (all clauses of all checkers). -/
theorem model_trace_meets_spec_partial (c : Cfg) (ops : List Op)
    (h : ∀ o ∈ traceOf c init ops, recoveryDropped o = false) (h0 : NoRearmTrace c (traceOf c init ops)) :
    specTrace c (traceOf c init ops) = none := by
  unfold specTrace
  rw [delivery_only_if, recovery_ack_recipients_partial c ops h, no_duplicate_problem, reminder_spacing_partial c ops h0,
    heldTrace_ok, forced_timer_notifications_are_owed, forced_bypasses_user_filters]
  rfl

/-- **model_trace_meets_spec_positive_interval**: for `interval > 0` the whole specification needs only the F-C03b
    hypothesis. -/
theorem model_trace_meets_spec_positive_interval (c : Cfg) (ops : List Op) (hpos : 0 < c.interval)
    (h : ∀ o ∈ traceOf c init ops, recoveryDropped o = false) :
    specTrace c (traceOf c init ops) = none := by
  exact model_trace_meets_spec_partial c ops h fun _ _ ev _ => rearms_of_pos hpos ev

/-- … and without the hypotheses: every checker other than `recipients` and the strict `reminder` — and the reminder checker
    in the code's weaker reading of interval 0 — accepts every trace of the model. -/
theorem model_trace_other_clauses (c : Cfg) (ops : List Op) :
    deliveryTrace c (traceOf c init ops) = none ∧ noDupTrace (traceOf c init ops) = none ∧
    reminderTraceLoose c (traceOf c init ops) = none ∧ heldTrace (traceOf c init ops) = none ∧
    owedTrace (traceOf c init ops) = none ∧ bypassTrace (traceOf c init ops) = true :=
  ⟨delivery_only_if c init ops, no_duplicate_problem c ops, reminder_spacing_rearmed c ops, heldTrace_ok c ops init,
   forced_timer_notifications_are_owed c ops, forced_bypasses_user_filters c init ops⟩

theorem model_trace_meets_spec_counterexample :
    specTrace cxAll (traceOf cxAll init cxDropOps) = some .recoveryAckRecipients := by
  decide +kernel

/-- The hypotheses are satisfiable on a non-trivial trace (the former witness of F-C03a). -/
example : (∀ o ∈ traceOf cxCfg init cxOps, recoveryDropped o = false) ∧ NoRearmTrace cxCfg (traceOf cxCfg init cxOps) := by
  unfold NoRearmTrace; decide +kernel

def exCfg : Cfg := { isHost := false, interval := 60, tbegin := some 10, tend := none, typeFilter := 511, stateFilter := 15 }
def exEnv (now lhsc : Int) (state : Nat) : Env := { cxEnv now state true with lhsc := lhsc }

/-- Critical since 100, `times.begin` 10: the Problem at 100 is delayed, the timer sends it at 111 as a
    reminder to both users, the next reminder comes at 171 and not at 170; the Recovery goes to both. -/
example : (traceOf exCfg init
      [.send .problem (exEnv 100 100 2), .tick (exEnv 111 100 2), .tick (exEnv 170 100 2), .tick (exEnv 171 100 2),
       .send .recovery (exEnv 200 200 0)]).map (fun o => o.events) =
    [[], [⟨.problem, true, true, false, [0, 1]⟩], [], [⟨.problem, true, true, false, [0, 1]⟩], [⟨.recovery, false, true, false, [0, 1]⟩]] := by
  decide +kernel

/-- Cold start: while the object authority is not yet known, requests are stashed (also behind one another once it is
    known); the next timer run replays them in arrival order, each with its own force flag — the forced Custom
    goes out although the period is closed by then, the unforced Acknowledgement is held back by it. -/
example :
    let cold (e : Env) : Env := { e with authUpdated := false }
    let ops : List Op := [.send .problem (cold (exEnv 120 100 2)), .send .custom { cold (exEnv 121 100 2) with force := true },
                          .send .ack (exEnv 122 100 2), .tick { exEnv 130 100 2 with periodOpen := false }]
    specTrace exCfg (traceOf exCfg init ops) = none ∧
    (traceOf exCfg init ops).map (fun o => o.events) = [[], [], [], [⟨.custom, false, true, true, [0, 1]⟩]] := by
  decide +kernel

/-- The specification rejects a delivery while the notification period is closed … -/
example : specTrace exCfg [⟨.send, { exEnv 120 100 2 with periodOpen := false }, [⟨.problem, false, true, false, [0]⟩], false, none⟩] =
    some .notifPeriod := by decide +kernel

/-- … a delivery to a disabled user, even when forced … -/
example : specTrace exCfg [⟨.send, { exEnv 120 100 2 with force := true, users := [cxUser 0 false] },
    [⟨.problem, false, true, true, [0]⟩], false, none⟩] = some .userFilters := by decide +kernel

/-- … a delivery that claims to be forced although force_next_notification was not set … -/
example : specTrace exCfg [⟨.send, { exEnv 120 100 2 with periodOpen := false }, [⟨.problem, false, true, true, [0]⟩], false, none⟩] =
    some .forceClaim := by decide +kernel

/-- … a Recovery to a subscriber who was not sent the Problem … -/
example : specTrace exCfg [⟨.send, exEnv 120 100 2, [⟨.problem, false, true, false, [0]⟩], false, none⟩,
    ⟨.send, exEnv 200 200 0, [⟨.recovery, false, true, false, [0, 1]⟩], false, none⟩] = some .recoveryAckRecipients := by decide +kernel

/-- … a second non-reminder Problem for the same state … -/
example : specTrace exCfg [⟨.send, exEnv 120 100 2, [⟨.problem, false, true, false, [0]⟩], false, none⟩,
    ⟨.send, exEnv 130 100 2, [⟨.problem, false, true, false, [0]⟩], false, none⟩] = some .duplicateProblem := by decide +kernel

/-- … a reminder while acknowledged, a reminder 59 s after the Problem … -/
example : specTrace exCfg [⟨.tick, { exEnv 120 100 2 with acked := true }, [⟨.problem, true, true, false, [0]⟩], false, none⟩] =
    some .reminderCond := by decide +kernel
example : specTrace exCfg [⟨.send, exEnv 120 100 2, [⟨.problem, false, true, false, [0]⟩], false, none⟩,
    ⟨.tick, exEnv 179 100 2, [⟨.problem, true, true, false, [0]⟩], false, none⟩] = some .reminderSpacing := by decide +kernel

/-- … a reminder while the checkable or the notification object still holds the initial Problem back … -/
example : specTrace exCfg [⟨.tick, { exEnv 120 100 2 with ckProblemPending := true }, [⟨.problem, true, true, false, [0]⟩], false, none⟩] =
    some .reminderBeforeHeld := by decide +kernel
example : specTrace exCfg [⟨.tick, exEnv 120 100 2, [⟨.problem, true, true, false, [0]⟩], true, none⟩] =
    some .reminderBeforeHeld := by decide +kernel

/-- … and, with interval 0, any reminder after the Problem. -/
example : specTrace { exCfg with interval := 0 } [⟨.send, exEnv 120 100 2, [⟨.problem, false, true, false, [0]⟩], false, none⟩,
    ⟨.tick, exEnv 500 100 2, [⟨.problem, true, true, false, [0]⟩], false, none⟩] = some .reminderInterval0 := by decide +kernel

/-! ## The checkable's side: a notification is forced only if ITS request was forced

  Checkable-level sequences: a requester sets force_next_notification (`setForce`), the checkable raises requests (`send`,
  whose `force` is the model's flag, not an input), the timer runs, and the notification object may not (yet) be
  registered with the checkable (`attach`).  The specification derives "this request was forced" from the observed
  sequence (`reqForced`: a `setForce` since the checkable's previous request, seen by the object or not). -/

/-- **force_is_one_shot**.  Every request consumes force_next_notification — also one that reaches no notification
    object (checkable-notification.cpp:39-41 come before the bail-out at :55-60) — and it stays unset until a requester
    sets it again: whatever happens in between (requests, timer runs, objects attached or removed). -/
theorem force_is_one_shot (c : Cfg) (k : CkSt) (s : St) (ty : NType) (e : Env) (mid : List COp)
    (hmid : ∀ op ∈ mid, op ≠ COp.setForce) :
    (crun c k s (.send ty e :: mid)).1.force = false := by
  simp only [crun]
  refine crun_force c false mid _ _ ?_ fun op h => ⟨fun h' => absurd h' (hmid op h), fun _ _ _ => rfl⟩
  simp only [cApply]; cases k.attached <;> rfl

/-- **force_reaches_next_request**.  Once a requester has set force_next_notification it stays set — through timer runs and
    through notification objects coming and going — until the checkable's next request, which is therefore forced. -/
theorem force_reaches_next_request (c : Cfg) (k : CkSt) (s : St) (mid : List COp)
    (hmid : ∀ op ∈ mid, ∀ ty e, op ≠ COp.send ty e) :
    (ckRequest (crun c k s (.setForce :: mid)).1).2 = true := by
  simp only [crun, ckRequest]
  exact crun_force c true mid _ _ rfl fun op h => ⟨fun _ => rfl, fun ty e h' => absurd h' (hmid op h ty e)⟩

/-- **checkable_trace_refines**.  What a notification object sees of a checkable-level sequence, with the specification's
    own force bit on every request, is exactly the trace of the one-object model on the lowered operations — so every
    theorem above transfers. -/
theorem checkable_trace_refines (c : Cfg) (cops : List COp) (k : CkSt) (s : St) :
    reqForced k.force (ctraceOf c k s cops) = traceOf c s (lower k cops) := by
  induction cops generalizing k s with
  | nil => rfl
  | cons op rest ih =>
    cases op with
    | setForce =>
      simp only [ctraceOf, cApply, lower, reqForced]
      exact ih (ckSetForce k) s
    | attach b =>
      simp only [ctraceOf, cApply, lower]
      exact ih { k with attached := b } s
    | send ty e =>
      cases ha : k.attached
      · simp only [ctraceOf, cApply, lower, ha, reqForced, Bool.false_eq_true, if_false]
        exact ih (ckRequest k).1 s
      · simp only [ctraceOf, cApply, lower, ha, if_true, reqForced, applyOp, traceOf, ckRequest]
        congr 1
        exact ih ⟨false, true⟩ _
    | tick e =>
      cases ha : k.attached
      · simp only [ctraceOf, cApply, lower, ha, Bool.false_eq_true, if_false]
        exact ih k s
      · simp only [ctraceOf, cApply, lower, ha, if_true, reqForced, applyOp, traceOf]
        congr 1
        exact ih k _

/-- **delivery_only_if_checkable** (first sentence, at the level of the checkable).  For every sequence of setForce /
    attach / request / timer operations: every delivery satisfies the only-if conditions, where "forced" is granted only
    to a request that a `setForce` preceded with no other request of the checkable in between (clause
    forced_only_if_force_next_notification_was_set, evaluated against the specification's own bit). -/
theorem delivery_only_if_checkable (c : Cfg) (cops : List COp) :
    deliveryTrace c (reqForced false (ctraceOf c {} init cops)) = none := by
  have h := checkable_trace_refines c cops {} init
  simp only at h
  rw [h]; exact delivery_only_if c init _

/-- **model_ctrace_meets_spec_partial**: the whole specification on checkable-level sequences, under the two hypotheses of
    `model_trace_meets_spec_partial` (F-C03b, F-C03c). -/
theorem model_ctrace_meets_spec_partial (c : Cfg) (cops : List COp)
    (h : ∀ o ∈ reqForced false (ctraceOf c {} init cops), recoveryDropped o = false)
    (h0 : NoRearmTrace c (reqForced false (ctraceOf c {} init cops))) :
    specTraceC c (ctraceOf c {} init cops) = none := by
  have hr := checkable_trace_refines c cops {} init
  simp only at hr
  unfold specTraceC
  rw [hr] at h h0 ⊢
  exact model_trace_meets_spec_partial c _ h h0

def stickyCfg : Cfg := { cxCfg with typeFilter := 64 }
def stickyOps : List COp :=
  [.attach false, .setForce, .send .custom (cxEnv 100 0 true), .attach true, .send .problem (cxEnv 200 2 true)]
/-- A forced Custom request for a checkable whose notification object is not registered yet; the object appears; an
    ordinary Problem arrives which the type filter (Recovery only) does not admit: the object sees that one request,
    unforced, delivers nothing, and the specification accepts the trace. -/
example : (ctraceOf stickyCfg {} init stickyOps).length = 3 ∧
    (reqForced false (ctraceOf stickyCfg {} init stickyOps)).map (fun o => (o.env.force, o.events)) = [(false, [])] ∧
    specTraceC stickyCfg (ctraceOf stickyCfg {} init stickyOps) = none := by decide +kernel

/-- The specification rejects the trace of an implementation whose flag survives the unseen request (the later Problem
    bypasses the type filter as "forced") … -/
example : specTraceC stickyCfg [.setForce, .unseen,
    .op ⟨.send, { cxEnv 200 2 true with force := true }, [⟨.problem, false, true, true, [0, 1]⟩], false, some .problem⟩] =
    some .forceClaim := by decide +kernel

/-- … and accepts it when the forced request is the one right after `setForce`. -/
example : specTraceC stickyCfg [.unseen, .setForce,
    .op ⟨.send, { cxEnv 200 2 true with force := true }, [⟨.problem, false, true, true, [0, 1]⟩], false, some .problem⟩] =
    none := by decide +kernel

end Icinga.C03
