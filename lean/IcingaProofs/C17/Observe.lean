/-
  C17 — the model's states as the specification sees them (`observe`), and `specDelete` read clause by clause for
  the two kinds of call the model's non-cascading deletes produce: a failure that changes nothing, and a call that
  got as far as the tail of the helper.
-/
import IcingaProofs.C17.Delete
import IcingaModel.C17.Spec
namespace Icinga.C17

/-- what the harness prints for an object (content hash constant: the model has no attributes) -/
def observeObj (o : Obj) : OObj := { key := o.key, api := o.api, active := o.active, hash := [], reg := true }
/-- a state as the specification sees it.  `glob`, `hash` and `reg` are constants (the model has no global namespace,
    no attributes and no object that cannot be looked up), so the clause `registered_by_name` and the `glob` half of
    `others_untouched` hold of the model for no deeper reason. -/
def observe (st : St) : World := { objs := st.objs.map observeObj, items := st.items, files := st.files, glob := [] }
/-- the runtime-created objects of a state, as the driver's book-keeping has them -/
def createdOf (st : St) : List Key := (st.objs.filter (·.api)).map (·.key)
/-- the file of each runtime-created object, as the driver's book-keeping has it -/
def fileOfSt (st : St) : List (Key × Str) := (st.objs.filter (·.api)).map (fun o => (o.key, o.file))

theorem observe_has (st : St) (k : Key) : (observe st).has k = st.has k := by
  simp only [World.has, observe, St.has, List.any_map, observeObj, Function.comp_def]
  rfl

theorem observe_find (st : St) (k : Key) : (observe st).find k = (st.find k).map observeObj := by
  simp only [World.find, St.find, observe, List.find?_map, Function.comp_def, observeObj]
  rfl

theorem observe_keys (st : St) : (observe st).objs.map (·.key) = st.keys := by
  simp [observe, St.keys, List.map_map, Function.comp_def, observeObj]

theorem World.has_key {w : World} {x : OObj} (hx : x ∈ w.objs) : w.has x.key = true :=
  List.any_eq_true.mpr ⟨x, hx, by simp⟩

theorem nodupKeys_of_nodup : ∀ l : List Key, l.Nodup → nodupKeys l = true
  | [], _ => rfl
  | k :: r, h => by
    have h' := List.nodup_cons.mp h
    simp [nodupKeys, h'.1, nodupKeys_of_nodup r h'.2]

theorem observe_nodupKeys {s st : St} (h : Shrunk s st) (hnd : st.keys.Nodup) :
    nodupKeys ((observe s).objs.map (·.key)) = true := by
  rw [observe_keys]; exact nodupKeys_of_nodup _ (h.keys.nodup hnd)

theorem observe_allRegistered (st : St) : allRegistered (observe st) = true := by
  simp [allRegistered, observe, observeObj]

theorem kids_eq_children (st : St) (k : Key) :
    (st.deps.filter (fun e => decide (e.2 = k) && (observe st).has e.1)).map (·.1) = children st k := by
  simp [children, List.filter_map, List.filter_filter, observe_has, Function.comp_def, Bool.and_comm]

theorem createdOf_contains (st : St) (k : Key) (o : Obj) (ho : st.find k = some o) (hapi : o.api = true) :
    (createdOf st).contains k = true := by
  simp only [createdOf, List.contains_iff_mem, List.mem_map, List.mem_filter]
  exact ⟨o, ⟨find_mem ho, hapi⟩, find_key ho⟩

theorem fileOfKey_find (st : St) (k : Key) (o : Obj) (ho : st.find k = some o) (hapi : o.api = true) :
    fileOfKey (fileOfSt st) k = some o.file := by
  -- the first object named `k` is also the first runtime object named `k`
  obtain ⟨hk, as, bs, e, has⟩ := List.find?_eq_some_iff_append.mp ho
  have : st.objs.find? (fun a => decide (a.api = true ∧ decide (a.key = k) = true)) = some o :=
    List.find?_eq_some_iff_append.mpr
      ⟨by simpa [hapi] using hk, as, bs, e, fun a ha => by simp [show a.key ≠ k by simpa using has a ha]⟩
  simp only [fileOfKey, fileOfSt, List.find?_map, List.find?_filter, Function.comp_def, this, Option.map_some]

theorem fileOfKey_owner (st : St) (x : Key) (p : Str) (h : fileOfKey (fileOfSt st) x = some p) :
    ∃ a ∈ st.objs, a.api = true ∧ a.key = x ∧ a.file = p := by
  unfold fileOfKey at h
  cases hf : (fileOfSt st).find? (·.1 = x) with
  | none => simp [hf] at h
  | some e =>
    simp [hf] at h
    have hm := List.mem_of_find?_eq_some hf
    have hk := List.find?_some hf
    simp only [fileOfSt, List.mem_map, List.mem_filter] at hm
    obtain ⟨a, ⟨ha, hapi⟩, rfl⟩ := hm
    exact ⟨a, ha, hapi, by simpa using hk, h⟩

/-- Stated for the fault-free environment, `thr = none`: with a fault the clauses about what went and what stayed are
    read as well (true too, not needed here). -/
theorem specDelete_noop (w : World) (k : Key) (cascade found : Bool) (res : Option Res) (created : List Key)
    (fileOf : List (Key × Str)) (deps : List (Key × Key))
    (hnd : nodupKeys (w.objs.map (·.key)) = true) (hreg : allRegistered w = true)
    (hfound : found = true → ∃ ob, w.find k = some ob) (hres : res ≠ some .ok) :
    specDelete w k cascade found res created fileOf deps w none = none := by
  unfold specDelete
  cases found
  · simp [hnd, hreg]
  · obtain ⟨ob, hob⟩ := hfound rfl
    simp [hnd, hreg, hob, hres]

/-- a non-cascading delete of a runtime-created object without live dependents that succeeded (`res`) or was
    aborted in that object (`thr`): what the clauses after the refusals ask of the world afterwards -/
theorem specDelete_leaf (before after : World) (k : Key) (res : Option Res) (created : List Key)
    (fileOf : List (Key × Str)) (deps : List (Key × Key)) (thr : Option Key) (ob : OObj)
    (hnd : nodupKeys (after.objs.map (·.key)) = true) (hreg : allRegistered after = true)
    (hfind : before.find k = some ob) (hapi : ob.api = true) (hcr : created.contains k = true)
    (hkids : (deps.filter (fun e => decide (e.2 = k) && before.has e.1)).map (·.1) = [])
    (hres : res = some .ok ∨ thr = some k)
    (hok : res = some .ok → after.has k = false)
    (hgone : ∀ x ∈ before.objs, after.has x.key = false → x.key = k)
    (hrm : after.has k = false → k ∉ after.items ∧ ∀ p, fileOfKey fileOf k = some p → p ∉ after.files)
    (hkept : ∀ x ∈ before.objs, after.has x.key = true →
      (x.key ∈ before.items → x.key ∈ after.items) ∧
        ∀ p, fileOfKey fileOf x.key = some p → p ∈ before.files → p ∈ after.files)
    (hstay : ∀ x ∈ after.objs, x ∈ before.objs ∨ (thr = some x.key ∧ ∃ y ∈ before.objs, deactivated y = x))
    (hglob : after.glob = before.glob) :
    specDelete before k false true res created fileOf deps after thr = none := by
  -- a file clause `match fileOfKey … with | some p => … | none => false` speaks of the file the key has, if any
  have hfile : ∀ (x : Key) (b : Str → Bool),
      (match fileOfKey fileOf x with | some p => b p | none => false) = true → ∃ p, fileOfKey fileOf x = some p ∧ b p = true := by
    intro x b h
    cases hp : fileOfKey fileOf x with
    | none => simp [hp] at h
    | some p => exact ⟨p, rfl, by simpa [hp] using h⟩
  unfold specDelete
  simp only [hnd, hreg, hfind, hapi, hcr, hkids, Bool.not_true, Bool.false_eq_true, ↓reduceIte, Bool.or_self,
    Bool.not_false, List.isEmpty_nil, Bool.and_false, ne_eq, decide_not, List.contains_eq_mem, List.mem_cons,
    List.not_mem_nil, or_false, Bool.and_eq_true, Bool.not_eq_eq_eq_not, decide_eq_false_iff_not, decide_eq_true_eq,
    Bool.or_eq_true, List.any_cons, List.any_nil, Bool.or_false, List.any_map, List.any_filter, Function.comp_apply,
    List.any_eq_true, List.all_eq_false, not_or, Bool.not_eq_true]
  -- what is left is a chain `if P₁ then some … else if P₂ then … else none`, with `allowed = [k]` and the Bool tests
  -- turned into propositions: the clauses in the order of `specDelete`; each step shows that one of them does not fire.
  -- `fail_leaves_nothing` is not asked: the call succeeded, or the fault struck `k`
  refine (if_neg fun h => ?_).trans ?_
  · rcases hres with hr | ht
    · exact h.1 hr
    · simp [ht] at h
  -- `delete_removes_object_and_file`
  refine (if_neg fun h => ?_).trans ?_
  · have fa := hok h.1
    obtain ⟨fb, fc⟩ := hrm fa
    -- `k` still registered / its item still there / its file still there
    rcases h.2 with (h | h) | h
    · rw [fa] at h; cases h
    · exact fb h
    · obtain ⟨p, hp, hin⟩ := hfile k _ h
      exact fc p hp (by simpa using hin)
  -- `cascade_only_dependents`: nothing but `k` went
  refine (if_neg fun h => ?_).trans ?_
  · have : subsetKeys (List.map (fun x => x.key) (List.filter (fun x => !after.has x.key) before.objs)) [k] = true := by
      simp only [subsetKeys, List.all_eq_true, List.mem_map, List.mem_filter]
      rintro y ⟨x, ⟨hx, hg⟩, rfl⟩
      simp [hgone x hx (by simpa using hg)]
    rw [this] at h
    cases h
  -- `cascade_complete`: `k` is gone after a success, and whatever went took its item and file along
  refine (if_neg fun h => ?_).trans ?_
  · rcases h with ⟨hr, h⟩ | ⟨x, hx, hg, h⟩
    · rw [hok hr] at h; cases h
    · have hxk := hgone x hx hg
      rw [hxk] at hg h
      obtain ⟨gi, gf⟩ := hrm hg
      rcases h with h | h
      · exact gi h
      · obtain ⟨p, hp, hin⟩ := hfile k _ h
        exact gf p hp (by simpa using hin)
  -- `kept_object_keeps_item_and_file`
  refine (if_neg fun h => ?_).trans ?_
  · obtain ⟨x, hx, ⟨hs, -⟩, h⟩ := h
    obtain ⟨ki, kf⟩ := hkept x hx hs
    rcases h with ⟨hi, hni⟩ | h
    · exact hni (ki hi)
    · obtain ⟨p, hp, hin⟩ := hfile x.key _ h
      simp only [Bool.and_eq_true, decide_eq_true_eq, Bool.not_eq_true', decide_eq_false_iff_not] at hin
      exact hin.2 (kf p hp hin.1)
  -- `others_untouched`
  refine (if_neg fun h => ?_).trans ?_
  · rcases h with ⟨x, hx, hnb, h⟩ | h
    · rcases hstay x hx with hb | ⟨ht, y, hy, e⟩
      · exact hnb hb
      · have h : ∀ y ∈ before.objs, deactivated y ≠ x := by simpa [ht] using h
        exact h y hy e
    · exact h hglob
  rfl

/-- `hfiles` is asked only when the tail removes `o` (the clause `kept_object_keeps_item_and_file` then compares
    files); an aborted tail discharges it vacuously. -/
theorem leaf_delete_meets_spec (st : St) (k : Key) (o : Obj) (thr : Option Key) (hnd : st.keys.Nodup)
    (ho : st.find k = some o) (hapi : o.api = true) (hch : children st k = [])
    (hfiles : (finishDelete st o thr).2 = true → ∀ b ∈ st.objs, b.api = true → b.file = o.file → b = o) :
    specDelete (observe st) k false true (some (if (finishDelete st o thr).2 then .ok else .fail))
      (createdOf st) (fileOfSt st) st.deps (observe (finishDelete st o thr).1) thr = none := by
  have hkey := find_key ho
  have hleaf := specDelete_leaf (observe st) (observe (finishDelete st o thr).1) k
    (some (if (finishDelete st o thr).2 then .ok else .fail)) (createdOf st) (fileOfSt st) st.deps thr (observeObj o)
    (hnd := observe_nodupKeys (finishDelete_shrunk st o thr) hnd) (hreg := observe_allRegistered _)
    (hfind := by rw [observe_find, ho]; rfl) (hapi := hapi) (hcr := createdOf_contains st k o ho hapi)
    (hkids := by rw [kids_eq_children]; exact hch)
  -- of the objects before, only `k` can be gone
  have G : ∀ x ∈ (observe st).objs, (observe (finishDelete st o thr).1).has x.key = false → x.key = k :=
    fun x hx hgone => hkey ▸ finishDelete_gone st o thr x.key (by rw [← observe_has]; exact World.has_key hx)
      (by rw [← observe_has]; exact hgone)
  rcases finishDelete_cases st o thr with e | ⟨ht, -, e⟩
  · -- the object is removed
    rw [e] at hleaf G hfiles ⊢
    have fa : (observe (removeObj st o)).has k = false := by
      rw [observe_has, ← hkey]; exact removeObj_has_false st o
    refine hleaf (hres := .inl rfl) (hok := fun _ => fa) (hgone := G)
      (hrm := fun _ => ⟨fun h => ((mem_removeObj_items st o k).mp h).2 hkey.symm, fun p hp h => ?_⟩)
      (hkept := ?_) (hstay := ?_) (hglob := rfl)
    · -- the file the book-keeping has for `k` is the file of `o`, which the removal took
      rw [fileOfKey_find st k o ho hapi] at hp
      cases hp
      exact ((mem_removeObj_files st o hapi _).mp h).2 rfl
    · -- whatever stayed is not `k`: its item stays, and its file, which is not the file of `o` (`hfiles`)
      intro x hx hstay
      have hxk : x.key ≠ k := fun e => by rw [e, fa] at hstay; cases hstay
      refine ⟨fun hi => (mem_removeObj_items st o _).mpr ⟨hi, hkey ▸ hxk⟩, fun p hp hin => ?_⟩
      obtain ⟨b, hb, hbapi, hbk, hbf⟩ := fileOfKey_owner st x.key p hp
      exact (mem_removeObj_files st o hapi p).mpr
        ⟨hin, fun e => hxk (by rw [← hbk, hfiles rfl b hb hbapi (by rw [hbf, e]), hkey])⟩
    · -- whatever is there afterwards was there before
      intro x hx
      simp only [observe, removeObj, List.mem_map, List.mem_filter] at hx ⊢
      obtain ⟨a, ⟨ha, _⟩, rfl⟩ := hx
      exact .inl ⟨a, ha, rfl⟩
  · -- its deactivation threw: every object is still there, items and files are untouched; only `o` is deactivated
    rw [e] at hleaf G ⊢
    rw [hkey] at ht
    -- `hrm` is vacuous: `k` is still registered
    refine hleaf (hres := .inr ht) (hok := fun h => by cases h) (hgone := G)
      (hrm := fun h => by rw [observe_has, deactivateObj_has, find_has ho] at h; cases h)
      (hkept := fun x hx _ => ⟨id, fun _ _ h => h⟩) (hstay := ?_) (hglob := rfl)
    intro x hx
    simp only [observe, deactivateObj, List.mem_map] at hx
    obtain ⟨a', ⟨a, ha, rfl⟩, rfl⟩ := hx
    have ham : observeObj a ∈ (observe st).objs := List.mem_map.mpr ⟨a, ha, rfl⟩
    by_cases hak : a.key = o.key
    · rw [if_pos hak]
      exact .inr ⟨by simp [observeObj, hak, hkey, ht], observeObj a, ham, rfl⟩
    · rw [if_neg hak]
      exact .inl ham

end Icinga.C17
