/-
  C17 — what `St.has`, `St.keys` and `St.find` say of each other; `createObject`: the two ways a create can end
  (rolled back or committed), and what follows from them for the invariants of the state machine.
-/
import IcingaModel.C17.Objects

namespace Icinga.C17

theorem St.ext_fields {a b : St} (h1 : a.objs = b.objs) (h2 : a.items = b.items) (h3 : a.files = b.files)
    (h4 : a.deps = b.deps) (h5 : a.hostServices = b.hostServices) : a = b := by
  cases a; cases b; simp_all

theorem has_true_iff (st : St) (k : Key) : st.has k = true ↔ k ∈ st.keys := by
  simp [St.has, St.keys]

theorem has_false_iff (st : St) (k : Key) : st.has k = false ↔ k ∉ st.keys := by
  simp [St.has, St.keys]

theorem find_key {st : St} {k : Key} {o : Obj} (h : st.find k = some o) : o.key = k := by
  simpa using List.find?_some h

theorem find_mem {st : St} {k : Key} {o : Obj} (h : st.find k = some o) : o ∈ st.objs :=
  List.mem_of_find?_eq_some h

theorem find_has {st : St} {k : Key} {o : Obj} (h : st.find k = some o) : st.has k = true := by
  rw [has_true_iff, ← find_key h]
  exact List.mem_map.mpr ⟨o, find_mem h, rfl⟩

theorem find_none_has {st : St} {k : Key} (h : st.find k = none) : st.has k = false := by
  simp only [St.find, List.find?_eq_none] at h
  simp only [St.has, List.any_eq_false]
  intro x hx
  simpa using h x hx

theorem filter_ne_fresh {α : Type} [DecidableEq α] (a : α) (l : List α) (h : a ∉ l) : l.filter (· ≠ a) = l := by
  rw [List.filter_eq_self]
  intro b hb
  have : b ≠ a := fun e => h (e ▸ hb)
  simpa using this

theorem rmFile_fresh (p : Str) (fs : List Str) (h : p ∉ fs) : rmFile p fs = fs := filter_ne_fresh p fs h

theorem rmFile_cons_self (p : Str) (fs : List Str) : rmFile p (p :: fs) = rmFile p fs := by
  simp [rmFile]

theorem rmFile_idem (p : Str) (fs : List Str) : rmFile p (rmFile p fs) = rmFile p fs := by
  simp [rmFile]

theorem createObject_exists (st : St) (k : Key) (path : Str) (parents : List Key) (fault : Fault) (api : Bool)
    (generated : List Key) (h : st.has k = true) : createObject st k path parents fault api generated = (st, .fail) := by
  simp [createObject, h]

theorem createObject_none (st : St) (k : Key) (path : Str) (parents : List Key) (api : Bool) (generated : List Key)
    (hk : st.has k = false) (hg : genOk st k generated = true) :
    createObject st k path parents .none api generated =
      ({ objs := { key := k, api := api, active := true, file := path } ::
           (generated.map (fun g => { key := g, api := false, active := true, file := [] }) ++ st.objs),
         items := k :: (generated ++ st.items),
         files := path :: rmFile path st.files,
         deps := parents.map (fun p => (k, p)) ++ (generated.map (fun g => (g, k)) ++ st.deps),
         hostServices := (k :: generated).filter (fun x => x.ty = tyService) ++ st.hostServices }, .ok) := by
  simp [createObject, hk, hg, Fault.leftInHostMap]

/-- Rolled back (or refused), or committed; after the exception out of `ActivateItems` (F-C17i) a committed object
    stays while its file is gone again and failure is reported.  Which of the two happens it does not say (the first
    holds of a create that always refuses): that a create without a fault goes through is `createObject_none`.
    `r` only abbreviates the call: use with `_ rfl`. -/
theorem createObject_outcome (st : St) (k : Key) (path : Str) (parents : List Key) (fault : Fault) (api : Bool)
    (generated : List Key) (r : St × Res) (hr : createObject st k path parents fault api generated = r) :
    (r.1.objs = st.objs ∧ r.1.deps = st.deps ∧
      (r.1.items = st.items ∨ r.1.items = st.items.filter (· ≠ k)) ∧
      (r.1.files = st.files ∨ r.1.files = rmFile path st.files) ∧
      (r.1.hostServices = st.hostServices ∨ r.1.hostServices = fault.leftInHostMap ++ st.hostServices) ∧
      (r.2 = .ok → fault = .ignored)) ∨
    (st.has k = false ∧ genOk st k generated = true ∧
      r.1.objs = { key := k, api := api, active := true, file := path } ::
        (generated.map (fun g => { key := g, api := false, active := true, file := [] }) ++ st.objs) ∧
      r.1.items = k :: (generated ++ st.items) ∧
      (fault = .none ∧ r.2 = .ok ∧ r.1.files = path :: rmFile path st.files ∧
          r.1.deps = parents.map (fun p => (k, p)) ++ (generated.map (fun g => (g, k)) ++ st.deps) ∧
          r.1.hostServices = (k :: generated).filter (fun x => x.ty = tyService) ++ st.hostServices ∨
        fault = .activateThrows ∧ r.2 = .fail ∧ r.1.files = rmFile path st.files ∧ r.1.deps = st.deps ∧
          r.1.hostServices = st.hostServices)) := by
  subst hr
  cases hk : st.has k
  · -- whether the generated children can be committed matters only to the faults that strike later
    cases fault
    case pathBroken | writeThrows | compileThrows | evalThrows | commitFails =>
      simp only [createObject, hk, Fault.leftInHostMap, rmFile_cons_self, rmFile_idem, reduceCtorEq, ↓reduceIte,
        Bool.false_eq_true, Bool.true_or, decide_true, List.filter_cons, ne_eq, not_true_eq_false, decide_false,
        List.nil_append, true_and, or_true, true_or, false_implies]
    all_goals cases hg : genOk st k generated
    case none.true =>
      rw [createObject_none st k path parents api generated hk hg]
      exact .inr ⟨rfl, rfl, rfl, rfl, .inl ⟨rfl, rfl, rfl, rfl, rfl⟩⟩
    -- rolled back (left): `genOk = false` under any fault, and `nameMismatch`, `nameMismatchSvc` (the only one to leave
    -- something in the host map, F-C17k) and `ignored`; committed, second alternative: `activateThrows` (F-C17i)
    all_goals
      simp only [createObject, hk, hg, Fault.leftInHostMap, rmFile_cons_self, rmFile_idem, reduceCtorEq, ↓reduceIte,
        Bool.false_eq_true, Bool.not_false, Bool.not_true, Bool.or_true, Bool.or_self, decide_false,
        List.isEmpty_nil, List.isEmpty_cons, List.filter_cons, ne_eq, not_true_eq_false, List.nil_append,
        true_and, and_true, or_true, true_or, or_false, and_false, false_and, implies_true,
        false_implies]
  · rw [createObject_exists st k path parents fault api generated hk]
    exact .inl ⟨rfl, rfl, .inl rfl, .inl rfl, .inl rfl, fun h => by cases h⟩

/-- `createObject_outcome` read for names and items (`r` as there). -/
theorem createObject_keys (st : St) (k : Key) (p : Str) (ps : List Key) (f : Fault) (api : Bool) (g : List Key)
    (r : St × Res) (hr : createObject st k p ps f api g = r) :
    (r.1.keys = st.keys ∧ ∀ x ∈ r.1.items, x ∈ st.items) ∨
    (st.has k = false ∧ genOk st k g = true ∧ r.1.keys = k :: (g ++ st.keys) ∧ r.1.items = k :: (g ++ st.items)) := by
  obtain ⟨ho, -, hi, -⟩ | ⟨hk, hg, ho, hi, -⟩ := createObject_outcome st k p ps f api g r hr
  · refine .inl ⟨by rw [St.keys, ho]; rfl, fun x hx => ?_⟩
    rcases hi with hi | hi <;> rw [hi] at hx
    · exact hx
    · exact (List.mem_filter.mp hx).1
  · exact .inr ⟨hk, hg, by simp [St.keys, ho, Function.comp_def], hi⟩

/-- every registered `ConfigItem` belongs to a registered object -/
def ItemsOwned (st : St) : Prop := ∀ k ∈ st.items, st.has k = true

theorem createObject_itemsOwned (st : St) (k : Key) (p : Str) (ps : List Key) (f : Fault) (api : Bool) (g : List Key)
    (h : ItemsOwned st) : ItemsOwned (createObject st k p ps f api g).1 := by
  intro x hx
  rw [has_true_iff]
  obtain ⟨hks, hi⟩ | ⟨-, -, hks, hi⟩ := createObject_keys st k p ps f api g _ rfl
  · rw [hks]
    exact (has_true_iff st x).mp (h x (hi x hx))
  · rw [hi] at hx
    rw [hks]
    simp only [List.mem_cons, List.mem_append] at hx ⊢
    exact hx.imp_right (.imp_right fun hx => (has_true_iff st x).mp (h x hx))

theorem nodupK_nodup : ∀ l : List Key, nodupK l = true → l.Nodup
  | [], _ => List.nodup_nil
  | k :: r, h => by
    simp [nodupK] at h
    exact List.nodup_cons.mpr ⟨h.1, nodupK_nodup r h.2⟩

theorem createObject_nodup (st : St) (k : Key) (p : Str) (ps : List Key) (f : Fault) (api : Bool) (g : List Key)
    (h : st.keys.Nodup) : (createObject st k p ps f api g).1.keys.Nodup := by
  obtain ⟨e, -⟩ | ⟨hk, hg, e, -⟩ := createObject_keys st k p ps f api g _ rfl
  · rw [e]; exact h
  · rw [e]
    -- `genOk`: the generated names are new, distinct from `k` and from each other
    simp only [genOk, Bool.and_eq_true, List.all_eq_true] at hg
    have hfresh : ∀ x ∈ g, x ∉ st.keys ∧ x ≠ k := by
      intro x hx
      have := hg.1 x hx
      simp at this
      exact ⟨(has_false_iff st x).mp this.1, this.2⟩
    refine List.nodup_cons.mpr ⟨?_, List.nodup_append.mpr ⟨nodupK_nodup g hg.2, h, ?_⟩⟩
    · intro hmem
      rcases List.mem_append.mp hmem with hm | hm
      · exact (hfresh k hm).2 rfl
      · exact (has_false_iff st k).mp hk hm
    · intro a ha b hb hab
      subst hab
      exact (hfresh a ha).1 hb

end Icinga.C17
