/-
  C17 — the path of a runtime object's file: `EscapeName` can be undone
  (`Utility::UnescapeString`), so it is injective; what it writes contains no `/`.
-/
import IcingaModel.C17.Model

namespace Icinga.C17

theorem hexVal_hexUpper : ∀ n, n < 16 → hexValUpper (hexUpper n) = n := by decide

theorem nameSpecial_lt (c : Char) (h : nameSpecial c = true) : c.toNat < 256 := by
  simp only [nameSpecial, Bool.or_eq_true, beq_iff_eq] at h
  rcases h with ((((((((rfl | rfl) | rfl) | rfl) | rfl) | rfl) | rfl) | rfl) | rfl) | rfl <;> decide

theorem unescape_escNameChar_special (c : Char) (h : nameSpecial c = true) (r : Str) :
    unescapeName (escNameChar c ++ r) = c :: unescapeName r := by
  have hlt := nameSpecial_lt c h
  simp only [escNameChar, h, if_true, List.cons_append, List.nil_append, unescapeName,
    hexVal_hexUpper _ (Nat.mod_lt _ (by decide : 0 < 16))]
  rw [show c.toNat / 16 % 16 * 16 + c.toNat % 16 = c.toNat by omega, Char.ofNat_toNat]

theorem unescapeName_cons_plain (c : Char) (t : Str) (h : c ≠ '%') : unescapeName (c :: t) = c :: unescapeName t := by
  match t with
  | [] => simp [unescapeName]
  | [d] => simp [unescapeName]
  | x :: y :: r => simp [unescapeName, h]

theorem unescape_escapeName : ∀ s : Str, unescapeName (escapeName s) = s
  | [] => by simp [escapeName, unescapeName]
  | c :: r => by
    simp only [escapeName]
    by_cases h : nameSpecial c = true
    · rw [unescape_escNameChar_special c h, unescape_escapeName r]
    · have hp : c ≠ '%' := by
        intro e; subst e; exact h (by decide)
      have : escNameChar c = [c] := by simp [escNameChar, h]
      rw [this, List.singleton_append, unescapeName_cons_plain c _ hp, unescape_escapeName r]

theorem hexUpper_ne_slash : ∀ n, n < 16 → '/' ≠ hexUpper n := by decide

theorem escNameChar_no_slash (c : Char) : '/' ∉ escNameChar c := by
  unfold escNameChar
  by_cases h : nameSpecial c = true
  · simp only [h, if_true, List.mem_cons, List.not_mem_nil, or_false, not_or]
    exact ⟨by decide, hexUpper_ne_slash _ (Nat.mod_lt _ (by decide)), hexUpper_ne_slash _ (Nat.mod_lt _ (by decide))⟩
  · have hf : nameSpecial c = false := by simpa using h
    simp only [hf, Bool.false_eq_true, if_false, List.mem_singleton]
    intro e
    subst e
    exact h (by decide)

theorem escapeName_no_slash : ∀ s : Str, '/' ∉ escapeName s
  | [] => by simp [escapeName]
  | c :: r => by
    simp only [escapeName, List.mem_append, not_or]
    exact ⟨escNameChar_no_slash c, escapeName_no_slash r⟩

end Icinga.C17
