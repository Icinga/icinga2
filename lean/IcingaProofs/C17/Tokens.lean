/-
  C17 — every token the writer emits is read back by the lexer as what was written: string literals, blanks,
  numbers, identifiers, dictionary keys.
-/
import IcingaModel.C17.Model

namespace Icinga.C17

theorem lexStr_next {m m' : StrMode} {c : Char} {out r s t : Str} (h : strStep m c = .next m' out)
    (hr : lexStr m' r = some (s, t)) : lexStr m (c :: r) = some (out ++ s, t) := by
  simp only [lexStr, h, hr]

theorem escChar_cases (c : Char) :
    (∃ e, escChar c = ['\\', e] ∧ escStep e = .next (.plain false) [c]) ∨
      (escChar c = [c] ∧ c ≠ '"' ∧ c ≠ '\n' ∧ c ≠ '\\') := by
  by_cases h : c ∈ ['\\', '\n', '\t', '\r', chBS, chFF, '"']
  · simp only [List.mem_cons, List.not_mem_nil, or_false] at h
    rcases h with rfl | rfl | rfl | rfl | rfl | rfl | rfl <;> exact .inl ⟨_, rfl, by decide⟩
  · simp only [List.mem_cons, List.not_mem_nil, or_false, not_or] at h
    exact .inr ⟨by simp [escChar, h], h.2.2.2.2.2.2, h.2.1, h.1⟩

theorem lexStr_escChar (c : Char) (hc : c ≠ chNUL) {r s t : Str} (hr : lexStr (.plain false) r = some (s, t)) :
    lexStr (.plain false) (escChar c ++ r) = some (c :: s, t) := by
  obtain ⟨e, he, hs⟩ | ⟨he, h1, h2, h3⟩ := escChar_cases c
  · rw [he]
    exact lexStr_next (by decide : strStep (.plain false) '\\' = .next .esc []) (lexStr_next (m := .esc) hs hr)
  · have hp : strStep (.plain false) c = .next (.plain false) [c] := by simp [strStep, plainStep, h1, h2, h3, hc]
    rw [he]
    exact lexStr_next hp hr

theorem lexStr_escape (s : Str) (hs : chNUL ∉ s) (rest : Str) :
    lexStr (.plain false) (escapeIcingaString s ++ '"' :: rest) = some (s, rest) := by
  induction s with
  | nil => simp [escapeIcingaString, lexStr, strStep, plainStep]
  | cons c cs ih =>
    rw [escapeIcingaString, List.append_assoc]
    exact lexStr_escChar c (fun h => hs (by simp [h])) (ih fun h => hs (by simp [h]))

theorem lexString_emitString (s : Str) (hs : chNUL ∉ s) (rest : Str) :
    lexString (emitString s ++ rest) = some (s, rest) := by
  simp only [emitString, List.cons_append, List.append_assoc, lexString, if_true]
  exact lexStr_escape s hs rest

/-- a character at which blank-skipping stops (in either mode) -/
abbrev Solid (c : Char) : Prop := c ∉ [' ', '\t', '\n', '\r', '#', '/']

theorem ws_solid (nl : Bool) (c : Char) (r : Str) (h : Solid c) : ws nl .norm (c :: r) = some (c :: r) := by
  simp only [Solid, List.mem_cons, List.not_mem_nil, or_false, not_or] at h
  obtain ⟨h1, h2, h3, h4, h5, h6⟩ := h
  simp [ws, h1, h2, h3, h4, h5, h6]

theorem Solid.of_class {p : Char → Bool} (hp : ∀ x ∈ [' ', '\t', '\n', '\r', '#', '/'], p x = false) {c : Char}
    (hc : p c = true) : Solid c :=
  fun hm => by rw [hp c hm] at hc; cases hc

theorem ws_space (nl : Bool) (r : Str) : ws nl .norm (' ' :: r) = ws nl .norm r := by
  simp [ws]

theorem ws_tab (nl : Bool) (r : Str) : ws nl .norm ('\t' :: r) = ws nl .norm r := by
  simp [ws]

theorem ws_true_nl (r : Str) : ws true .norm ('\n' :: r) = ws true .norm r := by
  simp [ws]

theorem ws_false_nl (r : Str) : ws false .norm ('\n' :: r) = some ('\n' :: r) := by
  simp [ws]

theorem ws_tabs (nl : Bool) (n : Nat) (r : Str) : ws nl .norm (tabs n ++ r) = ws nl .norm r := by
  induction n with
  | zero => simp [tabs]
  | succ n ih =>
    have : tabs (n + 1) = '\t' :: tabs n := by simp [tabs, List.replicate_succ]
    rw [this, List.cons_append, ws_tab, ih]

theorem digitChar_toNat : ∀ k, k < 10 → (digitChar k).toNat = 48 + k := by decide

theorem digitChar_isDigit (k : Nat) (h : k < 10) : isDigit (digitChar k) = true := by
  have := digitChar_toNat k h
  simp [isDigit, this]; omega

theorem digitsVal_snoc (l : Str) (c : Char) : digitsVal (l ++ [c]) = digitsVal l * 10 + (c.toNat - 48) := by
  simp [digitsVal, List.foldl_append]

theorem revDigitsF_spec : ∀ (f n : Nat), n < f →
    digitsVal (revDigitsF f n).reverse = n ∧ ∀ c ∈ revDigitsF f n, isDigit c = true := by
  intro f
  induction f with
  | zero => intro n h; omega
  | succ f ih =>
    intro n h
    rw [revDigitsF]
    by_cases h10 : n < 10
    · rw [if_pos h10]
      exact ⟨by simp [digitsVal, digitChar_toNat n h10], fun c hc => List.mem_singleton.mp hc ▸ digitChar_isDigit n h10⟩
    · rw [if_neg h10]
      have hd := Nat.mod_lt n (by omega : 0 < 10)
      obtain ⟨hv, hc⟩ := ih (n / 10) (by omega)
      refine ⟨?_, ?_⟩
      · rw [List.reverse_cons, digitsVal_snoc, hv, digitChar_toNat _ hd]
        omega
      · intro c h
        rcases List.mem_cons.mp h with rfl | h
        · exact digitChar_isDigit _ hd
        · exact hc c h

theorem natToDec_val (n : Nat) : digitsVal (natToDec n) = n := (revDigitsF_spec (n + 1) n (by omega)).1

theorem natToDec_digits (n : Nat) : ∀ c ∈ natToDec n, isDigit c = true := by
  intro c h
  exact (revDigitsF_spec (n + 1) n (by omega)).2 c (by simpa [natToDec] using h)

theorem natToDec_ne_nil (n : Nat) : natToDec n ≠ [] := by
  unfold natToDec revDigitsF; split <;> simp

theorem natToDec_head (n : Nat) : ∃ c t, natToDec n = c :: t ∧ isDigit c = true := by
  cases h : natToDec n with
  | nil => exact absurd h (natToDec_ne_nil n)
  | cons c t => exact ⟨c, t, rfl, natToDec_digits n c (by simp [h])⟩

theorem pad6_digits (m : Nat) : ∀ c ∈ pad6 m, isDigit c = true := by
  intro c h
  simp [pad6] at h
  rcases h with h | h | h | h | h | h <;> subst h <;> exact digitChar_isDigit _ (Nat.mod_lt _ (by omega))

theorem digitsVal_append_pad6 (a : Str) (m : Nat) (h : m < 1000000) :
    digitsVal (a ++ pad6 m) = digitsVal a * 1000000 + m := by
  -- with the quotients nested the six digits are related by equations that `omega` only has to substitute
  have e : pad6 m = [digitChar (m / 10 / 10 / 10 / 10 / 10 % 10), digitChar (m / 10 / 10 / 10 / 10 % 10),
      digitChar (m / 10 / 10 / 10 % 10), digitChar (m / 10 / 10 % 10), digitChar (m / 10 % 10), digitChar (m % 10)] := by
    simp only [pad6, Nat.div_div_eq_div_mul, Nat.reduceMul]
  rw [e]
  simp only [digitsVal, List.foldl_append, List.foldl_cons, List.foldl_nil,
    digitChar_toNat _ (Nat.mod_lt _ (by decide : 0 < 10)), Nat.add_sub_cancel_left]
  omega

def Stops (p : Char → Bool) (rest : Str) : Prop := ∀ c t, rest = c :: t → p c = false

theorem Stops.cons {p : Char → Bool} {c : Char} {t : Str} (h : p c = false) : Stops p (c :: t) :=
  fun _ _ e => by cases e; exact h

theorem span_append_stops (p : Char → Bool) (l rest : Str) (hl : ∀ c ∈ l, p c = true) (hr : Stops p rest) :
    (l ++ rest).span p = (l, rest) := by
  have loop : ∀ acc : Str, List.span.loop p (l ++ rest) acc = (acc.reverse ++ l, rest) := by
    induction l with
    | nil =>
      intro acc
      cases rest with
      | nil => simp [List.span.loop]
      | cons c t => simp [List.span.loop, hr c t rfl]
    | cons a l ih =>
      intro acc
      have ha := hl a (by simp)
      simp only [List.cons_append, List.span.loop, ha]
      rw [ih (fun c hc => hl c (by simp [hc]))]
      simp
  simp [List.span, loop]

/-- the input after a value: empty, or starting with a character that cannot extend an identifier or
    number token and is not a second closing brace (the writer puts ` `, `,` or a line break there) -/
def RestOk (rest : Str) : Prop := ∀ c t, rest = c :: t → isIdChar c = false ∧ c ≠ '.' ∧ c ≠ '}'

theorem RestOk.cons {c : Char} {t : Str} (h : isIdChar c = false ∧ c ≠ '.' ∧ c ≠ '}') : RestOk (c :: t) := by
  intro c' t' e; cases e; exact h

theorem RestOk.nil : RestOk [] := by intro c t h; cases h

theorem RestOk.stopsId {rest : Str} (h : RestOk rest) : Stops isIdChar rest := fun c t e => (h c t e).1

theorem RestOk.stopsDigit {rest : Str} (h : RestOk rest) : Stops isDigit rest := by
  intro c t e
  have := (h c t e).1
  simp [isIdChar] at this
  exact this.2

theorem RestOk.numEnd {rest : Str} (h : RestOk rest) : numEnd rest = true := by
  cases rest with
  | nil => rfl
  | cons c t =>
    have := h c t rfl
    simp [C17.numEnd, this.1, this.2.1]

theorem ne_of_class {p : Char → Bool} {c x : Char} (hc : p c = true) (hx : p x = false) : c ≠ x := by
  intro h; subst h; simp [hc] at hx

/-- what `parseNumber` reads from the `std::fixed` rendering with six fractional digits, `i.dddddd` -/
theorem parseNumber_sixDigits (i m : Nat) (hm : m < 1000000) (rest : Str) (hr : RestOk rest) :
    parseNumber (natToDec i ++ ('.' :: (pad6 m ++ rest))) =
      some ({ neg := false, mant := i * 1000000 + m, scale := 6 }, rest) := by
  have h1 : (natToDec i ++ ('.' :: (pad6 m ++ rest))).span isDigit = (natToDec i, '.' :: (pad6 m ++ rest)) :=
    span_append_stops _ _ _ (natToDec_digits i) (.cons (by decide))
  have h2 : (pad6 m ++ rest).span isDigit = (pad6 m, rest) :=
    span_append_stops _ _ _ (pad6_digits m) hr.stopsDigit
  have h3 : digitsVal (natToDec i ++ pad6 m) = i * 1000000 + m := by
    rw [digitsVal_append_pad6 _ _ hm, natToDec_val]
  have h4 : (pad6 m).length = 6 := rfl
  have h5 : pad6 m ≠ [] := by simp [pad6]
  simp [parseNumber, h1, h2, h3, h4, h5, natToDec_ne_nil, hr.numEnd]

theorem digit_solid {c : Char} (h : isDigit c = true) : Solid c := Solid.of_class (by decide) h

theorem parseValueF_emitNumber (d : Dec) (f : Nat) (rest : Str) (hr : RestOk rest) :
    parseValueF (f + 1) (emitNumber d ++ rest) = some (.num (round6 d), rest) := by
  have hp := parseNumber_sixDigits (micro d / 1000000) (micro d % 1000000) (Nat.mod_lt _ (by omega)) rest hr
  rw [Nat.div_add_mod' (micro d) 1000000] at hp
  obtain ⟨c, t, hct, hc⟩ := natToDec_head (micro d / 1000000)
  rw [hct, List.cons_append] at hp
  cases hneg : d.neg with
  | false =>
    -- a digit opens no other kind of value
    simp only [emitNumber, hneg, hct, Bool.false_eq_true, if_false, List.nil_append, List.append_assoc, List.cons_append,
      parseValueF, ne_of_class hc (by decide : isDigit '"' = false), ne_of_class hc (by decide : isDigit '[' = false),
      ne_of_class hc (by decide : isDigit '{' = false), ne_of_class hc (by decide : isDigit '-' = false), hc, hp,
      if_true, round6]
  | true =>
    simp only [emitNumber, hneg, hct, if_true, List.cons_append, List.nil_append, List.append_assoc, parseValueF,
      ws_solid false c _ (digit_solid hc), hc, hp, round6]
    simp

theorem isIdent_cons {k : Str} (h : isIdent k = true) :
    ∃ c t, k = c :: t ∧ isIdStart c = true ∧ ∀ x ∈ k, isIdChar x = true := by
  cases k with
  | nil => simp [isIdent] at h
  | cons c t =>
    simp [isIdent] at h
    refine ⟨c, t, rfl, h.1, ?_⟩
    intro x hx
    simp at hx
    rcases hx with hx | hx
    · subst hx; simp [isIdChar, h.1]
    · exact h.2 x hx

theorem spanIdent_ident (k rest : Str) (hk : isIdent k = true) (hr : Stops isIdChar rest) :
    spanIdent (k ++ rest) = some (k, rest) := by
  obtain ⟨c, t, rfl, hc, hall⟩ := isIdent_cons hk
  have := span_append_stops isIdChar (c :: t) rest hall hr
  simp only [List.cons_append] at this ⊢
  simp [spanIdent, hc, this]

theorem writerKeywords_ident : ∀ k ∈ writerKeywords, isIdent k = true := by decide +kernel

-- the two lexer keywords that 3c83e1d added to the writer's list; no lemma needs them by name (`keywords_perm`)
def kwDebugger : Str := ['d','e','b','u','g','g','e','r']
def kwIn : Str := ['i','n']

/-- a key/name the round trip covers: no U+0000 (F-C17b).  Keywords need no condition: every lexer keyword is in the
    writer's list (since 3c83e1d also `in` and `debugger`) and is written `@keyword`. -/
def KeyOk (k : Str) : Prop := chNUL ∉ k

theorem keywords_perm : lexerKeywords.Perm writerKeywords := List.isPerm_iff.mp (by decide +kernel)

theorem not_lexerKeyword {k : Str} (h1 : k ∉ writerKeywords) : k ∉ lexerKeywords :=
  fun h => h1 (keywords_perm.subset h)

theorem emitKey_cases (k : Str) :
    (k ∈ writerKeywords ∧ emitKey k = '@' :: k) ∨ (k ∉ writerKeywords ∧ isIdent k = true ∧ emitKey k = k) ∨
      (k ∉ writerKeywords ∧ isIdent k ≠ true ∧ emitKey k = emitString k) := by
  unfold emitKey bareMatch
  by_cases h1 : k ∈ writerKeywords
  · exact .inl ⟨h1, if_pos h1⟩
  · by_cases h2 : isIdent k = true
    · exact .inr (.inl ⟨h1, h2, by rw [if_neg h1, if_pos h2]⟩)
    · exact .inr (.inr ⟨h1, h2, by rw [if_neg h1, if_neg h2]⟩)

/-- Where a quoted name is not allowed (the type of an object), `EmitIdentifier` writes what it writes for a key,
    or throws. -/
theorem emitIdentifier_false {k T : Str} (h : emitIdentifier k false = some T) :
    T = emitKey k ∧ (k ∈ writerKeywords ∨ isIdent k = true) := by
  unfold emitIdentifier at h
  unfold emitKey
  by_cases h1 : k ∈ writerKeywords
  · rw [if_pos h1] at h ⊢; exact ⟨(Option.some.inj h).symm, .inl h1⟩
  · rw [if_neg h1] at h ⊢
    by_cases h2 : bareMatch k = true
    · rw [if_pos h2] at h ⊢; exact ⟨(Option.some.inj h).symm, .inr h2⟩
    · rw [if_neg h2] at h; cases h

theorem emitKey_head (k rest : Str) : ∃ c t, emitKey k ++ rest = c :: t ∧ Solid c ∧ c ≠ '}' := by
  obtain ⟨-, e⟩ | ⟨-, h, e⟩ | ⟨-, -, e⟩ := emitKey_cases k <;> rw [e]
  · exact ⟨'@', _, rfl, by decide⟩
  · obtain ⟨c, t, rfl, hc, _⟩ := isIdent_cons h
    exact ⟨c, _, rfl, .of_class (by decide) hc, ne_of_class hc (by decide)⟩
  · exact ⟨'"', _, rfl, by decide⟩

theorem parseIdent_at (k rest : Str) (hk : isIdent k = true) (hr : Stops isIdChar rest) :
    parseIdent ('@' :: (k ++ rest)) = some (k, rest) := by
  simp [parseIdent, spanIdent_ident k rest hk hr]

theorem parseIdent_bare (k rest : Str) (hk : isIdent k = true) (hr : Stops isIdChar rest)
    (hkw : k ∉ lexerKeywords) : parseIdent (k ++ rest) = some (k, rest) := by
  have hs := spanIdent_ident k rest hk hr
  obtain ⟨c, t, rfl, hc, _⟩ := isIdent_cons hk
  have hne : c ≠ '@' := ne_of_class hc (by decide)
  simp only [List.cons_append] at hs ⊢
  simp [parseIdent, hne, hs, hkw]

theorem parseKey_emitKey (k rest : Str) (hk : chNUL ∉ k) (hr : Stops isIdChar rest) :
    parseKey (emitKey k ++ rest) = some (k, rest) := by
  obtain ⟨hkw, e⟩ | ⟨hkw, hid, e⟩ | ⟨-, -, e⟩ := emitKey_cases k <;> rw [e]
  · have := parseIdent_at k rest (writerKeywords_ident k hkw) hr
    simpa [parseKey] using this
  · have hb := parseIdent_bare k rest hid hr (not_lexerKeyword hkw)
    obtain ⟨c, t, rfl, hc, _⟩ := isIdent_cons hid
    have hne : c ≠ '"' := ne_of_class hc (by decide)
    simp only [List.cons_append] at hb ⊢
    simp [parseKey, hne, hb]
  · have := lexStr_escape k hk rest
    simp only [emitString, List.cons_append, List.append_assoc]
    simpa [parseKey] using this

end Icinga.C17
