/-
  C17 — `deleteObject`: every state change of `DeleteObjectHelper` is its tail `finishDelete` run for an object that
  depends on the one to be deleted, so whatever all such tails preserve the whole (cascading, possibly aborted) delete
  preserves (`deleteHelper_preserves`: only removals, only dependents); what success and failure of a call say about
  its object (through `deleteHelper_cases`, the four ways a call can end).  Last, the state machine `run`: what every
  create and every delete preserves (unique names, every item owned by an object) holds along every operation sequence.
-/
import IcingaProofs.C17.Create

namespace Icinga.C17

theorem deactivateObj_keys (st : St) (o : Obj) : (deactivateObj st o).keys = st.keys := by
  simp only [deactivateObj, St.keys, List.map_map]
  apply List.map_congr_left
  intro x _
  simp only [Function.comp]
  split <;> rfl

theorem deactivateObj_has (st : St) (o : Obj) (k : Key) : (deactivateObj st o).has k = st.has k :=
  Bool.eq_iff_iff.mpr (by rw [has_true_iff, has_true_iff, deactivateObj_keys])

theorem deactivateObj_find (st : St) (k : Key) (o : Obj) (ho : st.find k = some o) :
    (deactivateObj st o).find k = some { o with active := false } := by
  -- deactivation leaves every key as it is, so the same list position is found
  have hg : ∀ x : Obj, (if x.key = o.key then { x with active := false } else x).key = x.key := fun x => by
    split <;> rfl
  unfold St.find at ho
  simp only [St.find, deactivateObj, List.find?_map, Function.comp_def, hg, ho, Option.map_some, if_true]

theorem deactivateObj_children (st : St) (o : Obj) (k : Key) (h : children st k = []) :
    children (deactivateObj st o) k = [] := by
  -- fewer edges, the same live objects
  have hs : (children (deactivateObj st o) k).Sublist (children st k) := by
    simp only [children, deactivateObj_has]
    exact ((List.filter_sublist.filter _).map _).filter _
  rw [h] at hs
  exact List.sublist_nil.mp hs

theorem removeObj_has_false (st : St) (o : Obj) : (removeObj st o).has o.key = false := by
  simp [removeObj, St.has]

theorem removeObj_has_other (s : St) (o : Obj) (x : Key) (hx : s.has x = true) (hne : x ≠ o.key) :
    (removeObj s o).has x = true := by
  simp only [St.has, List.any_eq_true, removeObj, List.mem_filter] at hx ⊢
  obtain ⟨a, ha, hak⟩ := hx
  have hak' : a.key = x := by simpa using hak
  exact ⟨a, ⟨ha, by simpa [hak'] using hne⟩, hak⟩

theorem mem_removeObj_items (st : St) (o : Obj) (x : Key) :
    x ∈ (removeObj st o).items ↔ x ∈ st.items ∧ x ≠ o.key := by
  simp [removeObj]

theorem mem_removeObj_files (st : St) (o : Obj) (hapi : o.api = true) (p : Str) :
    p ∈ (removeObj st o).files ↔ p ∈ st.files ∧ p ≠ o.file := by
  simp [removeObj, hapi, rmFile]

theorem removeObj_resolvesService (st : St) (o : Obj) : (removeObj st o).resolvesService o.key = false := by
  simp [removeObj, St.resolvesService]

theorem finishDelete_fst (st : St) (o : Obj) (thr : Option Key) :
    (finishDelete st o thr).1 = if (finishDelete st o thr).2 then removeObj st o else deactivateObj st o := by
  unfold finishDelete
  split <;> rfl

theorem finishDelete_none (st : St) (o : Obj) : finishDelete st o none = (removeObj st o, true) := by
  simp [finishDelete]

theorem finishDelete_throws (st : St) (o : Obj) (h : o.active = true) :
    finishDelete st o (some o.key) = (deactivateObj st o, false) := by
  simp [finishDelete, h]

theorem finishDelete_cases (st : St) (o : Obj) (thr : Option Key) :
    finishDelete st o thr = (removeObj st o, true) ∨
      (thr = some o.key ∧ o.active = true ∧ finishDelete st o thr = (deactivateObj st o, false)) := by
  unfold finishDelete
  split
  · rename_i h
    simp only [Bool.and_eq_true, decide_eq_true_eq] at h
    exact .inr ⟨h.1, h.2, rfl⟩
  · exact .inl rfl

/-- `r` arose from `s` by removals only (and, when a deletion was aborted, by deactivating objects). -/
structure Shrunk (r s : St) : Prop where
  keys : r.keys.Sublist s.keys
  objs : ∀ x ∈ r.objs, ∃ y ∈ s.objs, x = y ∨ x = { y with active := false }
  items : r.items.Sublist s.items
  files : r.files.Sublist s.files
  deps : ∀ e ∈ r.deps, e ∈ s.deps

theorem Shrunk.refl (s : St) : Shrunk s s :=
  ⟨List.Sublist.refl _, fun x hx => ⟨x, hx, Or.inl rfl⟩, List.Sublist.refl _, List.Sublist.refl _, fun _ he => he⟩

theorem Shrunk.trans {a b c : St} (h1 : Shrunk a b) (h2 : Shrunk b c) : Shrunk a c := by
  refine ⟨h1.keys.trans h2.keys, ?_, h1.items.trans h2.items, h1.files.trans h2.files,
    fun e he => h2.deps e (h1.deps e he)⟩
  intro x hx
  obtain ⟨y, hy, hxy⟩ := h1.objs x hx
  obtain ⟨z, hz, hyz⟩ := h2.objs y hy
  refine ⟨z, hz, ?_⟩
  rcases hxy with rfl | rfl <;> rcases hyz with rfl | rfl <;> simp

theorem Shrunk.has_false {r s : St} (h : Shrunk r s) (k : Key) (hk : s.has k = false) : r.has k = false := by
  rw [has_false_iff] at hk ⊢
  exact fun hm => hk (h.keys.subset hm)

theorem removeObj_shrunk (st : St) (o : Obj) : Shrunk (removeObj st o) st := by
  refine ⟨List.Sublist.map _ List.filter_sublist, ?_, by simp [removeObj], ?_, fun e he => (List.mem_filter.mp he).1⟩
  · intro x hx
    simp only [removeObj, List.mem_filter] at hx
    exact ⟨x, hx.1, Or.inl rfl⟩
  · simp only [removeObj]
    split
    · simp [rmFile]
    · exact List.Sublist.refl _

theorem deactivateObj_shrunk (st : St) (o : Obj) : Shrunk (deactivateObj st o) st := by
  refine ⟨by rw [deactivateObj_keys]; exact List.Sublist.refl _, ?_, List.Sublist.refl _, List.Sublist.refl _,
    fun e he => (List.mem_filter.mp he).1⟩
  intro x hx
  simp only [deactivateObj, List.mem_map] at hx
  obtain ⟨y, hy, e⟩ := hx
  refine ⟨y, hy, ?_⟩
  split at e
  · exact Or.inr e.symm
  · exact Or.inl e.symm

theorem finishDelete_shrunk (st : St) (o : Obj) (thr : Option Key) : Shrunk (finishDelete st o thr).1 st := by
  rw [finishDelete_fst]
  split
  · exact removeObj_shrunk st o
  · exact deactivateObj_shrunk st o

theorem finishDelete_has_other (s : St) (o : Obj) (thr : Option Key) (x : Key) (hx : s.has x = true) (hne : x ≠ o.key) :
    (finishDelete s o thr).1.has x = true := by
  rw [finishDelete_fst]
  split
  · exact removeObj_has_other s o x hx hne
  · rw [deactivateObj_has]; exact hx

theorem finishDelete_gone (s : St) (o : Obj) (thr : Option Key) (x : Key) (hx : s.has x = true)
    (hg : (finishDelete s o thr).1.has x = false) : x = o.key :=
  Classical.byContradiction fun hne => Bool.false_ne_true (hg.symm.trans (finishDelete_has_other s o thr x hx hne))

theorem finishDelete_itemsOwned (s : St) (o : Obj) (thr : Option Key) (h : ItemsOwned s) :
    ItemsOwned (finishDelete s o thr).1 := by
  rw [finishDelete_fst]
  split
  · intro k hk
    have hk' := (mem_removeObj_items s o k).mp hk
    exact removeObj_has_other s o k (h k hk'.1) hk'.2
  · intro k hk
    rw [deactivateObj_has]; exact h k hk

/-- `x` is `k`, or depends on it directly or through other objects, along the edges (dependent, object) of `deps` -/
inductive DependsOn (deps : List (Key × Key)) : Key → Key → Prop
  | refl (k : Key) : DependsOn deps k k
  | step {x c k : Key} : DependsOn deps x c → (c, k) ∈ deps → DependsOn deps x k

theorem DependsOn.mono {d1 d2 : List (Key × Key)} (h : ∀ e ∈ d1, e ∈ d2) {x k : Key} (hd : DependsOn d1 x k) :
    DependsOn d2 x k := by
  induction hd with
  | refl => exact DependsOn.refl _
  | step _ he ih => exact DependsOn.step ih (h _ he)

theorem children_edge (st : St) (k c : Key) (h : c ∈ children st k) : (c, k) ∈ st.deps := by
  simp only [children, List.mem_filter, List.mem_map] at h
  obtain ⟨⟨e, ⟨he, hek⟩, rfl⟩, _⟩ := h
  have : e.2 = k := by simpa using hek
  rw [← this]
  exact he

/-- What the loop over the dependents of `o` returns (state, success) in a call of the helper with fuel `f` that has
    neither refused nor skipped `o`.  With fuel 0 the helper runs no loop: the state as it is, and success. -/
def helperLoop : Nat → St → Obj → Bool → List Key → Option Key → St × Bool
  | 0, st, _, _, _, _ => (st, true)
  | f + 1, st, o, c, busy, thr =>
    deleteChildren (fun s co => deleteHelper f s co c (o.key :: busy) thr) (children st o.key) st

theorem helperLoop_succ (f : Nat) (st : St) (o : Obj) (c : Bool) (busy : List Key) (thr : Option Key) :
    helperLoop (f + 1) st o c busy thr =
      deleteChildren (fun s co => deleteHelper f s co c (o.key :: busy) thr) (children st o.key) st :=
  rfl

theorem deleteHelper_cases (f : Nat) (st : St) (o : Obj) (c : Bool) (busy : List Key) (thr : Option Key) :
    (children st o.key ≠ [] ∧ c = false ∧ deleteHelper f st o c busy thr = (st, false)) ∨
    (o.key ∈ busy ∧ deleteHelper f st o c busy thr = (st, true)) ∨
    (o.key ∉ busy ∧ (helperLoop f st o c busy thr).2 = false ∧
      deleteHelper f st o c busy thr = ((helperLoop f st o c busy thr).1, false)) ∨
    (o.key ∉ busy ∧ (helperLoop f st o c busy thr).2 = true ∧
      deleteHelper f st o c busy thr = finishDelete (helperLoop f st o c busy thr).1 o thr) := by
  cases f with
  | zero =>
    simp only [deleteHelper]
    by_cases hc : busy.contains o.key = true
    · rw [if_pos hc]; exact .inr (.inl ⟨by simpa using hc, rfl⟩)
    · rw [if_neg hc]; exact .inr (.inr (.inr ⟨by simpa using hc, rfl, rfl⟩))
  | succ f =>
    simp only [deleteHelper]
    by_cases h1 : (!(children st o.key).isEmpty && !c) = true
    · rw [if_pos h1]
      simp only [Bool.and_eq_true, Bool.not_eq_eq_eq_not, Bool.not_true, List.isEmpty_eq_false_iff] at h1
      exact .inl ⟨h1.1, h1.2, rfl⟩
    rw [if_neg h1]
    by_cases hc : busy.contains o.key = true
    · rw [if_pos hc]; exact .inr (.inl ⟨by simpa using hc, rfl⟩)
    rw [if_neg hc]
    split
    · rename_i h; exact .inr (.inr (.inr ⟨by simpa using hc, h, rfl⟩))
    · rename_i h; exact .inr (.inr (.inl ⟨by simpa using hc, Bool.eq_false_iff.mpr h, rfl⟩))

theorem deleteChildren_preserves (P : St → Prop) (rec : St → Obj → St × Bool) :
    ∀ (cs : List Key) (s : St), (∀ s co, co.key ∈ cs → P s → P (rec s co).1) → P s →
      P (deleteChildren rec cs s).1 := by
  intro cs
  induction cs with
  | nil => intro s _ h; exact h
  | cons c cs ih =>
    intro s hrec h
    have ih' := fun s h => ih s (fun s co hm => hrec s co (List.mem_cons_of_mem _ hm)) h
    simp only [deleteChildren]
    split
    · rename_i co hfind
      have hco := hrec s co (by rw [find_key hfind]; exact List.mem_cons_self) h
      split
      · exact ih' _ hco
      · exact hco
    · exact ih' s h

/-- `g` is the fuel of the recursive calls (none with fuel 0), so that a strong induction over the fuel applies. -/
theorem helperLoop_preserves (P : St → Prop) {f : Nat} {st : St} {o : Obj} {c : Bool} {busy : List Key} {thr : Option Key}
    (hrec : ∀ g s co, f = g + 1 → co.key ∈ children st o.key → P s → P (deleteHelper g s co c (o.key :: busy) thr).1)
    (h : P st) : P (helperLoop f st o c busy thr).1 := by
  cases f with
  | zero => exact h
  | succ g => rw [helperLoop_succ]; exact deleteChildren_preserves P _ _ st (fun s co => hrec g s co rfl) h

/-- The helper changes the state only through the tail `finishDelete`, and only for objects that depend on `o` and whose
    deletion is not under way further up the call stack: what every such tail preserves, the whole call preserves. -/
theorem deleteHelper_preserves (P : St → Prop) (c : Bool) (thr : Option Key) :
    ∀ (f : Nat) (st : St) (o : Obj) (busy : List Key),
      (∀ s x, x.key ∉ busy → DependsOn st.deps x.key o.key → P s → P (finishDelete s x thr).1) →
      P st → P (deleteHelper f st o c busy thr).1 := by
  intro f
  induction f using Nat.strongRecOn generalizing P with
  | ind f ih =>
    intro st o busy hfin h
    -- in the loop the edges only get fewer (`Shrunk.deps`), so what depends on a dependent there depends on `o` here
    have hloop : P (helperLoop f st o c busy thr).1 ∧ Shrunk (helperLoop f st o c busy thr).1 st := by
      refine helperLoop_preserves (fun s => P s ∧ Shrunk s st) (fun g s co hg hco hs => ?_) ⟨h, .refl st⟩
      refine ih g (by omega) (fun s => P s ∧ Shrunk s st) s co (o.key :: busy) (fun s' x hx hd hs' => ⟨?_, ?_⟩) hs
      · exact hfin s' x (fun hm => hx (List.mem_cons_of_mem _ hm))
          (.step (hd.mono hs.2.deps) (children_edge st o.key co.key hco)) hs'.1
      · exact (finishDelete_shrunk s' x thr).trans hs'.2
    obtain ⟨-, -, e⟩ | ⟨-, e⟩ | ⟨-, -, e⟩ | ⟨hb, -, e⟩ := deleteHelper_cases f st o c busy thr <;> rw [e]
    · exact h
    · exact h
    · exact hloop.1
    · exact hfin _ o hb (.refl _) hloop.1

theorem deleteHelper_shrunk (f : Nat) (st : St) (o : Obj) (c : Bool) (busy : List Key) (thr : Option Key) :
    Shrunk (deleteHelper f st o c busy thr).1 st :=
  deleteHelper_preserves (Shrunk · st) c thr f st o busy (fun s x _ _ h => (finishDelete_shrunk s x thr).trans h) (.refl st)

theorem deleteHelper_keeps_busy (f : Nat) (st : St) (o : Obj) (c : Bool) (busy : List Key) (thr : Option Key)
    (b : Key) (hb : b ∈ busy) (hs : st.has b = true) : (deleteHelper f st o c busy thr).1.has b = true :=
  deleteHelper_preserves (·.has b = true) c thr f st o busy
    (fun s x hx _ h => finishDelete_has_other s x thr b h (fun e => hx (e ▸ hb))) hs

theorem deleteHelper_ok {f : Nat} {st : St} {o : Obj} {c : Bool} {busy : List Key} {thr : Option Key}
    (hb : o.key ∉ busy) (hok : (deleteHelper f st o c busy thr).2 = true) :
    (helperLoop f st o c busy thr).2 = true ∧
      (deleteHelper f st o c busy thr).1 = removeObj (helperLoop f st o c busy thr).1 o := by
  obtain ⟨-, -, e⟩ | ⟨hm, -⟩ | ⟨-, -, e⟩ | ⟨-, hr, e⟩ := deleteHelper_cases f st o c busy thr
  · rw [e] at hok; cases hok
  · exact absurd hm hb
  · rw [e] at hok; cases hok
  · rw [e] at hok ⊢; exact ⟨hr, by rw [finishDelete_fst, hok]; rfl⟩

theorem deleteHelper_ok_removes {f : Nat} {st : St} {o : Obj} {c : Bool} {busy : List Key} {thr : Option Key}
    (hb : o.key ∉ busy) (hok : (deleteHelper f st o c busy thr).2 = true) :
    (deleteHelper f st o c busy thr).1.has o.key = false := by
  rw [(deleteHelper_ok hb hok).2]; exact removeObj_has_false _ o

theorem deleteChildren_removed (rec : St → Obj → St × Bool) (c : Key)
    (hgone : ∀ s co, co.key = c → (rec s co).2 = true → (rec s co).1.has c = false)
    (hkeep : ∀ s co, s.has c = false → (rec s co).1.has c = false) :
    ∀ (cs : List Key) (st : St), c ∈ cs → (deleteChildren rec cs st).2 = true →
      (deleteChildren rec cs st).1.has c = false := by
  -- what one call of the loop body removed stays removed in the rest of the loop
  have hrest : ∀ (cs : List Key) (s : St), s.has c = false → (deleteChildren rec cs s).1.has c = false :=
    fun cs s => deleteChildren_preserves (·.has c = false) rec cs s (fun s co _ => hkeep s co)
  intro cs
  induction cs with
  | nil => intro st hc; cases hc
  | cons a cs ih =>
    intro st hc hok
    simp only [deleteChildren] at hok ⊢
    split at hok
    · rename_i co hfind
      split at hok
      · rename_i hr
        simp only [hr, if_true]
        rcases List.mem_cons.mp hc with rfl | hin
        · exact hrest _ _ (hgone st co (find_key hfind) hr)
        · exact ih _ hin hok
      · cases hok
    · rename_i hfind
      rcases List.mem_cons.mp hc with rfl | hin
      · exact hrest cs st (find_none_has hfind)
      · exact ih _ hin hok

theorem deleteHelper_ok_children {f : Nat} {st : St} {o : Obj} {cas : Bool} {busy : List Key} {thr : Option Key}
    (hb : o.key ∉ busy) (hok : (deleteHelper (f + 1) st o cas busy thr).2 = true) :
    ∀ c ∈ children st o.key, c ∉ busy → (deleteHelper (f + 1) st o cas busy thr).1.has c = false := by
  intro c hc hcb
  by_cases hck : c = o.key
  · rw [hck]; exact deleteHelper_ok_removes hb hok
  obtain ⟨hr, e⟩ := deleteHelper_ok hb hok
  rw [helperLoop_succ] at hr e
  rw [e]
  exact (removeObj_shrunk _ o).has_false c
    (deleteChildren_removed _ c
      (fun s co hk hr => hk ▸ deleteHelper_ok_removes (by simp [hk, hck, hcb]) hr)
      (fun s co => (deleteHelper_shrunk f s co cas _ thr).has_false c) _ st hc hr)

theorem deleteChildren_all_ok (rec : St → Obj → St × Bool) (hrec : ∀ s co, (rec s co).2 = true) :
    ∀ (cs : List Key) (s : St), (deleteChildren rec cs s).2 = true := by
  intro cs
  induction cs with
  | nil => intro s; rfl
  | cons c cs ih =>
    intro s
    simp only [deleteChildren]
    split
    · simp only [hrec, if_true]; exact ih _
    · exact ih s

theorem deleteHelper_nofault_ok : ∀ (f : Nat) (st : St) (o : Obj) (busy : List Key),
    (deleteHelper f st o true busy none).2 = true := by
  intro f
  induction f using Nat.strongRecOn with
  | ind f ih =>
    intro st o busy
    have hloop : (helperLoop f st o true busy none).2 = true := by
      cases f with
      | zero => rfl
      | succ g => rw [helperLoop_succ]; exact deleteChildren_all_ok _ (fun s co => ih g (Nat.lt_succ_self g) s co _) _ _
    obtain ⟨-, h, -⟩ | ⟨-, e⟩ | ⟨-, h, -⟩ | ⟨-, -, e⟩ := deleteHelper_cases f st o true busy none
    · cases h
    · rw [e]
    · rw [hloop] at h; cases h
    · rw [e, finishDelete_none]

theorem deleteHelper_fail_keeps {f : Nat} {st : St} {o : Obj} {c : Bool} {busy : List Key} {thr : Option Key}
    (hs : st.has o.key = true) (hfail : (deleteHelper f st o c busy thr).2 = false) :
    (deleteHelper f st o c busy thr).1.has o.key = true := by
  -- the loop runs with `o` marked as under way
  have hloop : (helperLoop f st o c busy thr).1.has o.key = true :=
    helperLoop_preserves (·.has o.key = true)
      (fun g s co _ _ h => deleteHelper_keeps_busy g s co c _ thr o.key List.mem_cons_self h) hs
  obtain ⟨-, -, e⟩ | ⟨-, e⟩ | ⟨-, -, e⟩ | ⟨-, -, e⟩ := deleteHelper_cases f st o c busy thr
  · rw [e]; exact hs
  · rw [e] at hfail; cases hfail
  · rw [e]; exact hloop
  · rw [e] at hfail ⊢; rw [finishDelete_fst, hfail, if_neg Bool.false_ne_true, deactivateObj_has]; exact hloop

theorem deleteHelper_leaf {f : Nat} {st : St} {o : Obj} {c : Bool} {busy : List Key} {thr : Option Key}
    (hch : children st o.key = []) (hb : o.key ∉ busy) : deleteHelper f st o c busy thr = finishDelete st o thr := by
  cases f <;> simp [deleteHelper, hch, hb, deleteChildren]

theorem deleteHelper_refused {f : Nat} {st : St} {o : Obj} {busy : List Key} {thr : Option Key}
    (hch : children st o.key ≠ []) : deleteHelper (f + 1) st o false busy thr = (st, false) := by
  simp [deleteHelper, hch]

theorem deleteObject_none {st : St} {k : Key} (h : st.find k = none) (c : Bool) (thr : Option Key) :
    deleteObject st k c thr = (st, .fail) := by
  simp [deleteObject, h]

theorem deleteObject_non_api {st : St} {k : Key} {o : Obj} (ho : st.find k = some o) (hapi : o.api = false)
    (c : Bool) (thr : Option Key) : deleteObject st k c thr = (st, .fail) := by
  simp [deleteObject, ho, hapi]

theorem deleteObject_api {st : St} {k : Key} {o : Obj} (ho : st.find k = some o) (hapi : o.api = true)
    (c : Bool) (thr : Option Key) :
    deleteObject st k c thr = ((deleteHelper (st.objs.length + 1) st o c [] thr).1,
      if (deleteHelper (st.objs.length + 1) st o c [] thr).2 then .ok else .fail) := by
  simp [deleteObject, ho, hapi]

theorem ite_ok_iff (b : Bool) : (if b then Res.ok else Res.fail) = .ok ↔ b = true := by
  cases b <;> simp

theorem ite_fail_iff (b : Bool) : (if b then Res.ok else Res.fail) = .fail ↔ b = false := by
  cases b <;> simp

theorem deleteObject_leaf {st : St} {k : Key} {o : Obj} (ho : st.find k = some o) (hapi : o.api = true)
    (hch : children st k = []) (c : Bool) (thr : Option Key) :
    deleteObject st k c thr = ((finishDelete st o thr).1, if (finishDelete st o thr).2 then .ok else .fail) := by
  rw [deleteObject_api ho hapi, deleteHelper_leaf (find_key ho ▸ hch) List.not_mem_nil]

theorem deleteObject_ok {st : St} {k : Key} {c : Bool} {thr : Option Key} {o : Obj} (ho : st.find k = some o)
    (hok : (deleteObject st k c thr).2 = .ok) :
    o.api = true ∧ (deleteHelper (st.objs.length + 1) st o c [] thr).2 = true ∧
      (deleteObject st k c thr).1 = (deleteHelper (st.objs.length + 1) st o c [] thr).1 := by
  cases hapi : o.api
  · rw [deleteObject_non_api ho hapi] at hok; cases hok
  · rw [deleteObject_api ho hapi] at hok ⊢
    exact ⟨rfl, (ite_ok_iff _).mp hok, rfl⟩

/-- Without cascade there were no live dependents: the call would have been refused. -/
theorem deleteObject_ok_children {st : St} {k : Key} {c : Bool} {thr : Option Key} {o : Obj} (ho : st.find k = some o)
    (hok : (deleteObject st k c thr).2 = .ok) :
    (deleteObject st k c thr).1.has k = false ∧ ∀ x ∈ children st k, (deleteObject st k c thr).1.has x = false := by
  obtain ⟨-, hh, e⟩ := deleteObject_ok ho hok
  rw [e, ← find_key ho]
  exact ⟨deleteHelper_ok_removes List.not_mem_nil hh,
    fun x hx => deleteHelper_ok_children List.not_mem_nil hh x hx List.not_mem_nil⟩

theorem deleteObject_preserves (P : St → Prop) (st : St) (k : Key) (c : Bool) (thr : Option Key)
    (hfin : ∀ s x, DependsOn st.deps x.key k → P s → P (finishDelete s x thr).1) (h : P st) :
    P (deleteObject st k c thr).1 := by
  cases ho : st.find k with
  | none => rw [deleteObject_none ho]; exact h
  | some o =>
    cases hapi : o.api
    · rw [deleteObject_non_api ho hapi]; exact h
    · rw [deleteObject_api ho hapi]
      exact deleteHelper_preserves P c thr _ st o [] (fun s x _ hd => hfin s x (find_key ho ▸ hd)) h

theorem deleteObject_shrunk (st : St) (k : Key) (c : Bool) (thr : Option Key) : Shrunk (deleteObject st k c thr).1 st :=
  deleteObject_preserves (Shrunk · st) st k c thr (fun s x _ h => (finishDelete_shrunk s x thr).trans h) (.refl st)

theorem step_nodup (st : St) (op : Op) (h : st.keys.Nodup) : (step st op).keys.Nodup := by
  cases op with
  | create k p ps f a g => exact createObject_nodup st k p ps f a g h
  | delete k c t => exact (deleteObject_shrunk st k c t).keys.nodup h

theorem step_itemsOwned (st : St) (op : Op) (h : ItemsOwned st) : ItemsOwned (step st op) := by
  cases op with
  | create k p ps f a g => exact createObject_itemsOwned st k p ps f a g h
  | delete k c t => exact deleteObject_preserves ItemsOwned st k c t (fun s x _ => finishDelete_itemsOwned s x t) h

theorem run_preserves (P : St → Prop) (hstep : ∀ st op, P st → P (step st op)) (st : St) (h : P st) (ops : List Op) :
    P (run st ops) := by
  induction ops generalizing st with
  | nil => exact h
  | cons op ops ih => exact ih (step st op) (hstep st op h)

end Icinga.C17
