/-
  C17 — the emit/parse round trip for values (mutual induction over the value tree) and for the
  whole object statement; what is read back denotes the supplied values when no number has more than
  six fractional digits.
-/
import IcingaProofs.C17.Tokens

namespace Icinga.C17

mutual
/-- no string and no key anywhere in the value contains U+0000 (F-C17b) -/
def VSafe : Value → Prop
  | .str s => chNUL ∉ s
  | .arr xs => VsSafe xs
  | .dict kvs => MsSafe kvs
  | .empty => True
  | .bool _ => True
  | .num _ => True
def VsSafe : List Value → Prop
  | [] => True
  | x :: xs => VSafe x ∧ VsSafe xs
def MsSafe : List (Str × Value) → Prop
  | [] => True
  | (k, v) :: r => KeyOk k ∧ VSafe v ∧ MsSafe r
end

theorem emitValue_head (ind : Nat) (v : Value) (rest : Str) :
    ∃ c t, emitValue ind v ++ rest = c :: t ∧ Solid c ∧ c ≠ ']' := by
  cases v with
  | empty => exact ⟨'n', _, rfl, by decide⟩
  | bool b => cases b <;> exact ⟨_, _, rfl, by decide⟩
  | num d =>
    obtain ⟨c, t, hct, hc⟩ := natToDec_head (micro d / 1000000)
    show ∃ c t, emitNumber d ++ rest = c :: t ∧ Solid c ∧ c ≠ ']'
    cases hneg : d.neg with
    | true => exact ⟨'-', _, by rw [emitNumber, hneg]; rfl, by decide⟩
    | false =>
      exact ⟨c, _, by rw [emitNumber, hneg, hct]; rfl, digit_solid hc, ne_of_class hc (by decide)⟩
  | str s => exact ⟨'"', _, rfl, by decide⟩
  | arr xs => cases xs <;> exact ⟨'[', _, rfl, by decide⟩
  | dict kvs => exact ⟨'{', _, rfl, by decide⟩

theorem ws_emitValue (nl : Bool) (ind : Nat) (v : Value) (rest : Str) :
    ws nl .norm (emitValue ind v ++ rest) = some (emitValue ind v ++ rest) := by
  obtain ⟨c, t, h, hc⟩ := emitValue_head ind v rest
  rw [h]; exact ws_solid nl c t hc.1

theorem expectEq_emit (ind : Nat) (v : Value) (rest : Str) :
    expectEq (' ' :: '=' :: ' ' :: (emitValue ind v ++ rest)) = some (emitValue ind v ++ rest) := by
  simp [expectEq, ws_space, ws_solid false '=' _ (by decide), ws_emitValue]

theorem closeBrace_ok (rest : Str) (hr : RestOk rest) : closeBrace ('}' :: rest) = some rest := by
  cases rest with
  | nil => simp [closeBrace]
  | cons c t => simp [closeBrace, (hr c t rfl).2.2]

theorem ws_emitKey (nl : Bool) (k rest : Str) : ws nl .norm (emitKey k ++ rest) = some (emitKey k ++ rest) := by
  obtain ⟨c, t, h, hc⟩ := emitKey_head k rest
  rw [h]; exact ws_solid nl c t hc.1

theorem ws_emitString (nl : Bool) (s rest : Str) : ws nl .norm (emitString s ++ rest) = some (emitString s ++ rest) :=
  ws_solid nl '"' _ (by decide)

theorem closeBrace_emitKey (k rest : Str) : closeBrace (emitKey k ++ rest) = none := by
  obtain ⟨c, t, h, hc⟩ := emitKey_head k rest
  rw [h]; simp [closeBrace, hc.2]

theorem idStart_not_digit {c : Char} (h : isIdStart c = true) : isDigit c = false := by
  rcases Bool.eq_false_or_eq_true (isDigit c) with hd | hd
  · exfalso
    simp only [isIdStart, isDigit, Bool.or_eq_true, Bool.and_eq_true, decide_eq_true_eq, beq_iff_eq] at h hd
    rcases h with (h | h) | rfl
    · omega
    · omega
    · simp at hd
  · exact hd

/-- a bare word in value position is read as an identifier: its first character starts no other kind of value -/
theorem parseValueF_word (f : Nat) (w rest : Str) (hw : isIdent w = true) (hr : RestOk rest) :
    parseValueF (f + 1) (w ++ rest) =
      if w = kwNull then some (.empty, rest) else if w = kwTrue then some (.bool true, rest)
      else if w = kwFalse then some (.bool false, rest) else none := by
  have hs := spanIdent_ident w rest hw hr.stopsId
  obtain ⟨c, t, rfl, hc, _⟩ := isIdent_cons hw
  simp only [List.cons_append] at hs ⊢
  simp only [parseValueF, ne_of_class hc (by decide : isIdStart '"' = false),
    ne_of_class hc (by decide : isIdStart '[' = false), ne_of_class hc (by decide : isIdStart '{' = false),
    ne_of_class hc (by decide : isIdStart '-' = false), idStart_not_digit hc, if_false, hs, Bool.false_eq_true]

/-- Quantified inside, because the induction over the value needs them general: the
    indentation `ind` (a nested value is written one level deeper), the fuel `f` (any fuel from the length of the text
    on is enough: every recursive call of the parser has consumed a character) and the input `rest` that follows (for a
    nested value the remainder of its parent; it must not extend the last token: `RestOk`). -/
def PV (v : Value) : Prop :=
  ∀ (ind f : Nat) (rest : Str), (emitValue ind v).length ≤ f → RestOk rest →
    parseValueF f (emitValue ind v ++ rest) = some (round6V v, rest)

/-- an emitted value is never empty, so it is enough to read it with fuel `f + 1` -/
theorem PV.of_succ {v : Value}
    (h : ∀ (ind f : Nat) (rest : Str), (emitValue ind v).length ≤ f + 1 → RestOk rest →
      parseValueF (f + 1) (emitValue ind v ++ rest) = some (round6V v, rest)) : PV v := by
  intro ind f rest hf hr
  obtain ⟨c, t, hct, _⟩ := emitValue_head ind v []
  rw [List.append_nil] at hct
  obtain ⟨f, rfl⟩ : ∃ g, f = g + 1 := ⟨f - 1, by rw [hct, List.length_cons] at hf; omega⟩
  exact h ind f rest hf hr

theorem parseMembersF_nl (f : Nat) (bs : Str) : parseMembersF f ('\n' :: bs) = parseMembersF f bs := by
  cases f with
  | zero => rfl
  | succ f => simp only [parseMembersF, ws_true_nl]

mutual
theorem parseValueF_emitValue : (v : Value) → VSafe v → PV v
  | .empty, _ => .of_succ fun _ f rest _ hr => (parseValueF_word f kwNull rest (by decide) hr).trans (if_pos rfl)
  | .bool true, _ => .of_succ fun _ f rest _ hr =>
    (parseValueF_word f kwTrue rest (by decide) hr).trans ((if_neg (by decide)).trans (if_pos rfl))
  | .bool false, _ => .of_succ fun _ f rest _ hr =>
    (parseValueF_word f kwFalse rest (by decide) hr).trans
      ((if_neg (by decide)).trans ((if_neg (by decide)).trans (if_pos rfl)))
  | .num d, _ => .of_succ fun _ f rest _ hr => parseValueF_emitNumber d f rest hr
  | .str s, hs => .of_succ fun ind f rest _ _ => by
    simp only [emitValue, emitString, List.cons_append, List.append_assoc, List.nil_append, parseValueF, if_true, round6V,
      lexStr_escape s hs rest]
  | .arr [], _ => .of_succ fun ind f rest _ _ => by
    simp [emitValue, parseValueF, ws_space, ws_solid false ']' rest (by decide), round6V, round6Vs]
  | .arr (x :: xs), hs => .of_succ fun ind f rest hf hr => by
    have ⟨hx, hxs⟩ : VSafe x ∧ VsSafe xs := hs
    simp only [emitValue, List.length_cons, List.length_append] at hf
    have he := elemsOk xs hxs ind f x rest (by omega) (parseValueF_emitValue x hx) hr
    -- the parser looks at the first character of the first element
    obtain ⟨c, t, hct, hc⟩ := emitValue_head ind x (emitRestElems ind xs ++ rest)
    rw [hct] at he
    simp only [emitValue, List.cons_append, List.append_assoc, parseValueF, ws_space, hct, ws_solid false c t hc.1,
      hc.2, he, round6V, round6Vs,
      Char.reduceEq, ↓reduceIte]
  | .dict kvs, hs => .of_succ fun ind f rest hf hr => by
    simp only [emitValue, List.length_cons] at hf
    simp only [emitValue, List.cons_append, parseValueF, parseMembersF_nl,
      membersOk kvs hs ind f rest (by omega) hr, round6V,
      Char.reduceEq, ↓reduceIte]
/-- the elements of an array from the first one on: `x`, which is read back (`PV x`: passed in, since the recursion is on
    `xs` and `x` is not part of it), then `xs`, then ` ]` -/
theorem elemsOk : (xs : List Value) → VsSafe xs →
    ∀ (ind f : Nat) (x : Value) (rest : Str),
      (emitValue ind x).length + (emitRestElems ind xs).length ≤ f → PV x → RestOk rest →
      parseElemsF f (emitValue ind x ++ (emitRestElems ind xs ++ rest)) = some (round6V x :: round6Vs xs, rest)
  | [], _ => by
    intro ind f x rest hf hx hr
    simp only [emitRestElems, List.length_cons, List.length_nil] at hf
    obtain ⟨f, rfl⟩ : ∃ g, f = g + 1 := ⟨f - 1, by omega⟩
    -- `.cons (by decide)`, here and below: the separator the writer puts after a value satisfies `RestOk`
    simp only [emitRestElems, List.cons_append, List.nil_append, parseElemsF,
      hx ind f (' ' :: ']' :: rest) (by omega) (.cons (by decide)),
      ws_space, ws_solid false ']' rest (by decide), round6Vs,
      ↓reduceIte]
  | y :: ys, hs => by
    intro ind f x rest hf hx hr
    have ⟨hy, hys⟩ : VSafe y ∧ VsSafe ys := hs
    simp only [emitRestElems, List.length_cons, List.length_append] at hf
    obtain ⟨f, rfl⟩ : ∃ g, f = g + 1 := ⟨f - 1, by omega⟩
    simp only [emitRestElems, List.cons_append, List.append_assoc, parseElemsF,
      hx ind f (',' :: ' ' :: (emitValue ind y ++ (emitRestElems ind ys ++ rest))) (by omega)
        (.cons (by decide)),
      ws_solid false ',' _ (by decide), ws_space, ws_emitValue,
      elemsOk ys hys ind f y rest (by omega) (parseValueF_emitValue y hy) hr, round6Vs,
      Char.reduceEq, ↓reduceIte]
/-- the inside of a dictionary from just after `{` and its line break, up to and including the closing brace -/
theorem membersOk : (kvs : List (Str × Value)) → MsSafe kvs →
    ∀ (ind f : Nat) (rest : Str), (membersTail ind kvs).length ≤ f → RestOk rest →
      parseMembersF f (membersTail ind kvs ++ rest) = some (round6Ms kvs, rest)
  | [], _ => by
    intro ind f rest hf hr
    simp only [membersTail, List.length_append, List.length_cons, List.length_nil] at hf
    obtain ⟨f, rfl⟩ : ∃ g, f = g + 1 := ⟨f - 1, by omega⟩
    simp only [membersTail, List.append_assoc, List.cons_append, List.nil_append, parseMembersF, ws_tabs,
      ws_solid true '}' rest (by decide), closeBrace_ok rest hr, round6Ms]
  | (k, v) :: kvs, hs => by
    intro ind f rest hf hr
    have ⟨hk, hv, hkvs⟩ : KeyOk k ∧ VSafe v ∧ MsSafe kvs := hs
    simp only [membersTail, List.length_append, List.length_cons] at hf
    obtain ⟨f, rfl⟩ : ∃ g, f = g + 1 := ⟨f - 1, by omega⟩
    simp only [membersTail, List.append_assoc, List.cons_append, parseMembersF, ws_tabs, ws_emitKey, closeBrace_emitKey,
      parseKey_emitKey k _ hk (.cons (by decide : isIdChar ' ' = false)), expectEq_emit,
      parseValueF_emitValue v hv (ind + 1) f ('\n' :: (membersTail ind kvs ++ rest)) (by omega)
        (.cons (by decide)),
      ws_false_nl, membersOk kvs hkvs ind f rest (by omega) hr, round6Ms,
      Char.reduceEq, ↓reduceIte, isNl, BEq.rfl, Char.reduceBEq, Bool.or_false]
end

theorem parseValueF_emitValue_len (v : Value) (hv : VSafe v) (ind : Nat) (rest : Str) (hr : RestOk rest) :
    parseValueF ((emitValue ind v ++ rest).length + 1) (emitValue ind v ++ rest) = some (round6V v, rest) :=
  parseValueF_emitValue v hv ind _ rest (by rw [List.length_append]; omega) hr

theorem emitIndexers_stops (ts : List Str) {rest : Str} (hr : Stops isIdChar rest) :
    Stops isIdChar (emitIndexers ts ++ rest) := by
  cases ts with
  | nil => exact hr
  | cons => exact .cons (by decide)

theorem parseIndexersF_emit (ts : List Str) (hts : ∀ t ∈ ts, chNUL ∉ t) {rest : Str} (hr : Stops (· == '[') rest) :
    ∀ f, (emitIndexers ts).length ≤ f → parseIndexersF f (emitIndexers ts ++ rest) = some (ts, rest) := by
  induction ts with
  | nil =>
    intro f _
    cases f with
    | zero => rfl
    | succ f =>
      cases rest with
      | nil => rfl
      | cons c t => simp [parseIndexersF, emitIndexers, (by simpa using hr c t rfl : c ≠ '[')]
  | cons t ts ih =>
    intro f hf
    simp only [emitIndexers, List.length_cons, List.length_append] at hf
    obtain ⟨f, rfl⟩ : ∃ g, f = g + 1 := ⟨f - 1, by omega⟩
    simp only [emitIndexers, List.cons_append, List.append_assoc, parseIndexersF, if_true,
      lexString_emitString t (hts t (by simp)) (']' :: (emitIndexers ts ++ rest)),
      ih (fun x hx => hts x (by simp [hx])) f (by omega)]

theorem parseIndexersF_emit_len (ts : List Str) (hts : ∀ t ∈ ts, chNUL ∉ t) {rest : Str}
    (hr : Stops (· == '[') rest) :
    parseIndexersF (emitIndexers ts ++ rest).length (emitIndexers ts ++ rest) = some (ts, rest) :=
  parseIndexersF_emit ts hts hr _ (by rw [List.length_append]; exact Nat.le_add_right _ _)

def attrStmts : List (Str × Value) → List Stmt
  | [] => []
  | (k, v) :: r => .assign (splitDots k).1 (splitDots k).2 (round6V v) :: attrStmts r

def importStmts : List Str → List Stmt
  | [] => []
  | t :: ts => .imp t :: importStmts ts

theorem splitDots_not_mem {x : Char} : ∀ k : Str, x ∉ k → x ∉ (splitDots k).1 ∧ ∀ t ∈ (splitDots k).2, x ∉ t
  | [], _ => by simp [splitDots]
  | a :: as, h => by
    have ⟨ih1, ih2⟩ := splitDots_not_mem as (fun hm => h (List.mem_cons_of_mem _ hm))
    have hxa : x ≠ a := fun e => h (e ▸ List.mem_cons_self)
    simp only [splitDots]
    split <;> simpa [ih1, hxa] using ih2

theorem ws_emitLhs (nl : Bool) (k rest : Str) : ws nl .norm (emitLhs k ++ rest) = some (emitLhs k ++ rest) := by
  rw [emitLhs, List.append_assoc]; exact ws_emitKey nl _ _

theorem closeBrace_emitLhs (k rest : Str) : closeBrace (emitLhs k ++ rest) = none := by
  rw [emitLhs, List.append_assoc]; exact closeBrace_emitKey _ _

theorem parseStmt_assign (k : Str) (rest : Str) (hr : Stops isIdChar rest) :
    parseStmt (emitKey k ++ rest) = parseAssign (emitKey k ++ rest) := by
  obtain ⟨-, e⟩ | ⟨hkw, hid, e⟩ | ⟨-, -, e⟩ := emitKey_cases k <;> rw [e]
  · simp [parseStmt, spanIdent, (by decide : isIdStart '@' = false)]
  · have hs := spanIdent_ident k rest hid hr
    have hne : k ≠ kwImport := fun e => hkw (e ▸ (by decide))
    simp [parseStmt, hs, hne]
  · simp [parseStmt, spanIdent, emitString, (by decide : isIdStart '"' = false)]

theorem parseStmt_attr (k : Str) (v : Value) (h : chNUL ∉ k ∧ VSafe v) (rest : Str) (hr : RestOk rest) :
    parseStmt (emitLhs k ++ (' ' :: '=' :: ' ' :: (emitValue 2 v ++ rest))) =
      some (.assign (splitDots k).1 (splitDots k).2 (round6V v), rest) := by
  have hk := splitDots_not_mem k h.1
  -- what follows the left-hand side starts with a blank
  have hsp : ∀ p : Char → Bool, p ' ' = false → Stops p (' ' :: '=' :: ' ' :: (emitValue 2 v ++ rest)) :=
    fun _ => .cons
  rw [emitLhs, List.append_assoc, parseStmt_assign _ _ (emitIndexers_stops _ (hsp _ (by decide)))]
  simp only [parseAssign, parseKey_emitKey _ _ hk.1 (emitIndexers_stops _ (hsp _ (by decide))),
    parseIndexersF_emit_len _ hk.2 (hsp _ (by decide)), expectEq_emit, parseValueF_emitValue_len v h.2 2 rest hr]

theorem parseStmtsF_nl (f : Nat) (bs : Str) : parseStmtsF f ('\n' :: bs) = parseStmtsF f bs := by
  cases f with
  | zero => rfl
  | succ f => simp only [parseStmtsF, ws_true_nl]

theorem parseStmtsF_line {f : Nat} {bs bs1 t r' : Str} {s : Stmt} {ss : List Stmt} (h1 : ws true .norm bs = some bs1)
    (h2 : closeBrace bs1 = none) (h3 : parseStmt bs1 = some (s, '\n' :: t)) (h4 : parseStmtsF f t = some (ss, r')) :
    parseStmtsF (f + 1) bs = some (s :: ss, r') := by
  simp only [parseStmtsF, h1, h2, h3, h4, ws_false_nl, Char.reduceEq, ↓reduceIte, isNl, BEq.rfl, Char.reduceBEq,
    Bool.or_false]

theorem parseStmtsF_topTail (attrs : List (Str × Value)) (h : ∀ kv ∈ attrs, chNUL ∉ kv.1 ∧ VSafe kv.2) :
    ∀ (f : Nat) (rest : Str), (topTail attrs).length ≤ f → RestOk rest →
      parseStmtsF f (topTail attrs ++ rest) = some (attrStmts attrs, rest) := by
  induction attrs with
  | nil =>
    intro f rest hf hr
    obtain ⟨f, rfl⟩ : ∃ g, f = g + 1 := ⟨f - 1, by simp [topTail] at hf; omega⟩
    simp only [topTail, List.cons_append, List.nil_append, parseStmtsF, ws_solid true '}' rest (by decide),
      closeBrace_ok rest hr, attrStmts]
  | cons kv r ih =>
    obtain ⟨k, v⟩ := kv
    intro f rest hf hr
    simp only [topTail, List.length_cons, List.length_append] at hf
    obtain ⟨f, rfl⟩ : ∃ g, f = g + 1 := ⟨f - 1, by omega⟩
    simp only [topTail, List.cons_append, List.append_assoc]
    exact parseStmtsF_line ((ws_tab true _).trans (ws_emitLhs true k _)) (closeBrace_emitLhs k _)
      (parseStmt_attr k v (h (k, v) (by simp)) _ (.cons (by decide)))
      (ih (fun kv hkv => h kv (by simp [hkv])) f rest (by omega) hr)

theorem parseStmt_import (t : Str) (ht : chNUL ∉ t) (rest : Str) :
    parseStmt ('i' :: 'm' :: 'p' :: 'o' :: 'r' :: 't' :: ' ' :: (emitString t ++ rest)) = some (.imp t, rest) := by
  have hs := spanIdent_ident kwImport (' ' :: (emitString t ++ rest)) (by decide) (.cons (by decide))
  simp only [kwImport, List.cons_append, List.nil_append] at hs
  simp only [parseStmt, hs, ws_space, ws_emitString, lexString_emitString t ht rest]
  simp [kwImport]

/-- The hypothesis about `Z` is quantified over the fuel because the import lines use some of it. -/
theorem parseStmtsF_importLines : (ts : List Str) → (∀ t ∈ ts, chNUL ∉ t) →
    ∀ (Z : Str) (ss : List Stmt) (rest : Str),
      (∀ g, Z.length ≤ g → parseStmtsF g Z = some (ss, rest)) →
      ∀ f, (emitImportLines ts ++ '\n' :: Z).length ≤ f →
        parseStmtsF f (emitImportLines ts ++ '\n' :: Z) = some (importStmts ts ++ ss, rest)
  | [], _ => by
    intro Z ss rest hZ f hf
    simp only [emitImportLines, List.nil_append, List.length_cons] at hf
    simp only [emitImportLines, List.nil_append, parseStmtsF_nl, importStmts]
    exact hZ f (by omega)
  | t :: ts, h => by
    intro Z ss rest hZ f hf
    -- what follows the import line starts with a line break, which the parser skips without using fuel
    obtain ⟨W, hW⟩ : ∃ W, emitImportLines ts ++ '\n' :: Z = '\n' :: W := by cases ts <;> exact ⟨_, rfl⟩
    simp only [emitImportLines, List.cons_append, List.append_assoc, List.length_cons, List.length_append, hW] at hf
    obtain ⟨f, rfl⟩ : ∃ g, f = g + 1 := ⟨f - 1, by omega⟩
    have ih := parseStmtsF_importLines ts (fun x hx => h x (by simp [hx])) Z ss rest hZ f (by rw [hW, List.length_cons]; omega)
    rw [hW, parseStmtsF_nl] at ih
    simp only [emitImportLines, List.cons_append, List.append_assoc, hW]
    exact parseStmtsF_line ((ws_true_nl _).trans ((ws_tab true _).trans (ws_solid true 'i' _ (by decide)))) rfl
      (parseStmt_import t (h t (by simp)) _) ih

theorem stmts_of_body (ts : List Str) (attrs : List (Str × Value)) :
    stmtImports (importStmts ts ++ attrStmts attrs) = ts ∧
      stmtAssigns (importStmts ts ++ attrStmts attrs) = pathsOf (round6Ms attrs) := by
  induction ts with
  | nil =>
    induction attrs with
    | nil => exact ⟨rfl, rfl⟩
    | cons kv r ih =>
      obtain ⟨k, v⟩ := kv
      simpa [importStmts, attrStmts, stmtImports, stmtAssigns, pathsOf, round6Ms] using ih
  | cons t ts ih => simpa [importStmts, stmtImports, stmtAssigns] using ih

theorem parseStmtsF_body (imports : List Str) (attrs : List (Str × Value)) (hi : ∀ t ∈ imports, chNUL ∉ t)
    (ha : ∀ kv ∈ attrs, chNUL ∉ kv.1 ∧ VSafe kv.2) (f : Nat)
    (hf : (emitImports imports ++ (emitTopMembers attrs ++ ['\n'])).length ≤ f) :
    parseStmtsF f (emitImports imports ++ (emitTopMembers attrs ++ ['\n'])) =
      some (importStmts imports ++ attrStmts attrs, ['\n']) := by
  have hZ : ∀ g, ('\n' :: (topTail attrs ++ ['\n'])).length ≤ g →
      parseStmtsF g ('\n' :: (topTail attrs ++ ['\n'])) = some (attrStmts attrs, ['\n']) := by
    intro g hg
    simp only [List.length_cons, List.length_append] at hg
    rw [parseStmtsF_nl]
    exact parseStmtsF_topTail attrs ha _ ['\n'] (by omega) (.cons (by decide))
  cases imports with
  | nil => exact hZ f hf
  | cons t ts =>
    have := parseStmtsF_importLines (t :: ts) hi _ _ _ hZ f (by simpa [emitImports, emitTopMembers] using hf)
    simpa [emitImports, emitTopMembers] using this

theorem parseIdent_emitIdentifier (ty T rest : Str) (h : emitIdentifier ty false = some T)
    (hr : Stops isIdChar rest) :
    parseIdent (T ++ rest) = some (ty, rest) ∧ ∀ nl, ws nl .norm (T ++ rest) = some (T ++ rest) := by
  obtain ⟨rfl, hk⟩ := emitIdentifier_false h
  refine ⟨?_, fun nl => ws_emitKey nl ty rest⟩
  obtain ⟨hkw, e⟩ | ⟨hkw, hid, e⟩ | ⟨hkw, hid, -⟩ := emitKey_cases ty
  · rw [e]; exact parseIdent_at ty rest (writerKeywords_ident ty hkw) hr
  · rw [e]; exact parseIdent_bare ty rest hid hr (not_lexerKeyword hkw)
  · exact absurd hk (fun h => h.elim hkw hid)

theorem parseIoeBrace_emit (ioe : Bool) (W : Str) :
    parseIoeBrace ((if ioe then ' ' :: kwIoe else []) ++ (' ' :: '{' :: '\n' :: W)) = some (ioe, '\n' :: W) := by
  cases ioe with
  | false => simp [parseIoeBrace, ws_space, ws_solid false '{' _ (by decide)]
  | true =>
    have hs := spanIdent_ident kwIoe (' ' :: '{' :: '\n' :: W) (by decide) (.cons (by decide))
    simp only [kwIoe, List.cons_append, List.nil_append] at hs
    simp [parseIoeBrace, kwIoe, ws_space, ws_solid false 'i' _ (by decide), ws_solid false '{' _ (by decide), hs]

/-- What the round trip asks of the inputs: name, template names, keys and string values are free of
    U+0000 (F-C17b).  Nothing else: quotes, backslashes, line breaks, comment markers, `}}}`, `$`, dots,
    EVERY keyword of the lexer (incl. `in` and `debugger`, which the writer knows since 3c83e1d), any bytes,
    any nesting, any numbers; no condition on the type name. -/
structure InputOk (ty name : Str) (imports : List Str) (attrs : List (Str × Value)) : Prop where
  name : chNUL ∉ name
  imports : ∀ t ∈ imports, chNUL ∉ t
  attrs : ∀ kv ∈ attrs, chNUL ∉ kv.1 ∧ VSafe kv.2

theorem parseItem_emit (ty name : Str) (ioe : Bool) (imports : List Str) (attrs : List (Str × Value)) (text : Str)
    (h : InputOk ty name imports attrs) (he : emitConfigItem ty name ioe imports attrs = some text) :
    parseItem text = some { ty := ty, name := name, ioe := ioe, imports := imports,
                            assigns := pathsOf (round6Ms attrs) } := by
  unfold emitConfigItem at he
  cases hT : emitIdentifier ty false with
  | none => simp [hT] at he
  | some T =>
    simp only [hT, Option.some.injEq] at he
    subst he
    -- with or without imports the body starts with a line break: the shape `parseIoeBrace_emit` speaks of
    obtain ⟨W, hW⟩ : ∃ W, emitImports imports ++ (emitTopMembers attrs ++ ['\n']) = '\n' :: W := by
      cases imports <;> exact ⟨_, rfl⟩
    have hs := spanIdent_ident kwObject (' ' :: (T ++ (emitItemTail name ioe imports attrs ++ ['\n']))) (by decide)
      (.cons (by decide))
    have hb := parseStmtsF_body imports attrs h.imports h.attrs _ (Nat.le_succ _)
    rw [hW] at hb
    simp only [kwObject, emitItemTail, List.cons_append, List.nil_append, List.append_assoc, hW] at hs ⊢
    simp only [parseItem, ws_solid true 'o' _ (by decide), hs, ws_space,
      parseIdent_emitIdentifier ty T (' ' :: _) hT (.cons (by decide)), ws_emitString,
      lexString_emitString name h.name, parseIoeBrace_emit, hb, stmts_of_body]
    simp [kwObject, ws]

/-- two decimals denote the same number -/
def Dec.same (a b : Dec) : Prop := a.neg = b.neg ∧ a.mant * 10 ^ b.scale = b.mant * 10 ^ a.scale

mutual
/-- equal up to the spelling of numbers -/
def VEq : Value → Value → Prop
  | .num a, w => ∃ b, w = .num b ∧ Dec.same a b
  | .arr xs, w => ∃ ys, w = .arr ys ∧ VsEq xs ys
  | .dict kvs, w => ∃ lws, w = .dict lws ∧ MsEq kvs lws
  | .empty, w => w = .empty
  | .bool b, w => w = .bool b
  | .str s, w => w = .str s
def VsEq : List Value → List Value → Prop
  | [], ys => ys = []
  | x :: xs, ys => ∃ y ys', ys = y :: ys' ∧ VEq x y ∧ VsEq xs ys'
def MsEq : List (Str × Value) → List (Str × Value) → Prop
  | [], lws => lws = []
  | (k, v) :: r, lws => ∃ w r', lws = (k, w) :: r' ∧ VEq v w ∧ MsEq r r'
end

mutual
/-- every number in the value has at most six fractional decimal digits: `emitNumber` writes it without rounding -/
def VExact : Value → Prop
  | .num d => d.scale ≤ 6
  | .arr xs => VsExact xs
  | .dict kvs => MsExact kvs
  | .empty => True
  | .bool _ => True
  | .str _ => True
def VsExact : List Value → Prop
  | [] => True
  | x :: xs => VExact x ∧ VsExact xs
def MsExact : List (Str × Value) → Prop
  | [] => True
  | (_, v) :: r => VExact v ∧ MsExact r
end

theorem round6_same (d : Dec) (h : d.scale ≤ 6) : Dec.same (round6 d) d := by
  simp only [Dec.same, round6, micro, h, if_true]
  refine ⟨trivial, ?_⟩
  rw [Nat.mul_assoc, ← Nat.pow_add]
  congr 2
  omega

mutual
theorem round6V_faithful : (v : Value) → VExact v → VEq (round6V v) v
  | .empty, _ => rfl
  | .bool _, _ => rfl
  | .str _, _ => rfl
  | .num d, h => ⟨d, rfl, round6_same d h⟩
  | .arr xs, h => ⟨xs, rfl, round6Vs_faithful xs h⟩
  | .dict kvs, h => ⟨kvs, rfl, round6Ms_faithful kvs h⟩
theorem round6Vs_faithful : (xs : List Value) → VsExact xs → VsEq (round6Vs xs) xs
  | [], _ => rfl
  | x :: xs, h => ⟨x, xs, rfl, round6V_faithful x h.1, round6Vs_faithful xs h.2⟩
theorem round6Ms_faithful : (kvs : List (Str × Value)) → MsExact kvs → MsEq (round6Ms kvs) kvs
  | [], _ => rfl
  | (_, v) :: r, h => ⟨v, r, rfl, round6V_faithful v h.1, round6Ms_faithful r h.2⟩
end

end Icinga.C17
